/-!
# Association lists (model of a Python `dict` used as a children table)

A Python `dict` with hashable keys is modelled as an insertion-ordered association list
whose keys are pairwise distinct (`(keys cs).Nodup`).  `child` is `dict.get`, `setChild` is
`d[k] = v` (overwrite in place, or append at the end — Python keeps insertion order).
-/
namespace Ural

variable {κ β : Type} [DecidableEq κ]

def child (cs : List (κ × β)) (l : κ) : Option β :=
  match cs with
  | [] => none
  | (k, c) :: rest => if k = l then some c else child rest l

def setChild (cs : List (κ × β)) (l : κ) (n : β) : List (κ × β) :=
  match cs with
  | [] => [(l, n)]
  | (k, c) :: rest => if k = l then (k, n) :: rest else (k, c) :: setChild rest l n

@[simp] theorem child_nil (l : κ) : child ([] : List (κ × β)) l = none := rfl

theorem child_setChild_same (cs : List (κ × β)) (l : κ) (n : β) :
    child (setChild cs l n) l = some n := by
  induction cs with
  | nil => simp [setChild, child]
  | cons hd tl ih => obtain ⟨k, c⟩ := hd; by_cases h : k = l <;> simp [setChild, child, h, ih]

theorem child_setChild_other (cs : List (κ × β)) (l u : κ) (n : β) (h : u ≠ l) :
    child (setChild cs l n) u = child cs u := by
  induction cs with
  | nil => simp only [setChild, child]; split <;> simp_all
  | cons hd tl ih =>
    obtain ⟨k, c⟩ := hd
    simp only [setChild, child]
    split <;> simp only [child] <;> split <;> simp_all

theorem child_setChild (cs : List (κ × β)) (l u : κ) (n : β) :
    child (setChild cs l n) u = if u = l then some n else child cs u := by
  by_cases h : u = l
  · subst h; simp [child_setChild_same]
  · simp [h, child_setChild_other _ _ _ _ h]

/-- lookup after a history of assignments: the value of the latest assignment to the key, or the
old value when there is none -/
theorem child_foldl_setChild (es : List (κ × β)) (m : List (κ × β)) (l : κ) :
    child (es.foldl (fun m e => setChild m e.1 e.2) m) l =
      ((es.reverse.find? (fun e => e.1 = l)).map Prod.snd).or (child m l) := by
  induction es generalizing m with
  | nil => simp
  | cons e es ih =>
    simp only [List.foldl_cons, ih, child_setChild, List.reverse_cons, List.find?_append]
    cases es.reverse.find? (fun e => e.1 = l) with
    | some x => simp
    | none =>
      by_cases h : e.1 = l
      · simp [h]
      · have h' : ¬ l = e.1 := fun e' => h e'.symm
        simp [h, h']

/-- keys of an association list -/
def keys (cs : List (κ × β)) : List κ := cs.map Prod.fst

theorem child_eq_none_iff (cs : List (κ × β)) (l : κ) : child cs l = none ↔ l ∉ keys cs := by
  induction cs with
  | nil => simp [keys]
  | cons hd tl ih =>
    obtain ⟨k, c⟩ := hd
    simp only [child, keys, List.map_cons, List.mem_cons, not_or]
    by_cases h : k = l
    · subst h; simp
    · simp only [h, if_false]
      rw [ih]; simp only [keys]
      constructor
      · intro h2; exact ⟨fun e => h e.symm, h2⟩
      · intro h2; exact h2.2

theorem child_some_mem_keys {cs : List (κ × β)} {l : κ} {c : β} (h : child cs l = some c) :
    l ∈ keys cs := by
  by_cases hm : l ∈ keys cs
  · exact hm
  · rw [← child_eq_none_iff] at hm; rw [hm] at h; cases h

theorem keys_setChild_of_mem (cs : List (κ × β)) (l : κ) (n : β) (h : l ∈ keys cs) :
    keys (setChild cs l n) = keys cs := by
  induction cs with
  | nil => simp [keys] at h
  | cons hd tl ih =>
    obtain ⟨k, c⟩ := hd
    by_cases hk : k = l
    · subst hk; simp [setChild, keys]
    · have : l ∈ keys tl := by
        simp only [keys, List.map_cons, List.mem_cons] at h
        rcases h with h | h
        · exact absurd h.symm hk
        · exact h
      simp only [setChild, hk, if_false, keys, List.map_cons]
      have := ih this
      simp only [keys] at this
      rw [this]

theorem keys_setChild_of_not_mem (cs : List (κ × β)) (l : κ) (n : β) (h : l ∉ keys cs) :
    keys (setChild cs l n) = keys cs ++ [l] := by
  induction cs with
  | nil => simp [setChild, keys]
  | cons hd tl ih =>
    obtain ⟨k, c⟩ := hd
    simp only [keys, List.map_cons, List.mem_cons, not_or] at h
    have hk : ¬ k = l := fun e => h.1 e.symm
    simp only [setChild, hk, if_false, keys, List.map_cons, List.cons_append]
    have := ih (by simpa [keys] using h.2)
    simp only [keys] at this
    rw [this]

theorem nodup_keys_setChild (cs : List (κ × β)) (l : κ) (n : β) (h : (keys cs).Nodup) :
    (keys (setChild cs l n)).Nodup := by
  by_cases hm : l ∈ keys cs
  · rw [keys_setChild_of_mem _ _ _ hm]; exact h
  · rw [keys_setChild_of_not_mem _ _ _ hm]
    rw [List.nodup_append]
    refine ⟨h, by simp, ?_⟩
    intro a ha b hb
    simp only [List.mem_singleton] at hb
    subst hb
    intro e; subst e; exact hm ha

theorem length_setChild (cs : List (κ × β)) (l : κ) (n : β) :
    (setChild cs l n).length = cs.length + (if (child cs l).isNone then 1 else 0) := by
  induction cs with
  | nil => simp [setChild]
  | cons hd tl ih =>
    obtain ⟨k, c⟩ := hd
    by_cases hk : k = l
    · simp [setChild, child, hk]
    · simp [setChild, child, hk, ih]; omega

theorem nodup_map_of_injective {γ δ : Type} (f : γ → δ) (hf : ∀ a b, f a = f b → a = b)
    {l : List γ} (h : l.Nodup) : (l.map f).Nodup := by
  rw [List.nodup_iff_pairwise_ne, List.pairwise_map]
  exact List.Pairwise.imp (fun hab e => hab (hf _ _ e)) h

end Ural
