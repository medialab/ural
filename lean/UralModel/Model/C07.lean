import UralModel.Model.LruVariants
/-!
# "The host of `normalize_url(u)` / `fingerprint_url(u)`" inside the model (property C07)

Both URL functions assemble their result from components; the hostname component is what is
handed to `unsplit_netloc` as `hostname`.  These definitions name that component, so that the
agreement claims of C07 are equations between two model functions: the hostname helper on one
side, the hostname component of the URL function on the other.  `accHostname_normalized`
(Props/C07.lean) says when the `.hostname` accessor of the result tuple gives the same value.
-/
namespace Ural.C07
open Ural.Py Ural.UrlParts Ural.Normalize Ural.Fingerprint

/-- the hostname component of `normalize_url(url, …)`: outer `none` = the URL is unparseable
(the function returns its argument), inner = the `hostname` handed to `unsplit_netloc` -/
def normalizedHost (puny : Str → Str) (parse : Str → Option Parsed) (platform : Str → Str)
    (o : Opts) (inferRedirection : Bool) (url : Str) : Option (Option Str) :=
  let pr := prepared platform inferRedirection url
  (parse pr.1).map fun p => (normComps puny o pr.2 p).host

/-- the hostname the second pass of `fingerprint_url` hands to `unsplit_netloc`
(fingerprint_url.py:85-97), from the `SplitResult` of `normalize_url` -/
def fpHost (E : Env) (stripSfx : Bool) (r : Split) : Except Err (Option Str) :=
  match E.netlocAcc r.netloc with
  | .error e => .error e
  | .ok a =>
    match a.hostname with
    | some h => if h.isEmpty then .ok (some h) else (fingerprintHost E stripSfx h).map some
    | none => .ok none

/-- the hostname component of `fingerprint_url(url, strip_suffix=…)`; an unparseable URL comes
back as a string: no component (`none`) -/
def fingerprintedHost (E : Env) (stripSfx : Bool) (url : Str) : Except Err (Option Str) :=
  match normalizeUrlSplit E.puny E.parse E.platform fpOpts true (lower url) with
  | .inl _ => .ok none
  | .inr r => fpHost E stripSfx r

/-- the options of the quantifier of C07 for `normalize_url`: the defaults, `normalize_amp` -/
def ampOpts (normalizeAmp : Bool) : Opts := { normalizeAmp := normalizeAmp }

end Ural.C07
