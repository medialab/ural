import UralModel.Py.Str
/-!
# Model of `ural/quote.py`

`safely_quote`, the four `safely_unquote_*` partials and `upper_quoted`, as functions on
`List Char`.  All of them scan the string the same way: a `%` followed by two hex digits is
an escape, any other `%` is a stray percent sign, everything else is a raw character
(`tokens`).  The Python code reaches the same segmentation with `bytes.split(b"%")` +
`HEX_TO_BYTE.get(item[:2])` (unquote), `QUOTED_SPLIT_RE.split` (quote) and
`LOWERCASE_QUOTED_RE.sub` (upper_quoted).

`safelyUnquote U` models `unquote(s, only_printable=True, normalize_space=True, unsafe=U,
lossless=True)`, the configuration shared by the four `safely_unquote_*` functions (the
three flags are regenerated from the `functools.partial` objects and checked by table
obligations; `U` is the regenerated `UNSAFE_FOR_*` byte set):

* `_unquote_impl`: an escape stays as written when its byte is a C0 control, DEL or in `U`;
  a stray `%` becomes `%25`; every other escape is decoded to its byte;
* per ASCII run, `.decode("utf-8", "ural.requote")`: decoded bytes `< 0x80` are characters;
  maximal runs of decoded bytes `≥ 0x80` (they are only ever adjacent to each other: raw
  ASCII, kept escapes and raw non-ASCII characters all interrupt a run) are cut into
  well-formed UTF-8 sequences — emitted as the character — and ill-formed bytes — emitted
  as upper-case escapes again;
* `NON_PRINTABLE_RE.sub` (applied by `unquote` to the whole result): a C1 control
  (U+0080–U+009F) or whitespace character beyond ASCII (U+00A0, U+1680, U+2000–U+200A, U+2028,
  U+2029, U+202F, U+205F, U+3000) is escaped — whether it was decoded from escapes (`flush`)
  or was already there raw (`escapeRaw`: the raw character is treated as if the input had
  spelled it with escapes; by the self-synchronisation of UTF-8 its bytes are decoded to the
  same character again whatever pending bytes surround them, `Lemmas/QuoteIdem.lean`
  `segment_insert`, and `flush` escapes it);
* `normalize_space`: a space (raw or decoded) becomes `%20`.

UTF-8 decoding is Lean core's `ByteArray.utf8DecodeChar?` (strict: no overlongs, no
surrogates, ≤ U+10FFFF — the same language as CPython's decoder; compared on every run).
-/
namespace Ural.Quote
open Ural.Py

/-! ## tokens -/

inductive Tok where
  | raw (c : Char)        -- a character that is not the `%` of an escape or a stray `%`
  | esc (h1 h2 : Char)    -- `%` h1 h2, both hex digits
  | stray                 -- a `%` not followed by two hex digits
  deriving DecidableEq, Repr

/-- the token a character starts when it does not start an escape -/
def single (c : Char) : Tok := if c = '%' then .stray else .raw c

def tokens : Str → List Tok
  | [] => []
  | c :: h1 :: h2 :: rest =>
    if c = '%' ∧ isHexDigit h1 = true ∧ isHexDigit h2 = true then .esc h1 h2 :: tokens rest
    else single c :: tokens (h1 :: h2 :: rest)
  | c :: rest => single c :: tokens rest

def renderTok : Tok → Str
  | .raw c => [c]
  | .esc h1 h2 => ['%', h1, h2]
  | .stray => ['%']

def render (ts : List Tok) : Str := ts.flatMap renderTok

def hexVal (c : Char) : Nat :=
  if '0' ≤ c ∧ c ≤ '9' then c.toNat - '0'.toNat
  else if 'a' ≤ c ∧ c ≤ 'f' then c.toNat - 'a'.toNat + 10
  else if 'A' ≤ c ∧ c ≤ 'F' then c.toNat - 'A'.toNat + 10
  else 0

/-- the byte an escape stands for -/
def byteOf (h1 h2 : Char) : UInt8 := UInt8.ofNat (hexVal h1 * 16 + hexVal h2)

def hexDigitUpper (n : Nat) : Char :=
  if n < 10 then Char.ofNat ('0'.toNat + n) else Char.ofNat ('A'.toNat + (n - 10))

/-- `"%%%02X" % b` -/
def escOfByte (b : UInt8) : Tok := .esc (hexDigitUpper (b.toNat / 16)) (hexDigitUpper (b.toNat % 16))

/-- UTF-8 encoding of one character (`str.encode("utf-8")`) -/
def utf8 (c : Char) : List UInt8 := String.utf8EncodeChar c

/-- RFC 3986 percent-decoding of the UTF-8 encoding of a string, token by token: the meaning
of "decoded" in C01/C02/C14 (a stray `%` stands for itself, `+` is a plus sign: this reading
cannot tell `+` from `%2B`; for a query key / value C01 also states the form reading, where a
raw `+` is a space — `Canonicalize.formStr`, FX-C01-6e09416) -/
def pctTok : Tok → List UInt8
  | .raw c => utf8 c
  | .esc h1 h2 => [byteOf h1 h2]
  | .stray => [0x25]

def pct (ts : List Tok) : List UInt8 := ts.flatMap pctTok
def pctStr (s : Str) : List UInt8 := pct (tokens s)

/-! ## UTF-8 segmentation of a run of decoded bytes -/

/-- the character whose well-formed UTF-8 encoding starts the byte list, if any -/
def decodeHead (bs : List UInt8) : Option Char := bs.toByteArray.utf8DecodeChar? 0

/-- left-to-right segmentation into well-formed sequences (`inl c`) and ill-formed bytes
(`inr b`): what `bytes.decode("utf-8", handler)` hands to the handler, byte by byte -/
def segment (bs : List UInt8) : List (Char ⊕ UInt8) :=
  go bs 0
where
  /-- `skip`: number of bytes still belonging to the character just emitted -/
  go : List UInt8 → Nat → List (Char ⊕ UInt8)
    | [], _ => []
    | _ :: rest, skip + 1 => go rest skip
    | b :: rest, 0 =>
      match decodeHead (b :: rest) with
      | some c => .inl c :: go rest (c.utf8Size - 1)
      | none => .inr b :: go rest 0

/-! ## safely_unquote_* -/

/-- an escape whose byte must stay escaped: C0 control, DEL (only_printable) or in `unsafe` -/
def keepEsc (U : List UInt8) (b : UInt8) : Bool := b < 0x20 || b == 0x7f || U.contains b

inductive Item where
  | lit (t : Tok)      -- goes to the output as is
  | byte (b : UInt8)   -- a decoded byte ≥ 0x80 waiting for UTF-8 decoding
  deriving DecidableEq, Repr

def isC1 (c : Char) : Bool := 0x80 ≤ c.toNat && c.toNat ≤ 0x9f

/-- the whitespace characters beyond ASCII of `NON_PRINTABLE_RE` (what `str.strip` removes
besides ASCII whitespace and C0/C1 controls) -/
def uSpaces : List Nat :=
  [0xa0, 0x1680, 0x2000, 0x2001, 0x2002, 0x2003, 0x2004, 0x2005, 0x2006, 0x2007, 0x2008, 0x2009,
   0x200a, 0x2028, 0x2029, 0x202f, 0x205f, 0x3000]

/-- `NON_PRINTABLE_RE`: a decoded character that is escaped again (C1 control or whitespace
beyond ASCII) -/
def staysEscaped (c : Char) : Bool := isC1 c || uSpaces.contains c.toNat

/-- `_unquote_impl` on one token (+ `normalize_space` for the characters it produces) -/
def itemOf (U : List UInt8) : Tok → Item
  | .raw c => if c = ' ' then .lit (.esc '2' '0') else .lit (.raw c)
  | .stray => .lit (.esc '2' '5')
  | .esc h1 h2 =>
    let b := byteOf h1 h2
    if keepEsc U b then .lit (.esc h1 h2)
    else if b < 0x80 then
      (if b = 0x20 then .lit (.esc '2' '0') else .lit (.raw (Char.ofNat b.toNat)))
    else .byte b

/-- output of a run of decoded bytes: well-formed sequences as characters (C1 controls and
whitespace beyond ASCII re-escaped), ill-formed bytes re-escaped -/
def flush (bs : List UInt8) : List Tok :=
  (segment bs).flatMap fun
    | .inl c => if staysEscaped c then (utf8 c).map escOfByte else [.raw c]
    | .inr b => [escOfByte b]

/-- `acc`: the pending run of decoded bytes (in order) -/
def assemble : List Item → List UInt8 → List Tok
  | [], acc => flush acc
  | .lit t :: r, acc => flush acc ++ t :: assemble r []
  | .byte b :: r, acc => assemble r (acc ++ [b])

def unquoteToks (U : List UInt8) (ts : List Tok) : List Tok := assemble (ts.map (itemOf U)) []

/-- a raw character that `NON_PRINTABLE_RE` escapes, spelled with escapes -/
def escTok : Tok → List Tok
  | .raw c => if staysEscaped c then (utf8 c).map escOfByte else [.raw c]
  | t => [t]

/-- `NON_PRINTABLE_RE.sub(_requote_match, …)` on the raw characters of the input -/
def escapeRaw (ts : List Tok) : List Tok := ts.flatMap escTok

/-- `unquote(s, only_printable=True, normalize_space=True, unsafe=U, lossless=True)` -/
def safelyUnquote (U : List UInt8) (s : Str) : Str := render (unquoteToks U (escapeRaw (tokens s)))

/-! ## safely_unquote_* in the order of the Python code

`safelyUnquote` above escapes the raw non-printable characters BEFORE decoding (`escapeRaw`) and
normalises spaces token by token (`itemOf`).  `unquote` does it afterwards, on the decoded
string: `NON_PRINTABLE_RE.sub(_requote_match, q)`, then `q.replace(" ", "%20")`.
`safelyUnquotePost` is that order, step by step; `Lemmas/QuotePost.lean` proves the two equal for
every unsafe set of ASCII bytes (`safelyUnquotePost_eq`), and both are compared with the real
functions on every run. -/

/-- `_unquote_impl` on one token, nothing else (no space normalisation) -/
def itemOfPlain (U : List UInt8) : Tok → Item
  | .raw c => .lit (.raw c)
  | .stray => .lit (.esc '2' '5')
  | .esc h1 h2 =>
    let b := byteOf h1 h2
    if keepEsc U b then .lit (.esc h1 h2)
    else if b < 0x80 then .lit (.raw (Char.ofNat b.toNat))
    else .byte b

/-- `.decode("utf-8", "ural.requote")` on a run of decoded bytes: well-formed sequences as
characters (whatever they are), ill-formed bytes re-escaped -/
def flushPlain (bs : List UInt8) : List Tok :=
  (segment bs).flatMap fun
    | .inl c => [.raw c]
    | .inr b => [escOfByte b]

def assemblePlain : List Item → List UInt8 → List Tok
  | [], acc => flushPlain acc
  | .lit t :: r, acc => flushPlain acc ++ t :: assemblePlain r []
  | .byte b :: r, acc => assemblePlain r (acc ++ [b])

/-- `"".join(_generate_unquoted_parts(string, …))`: the decoded string -/
def decodeOnly (U : List UInt8) (s : Str) : Str :=
  render (assemblePlain ((tokens s).map (itemOfPlain U)) [])

/-- `NON_PRINTABLE_RE.sub(_requote_match, q)`: every character the regex matches becomes the
upper-case escapes of its UTF-8 bytes -/
def requoteNonPrintable (q : Str) : Str :=
  q.flatMap fun c => if staysEscaped c then render ((utf8 c).map escOfByte) else [c]

/-- `q.replace(" ", "%20")` -/
def normalizeSpace (q : Str) : Str := q.flatMap fun c => if c = ' ' then ['%', '2', '0'] else [c]

/-- `unquote(s, only_printable=True, normalize_space=True, unsafe=U, lossless=True)`, in the
order of the code: decode, re-escape the non-printable characters, normalise spaces -/
def safelyUnquotePost (U : List UInt8) (s : Str) : Str :=
  normalizeSpace (requoteNonPrintable (decodeOnly U s))

/-! ## safely_quote -/

/-- characters `urllib.parse.quote` leaves alone with its default `safe="/"` -/
def quoteSafe (c : Char) : Bool :=
  isAsciiAlpha c || isAsciiDigit c || c = '_' || c = '.' || c = '-' || c = '~' || c = '/'

def quoteTok : Tok → List Tok
  | .raw c => if quoteSafe c then [.raw c] else (utf8 c).map escOfByte
  | .esc h1 h2 => [.esc h1 h2]
  | .stray => [.esc '2' '5']

def quoteToks (ts : List Tok) : List Tok := ts.flatMap quoteTok

/-- `safely_quote(string)` (default `safe="/"`) -/
def safelyQuote (s : Str) : Str := render (quoteToks (tokens s))

/-! ### `safely_quote(string, safe=…)`

`safely_quote_qsl` calls `safely_quote(item, safe="/+")`: in a query a raw `+` stands for a
space and `%2B` for a plus sign, so quoting must leave the raw `+` alone (FX-C01-6e09416).  The
`…By f` functions are `safely_quote` with an arbitrary set `f` of characters left alone;
`quoteSafeIn safe` is the set `urllib.parse.quote(…, safe=safe)` leaves alone. -/

/-- `_ALWAYS_SAFE` of `urllib.parse`: letters, digits and `_.-~` -/
def quoteAlwaysSafe (c : Char) : Bool :=
  isAsciiAlpha c || isAsciiDigit c || c = '_' || c = '.' || c = '-' || c = '~'

/-- characters `urllib.parse.quote(…, safe=safe)` leaves alone: `_ALWAYS_SAFE` and the ASCII
characters of `safe` (`safe.encode("ascii", "ignore")`) -/
def quoteSafeIn (safe : Str) (c : Char) : Bool :=
  quoteAlwaysSafe c || (decide (c.toNat < 0x80) && safe.contains c)

/-- (a stray `%` is a character like any other for `quote`: it stays when `safe` holds `%`) -/
def quoteTokBy (f : Char → Bool) : Tok → List Tok
  | .raw c => if f c then [.raw c] else (utf8 c).map escOfByte
  | .esc h1 h2 => [.esc h1 h2]
  | .stray => if f '%' then [.stray] else [.esc '2' '5']

def quoteToksBy (f : Char → Bool) (ts : List Tok) : List Tok := ts.flatMap (quoteTokBy f)

/-- `safely_quote` with the set `f` of characters left alone -/
def safelyQuoteBy (f : Char → Bool) (s : Str) : Str := render (quoteToksBy f (tokens s))

/-- `safely_quote(string, safe=safe)` -/
def safelyQuoteIn (safe : Str) (s : Str) : Str := safelyQuoteBy (quoteSafeIn safe) s

/-- the `safe` argument `safely_quote_qsl` passes -/
def qslSafe : Str := ['/', '+']

/-- what `safely_quote_qsl` leaves alone in a key or value -/
def quoteSafeQ (c : Char) : Bool := quoteSafeIn qslSafe c

/-- `safely_quote(item, safe="/+")`: a query key or value -/
def quoteQueryItem (s : Str) : Str := safelyQuoteBy quoteSafeQ s

/-! ## upper_quoted -/

def upperTok : Tok → Tok
  | .esc h1 h2 => .esc (upperChar h1) (upperChar h2)
  | t => t

/-- `upper_quoted` -/
def upperQuoted (s : Str) : Str := render ((tokens s).map upperTok)

end Ural.Quote
