import UralModel.Model.Normalize
import UralModel.Py.UrlAccessors
/-!
# `normalize_url` as a function of the URL **string**

`Model/Normalize.lean` models the function between parsing and printing (`normParts`,
`normComps`) and is parametric in the parser: the harness ships the `Parsed` record CPython's
`urlsplit` produced.  Here the parser is the model `Py.urlsplit` + the `SplitResult` accessors
(`Py/UrlSplit.lean`, `Py/UrlAccessors.lean`, compared with CPython on every run), so the whole of
`normalize_url(url, **options)` is a function `Str → Str` inside the model, written step by step
in the order of the Python (`ural/normalize_url.py`, lines 252-470):

1. `original_url_arg = url`; `url = resolve(url)` under `infer_redirection` (the C15 model `infer`);
2. `CONTROL_CHARS_RE.sub("", url)`, `.strip()`, `upper_quoted`;
3. `has_protocol = PROTOCOL_RE.match(url)`; `"http://" + url` when it does not match;
4. the `platform_aware` branch: an abstract `platform : Str → Str` (the identity when the option
   is off, which is the default);
5. `urlsplit(url)` and `.username .password .hostname .port` — `ValueError` from any of them makes
   the function return `original_url_arg`;
6. everything between parsing and `unsplit_netloc` (`normParts`);
7. `unsplit=False`: the `SplitResult`; else `urlunsplit` and the removal of a leading `//`.

`puny` (`attempt_to_decode_idna`) stays the abstract parameter it is in `Model/Normalize.lean`.
`normalizeUrlString_eq` says that this is the component-level model `normalizeUrl` applied to the
modelled parser's output, so that every theorem about `normParts` / `normalizeUrl` applies.
Compared with the real `normalize_url` on every case of C04, C05 and C06 (stream
`normalize_whole`, `lean/Driver/NormWhole.lean`, `harness/normwhole.py`).
-/
namespace Ural.Normalize
open Ural.Py Ural.UrlParts Ural.Quote

/-- `splitted = urlsplit(url)` and the four accessors (lines 280-290) as one `Parsed` record;
`none` = one of them raised `ValueError` -/
def parseForNormalize (url : Str) : Option Parsed :=
  match urlsplit url [] with
  | none => none
  | some r =>
    match port r.netloc with
    | none => none
    | some po =>
      some { scheme := r.scheme, netloc := r.netloc, path := r.path, query := r.query,
             fragment := r.fragment, username := username r.netloc, password := password r.netloc,
             hostname := hostname r.netloc, port := po }

/-- `normalize_url(url, …, unsplit=False)` on a string: `inl` = `original_url_arg` (the URL
does not parse), `inr` = the `SplitResult` -/
def normalizeUrlStringSplit (puny : Str → Str) (platform : Str → Str) (o : Opts)
    (inferRedirection : Bool) (url : Str) : Str ⊕ Split :=
  -- lines 252-255
  let resolved := if inferRedirection then infer url else url
  -- lines 257-259
  let cleaned := upperQuoted (strip (stripControl resolved))
  -- lines 261-265
  let hasProto := (protoLen cleaned).isSome
  let ensured := if hasProto then cleaned else "http://".toList ++ cleaned
  -- lines 268-276
  let final := platform ensured
  -- lines 280-290
  match parseForNormalize final with
  | none => .inl url
  | some p => .inr (normParts puny o hasProto p)

/-- `normalize_url(url, **options)` on a string -/
def normalizeUrlString (puny : Str → Str) (platform : Str → Str) (o : Opts)
    (inferRedirection : Bool) (url : Str) : Str :=
  match normalizeUrlStringSplit puny platform o inferRedirection url with
  | .inl original => original
  | .inr result =>
    -- lines 464-470
    let s := urlunsplit result
    let hasProto := (protoLen (upperQuoted (strip (stripControl
      (if inferRedirection then infer url else url))))).isSome
    if (o.stripProtocol || !hasProto) && startsWith s ['/', '/'] then s.drop 2 else s

theorem parseForNormalize_eq (url : Str) : parseForNormalize url = parseUrl url := by
  unfold parseForNormalize parseUrl
  cases urlsplit url [] with
  | none => rfl
  | some r => cases port r.netloc <;> rfl

/-- the string-level function is the component-level model of `Model/Normalize.lean` with the
modelled parser plugged in -/
theorem normalizeUrlStringSplit_eq (puny : Str → Str) (platform : Str → Str) (o : Opts)
    (ir : Bool) (url : Str) :
    normalizeUrlStringSplit puny platform o ir url = normalizeUrlSplit puny parseUrl platform o ir url := by
  unfold normalizeUrlStringSplit normalizeUrlSplit prepared preClean ensureHttp hasProtocol
  simp only [parseForNormalize_eq]
  generalize parseUrl _ = x
  cases x <;> rfl

theorem prepared_snd (platform : Str → Str) (ir : Bool) (url : Str) :
    (prepared platform ir url).2 = hasProtocol (preClean (if ir then infer url else url)) := by
  simp only [prepared]

/-- **`normalize_url` on strings = the component-level model applied to the modelled parser's
output** -/
theorem normalizeUrlString_eq (puny : Str → Str) (platform : Str → Str) (o : Opts)
    (ir : Bool) (url : Str) :
    normalizeUrlString puny platform o ir url = normalizeUrl puny parseUrl platform o ir url := by
  unfold normalizeUrlString normalizeUrl
  rw [normalizeUrlStringSplit_eq]
  unfold normalizeUrlSplit finalString
  dsimp only
  rw [prepared_snd]
  unfold hasProtocol preClean
  cases parseUrl (prepared platform ir url).1 <;> rfl

end Ural.Normalize
