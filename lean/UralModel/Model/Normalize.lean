import UralModel.Py.Re
import UralModel.Model.Canonicalize
import UralModel.Model.Redirect
import UralModel.Gen.NormalizeTables
/-!
# Model of `ural/normalize_url.py` (shared by C03–C07)

Every step of `normalize_url` is a small total definition named after the Python code.  As
for `canonicalize_url` (C01), `urlsplit` and the `SplitResult` accessors stay CPython: the
function is modelled from the `Parsed` record the real parser produced (`normParts`), and the
whole function (`normalizeUrl`) is parametric in

* `puny`     — `attempt_to_decode_idna` (CPython's `idna` codec),
* `parse`    — `urlsplit` + `.username/.password/.hostname/.port`; `none` = `ValueError`,
* `platform` — the `platform_aware` branch (facebook / youtube rewriting of the string);
               the identity when `platform_aware=False`.

`infer_redirection` is the model of C15 (`Ural.infer`).

Regexes: `IRRELEVANT_QUERY(_AMP)_RE` are regenerated as `Py.Re` terms and matched with the
proved matcher `Re.pyMatch`; `IRRELEVANT_SUBDOMAIN(_AMP)_RE`, `AMP_SUFFIXES_RE`, `MISTAKES_RE`
use look-around and are used through `sub`: hand-written leftmost scanners, each tied to the
regenerated pattern string by an obligation (`…_pattern`, `Props/C05.lean`) and to the real
compiled regex by a regenerated probe table.  `\d` of these (str) patterns is every Unicode
decimal digit: the class is regenerated from the compiled regex (`Gen.Normalize.reDigitRanges`,
`isReDigit`): `www٣.a.com` loses its first label like `www3.a.com`.
-/
namespace Ural.Normalize
open Ural.Py Ural.UrlParts Ural.Quote Ural.Canonicalize

abbrev QItem := Str × Option Str

/-! ## options -/

/-- `strip_fragment`: `False`, `True`, or any other truthy value (`'except-routing'`) -/
inductive StripFragment where
  | no | yes | exceptRouting
  deriving DecidableEq, Repr

/-- `query_item_filter`: `None` or `fingerprint_url.lang_query_item_filter` -/
inductive QueryItemFilter where
  | none | lang
  deriving DecidableEq, Repr

structure Opts where
  sortQuery : Bool := true
  stripAuthentication : Bool := true
  stripTrailingSlash : Bool := true
  stripIndex : Bool := true
  stripProtocol : Bool := true
  stripIrrelevantSubdomains : Bool := true
  stripFragment : StripFragment := .exceptRouting
  normalizeAmp : Bool := true
  fixCommonMistakes : Bool := true
  quoted : Bool := false
  queryItemFilter : QueryItemFilter := .none
  /-- undocumented `lowercase` (set by `fingerprint_url` only): what has just been unescaped is
  lower-cased before the case-sensitive steps look at it -/
  lowercase : Bool := false
  deriving DecidableEq, Repr

/-! ## before parsing (lines 252–265) -/

/-- `CONTROL_CHARS_RE.sub("", url)`, `.strip()`, `upper_quoted` -/
def preClean (url : Str) : Str := upperQuoted (strip (stripControl url))

/-- `PROTOCOL_RE.match(url)` as a boolean -/
def hasProtocol (url : Str) : Bool := (protoLen url).isSome

/-- `if not has_protocol: url = "http://" + url` -/
def ensureHttp (url : Str) : Str := if hasProtocol url then url else "http://".toList ++ url

/-! ## `fix_common_query_mistakes`: `MISTAKES_RE = &amp(?:%3B|;)` (re.I), `sub("&", …)` -/

/-- the pattern at the head of `s`: what follows the match -/
def mistakeHere (s : Str) : Option Str :=
  match matchLit "&amp".toList s with
  | none => none
  | some r => (matchLit "%3b".toList r).or (matchLit ";".toList r)

/-- the scanner of `sub`: `skip` = characters of the current match still to be dropped -/
def fixMistakesFrom : Str → Nat → Str
  | [], _ => []
  | _ :: cs, skip + 1 => fixMistakesFrom cs skip
  | c :: cs, 0 =>
    match mistakeHere (c :: cs) with
    | some r => '&' :: fixMistakesFrom cs ((c :: cs).length - r.length - 1)
    | none => c :: fixMistakesFrom cs 0

def fixCommonQueryMistakes (q : Str) : Str := fixMistakesFrom q 0

/-! ## the path -/

/-- lines 310–323: unescape, remember a trailing slash, `normpath`, put the slash back when
it is to be kept -/
def resolveUnquoted (stripTrailingSlash : Bool) (p : Str) : Str :=
  if p.isEmpty then p
  else
    let trailing := endsWith p ['/'] && decide (p.length > 1)
    let q := normpath p
    if trailing && !stripTrailingSlash then q ++ ['/'] else q

def resolvePath (stripTrailingSlash : Bool) (path : Str) : Str :=
  resolveUnquoted stripTrailingSlash (unquotePath path)

/-- Python's `$` (no MULTILINE): at the end, or before a final newline -/
def atDollar (s : Str) : Bool := s.isEmpty || s == ['\n']

/-- `s` starts with the character `ch`: what follows it -/
def afterChar (ch : Char) : Str → Option Str
  | [] => none
  | c :: e => if c = ch then some e else none

/-- `/?$` (greedy `/?`) at the head of `r`: what follows the optional slash -/
def ampEnd (r : Str) : Option Str :=
  match afterChar '/' r with
  | some e => if atDollar e then some e else if atDollar r then some r else none
  | none => if atDollar r then some r else none

/-- `AMP_SUFFIXES_RE = (?:\.amp(?=\.html$)|\.amp/?$|(?<=/)amp/?$)` (re.I) at the head of `s`,
`prevSlash` = the character before is `/`: what follows the match -/
def ampSuffixHere (prevSlash : Bool) (s : Str) : Option Str :=
  let alt12 : Option Str :=
    (matchLit ".amp".toList s).bind fun r =>
      -- `\.amp(?=\.html$)`, else `\.amp/?$`
      if ((matchLit ".html".toList r).map atDollar).getD false then some r else ampEnd r
  alt12.or (if prevSlash then (matchLit "amp".toList s).bind ampEnd else none)

/-- `AMP_SUFFIXES_RE.sub("", path)`: leftmost non-overlapping matches removed (no alternative
matches the empty string).  `prevSlash` = the previous character of the subject is `/`,
`skip` = characters of the current match still to be dropped. -/
def ampSuffixSubFrom : Str → Bool → Nat → Str
  | [], _, _ => []
  | c :: cs, _, skip + 1 => ampSuffixSubFrom cs (c == '/') skip
  | c :: cs, prevSlash, 0 =>
    match ampSuffixHere prevSlash (c :: cs) with
    | some r => ampSuffixSubFrom cs (c == '/') ((c :: cs).length - r.length - 1)
    | none => c :: ampSuffixSubFrom cs (c == '/') 0

def ampSuffixSub (path : Str) : Str := ampSuffixSubFrom path false 0

/-- `os.path.splitext(p)[0]` for a `p` without `/` (posixpath / `genericpath._splitext`):
cut at the last dot unless only dots precede it -/
def splitextRoot (p : Str) : Str :=
  match splitLast p '.' with
  | (none, _) => p
  | (some before, _) => if before.all (· == '.') then p else before

/-- lines 330–339: `path.rsplit("/", 1)`, `splitext` of the last segment, drop it when its
root is `index` or `default` -/
def stripIndex (path : Str) : Str :=
  let sp := splitLast path '/'
  let filename := splitextRoot sp.2
  if filename = "index".toList ∨ filename = "default".toList then sp.1.getD [] else path

/-! ## query items -/

/-- the callable entry `IRRELEVANT_QUERY_COMBOS["s"]`:
`lambda v: v and len(v) <= 2 and all("0" <= x <= "9" for x in v)` (truthiness) -/
def sLambda (v : Option Str) : Bool :=
  match v with
  | none => false
  | some v => !v.isEmpty && decide (v.length ≤ 2) && v.all isAsciiDigit

/-- `d.get(key)` in a regenerated `key → values` table -/
def comboLookup (tbl : List (String × List String)) (key : Str) : Option (List String) :=
  (tbl.find? (fun e => e.1.toList == key)).map (·.2)

/-- `value in values` (`None` is in no collection of strings) -/
def valueIn (values : List String) (v : Option Str) : Bool :=
  match v with
  | none => false
  | some v => values.any (fun x => x.toList == v)

/-- `next((f for d, f in PER_DOMAIN_QUERY_FILTERS if splitted.hostname.endswith(d)), None)`:
the key list of the first matching domain (`hostname` = the parser's, not yet decoded) -/
def domainFilter (hostname : Option Str) : Option (List String) :=
  match hostname with
  | none => none
  | some h =>
    if h.isEmpty then none
    else (Gen.Normalize.perDomainQueryFilters.find? (fun e => endsWith h e.1.toList)).map (·.2)

/-- `should_strip_query_item(item, normalize_amp, query_item_filter, domain_filter)` (truthiness
of the result) -/
def shouldStripQueryItem (normalizeAmp : Bool) (qf : QueryItemFilter)
    (df : Option (List String)) (item : QItem) : Bool :=
  let key := lower item.1
  let pattern := if normalizeAmp then Gen.Normalize.IRRELEVANT_QUERY_AMP_RE
                 else Gen.Normalize.IRRELEVANT_QUERY_RE
  if Re.pyMatch pattern key then true
  else if Gen.Normalize.queryCombosCallable.any (fun k => k.toList == key) then sLambda item.2
  else
    match comboLookup Gen.Normalize.queryCombos key with
    | some vs => valueIn vs item.2
    | none =>
      match (if normalizeAmp then comboLookup Gen.Normalize.ampQueryCombos key else none) with
      | some vs => valueIn vs item.2
      | none =>
        if (match df with | some keys => keys.any (fun k => k.toList == key) | none => false) then true
        else
          match qf with
          | .lang => Gen.Normalize.langQueryKeys.any (fun k => k.toList == key)
          | .none => false

/-- code-point lexicographic `<` on strings (Python `str.__lt__`) -/
def strLt : Str → Str → Bool
  | [], [] => false
  | [], _ :: _ => true
  | _ :: _, [] => false
  | a :: as, b :: bs => if a.toNat < b.toNat then true else if b.toNat < a.toNat then false else strLt as bs

/-- `qsl_sort_key(a) <= qsl_sort_key(b)`: the key is `(k, v or "", 0 if v is None else 1)` -/
def qslLe (a b : QItem) : Bool :=
  if strLt a.1 b.1 then true
  else if strLt b.1 a.1 then false
  else
    let va := a.2.getD []
    let vb := b.2.getD []
    if strLt va vb then true
    else if strLt vb va then false
    else !(a.2.isSome && b.2.isNone)

/-- stable insertion: before the first element that is not smaller -/
def insertItem (x : QItem) : List QItem → List QItem
  | [] => [x]
  | y :: ys => if qslLe x y then x :: y :: ys else y :: insertItem x ys

/-- `sorted(qsl, key=qsl_sort_key)` (Python's sort is stable) -/
def sortQsl : List QItem → List QItem
  | [] => []
  | x :: xs => insertItem x (sortQsl xs)

/-- lines 342–376: the kept items (unescaped), sorted on request; `[]` for an empty query -/
def filterQuery (o : Opts) (hostname : Option Str) (query : Str) : List QItem :=
  if query.isEmpty then []
  else
    let items := unquoteQsl (safeQslIter query)
    let items := if o.lowercase then items.map (fun it => (lower it.1, it.2.map lower)) else items
    let kept := items.filter
      (fun it => !shouldStripQueryItem o.normalizeAmp o.queryItemFilter (domainFilter hostname) it)
    if o.sortQuery then sortQsl kept else kept

/-! ## the fragment -/

/-- `should_strip_fragment(fragment)` (true = a routing fragment, which is *kept*) -/
def shouldStripFragment (f : Str) : Bool :=
  if f = "!/".toList ∨ f = "/".toList ∨ f = "!".toList then false
  else startsWith f ['/'] || startsWith f ['!']

/-- lines 386–388 -/
def normFragment (sf : StripFragment) (f : Str) : Str :=
  if f.isEmpty then f
  else match sf with
    | .no => f
    | .yes => []
    | .exceptRouting => if shouldStripFragment f then f else []

/-! ## the hostname -/

/-- `\d` in a str pattern compiled with the flags of `IRRELEVANT_SUBDOMAIN_RE`: a Unicode decimal
digit (the class is regenerated from the compiled regex) -/
def isReDigit (c : Char) : Bool :=
  Gen.Normalize.reDigitRanges.any fun r => decide (r.1 ≤ c.toNat) && decide (c.toNat ≤ r.2)

/-- `\d` at the head of `r`: what follows it -/
def afterDigit : Str → Option Str
  | [] => none
  | d :: e => if isReDigit d then some e else none

/-- `(?:www\d?|mobile|amp|m)\.` (re.I; `amp` only in the AMP variant) at the head of `s`:
what follows the match.  `www\d?\.`: with a digit after `www` the dot must follow the digit,
without one it must follow `www` — backtracking never finds a second way. -/
def irrelevantLabelHere (amp : Bool) (s : Str) : Option Str :=
  let www : Option Str :=
    (matchLit "www".toList s).bind fun r => ((afterDigit r).bind (afterChar '.')).or (afterChar '.' r)
  www.or <| ((matchLit "mobile".toList s).bind (afterChar '.')).or <|
    (if amp then (matchLit "amp".toList s).bind (afterChar '.') else none).or <|
    (matchLit "m".toList s).bind (afterChar '.')

/-- `IRRELEVANT_SUBDOMAIN(_AMP)_RE.sub("", hostname)` with the pattern
`(?:^|(?<=\.))(?:www\d?|mobile|amp|m)\.`: `boundary` = we are at the start of the string or
just after a dot (of the *subject*: a removed label ends with one); `skip` = characters of
the current match still to be dropped -/
def subdomainSubFrom (amp : Bool) : Str → Bool → Nat → Str
  | [], _, _ => []
  | c :: cs, _, skip + 1 => subdomainSubFrom amp cs (c == '.') skip
  | c :: cs, boundary, 0 =>
    match (if boundary then irrelevantLabelHere amp (c :: cs) else none) with
    | some r => subdomainSubFrom amp cs (c == '.') ((c :: cs).length - r.length - 1)
    | none => c :: subdomainSubFrom amp cs (c == '.') 0

def subdomainSub (amp : Bool) (hostname : Str) : Str := subdomainSubFrom amp hostname true 0

def ampDash : Str := "amp-".toList

/-- lines 411–420 (`normalize_hostname`: 161–168): a leading `amp-` is cut, what follows is
decoded again and — `again` = `strip_irrelevant_subdomains` — loses its irrelevant labels
(`IRRELEVANT_SUBDOMAIN_AMP_RE`: this block runs under `normalize_amp` only) -/
def stripAmpPrefix (puny : Str → Str) (again : Bool) (h : Str) : Str :=
  if startsWith h ampDash then
    let h := decodePunycodeHostname puny (h.drop 4)
    if again then subdomainSub true h else h
  else h

/-- the hostname through lines 300–301, 394–400, 411–420 -/
def normHost (puny : Str → Str) (o : Opts) (h : Str) : Str :=
  if h.isEmpty then h
  else
    let h := lower (decodePunycodeHostname puny h)
    let h := if !h.isEmpty && o.stripIrrelevantSubdomains then subdomainSub o.normalizeAmp h else h
    if o.normalizeAmp then stripAmpPrefix puny o.stripIrrelevantSubdomains h else h

/-! ## from the parsed URL to the result -/

/-- the components of the result before `unsplit_netloc` -/
structure Comps where
  scheme : Str
  user : Option Str
  pass : Option Str
  host : Option Str
  port : Option Nat
  path : Str
  qsl : List QItem
  fragment : Str
  deriving DecidableEq, Repr

/-- the raw query after `fix_common_query_mistakes` (lines 294–296) -/
def fixedQuery (o : Opts) (p : Parsed) : Str :=
  if o.fixCommonMistakes && !p.query.isEmpty then
    fixCommonQueryMistakes (safeSerializeQsl (unquoteQsl (safeQslIter p.query)))
  else p.query

/-- the path through lines 310–339 -/
def pathSteps (o : Opts) (path : Str) : Str :=
  let p := unquotePath path
  let p := if o.lowercase then lower p else p
  let p := resolveUnquoted o.stripTrailingSlash p
  let p := if o.normalizeAmp then ampSuffixSub p else p
  if o.stripIndex then stripIndex p else p

/-- the path through lines 310–339, 391–392, 423–424 and the quoting block -/
def normPath (o : Opts) (path : Str) (fragment query : Str) : Str :=
  let p := pathSteps o path
  let p := if p = ['/'] ∧ fragment.isEmpty ∧ query.isEmpty then [] else p
  let p := if o.stripTrailingSlash && endsWith p ['/'] then rstripChars p ['/'] else p
  if o.quoted then safelyQuote p else unquotePath p

/-- everything between parsing and `unsplit_netloc`; `hasProto` = `PROTOCOL_RE.match` on the
cleaned string -/
def normComps (puny : Str → Str) (o : Opts) (hasProto : Bool) (p : Parsed) : Comps :=
  let query := fixedQuery o p
  let fragment := unquoteFragment p.fragment
  let fragment := normFragment o.stripFragment (if o.lowercase then lower fragment else fragment)
  -- the per-domain filter looks at the decoded, lower-cased hostname (lines 300–301)
  let qsl := filterQuery o
    (p.hostname.map fun h => if h.isEmpty then h else lower (decodePunycodeHostname puny h)) query
  let qsl := unquoteQsl qsl
  { scheme := if o.stripProtocol || !hasProto then [] else p.scheme
    user := if o.stripAuthentication then none else canonOpt o.quoted unquoteAuthItem p.username
    pass := if o.stripAuthentication then none else canonOpt o.quoted unquoteAuthItem p.password
    host := p.hostname.map (normHost puny o)
    port := match p.port with
      | some n => if n = 80 ∨ n = 443 then none else some n
      | none => none
    path := normPath o p.path fragment query
    qsl := if o.quoted then quoteQsl qsl else qsl
    fragment := requote o.quoted unquoteFragment fragment }

/-- `normalize_url(…, unsplit=False)` on a parsed URL -/
def normParts (puny : Str → Str) (o : Opts) (hasProto : Bool) (p : Parsed) : Split :=
  let c := normComps puny o hasProto p
  { scheme := c.scheme, netloc := unsplitNetloc c.user c.pass c.host c.port,
    path := c.path, query := safeSerializeQsl c.qsl, fragment := some c.fragment }

/-- lines 464–468 -/
def finalString (o : Opts) (hasProto : Bool) (r : Split) : Str :=
  let s := urlunsplit r
  if (o.stripProtocol || !hasProto) && startsWith s ['/', '/'] then s.drop 2 else s

/-- the string that is parsed: redirection, cleaning, `http://`, platform rewriting -/
def prepared (platform : Str → Str) (inferRedirection : Bool) (url : Str) : Str × Bool :=
  let u := if inferRedirection then infer url else url
  let c := preClean u
  (platform (ensureHttp c), hasProtocol c)

/-- `normalize_url(url, …, unsplit=False)`: `inl` = the original argument (unparseable) -/
def normalizeUrlSplit (puny : Str → Str) (parse : Str → Option Parsed) (platform : Str → Str)
    (o : Opts) (inferRedirection : Bool) (url : Str) : Str ⊕ Split :=
  let pr := prepared platform inferRedirection url
  match parse pr.1 with
  | none => .inl url
  | some p => .inr (normParts puny o pr.2 p)

/-- `normalize_url(url, …)` -/
def normalizeUrl (puny : Str → Str) (parse : Str → Option Parsed) (platform : Str → Str)
    (o : Opts) (inferRedirection : Bool) (url : Str) : Str :=
  let pr := prepared platform inferRedirection url
  match parse pr.1 with
  | none => url
  | some p => finalString o pr.2 (normParts puny o pr.2 p)

/-! ## the hostname helpers -/

/-- `normalize_hostname(hostname, normalize_amp)` -/
def normalizeHostname (puny : Str → Str) (normalizeAmp : Bool) (hostname : Str) : Str :=
  let h := stripControl (lower (strip hostname))
  let h := lower (decodePunycodeHostname puny h)
  let h := subdomainSub normalizeAmp h
  if normalizeAmp then stripAmpPrefix puny true h else h

/-- `get_normalized_hostname(url, normalize_amp, infer_redirection)`; `hostOf s` is
`urlsplit(s).hostname` (`none` for `ValueError` and for `None`) -/
def getNormalizedHostname (puny : Str → Str) (hostOf : Str → Option Str)
    (normalizeAmp inferRedirection : Bool) (url : Str) : Option Str :=
  let u := if inferRedirection then infer url else url
  match hostOf (ensureProtocol (strip (stripControl u)) "http".toList) with
  | none => none
  | some h => if h.isEmpty then none else some (normalizeHostname puny normalizeAmp h)

end Ural.Normalize
