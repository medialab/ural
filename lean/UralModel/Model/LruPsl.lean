import UralModel.Model.LruSpec
import UralModel.Model.SuffixTrie
/-!
# The LRU model with the public-suffix split of C08 inside (C13, suffix-aware forward law)

`Model/Lru.lean` takes `split_suffix` as a parameter `splitSuffix : Str → Option (Str × Str)`
("`SuffixTrie.split` on a non-special, non-empty hostname", lines 60-121 of suffix_trie.py).
Here the parameter is instantiated by the model of those very lines from the C08 development
(`Model/SuffixTrie.lean`): `pslSplitT t` is `SuffixTrie.split t` after the `None` /
`is_special_host` tests (which `Lru.splitSuffixParsed` models on its side), on the trie `t`;
`pslSplit lines` is the same on the trie `refresh()` builds from the suffix list.

`outsideSuffixT`, `dnsName`, `sameSuffixSplitB` are the executable hypotheses of the
suffix-aware forward theorem of `Props/C13Psl.lean` (the driver evaluates them, the harness
compares them with its own reading computed from the regenerated list by a plain scan).
-/
namespace Ural.Lru
open Ural Ural.Py

/-- suffix_trie.py:100-121: what `__walk` returns for the suffix length found, then `split` -/
def splitOfLen (hn : Str) (len : Option Nat) : Option (Str × Str) :=
  let parts := SuffixTrie.hostParts hn
  SuffixTrie.splitOf
    (match len with
     | none => none
     | some n =>
       let l := parts.length
       some (parts, if l = n then -1 else max 1 ((l : Int) - (n : Int))))

/-- suffix_trie.py:60-99: the suffix length the walk finds for a hostname (labels of the
lower-cased hostname without trailing dots, right to left) -/
def hostLenT (t : SNode Str) (hn : Str) : Option Nat :=
  SNode.walkLen SuffixTrie.starStr t (SuffixTrie.hostParts hn).reverse

/-- suffix_trie.py:60-121 (`__walk` after the `None` / special-host tests, then `split`): the
labels of the lower-cased hostname without trailing dots, the walk, the cut -/
def pslSplitT (t : SNode Str) (hn : Str) : Option (Str × Str) :=
  splitOfLen hn (hostLenT t hn)

/-- `split_suffix` of `ural/tld.py` as far as stems.py reaches it, on the trie built by
`refresh()` from the lines of the suffix list -/
def pslSplit (lines : List Str) : Str → Option (Str × Str) :=
  pslSplitT (SuffixTrie.build lines)

/-- a DNS name as far as the suffix-aware forward theorem goes: no `:`, `[`, `]` (not a
bracketed literal), no `%`, no leading dot, no trailing dot (`split_suffix` drops trailing dots;
`Props.C13.hostLen_subdomain` compares the label lists of hostnames that do not end with one) -/
def dnsName (h : Str) : Bool :=
  noneOf [':', '[', ']', '%'] h && h.head? != some '.' && h.getLast? != some '.'

/-- number of labels of the public suffix of the host of a netloc, read off the trie -/
def suffixLenT (t : SNode Str) (n : Str) : Option Nat := hostLenT t (pyHostname n)

/-- `outsideSuffixT` on the suffix length of `v`'s host -/
def outsideSuffixOf (lenv : Option Nat) (nu nv : Str) : Bool :=
  !isSpecialHost (pyHostname nu) && !isSpecialHost (pyHostname nv) &&
    (match lenv with
     | none => true
     | some m => decide (m < (SuffixTrie.hostParts (pyHostname nu)).length))

/-- **`u`'s host lies outside the public suffix of `v`'s host**: `v`'s public suffix (if it has
one) has fewer labels than `u`'s host has; neither host is a special host -/
def outsideSuffixT (t : SNode Str) (nu nv : Str) : Bool :=
  outsideSuffixOf (suffixLenT t nv) nu nv

/-- `SameSuffixSplit`, executable -/
def sameSuffixSplitB (sp : Str → Option (Str × Str)) (nu nv : Str) : Bool :=
  match hostSplit sp nu, hostSplit sp nv with
  | none, none => true
  | some (_, s), some (_, s') => s == s'
  | _, _ => false

end Ural.Lru
