import UralModel.Model.Fingerprint
import UralModel.Py.UrlSplit
/-!
# C06 — the two CPython pieces `fingerprint_url` goes through a second time

`Model/Fingerprint.lean` keeps them abstract (`Env.netlocAcc`, `Env.walkHost`: the harness
ships what the real parser answered).  The theorems of C06 need to know what the accessors say
about a netloc that **`unsplit_netloc` assembled** (no userinfo, a host, maybe a port): this file
is a hand model of them, written from `Lib/urllib/parse.py` of CPython 3.12.1
(`_NetlocResultMixinStr._userinfo`, `._hostinfo`, `_NetlocResultMixinBase.hostname`, `.port`),
compared with the real accessors on every run (driver `c06_acc`, `c06_walk`, `c06_fp_parts`),
for which the laws the theorems assume (`AccLaws`, `Lemmas/C06Netloc.lean`; `WalkLaws`,
`Lemmas/FingerprintSuffix.lean`) are *proved*.

```
def _userinfo(self):
    userinfo, have_info, hostinfo = self.netloc.rpartition('@')
    if have_info:
        username, have_password, password = userinfo.partition(':')
        if not have_password: password = None
    else: username = password = None
    return username, password

def _hostinfo(self):
    _, _, hostinfo = self.netloc.rpartition('@')
    _, have_open_br, bracketed = hostinfo.partition('[')
    if have_open_br:
        hostname, _, port = bracketed.partition(']')
        _, _, port = port.partition(':')
    else:
        hostname, _, port = hostinfo.partition(':')
    if not port: port = None
    return hostname, port

def hostname(self):
    hostname = self._hostinfo[0]
    if not hostname: return None
    hostname, percent, zone = hostname.partition('%')   # the zone of a scoped IPv6 address keeps its case
    return hostname.lower() + percent + zone

def port(self):
    port = self._hostinfo[1]
    if port is not None:
        if port.isdigit() and port.isascii(): port = int(port)
        else: raise ValueError
        if not (0 <= port <= 65535): raise ValueError
    return port
```
-/
namespace Ural.Fingerprint
open Ural.Py Ural.UrlParts Ural.Normalize

/-- `_userinfo` -/
def pyUserinfo (netloc : Str) : Option Str × Option Str :=
  match (splitLast netloc '@').1 with
  | none => (none, none)
  | some ui => (some (splitFirst ui ':').1, (splitFirst ui ':').2)

/-- `_hostinfo`: `(hostname, port or None)` -/
def pyHostinfo (netloc : Str) : Str × Option Str :=
  let hi := (splitLast netloc '@').2
  let hp : Str × Str :=
    match (splitFirst hi '[').2 with
    | some bracketed =>
      ((splitFirst bracketed ']').1,
        ((splitFirst ((splitFirst bracketed ']').2.getD []) ':').2).getD [])
    | none => ((splitFirst hi ':').1, (splitFirst hi ':').2.getD [])
  (hp.1, if hp.2.isEmpty then none else some hp.2)

/-- what `.hostname` makes of a non-empty `_hostinfo[0]`: lower-cased up to a `%` -/
def hostnameView (h : Str) : Str :=
  lower (splitFirst h '%').1 ++
    (match (splitFirst h '%').2 with
     | some zone => '%' :: zone
     | none => [])

/-- `.hostname` -/
def pyHostname (netloc : Str) : Option Str :=
  let h := (pyHostinfo netloc).1
  if h.isEmpty then none else some (hostnameView h)

/-- `.port` (`ValueError` when it is not made of ASCII digits or exceeds 65535) -/
def pyPort (netloc : Str) : Except Err (Option Nat) :=
  match (pyHostinfo netloc).2 with
  | none => .ok none
  | some p =>
    match strToNat? p with
    | some n => if n ≤ 65535 then .ok (some n) else .error .valueError
    | none => .error .valueError

/-- the four accessors `fingerprint_url` reads, in its order (only `.port` can raise) -/
def pyNetlocAcc (netloc : Str) : Except Err Accessors :=
  match pyPort netloc with
  | .error e => .error e
  | .ok p =>
    .ok { username := (pyUserinfo netloc).1, password := (pyUserinfo netloc).2,
          hostname := pyHostname netloc, port := p }

/-- `safe_urlsplit(hostname).hostname`, what `SuffixTrie.__walk` starts from:
`if not re.match(PROTOCOL_RE, url): url = "http://" + url`, `urlsplit` (the hand model of
`Py/UrlSplit.lean`), `.hostname` -/
def pyWalkHost (h : Str) : Except Err (Option Str) :=
  match Py.urlsplit (ensureHttp h) with
  | none => .error .valueError
  | some r => .ok (pyHostname r.netloc)

/-- the environment with the two hand models plugged in -/
def pyEnv (puny : Str → Str) (parse : Str → Option Parsed) (platform : Str → Str)
    (trie : SNode Str) (isCC : Str → Bool) : Env :=
  { puny := puny, parse := parse, platform := platform, netlocAcc := pyNetlocAcc,
    walkHost := pyWalkHost, trie := trie, isCC := isCC }

end Ural.Fingerprint
