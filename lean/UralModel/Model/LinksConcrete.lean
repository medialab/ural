import UralModel.Model.LinksFromHtml
import UralModel.Model.IsUrl
import UralModel.Model.CanonicalizeUrl
import UralModel.Py.UrlSplit
import UralModel.Py.UrlAccessors
/-!
# `links_from_html` with its parameters instantiated (C17)

`Model/LinksFromHtml.lean` models the filter chain of `links_from_html` for arbitrary
functions `urljoin`, `is_url`, `canonicalize_url`, `PROTOCOL_RE.match` (`Env`).  Here these
fields are filled with the Lean models the framework has meanwhile:

| field of `Env` | Python | Lean model |
|---|---|---|
| `protocolMatch` | `PROTOCOL_RE.match(url)` (links_from_html.py:34) | `Re.pyMatch` of the **regenerated** `Gen.Patterns.PROTOCOL_RE` |
| `httpMatch` | `HTTP_PROTOCOL_RE.match(href)` of should_follow_href.py | `httpProtocolMatch` (pinned by the obligation `http_protocol_shape`) |
| `urljoin` | `urllib.parse.urljoin` | `Py.urljoin` (`Py/UrlSplit.lean`, C15) |
| `isUrl` | `is_url(url, require_protocol=True, tld_aware=True, allow_spaces_in_path=True, only_http_https=True)` (links_from_html.py:37-43) | `IsUrl.is_url` (C16) with the options `linkOpts`, its `hostname` parameter filled with the model of `safe_urlsplit(string).hostname` |
| `canon` | `canonicalize_url(url, strip_fragment=strip_fragment)` | `Canonicalize.canonicalizeUrl` (whole function on the string, C01/C02) with `default_protocol="https"`, `quoted=False` |

What stays a parameter (`World`): the idna codec (`attempt_to_decode_idna`, `puny`) and the
TLD table behind `is_valid_tld` (`validTld`) — data of the interpreter / of `tld_data.py`,
not code of the anchored functions.  `html.unescape` is upstream of `links` (it belongs to
`urls_from_html`, `Model/UrlsFromHtml.lean`).

Restrictions inherited from the component models (the generators of the `links_concrete`
stream stay inside them, `harness/props/C17.py: outside_concrete`):
`str.lower()` is ASCII lower-casing (no non-ASCII cased character in a host), `_checknetloc`
(NFKC of a non-ASCII netloc) is not modelled, `_check_bracketed_host` is `bracketedHostOk`.
-/
namespace Ural.Html
open Ural.Py Ural.Py.Re

/-- the data the concrete model still takes from outside -/
structure World where
  /-- `attempt_to_decode_idna(label)` (the `idna` codec) -/
  puny : Str → Str
  /-- `is_valid_tld(label)` (idna + membership in `TLD_SET`) -/
  validTld : Str → Bool

/-- the keyword arguments `links_from_html` passes to `is_url` (links_from_html.py:37-43) -/
def linkOpts : IsUrl.Opts :=
  { require_protocol := true, tld_aware := true, allow_spaces_in_path := true,
    only_http_https := true }

/-- `safe_urlsplit(string).hostname` (utils.py:48-57): `PROTOCOL_RE.match` decides whether
`http://` is put in front; a `ValueError` of `urlsplit` propagates (`is_url` catches it) -/
def safeHostname (s : Str) : Except IsUrl.Err (Option Str) :=
  let url := if pyMatch Gen.Patterns.PROTOCOL_RE s then s else "http://".toList ++ s
  match urlsplit url [] with
  | none => .error .valueError
  | some r => .ok (hostname r.netloc)

/-- the environment of `is_url` with the parser inside the model -/
def isUrlEnv (W : World) : IsUrl.Env := ⟨safeHostname, W.validTld⟩

/-- `is_url(url, require_protocol=True, tld_aware=True, allow_spaces_in_path=True,
only_http_https=True)`; with `safeHostname` the only exception `is_url` could meet is the
`ValueError` it catches (`Props.C17.isUrlC_total`), so a `Bool` loses nothing -/
def isUrlC (W : World) (u : Str) : Bool :=
  match IsUrl.is_url (isUrlEnv W) u linkOpts with
  | .ok b => b
  | .error _ => false

/-- the options of the `canonicalize_url` call of links_from_html.py:20,47 -/
def canonOpts (stripFragment : Bool) : Canonicalize.Opts :=
  { defaultProtocol := "https".toList, quoted := false, stripFragment := stripFragment }

/-- `canonicalize_url(url, strip_fragment=strip_fragment)`; `none` = `ValueError` -/
def canonC (W : World) (stripFragment : Bool) (u : Str) : Option Str :=
  Canonicalize.canonicalizeUrl W.puny (canonOpts stripFragment) u

def optToExcept (o : Option Str) : Except PyErr Str :=
  match o with
  | some s => .ok s
  | none => .error .valueError

/-- the concrete environment of `links` -/
def concreteEnv (W : World) (stripFragment : Bool) : Env where
  httpMatch := httpProtocolMatch
  protocolMatch := pyMatch Gen.Patterns.PROTOCOL_RE
  urljoin := fun b u => optToExcept (Py.urljoin b u)
  isUrl := isUrlC W
  canon := fun u => optToExcept (canonC W stripFragment u)

/-- `links_from_html(base_url, html_body, canonicalize=…, unique=…, strip_fragment=…)` on the
hrefs `urls_from_html(html_body)` found, every function of the chain being the Lean model of
the Python one: the list of yielded links, and the exception that ended the generator -/
def linksFromHtmlConcrete (W : World) (canonicalize unique stripFragment : Bool)
    (base : Str) (hrefs : List Str) : List Str × Option PyErr :=
  links (concreteEnv W stripFragment) ⟨canonicalize, unique⟩ base hrefs

end Ural.Html
