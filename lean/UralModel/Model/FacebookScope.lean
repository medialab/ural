import UralModel.Model.Facebook
/-!
# The scope of the round-trip theorem for `ural/facebook.py` (C19)

`reparsable r` is the *decidable hypothesis* of `Ural.Props.C19.Facebook.reparse_url_partial`:
the records (returned by the parser or not) for which "`parse_facebook_url(r.url) == r`" is
proved; `charsOk r` is the character-level hypothesis of `reparse_of_parse_partial` (records
the parser returned: only the characters that fail by design); `pathFieldsClean r` is the
conclusion of `parsed_path_fields_clean`.  All this lives next to the model
(no theorem here) because the driver evaluates it on every record of the correspondence
stream, so that the check can tell the inputs covered by the theorem from those that are only
explored (`harness/props/c19/facebook.py`, op `fb_hyp`).
-/
namespace Ural.Facebook
open Ural.Py Ural

/-- `.` or `..` -/
def isDotSeg (s : Str) : Bool := s = ['.'] || s = ['.', '.']

/-- the characters of a path-borne field: anything but the url delimiters `/ ? #` and TAB CR LF
(which `urlsplit` deletes) — what a path segment returned by `urlsplit` + `pathsplit` is made of
(`cleanChar` below is the same test).  `;` is allowed: it matters only in the *last* segment of the
canonical path (`lastSemiOk`). -/
def segChar (c : Char) : Bool := c ≠ '/' && c ≠ '?' && c ≠ '#' && !isUnsafeUrlChar c

/-- `s` starts with white space (`str.isspace`) -/
def blankHead (s : Str) : Bool := s.head?.any isSpace

/-- `s` ends with white space (`str.isspace`) -/
def blankLast (s : Str) : Bool := s.getLast?.any isSpace

/-- a path segment the round trip is proved for: not empty, made of `segChar`s, not `.`/`..`, no
white space at either end (white space *inside* is fine) -/
def segOk (s : Str) : Bool := !s.isEmpty && s.all segChar && !isDotSeg s && !blankHead s && !blankLast s

/-- the `;` test of the field that *ends* the canonical path: `urljoin` (`urlparse` / `urlunparse`)
splits the last segment at its first `;` into segment and params, resolves dot segments on the
path without the params, and puts `;params` back only when the params are not empty.  So the field
comes back verbatim exactly when what precedes its first `;` (all of it when there is none) is not
`.` / `..`, and its first `;` is not its last character. -/
def lastSemiOk (s : Str) : Bool :=
  !isDotSeg (splitFirst s ';').1 && decide ((splitFirst s ';').2 ≠ some [])

/-- the field that ends the canonical path -/
def lastOk (s : Str) : Bool := segOk s && lastSemiOk s

/-- `s` holds a percent escape: a `%` followed by two hexadecimal digits -/
def hasEscape : Str → Bool
  | [] => false
  | c :: rest => (c == '%' && (pctHead rest).isSome) || hasEscape rest

/-- the characters of a query-borne field for which the round trip is proved: anything but
`&` (item separator), `#`, `+` (decoded by `parse_qs`), TAB, CR, LF (deleted by `urlsplit`); `%` is
allowed, a percent *escape* is not (`hasEscape`) -/
def qvalChar (c : Char) : Bool :=
  c ≠ '&' && c ≠ '#' && c ≠ '+' && !isUnsafeUrlChar c

/-- a query value the round trip is proved for: not empty, made of `qvalChar`s, without a percent
escape (`parse_qs` would decode it) -/
def qvalOk (s : Str) : Bool := !s.isEmpty && s.all qvalChar && !hasEscape s

/-- `s` does not start with `watch`: the url is not taken by the `"/watch" in path` route -/
def noWatch (s : Str) : Bool := !startsWith s (lit "watch")

/-- `FacebookHandle(h)`: `h` is a good segment that no earlier route takes (`watch…`, `people…`)
and that the handle route accepts (no `.php` suffix) -/
def handleOk (h : Str) : Bool :=
  lastOk h && noWatch h && !startsWith h (lit "people") && !endsWith h (lit ".php")

/-- `FacebookVideo(id, parent_id=pid)` -/
def videoParentOk (pid id : Str) : Bool := segOk pid && lastOk id && noWatch pid && noWatch id

/-- `FacebookPost(id, parent_handle=ph)`: `ph` is not an id, and not a word that an earlier route
(`videos`, `photos`) or the posts route itself (`groups`) would read differently -/
def postHandleOk (ph id : Str) : Bool :=
  segOk ph && lastOk id && noWatch ph && noWatch id && !is_facebook_id ph &&
  decide (ph ≠ lit "videos") && decide (ph ≠ lit "photos") && decide (ph ≠ lit "groups")

/-- `FacebookPost(id, group_id=g)` / `group_handle=g` -/
def postGroupOk (g id : Str) : Bool :=
  segOk g && lastOk id && noWatch g && noWatch id && decide (g ≠ lit "videos") && decide (g ≠ lit "photos")

/-- `FacebookGroup(id=g)` / `handle=g` -/
def groupOk (g : Str) : Bool := lastOk g && noWatch g

/-- `FacebookPhoto(id, parent_id=p | parent_handle=p, album_id=aid)`: the album id is not empty
(the parser returns `None` on an empty one) and does not end with white space (it ends the
segment `a.<album>`); it may contain `a.` — only the prefix is removed -/
def photoPathOk (p aid id : Str) : Bool :=
  segOk p && lastOk id && !aid.isEmpty && aid.all segChar && !blankLast aid && noWatch p && noWatch id &&
    decide (p ≠ lit "videos")

/-- `None`, or a good query value -/
def optQvalOk (o : Option Str) : Bool :=
  match o with
  | none => true
  | some s => qvalOk s

/-- `FacebookPhoto(id, group_id=gid, album_id=aid)` (read from `photo.php`) -/
def photoQueryOk (id : Str) (gid aid : Option Str) : Bool := qvalOk id && optQvalOk gid && optQvalOk aid

/-- the records for which the round trip is proved, shape by shape (all hypotheses are
decidable and spelled out in `Lemmas/FacebookCanonical.lean`):

* a field that ends up in the *path* of the url is `segOk`: not empty, without `/ ? #` TAB CR
  LF, without white space at its ends, not `.` / `..`; the one that ends the path is `lastOk`: what
  precedes its first `;` is not `.` / `..` either and its first `;` is not its last character; it
  must not start with `watch` (nor, for a handle, with `people`, nor end with `.php`), must not be
  a route word that an earlier route of the parser tests (`videos`, `photos`, `groups` where
  relevant); an album id is not empty, without `/ ? #` TAB CR LF, without white space at its end;
* a field that ends up in the *query* is `qvalOk`: not empty, without `& # +`, TAB, CR, LF, without
  a percent escape;
* ids and handles are told apart by `is_facebook_id`, as the parser does;
* only the field combinations the parser produces (`Shaped`). -/
def reparsable : Parsed → Bool
  | .user id h => h.isNone && qvalOk id
  | .handle h => handleOk h
  | .group id h =>
    (match id, h with
     | some g, none => groupOk g && is_facebook_id g
     | none, some g => groupOk g && !is_facebook_id g
     | _, _ => false)
  | .post id pid ph gid gh =>
    (match pid, ph, gid, gh with
     | some p, none, none, none => qvalOk p && qvalOk id
     | none, some x, none, none => postHandleOk x id
     | none, none, some g, none => postGroupOk g id && is_facebook_id g
     | none, none, none, some g => postGroupOk g id && !is_facebook_id g
     | _, _, _, _ => false)
  | .video id pid =>
    (match pid with
     | none => qvalOk id
     | some p => videoParentOk p id)
  | .photo id gid pid ph aid =>
    (match pid, ph with
     | none, none => photoQueryOk id gid aid
     | some p, none =>
       (match gid, aid with
        | none, some a => photoPathOk p a id && is_facebook_id p
        | _, _ => false)
     | none, some p =>
       (match gid, aid with
        | none, some a => photoPathOk p a id && !is_facebook_id p
        | _, _ => false)
     | some _, some _ => false)

/-- a path-borne field that does not end the canonical path is rebuilt verbatim by `urljoin` exactly
when it is not a dot segment (`.` / `..` are resolved).  Nothing else: that the field is not
empty, has no white space at its ends, no `/ ? #` and no TAB CR LF is *derived* for what the parser
returns (`parsed_fields_nonempty`, `parsed_path_fields_clean`); a `;` in it is kept. -/
def segChars (s : Str) : Bool := !isDotSeg s

/-- the path-borne field that ends the canonical path: `lastSemiOk` (which implies that the field
itself is not a dot segment) -/
def lastChars (s : Str) : Bool := lastSemiOk s

/-- a query-borne field comes back verbatim from `urlsplit` + `parse_qs` exactly when it has no
`& # +` TAB CR LF and no percent escape -/
def qvalChars (s : Str) : Bool := s.all qvalChar && !hasEscape s

/-- `None`, or made of ordinary query characters -/
def optQvalChars (o : Option Str) : Bool :=
  match o with
  | none => true
  | some s => qvalChars s

/-- **the condition of the round trip of what the parser returns**
(`Ural.Props.C19.Facebook.reparse_of_parse_partial`: sufficient, proved; observed to be necessary
too on the real code, proved necessary only on one witness per kind): only what the
builders do not escape and `urljoin` / `urlsplit` / `parse_qs` read as syntax —

* a field that goes to the *path* of the canonical url is not `.` / `..` (`urljoin` resolves dot
  segments); the one that *ends* the path is moreover `lastSemiOk`: what precedes its first `;` is
  not `.` / `..` and its first `;` is not its last character (`urljoin` drops an empty `;params`);
  an album id (`a.<album>`, never the last segment, never a dot segment) has no condition;
* a field that goes to its *query* has no `& # +` TAB CR LF and no percent escape `%XX` (`parse_qs`
  decodes `+` and escapes and splits at `&`, `urlsplit` cuts at `#` and deletes TAB CR LF — a query
  value can hold any of them, decoded from an escape).

Which fields go where depends on the shape of the record; a record with a field combination the
parser never returns is outside. -/
def charsOk : Parsed → Bool
  | .user id h => h.isNone && qvalChars id
  | .handle h => lastChars h
  | .group id h =>
    (match id, h with
     | some g, none => lastChars g
     | none, some g => lastChars g
     | _, _ => false)
  | .post id pid ph gid gh =>
    (match pid, ph, gid, gh with
     | some p, none, none, none => qvalChars p && qvalChars id
     | none, some x, none, none => segChars x && lastChars id
     | none, none, some g, none => segChars g && lastChars id
     | none, none, none, some g => segChars g && lastChars id
     | _, _, _, _ => false)
  | .video id pid =>
    (match pid with
     | none => qvalChars id
     | some p => segChars p && lastChars id)
  | .photo id gid pid ph aid =>
    (match pid, ph with
     | none, none => qvalChars id && optQvalChars gid && optQvalChars aid
     | some p, none =>
       (match gid, aid with
        | none, some _ => segChars p && lastChars id
        | _, _ => false)
     | none, some p =>
       (match gid, aid with
        | none, some _ => segChars p && lastChars id
        | _, _ => false)
     | some _, some _ => false)

/-! ## what holds of every record the parser returns (derived, not assumed) -/

/-- a character that can be in a path segment `urlsplit` + `pathsplit` return: not `/ ? #`, not
TAB CR LF -/
def cleanChar (c : Char) : Bool := c ≠ '/' && c ≠ '?' && c ≠ '#' && !isUnsafeUrlChar c

/-- a path segment as the routes read it: made of `cleanChar`s, no white space at either end
(the blanks around each segment are dropped before routing) -/
def segClean (s : Str) : Bool := s.all cleanChar && !blankHead s && !blankLast s

/-- the album id read from the segment `a.<album>`: the end of that segment -/
def albumClean (a : Str) : Bool := a.all cleanChar && !blankLast a

/-- **every field that goes to the path of the canonical url is a clean segment**: the
conclusion of `Ural.Props.C19.Facebook.parsed_path_fields_clean` (the fields that go to the
query are not constrained: a query value can hold any character, decoded from an escape; nor is
the id of a `FacebookUser`, which the people route reads from the path but the url carries in
its query) -/
def pathFieldsClean : Parsed → Bool
  | .user _ _ => true
  | .handle h => segClean h
  | .group id h =>
    (match id, h with
     | some g, none => segClean g
     | none, some g => segClean g
     | _, _ => true)
  | .post id pid ph gid gh =>
    (match pid, ph, gid, gh with
     | none, some x, none, none => segClean x && segClean id
     | none, none, some g, none => segClean g && segClean id
     | none, none, none, some g => segClean g && segClean id
     | _, _, _, _ => true)
  | .video id pid =>
    (match pid with
     | none => true
     | some p => segClean p && segClean id)
  | .photo id gid pid ph aid =>
    (match pid, ph, gid, aid with
     | some p, none, none, some a => segClean p && segClean id && albumClean a
     | none, some p, none, some a => segClean p && segClean id && albumClean a
     | _, _, _, _ => true)

end Ural.Facebook
