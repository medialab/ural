import UralModel.Py.Str
import UralModel.Model.LinksFromHtml
/-!
# `ural/urls_from_html.py` — the two regexes as hand-written leftmost-greedy scanners

```
SCRIPT_TAG  = r"<script\b[^<]*(?:(?!<\/script>)<[^<]*)*<\/script>"          (re.I | re.ASCII)
URL_IN_HTML = r"<a[^>]*\shref=(?:"([^"]*)"|'([^']*)'|([^\s>]*))[^>]*>"      (re.I | re.ASCII)
```
and their `bytes` twins (same pattern, `re.I`).  The scanners are written **once**, over any
symbol type `τ` with a *code* `Sym.code : τ → Nat` = the ASCII code of the symbol, or 128 for
every non-ASCII symbol; they are instantiated at `Char` (a `str` document) and at `UInt8` (a
`bytes` document).  By construction every test the scanners make is a test on the code, i.e.
on a set of ASCII characters or the complement of one — which is what `re.ASCII` (str) and
byte patterns give; that the *regenerated* patterns have only such classes is the table
obligation `Props.C17.html_patterns_ascii_determined`.

How the backtracking search of `re` is spelled out (checked against `re` on every run by the
correspondence stream, and on 150,000 random token soups when this was written):

* `SCRIPT_TAG`: a match starts at `<script` (any case) followed by a word boundary, and ends
  with the *first* `</script>` (any case) after it: `[^<]*` must stop at each `<`, where the
  loop body is refused exactly when `</script>` is there.  No closing tag: no match at this
  start (nor at any later one).
* `URL_IN_HTML`: at `<a` (any case), `[^>]*` is greedy, so ` href=` is the **last**
  occurrence of `\shref=` before the first `>`; the tail `[^>]*>` succeeds iff a `>` occurs
  somewhere after the value.  Value: a `"`-quoted run if the closing quote exists *and* a `>`
  follows it somewhere; else the same with `'`; else the maximal run of non-space, non-`>`
  symbols (group 3 — which then starts with the quote character of an unterminated value).
-/
namespace Ural.Html
open Ural.Py

/-- a symbol of a document: a code point (`str`) or a byte (`bytes`) -/
class Sym (τ : Type) where
  /-- ASCII code, or 128 for every non-ASCII symbol -/
  code : τ → Nat

export Sym (code)

instance : Sym Char := ⟨fun c => min c.toNat 128⟩
instance : Sym UInt8 := ⟨fun b => min b.toNat 128⟩

section Scanner
variable {τ : Type} [Sym τ]

/-- does a symbol of code `c` match the pattern literal of code `n` under `re.I` restricted
to ASCII: same code, or `n` is a lower-case letter and `c` its upper-case -/
def ciEq (n c : Nat) : Bool := c == n || (decide (97 ≤ n) && decide (n ≤ 122) && c + 32 == n)

/-- match a literal (list of ASCII codes, letters in lower case) at the head, any case;
returns the rest -/
def ciPrefix : List Nat → List τ → Option (List τ)
  | [], l => some l
  | _ :: _, [] => none
  | n :: ns, t :: ts => if ciEq n (code t) then ciPrefix ns ts else none

/-- `<script` -/
def litScriptOpen : List Nat := [60, 115, 99, 114, 105, 112, 116]
/-- `</script>` -/
def litScriptClose : List Nat := [60, 47, 115, 99, 114, 105, 112, 116, 62]
/-- `<a` -/
def litA : List Nat := [60, 97]
/-- `href=` -/
def litHref : List Nat := [104, 114, 101, 102, 61]

/-- `>` -/
def isGt (t : τ) : Bool := code t == 62
/-- `<` -/
def isLt (t : τ) : Bool := code t == 60
/-- `\s` under `re.ASCII` / in a bytes pattern: `[ \t\n\r\f\v]` -/
def isSpaceA (t : τ) : Bool := (decide (9 ≤ code t) && decide (code t ≤ 13)) || code t == 32
/-- `\w` under `re.ASCII` / in a bytes pattern: `[a-zA-Z0-9_]` -/
def isWordA (t : τ) : Bool :=
  let c := code t
  (decide (48 ≤ c) && decide (c ≤ 57)) || (decide (65 ≤ c) && decide (c ≤ 90)) ||
    (decide (97 ≤ c) && decide (c ≤ 122)) || c == 95

/-! ### SCRIPT_TAG_RE.sub("", ·) -/

/-- rest of the document after the first `</script>` -/
def findClose : List τ → Option (List τ)
  | [] => none
  | t :: ts =>
    match ciPrefix litScriptClose (t :: ts) with
    | some r => some r
    | none => findClose ts

/-- `\b` after `<script`: end of document or a non-word symbol -/
def boundaryAfter (l : List τ) : Bool :=
  match l with
  | [] => true
  | t :: _ => !isWordA t

/-- a match of `SCRIPT_TAG` at the head of `l`: the rest of the document after it -/
def matchScript (l : List τ) : Option (List τ) :=
  match ciPrefix litScriptOpen l with
  | none => none
  | some r => if boundaryAfter r then findClose r else none

theorem ciPrefix_length {lit : List Nat} {l r : List τ} (h : ciPrefix lit l = some r) :
    r.length + lit.length = l.length := by
  induction lit generalizing l with
  | nil => simp [ciPrefix] at h; subst h; simp
  | cons n ns ih =>
    cases l with
    | nil => simp [ciPrefix] at h
    | cons t ts =>
      simp only [ciPrefix] at h
      split at h
      · have := ih h; simp; omega
      · cases h

theorem findClose_length {l r : List τ} (h : findClose l = some r) : r.length + 9 ≤ l.length := by
  induction l with
  | nil => simp [findClose] at h
  | cons t ts ih =>
    simp only [findClose] at h
    split at h
    · rename_i r' hr
      cases h
      have := ciPrefix_length hr
      simp [litScriptClose] at this ⊢; omega
    · have := ih h; simp; omega

theorem matchScript_length {l r : List τ} (h : matchScript l = some r) : r.length < l.length := by
  unfold matchScript at h
  split at h
  · cases h
  · rename_i r1 h1
    split at h
    · have := findClose_length h
      have := ciPrefix_length h1
      omega
    · cases h

/-- `SCRIPT_TAG_RE.sub("", string)` (urls_from_html.py:28 / :48) -/
def stripScripts (l : List τ) : List τ :=
  match l with
  | [] => []
  | t :: ts =>
    match h : matchScript (t :: ts) with
    | some r => stripScripts r
    | none => t :: stripScripts ts
termination_by l.length
decreasing_by
  · exact matchScript_length h
  · simp

/-! ### URL_IN_HTML_RE.finditer -/

/-- the document after `href=` of the **last** `\shref=` lying before the first `>` -/
def lastHref : List τ → Option (List τ)
  | [] => none
  | t :: ts =>
    if isGt t then none
    else
      match lastHref ts with
      | some p => some p
      | none => if isSpaceA t then ciPrefix litHref ts else none

/-- is there a `>` -/
def hasGt (l : List τ) : Bool := l.any isGt

/-- what `[^>]*>` leaves: the document after the first `>` -/
def afterGt (l : List τ) : List τ := (l.dropWhile fun t => !isGt t).drop 1

/-- `url.strip('"')` / `url.strip("'")` on a group (a no-op, the group cannot contain its
quote; kept because the code has it) -/
def stripCode (q : Nat) (g : List τ) : List τ :=
  ((g.dropWhile fun t => code t == q).reverse.dropWhile fun t => code t == q).reverse

/-- alternatives 1 and 2: `"([^"]*)"` / `'([^']*)'` followed by `[^>]*>`; returns the group
(stripped of the quote) and the rest of the document after the match -/
def quotedValue (q : Nat) (p : List τ) : Option (List τ × List τ) :=
  match p with
  | [] => none
  | t :: ts =>
    if code t == q then
      match ts.dropWhile fun x => !(code x == q) with
      | [] => none
      | _ :: after =>
        if hasGt after then some (stripCode q (ts.takeWhile fun x => !(code x == q)), afterGt after)
        else none
    else none

/-- `[^\s>]` -/
def isUnquotedChar (t : τ) : Bool := !isSpaceA t && !isGt t

/-- the value of the href attribute starting at `p`, and the rest after the match; `p`
contains a `>` -/
def valueAt (p : List τ) : List τ × List τ :=
  match quotedValue 34 p with
  | some m => m
  | none =>
    match quotedValue 39 p with
    | some m => m
    | none => (p.takeWhile isUnquotedChar, afterGt (p.dropWhile isUnquotedChar))

/-- a match of `URL_IN_HTML` at the head of `l`: the url (group 1 / 2 / 3 as selected by
urls_from_html.py:31-43) and the rest of the document after the match -/
def matchAnchor (l : List τ) : Option (List τ × List τ) :=
  match ciPrefix litA l with
  | none => none
  | some r1 =>
    match lastHref r1 with
    | none => none
    | some p => if hasGt p then some (valueAt p) else none

theorem lastHref_length {l p : List τ} (h : lastHref l = some p) : p.length ≤ l.length := by
  induction l with
  | nil => simp [lastHref] at h
  | cons t ts ih =>
    simp only [lastHref] at h
    split at h
    · cases h
    · split at h
      · rename_i p' hp
        cases h
        have := ih hp; simp; omega
      · split at h
        · have := ciPrefix_length h; simp; omega
        · cases h

theorem length_dropWhile_le (p : τ → Bool) (l : List τ) : (l.dropWhile p).length ≤ l.length :=
  (List.dropWhile_sublist p).length_le

theorem afterGt_length (l : List τ) : (afterGt l).length ≤ l.length := by
  unfold afterGt
  have := length_dropWhile_le (fun t : τ => !isGt t) l
  simp; omega

theorem quotedValue_length {q : Nat} {p : List τ} {m : List τ × List τ}
    (h : quotedValue q p = some m) : m.2.length ≤ p.length := by
  unfold quotedValue at h
  split at h
  · cases h
  · rename_i t ts
    split at h
    · split at h
      · cases h
      · rename_i x after hd
        split at h
        · cases h
          have h1 := afterGt_length after
          have h2 := length_dropWhile_le (fun x : τ => !(code x == q)) ts
          rw [hd] at h2
          simp at h2 ⊢; omega
        · cases h
    · cases h

theorem valueAt_length (p : List τ) : (valueAt p).2.length ≤ p.length := by
  unfold valueAt
  split
  · rename_i m h; exact quotedValue_length h
  · split
    · rename_i m h; exact quotedValue_length h
    · have h1 := afterGt_length (p.dropWhile isUnquotedChar)
      have h2 := length_dropWhile_le (isUnquotedChar (τ := τ)) p
      simp only; omega

theorem matchAnchor_length {l : List τ} {m : List τ × List τ} (h : matchAnchor l = some m) :
    m.2.length < l.length := by
  unfold matchAnchor at h
  split at h
  · cases h
  · rename_i r1 h1
    split at h
    · cases h
    · rename_i p hp
      split at h
      · cases h
        have := valueAt_length p
        have := lastHref_length hp
        have := ciPrefix_length h1
        simp [litA] at this; omega
      · cases h

/-- `for match in URL_IN_HTML_RE.finditer(string): …; yield url` (urls_from_html.py:30-45):
the raw urls, before `strip()` and `unescape` -/
def urlsFinditer (l : List τ) : List (List τ) :=
  match l with
  | [] => []
  | t :: ts =>
    match h : matchAnchor (t :: ts) with
    | some m => m.1 :: urlsFinditer m.2
    | none => urlsFinditer ts
termination_by l.length
decreasing_by
  · exact matchAnchor_length h
  · simp

/-- `__urls_finditer` / `__urls_finditer_binary` before decoding: scripts removed, then the
anchors scanned -/
def scan (l : List τ) : List (List τ) := urlsFinditer (stripScripts l)

end Scanner

/-! ### urls_from_html -/

/-- `urls_from_html(string)` for a `str` document (urls_from_html.py:69-79):
`url.strip()` then `unescape(url)` on each url found; `html.unescape` is a parameter -/
def urlsFromHtmlStr (unescape : Str → Str) (doc : Str) : List Str :=
  (scan doc).map fun u => unescape (strip u)

/-- `list(urls_from_html(string))` for a `bytes` document: each url is decoded
(`url.decode(encoding, errors=errors)`, a parameter that may raise `UnicodeDecodeError`),
then stripped and unescaped -/
def urlsFromHtmlBytes (decode : List UInt8 → Except PyErr Str) (unescape : Str → Str)
    (doc : List UInt8) : Except PyErr (List Str) :=
  (scan doc).mapM fun u => (decode u).map fun s => unescape (strip s)

/-- UTF-8 encoding of a `str` -/
def utf8 (s : Str) : List UInt8 := s.flatMap String.utf8EncodeChar

/-! ### concrete instances of the parameters (used by the driver; the theorems are parametric) -/

/-- strict UTF-8 decoding (`bytes.decode("utf-8")`), Lean core's decoder -/
def utf8Decode (b : List UInt8) : Except PyErr Str :=
  match b.toByteArray.utf8Decode? with
  | some a => .ok a.toList
  | none => .error .unicodeDecodeError

/-- value of a hexadecimal / decimal digit -/
def digitVal (c : Char) : Option Nat :=
  if '0' ≤ c ∧ c ≤ '9' then some (c.toNat - 48)
  else if 'a' ≤ c ∧ c ≤ 'f' then some (c.toNat - 87)
  else if 'A' ≤ c ∧ c ≤ 'F' then some (c.toNat - 55)
  else none

/-- digits of a numeric character reference in base `b`, up to the `;` (required here):
value and number of characters consumed, `;` included -/
def numRef (b : Nat) : Str → Nat → Nat → Option (Nat × Nat)
  | [], _, _ => none
  | c :: cs, acc, n =>
    if c = ';' then (if n = 0 then none else some (acc, n + 1))
    else match digitVal c with
      | some d => if d < b then numRef b cs (acc * b + d) (n + 1) else none
      | none => none

/-- the entity at the head of `cs` (what follows an `&`): replacement character and number of
characters of `cs` it spans.  Only `amp; lt; gt; quot; apos;` and `#NNN;` / `#xHH;` with a
valid, non-control code point — the subset of `html.unescape` the correspondence stream is
restricted to (the harness keeps a case only if CPython's `html.unescape` agrees with this
function on every raw href of the document). -/
def entityAt (cs : Str) : Option (Char × Nat) :=
  if "amp;".toList.isPrefixOf cs then some ('&', 4)
  else if "lt;".toList.isPrefixOf cs then some ('<', 3)
  else if "gt;".toList.isPrefixOf cs then some ('>', 3)
  else if "quot;".toList.isPrefixOf cs then some ('"', 5)
  else if "apos;".toList.isPrefixOf cs then some ('\'', 5)
  else match cs with
    | '#' :: 'x' :: ds | '#' :: 'X' :: ds =>
      (numRef 16 ds 0 0).bind fun (v, n) =>
        if (0x20 ≤ v ∧ v < 0x7f) ∨ (0xa0 ≤ v ∧ v < 0xd800) ∨ (0xe000 ≤ v ∧ v < 0xfdd0) ∨
            (0x10000 ≤ v ∧ v < 0x1fffe) then some (Char.ofNat v, n + 2) else none
    | '#' :: ds =>
      (numRef 10 ds 0 0).bind fun (v, n) =>
        if (0x20 ≤ v ∧ v < 0x7f) ∨ (0xa0 ≤ v ∧ v < 0xd800) ∨ (0xe000 ≤ v ∧ v < 0xfdd0) ∨
            (0x10000 ≤ v ∧ v < 0x1fffe) then some (Char.ofNat v, n + 1) else none
    | _ => none

/-- restricted `html.unescape` (first argument: characters still to skip) -/
def unescapeAux : Nat → Str → Str
  | _, [] => []
  | k + 1, _ :: cs => unescapeAux k cs
  | 0, c :: cs =>
    if c = '&' then
      match entityAt cs with
      | some (r, n) => r :: unescapeAux n cs
      | none => c :: unescapeAux 0 cs
    else c :: unescapeAux 0 cs

def unescapeBasic (s : Str) : Str := unescapeAux 0 s

end Ural.Html
