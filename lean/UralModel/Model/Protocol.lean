import UralModel.Py.Str
/-!
# Model of `ural/ensure_protocol.py`, `force_protocol.py`, `strip_protocol.py` and of
`PROTOCOL_RE` (`ural/patterns.py:6-10`)

`PROTOCOL_RE = re.compile(r"^(?:[a-zA-Z]{1,64}:)?//")`, no flags (as repaired by "fix: a
protocol needs its colon"; it used to be `^[a-zA-Z]{0,64}:?//`).  The three functions only
use `PROTOCOL_RE.match(url)` (is there a match at position 0?) and
`PROTOCOL_RE.sub(repl, url)` (replace the — single, because of `^` — match at position 0).
Both are determined by `protoLen url`, the length of the match at position 0, if any.
-/
namespace Ural
open Ural.Py

/-- the pattern string the hand-written matcher `protoLen` was written for; the table
obligation `Ural.Props.C20.protocol_pattern_unchanged` compares it with the pattern
regenerated from the source on every run (`Gen/ProtocolRe.lean`) -/
def protocolPatternModelled : String := "^(?:[a-zA-Z]{1,64}:)?//"

/-- the upper bound of the `{1,64}` repetition -/
def protoMaxLetters : Nat := 64

/-- Length of the match of `^(?:[a-zA-Z]{1,64}:)?//` at position 0 of `s` (`none`: no match).

Backtracking semantics spelled out.  The optional group is tried first: the greedy class
takes `n = min(64, #leading letters)` characters and needs `n ≥ 1`; `:` must then match at
`n` or, after backtracking, at some `1 ≤ k < n` — but every such `k` holds a letter, so only
`k = n` can succeed, and when there are more than 64 leading letters position 64 holds a
letter too (`'a'*70 + '://'` does not match).  If the group matched, `//` must follow the
colon; if that fails, or if the group did not match, the engine retries with the group
skipped and needs `//` at position 0 — impossible when the string starts with a letter.
So: a string starting with `//` matches with length 2 (then `n = 0`, the group cannot
match); a string starting with `1 ≤ n ≤ 64` letters followed by `://` matches with length
`n + 3`; nothing else matches. -/
def protoLen (s : Str) : Option Nat :=
  let n := (s.takeWhile isAsciiAlpha).length
  if n = 0 then
    if startsWith s ['/', '/'] then some 2 else none
  else if n ≤ protoMaxLetters && startsWith (s.dropWhile isAsciiAlpha) [':', '/', '/'] then some (n + 3)
  else none

/-- `protocol.rstrip(":/")` -/
def normProto (protocol : Str) : Str := rstripChars protocol [':', '/']

def sepFull : Str := [':', '/', '/']

/-- `ensure_protocol(url, protocol)` — ensure_protocol.py:22-29 -/
def ensure_protocol (url protocol : Str) : Str :=
  let p := normProto protocol
  match protoLen url with
  | none => p ++ sepFull ++ url
  | some _ => if startsWith url ['/', '/'] then p ++ [':'] ++ url else url

/-- `force_protocol(url, protocol)` — force_protocol.py:24-33.  `re.sub(PROTOCOL_RE,
protocol + "://", url)` replaces the only possible match (the pattern is anchored with `^`)
— for a replacement template without backslash, which is the case for every alphabetic
protocol. -/
def force_protocol (url protocol : Str) : Str :=
  let p := normProto protocol
  match protoLen url with
  | none => p ++ sepFull ++ url
  | some n =>
    if startsWith url ['/', '/'] then p ++ [':'] ++ url
    else p ++ sepFull ++ url.drop n

/-- `strip_protocol(url)` — strip_protocol.py:21 -/
def strip_protocol (url : Str) : Str :=
  match protoLen url with
  | none => url
  | some n => url.drop n

/-- the protocols the property is stated for: non-empty, ASCII letters only, at most 64 of
them (what `[a-zA-Z]{1,64}` can recognise again) -/
def AlphaProto (p : Str) : Prop := p ≠ [] ∧ (∀ c ∈ p, isAsciiAlpha c = true) ∧ p.length ≤ 64

instance (p : Str) : Decidable (AlphaProto p) := by unfold AlphaProto; infer_instance

end Ural
