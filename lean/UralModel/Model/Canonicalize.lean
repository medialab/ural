import UralModel.Model.UrlParts
import UralModel.Model.Quote
import UralModel.Model.QuoteAuth
import UralModel.Py.UrlAccessors
import UralModel.Gen.QuoteTables
/-!
# Model of `ural/canonicalize_url.py`

`cleanUrl` is the part before parsing (control-character strip, whitespace strip,
`upper_quoted`, `ensure_protocol`); the harness parses its result with the real `urlsplit`
and hands the components to `canonSplit`, which models everything between parsing and
`urlunsplit` (`none` = the `ValueError` raised for brackets in the userinfo, else
`canonParts`); `printSplit` is the serialisation (`urlunsplit`, then the `//` of an empty
authority is put back).

Code modelled: `ural/canonicalize_url.py` with the four fixes FX-C01-ca9f3e6 (brackets
in the userinfo are rejected), FX-C01-feb1ed1 (a bracketed host keeps its brackets),
FX-C02-f918741 (`scheme://` is kept for an empty authority), FX-C02-16f182c (a host
ending with white space keeps the slash after it).
-/
namespace Ural.Canonicalize
open Ural.Py Ural.UrlParts Ural.Quote

/-- the four `safely_unquote_*` functions with their regenerated unsafe sets: three partials of
`unquote`, and for a user name / password the partial followed by the re-quoting of the NFKC
look-alikes of a delimiter (`Model/QuoteAuth.lean`, FX-C01-194b1c7) -/
def unquoteAuthItem : Str → Str := safelyUnquoteAuthItem
def unquotePath : Str → Str := safelyUnquote Gen.Quote.unsafeForPath
def unquoteQueryItem : Str → Str := safelyUnquote Gen.Quote.unsafeForQueryItem
def unquoteFragment : Str → Str := safelyUnquote Gen.Quote.unsafeForFragment

/-- `safely_unquote_qsl` / `safely_quote_qsl` -/
def unquoteQsl (qsl : List (Str × Option Str)) : List (Str × Option Str) :=
  qsl.map fun (k, v) => (unquoteQueryItem k, v.map unquoteQueryItem)
def quoteQsl (qsl : List (Str × Option Str)) : List (Str × Option Str) :=
  qsl.map fun (k, v) => (quoteQueryItem k, v.map quoteQueryItem)

/-- lines 30–35: cleaning and `ensure_protocol` -/
def cleanUrl (url defaultProtocol : Str) : Str :=
  ensureProtocol (upperQuoted (strip (stripControl url))) defaultProtocol

/-- `DEFAULT_PORTS.get(scheme)` -/
def defaultPort (scheme : Str) : Option Nat :=
  if scheme = "http".toList then some 80 else if scheme = "https".toList then some 443 else none

/-- a component that is unquoted, and quoted again in quoted mode -/
def requote (quoted : Bool) (unq : Str → Str) (s : Str) : Str :=
  if quoted then safelyQuote (unq s) else unq s

/-- the path rule (lines 74–91): unescape, remember a trailing slash, resolve, empty-path
rule.  `hasMore` = "query or fragment is non-empty, or the host would end the url with a
white-space character" (`hasMore` below). -/
def canonPath (path : Str) (hasMore : Bool) : Str :=
  let p := unquotePath path
  let trailing := endsWith p ['/'] || endsWith p "/.".toList || endsWith p "/..".toList
  let p := normpath p
  if p.isEmpty ∨ p = ['/'] then (if hasMore then ['/'] else [])
  else if trailing then p ++ ['/'] else p

/-- the components of the result before `unsplit_netloc` glues the authority together -/
structure Comps where
  scheme : Str
  user : Option Str
  pass : Option Str
  host : Option Str
  port : Option Nat
  path : Str
  query : Str
  fragment : Option Str
  deriving DecidableEq, Repr

/-- the host rule (`decode_punycode_hostname`, `lower`) -/
def canonHost (puny : Str → Str) (h : Str) : Str := lower (decodePunycodeHostname puny h)

/-- `userinfo, _, hostinfo = netloc.rpartition("@")`, then
`"[" in userinfo or "]" in userinfo`: such an authority is rejected (`ValueError`) -/
def userinfoBrackets (netloc : Str) : Bool :=
  ((splitLast netloc '@').1.getD []).contains '[' || ((splitLast netloc '@').1.getD []).contains ']'

/-- `"[" in hostinfo`: the host is an ip literal (`_hostinfo` reads the text between the
first `[` of `hostinfo` and the next `]`) -/
def bracketedHost (netloc : Str) : Bool := (hostinfoStr netloc).contains '['

/-- the `if hostname:` block as a whole, on the optional host component: decoded and
lower-cased when truthy -/
def hostRule (puny : Str → Str) (o : Option Str) : Option Str :=
  match o with
  | some h => if h.isEmpty then some h else some (canonHost puny h)
  | none => none

/-- the end of the `if hostname:` block: an ip literal keeps its brackets -/
def bracketHost (netloc : Str) (host : Option Str) : Option Str :=
  if truthy host ∧ bracketedHost netloc = true then some ('[' :: host.getD [] ++ [']']) else host

/-- "dropping the scheme's default port" -/
def portRule (scheme : Str) (o : Option Nat) : Option Nat :=
  match o with
  | some n => if defaultPort scheme = some n then none else some n
  | none => none

/-- `s[-1].isspace()` (false on the empty string, as `hostname and …` makes it) -/
def endsWithSpace (s : Str) : Bool :=
  match s.getLast? with
  | some c => isSpace c
  | none => false

/-- `ends_with_space = port is None and hostname and hostname[-1].isspace()`, on the
host as printed (brackets included) and the port left after the default-port rule -/
def hostEndsUrl (puny : Str → Str) (p : Parsed) : Bool :=
  (portRule p.scheme p.port).isNone &&
    endsWithSpace ((bracketHost p.netloc (hostRule puny p.hostname)).getD [])

/-- the `else` side of the empty-path rule: a query, a fragment, or a host that would end
the URL with a white-space character -/
def hasMore (puny : Str → Str) (stripFragment : Bool) (p : Parsed) : Bool :=
  !p.query.isEmpty || truthy (if stripFragment then none else some p.fragment) ||
    hostEndsUrl puny p

/-- the query rule: split, unescape each key and value, quote them again in quoted mode,
serialize -/
def canonQuery (quoted : Bool) (q : Str) : Str :=
  let qsl := unquoteQsl (safeQslIter q)
  safeSerializeQsl (if quoted then quoteQsl qsl else qsl)

/-- an optional, possibly empty, text component (`if x:` guards) -/
def canonOpt (quoted : Bool) (unq : Str → Str) (o : Option Str) : Option Str :=
  match o with
  | some u => if u.isEmpty then some u else some (requote quoted unq u)
  | none => none

/-- everything between parsing and the re-assembly of the authority (the host without the
brackets `bracketHost` puts around it in `canonParts`) -/
def canonComps (puny : Str → Str) (quoted stripFragment : Bool) (p : Parsed) : Comps :=
  let fragment : Option Str := if stripFragment then none else some p.fragment
  let path := canonPath p.path (hasMore puny stripFragment p)
  { scheme := p.scheme
    user := canonOpt quoted unquoteAuthItem p.username
    pass := canonOpt quoted unquoteAuthItem p.password
    host := match p.hostname with
      | some h => if h.isEmpty then some h else some (canonHost puny h)
      | none => none
    port := match p.port with
      | some n => if defaultPort p.scheme = some n then none else some n
      | none => none
    path := if quoted then safelyQuote path else unquotePath path
    query := canonQuery quoted p.query
    fragment := canonOpt quoted unquoteFragment fragment }

/-- everything between parsing and `urlunsplit`, once the userinfo is accepted -/
def canonParts (puny : Str → Str) (quoted stripFragment : Bool) (p : Parsed) : Split :=
  let c := canonComps puny quoted stripFragment p
  { scheme := c.scheme, netloc := unsplitNetloc c.user c.pass (bracketHost p.netloc c.host) c.port,
    path := c.path, query := c.query, fragment := c.fragment }

/-- everything between parsing and `urlunsplit`; `none` = `ValueError("Invalid URL
(brackets in userinfo)")` -/
def canonSplit (puny : Str → Str) (quoted stripFragment : Bool) (p : Parsed) : Option Split :=
  if userinfoBrackets p.netloc then none else some (canonParts puny quoted stripFragment p)

/-- the serialisation: `urlunsplit(result)`, then `scheme://` is restored when `urlunsplit`
dropped the `//` of an empty authority (a scheme outside `uses_netloc`) -/
def printSplit (s : Split) : Str :=
  let r := urlunsplit s
  if ¬ s.scheme.isEmpty ∧ s.netloc.isEmpty ∧ ¬ startsWith r (s.scheme ++ [':', '/', '/']) then
    s.scheme ++ [':', '/', '/'] ++ r.drop (s.scheme.length + 1)
  else r

end Ural.Canonicalize
