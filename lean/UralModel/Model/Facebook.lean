import UralModel.Py.PctCodec
import UralModel.Py.UrlSplit
import UralModel.Py.Split
import UralModel.Py.Re
import UralModel.Model.Protocol
import UralModel.Model.Builders
import UralModel.Model.UrlParts
import UralModel.Gen.C19FacebookTables
/-!
# Model of `ural/facebook.py` (property C19, part `facebook`)

Every public function of the module, with the Python names:
`is_facebook_id`, `is_facebook_full_id`, `is_facebook_url`, `is_facebook_post_url`,
`is_facebook_link`, `extract_url_from_facebook_link`, `convert_facebook_url_to_mobile`,
`parse_facebook_url`, `has_facebook_comments`, the record classes (`Parsed`, one constructor
per class) and their `.url` / `.full_id` builders.

Conventions (DESIGN.md §4):

* Python exceptions are values: `Except Err α`.  A positional access `xs[i]` is `getIdx xs i`
  (`IndexError` when out of range), `d[k]` is `qsItem d k` (`KeyError`), a `ValueError` of
  `urlsplit` is `safeUrlsplitE … = .error .valueError` and a `try: … except ValueError:` is
  `catchValueError`.  Nothing is totalised away: that no error is reachable is *proved*
  (`Props/C19/Facebook.lean`).
* `urlsplit`, `urljoin`, `urlunsplit` are the hand models of `Py/UrlSplit.lean`, `.hostname` is
  `Py.pyHostname`, `unquote` is `Py.unquote`; `parse_qs` is modelled below (`parse_qsl`,
  CPython 3.12.1, `keep_blank_values=False`, `separator='&'`).  So the model is a function of
  the url *string*.
* The regexes are the terms regenerated from the imported module
  (`Gen/C19FacebookTables.lean`) run by the generic matcher of `Py/Re.lean`
  (`FACEBOOK_ID_RE`, `FACEBOOK_FULL_ID_RE`, `FACEBOOK_DOMAIN_RE` as `search`,
  `MOBILE_REPLACE_RE` as `sub`, `URL_EXTRACT_RE` as `search` + group 2), except
  `MISTAKES_RE.sub("&", query)` (`fix_common_query_mistakes`) which is the hand-written
  `fixMistakes`, and `SLASH_SQUEEZE_RE.sub("/", path)` which is the hand-written
  `UrlParts.squeezeSlashes` (the round-trip theorems reason about both); the driver runs the
  generic substitution next to them on every input (three-way comparison with the real `re`).
* `parse_facebook_url` routes the path of `safe_urlsplit(url)` after
  `"/".join(part.strip() for part in path.split("/"))` (`stripSegments`: the blanks around each
  segment are dropped) and the slash squeeze (`squeezePath`).
-/
namespace Ural.Facebook
open Ural.Py Ural
open Ural.Gen.C19Facebook

inductive Err where
  | indexError | keyError | typeError | valueError | attributeError
deriving DecidableEq, Repr

/-! ## small Python idioms -/

/-- `xs[i]` for `i ≥ 0` -/
def getIdx {α : Type} (xs : List α) (i : Nat) : Except Err α :=
  match xs[i]? with
  | some x => .ok x
  | none => .error .indexError

/-- `xs[-1]` -/
def getLastIdx {α : Type} (xs : List α) : Except Err α :=
  match xs.getLast? with
  | some x => .ok x
  | none => .error .indexError

/-- `try: x except ValueError: h` -/
def catchValueError {α : Type} (x : Except Err α) (h : α) : Except Err α :=
  match x with
  | .error .valueError => .ok h
  | other => other

/-- `s.split(sep, 1)` for a (non-empty) separator string -/
def splitStr1 (s sep : Str) : List Str :=
  match find s sep with
  | some i => [s.take i, s.drop (i + sep.length)]
  | none => [s]

/-- `"%s" % x` for a value that is a `str` or `None` -/
def fmtOpt (o : Option Str) : Str := o.getD "None".toList

/-- truthiness of a `str`-or-`None` value -/
def truthy (o : Option Str) : Bool :=
  match o with
  | some s => !s.isEmpty
  | none => false

/-! ## regexes -/

/-- `bool(re.search(r, s))` -/
def reSearch (r : Re) (s : Str) : Bool := (Re.search r s).isSome

/-- `re.sub(r, repl, text)` for a replacement template without escapes (generic: the pieces
between the successive matches found by the scanner, each match replaced) -/
def reSub (r : Re) (repl text : Str) : Str :=
  go text (Re.scan r text)
where
  go (cur : Str) : List (Str × Str) → Str
    | [] => cur
    | (s, t) :: ms => cur.take (cur.length - s.length) ++ repl ++ go t ms

/-- facebook.py:37-38 -/
def is_facebook_id (value : Str) : Bool := reSearch FACEBOOK_ID_RE value

/-- facebook.py:41-42 -/
def is_facebook_full_id (value : Str) : Bool := reSearch FACEBOOK_FULL_ID_RE value

/-! ## `ural/utils.py`, `ural/get_hostname.py` -/

/-- `safe_urlsplit(url)` with its `ValueError` as a value — utils.py:52-62 -/
def safeUrlsplitE (url : Str) : Except Err SplitResult :=
  match safe_urlsplit url with
  | some r => .ok r
  | none => .error .valueError

/-- `SplitResult.hostname` (`none` = `None`) -/
def hostnameOf (r : SplitResult) : Option Str :=
  let h := pyHostname r.netloc
  if h.isEmpty then none else some h

/-- get_hostname.py:11-15: `try: return safe_urlsplit(url).hostname or None except ValueError:
return None` -/
def get_hostname (url : Str) : Except Err (Option Str) :=
  catchValueError ((safeUrlsplitE url).map hostnameOf) none

/-- length of the text eaten after an `&` by `amp(?:%3B|;)` (IGNORECASE; no non-ASCII code
point folds onto `a`, `m`, `p`, `b`) -/
def mistakeLen (rest : Str) : Option Nat :=
  if lower (rest.take 6) = "amp%3b".toList then some 6
  else if lower (rest.take 4) = "amp;".toList then some 4
  else none

/-- the scanner of `fixMistakes`; `skip` = characters of the current match still to drop -/
def fixMistakesGo : Str → Nat → Str
  | [], _ => []
  | _ :: rest, skip + 1 => fixMistakesGo rest skip
  | c :: rest, 0 =>
    if c = '&' then '&' :: fixMistakesGo rest ((mistakeLen rest).getD 0)
    else c :: fixMistakesGo rest 0

/-- `fix_common_query_mistakes(query)` = `re.sub(MISTAKES_RE, "&", query)` — utils.py:125-126 -/
def fixMistakes (query : Str) : Str := fixMistakesGo query 0

/-- `s.replace('+', ' ')` -/
def plusToSpace (s : Str) : Str := s.map fun c => if c = '+' then ' ' else c

/-- one `name=value` item of `parse_qsl` (`None`: skipped) -/
def qslPair? (nameValue : Str) : Option (Str × Str) :=
  if nameValue.isEmpty then none
  else
    match splitFirst nameValue '=' with
    | (_, none) => none
    | (n, some v) => if v.isEmpty then none else some (unquote (plusToSpace n), unquote (plusToSpace v))

/-- `urllib.parse.parse_qsl(qs)` (CPython 3.12.1 defaults) -/
def parse_qsl (qs : Str) : List (Str × Str) :=
  if qs.isEmpty then [] else (splitOn qs '&').filterMap qslPair?

/-- `safe_parse_qs(query)` — utils.py:129-130 — as the list of pairs; the `dict` of lists that
`parse_qs` builds from it is read through `qsValues` -/
def safe_parse_qs (query : Str) : List (Str × Str) := parse_qsl (fixMistakes query)

/-- the list `parse_qs(...)[key]` would hold (empty: the key is absent) -/
def qsValues (q : List (Str × Str)) (key : Str) : List Str :=
  (q.filter fun kv => kv.1 = key).map (·.2)

/-- `key in query` -/
def qsHas (q : List (Str × Str)) (key : Str) : Bool := !(qsValues q key).isEmpty

/-- `query[key]` -/
def qsItem (q : List (Str × Str)) (key : Str) : Except Err (List Str) :=
  if qsHas q key then .ok (qsValues q key) else .error .keyError

/-- `query.get(key, None)` -/
def qsGet (q : List (Str × Str)) (key : Str) : Option (List Str) :=
  if qsHas q key then some (qsValues q key) else none

/-! ## predicates -/

/-- facebook.py:45-61 -/
def is_facebook_url (url : Str) : Except Err Bool :=
  (get_hostname url).map fun h =>
    match h with
    | none => false
    | some h => reSearch FACEBOOK_DOMAIN_RE h

/-- a string literal as a Python `str` -/
def lit (x : String) : Str := x.toList

/-- facebook.py:64-73 -/
def is_facebook_post_url (url : Str) : Except Err Bool :=
  (is_facebook_url url).map fun fb =>
    if !fb then false
    else
      contains url (lit "/posts/") || contains url (lit "/permalink/") ||
      (contains url (lit "/permalink.php") && (contains url (lit "&id=") || contains url (lit "&amp;id="))) ||
      (contains url (lit "/story.php") && (contains url (lit "&id=") || contains url (lit "&amp;id=")))

/-- facebook.py:76-88 -/
def is_facebook_link (url : Str) : Except Err Bool :=
  catchValueError
    ((safeUrlsplitE url).map fun sp =>
      match hostnameOf sp with
      | none => false
      | some h =>
        if !contains h (lit ".facebook.") then false
        else if sp.path ≠ lit "/l.php" then false
        else true)
    false

/-- facebook.py:91-97: `m = URL_EXTRACT_RE.search(url)`, `unquote(m.group(2))`.  The pattern
is `(?:^|[?&])(u)=([^&]+)` (table obligation `Props.C19.Facebook.patterns_unchanged`): group 2 is the
match without its head `u=` (match found by the `^` branch) or `?u=` / `&u=`. -/
def extract_url_from_facebook_link (url : Str) : Option Str :=
  match Re.search URL_EXTRACT_RE url with
  | none => none
  | some (i, j) =>
    let m := (url.drop i).take (j - i)
    let g2 := if m.head? = some 'u' then m.drop 2 else m.drop 3
    some (unquote g2)

/-- facebook.py:100-131.  The only exception is the documented `TypeError`. -/
def convert_facebook_url_to_mobile (url : Str) : Except Err Str :=
  let safe_url := ensure_protocol url (lit "http")
  let has_protocol := decide (safe_url = url)
  -- try: splitted = urlsplit(safe_url) except ValueError: splitted = None
  match urlsplit safe_url with
  | none => .error .typeError
  | some sp =>
    -- `"facebook" not in splitted.netloc.lower()`
    if !contains (lower sp.netloc) (lit "facebook") then .error .typeError
    else
      let netloc := reSub MOBILE_REPLACE_RE (lit "m.facebook.") sp.netloc
      let result := urlunsplit20 sp.scheme netloc sp.path sp.query sp.fragment
      if !has_protocol then getLastIdx (splitStr1 result (lit "://")) else .ok result

/-! ## records -/

/-- the record classes `FacebookUser`, `FacebookHandle`, `FacebookGroup`, `FacebookPost`,
`FacebookVideo`, `FacebookPhoto` (fields in `__slots__` order; `none` = `None`) -/
inductive Parsed where
  | user (id : Str) (handle : Option Str)
  | handle (handle : Str)
  | group (id : Option Str) (handle : Option Str)
  | post (id : Str) (parent_id parent_handle group_id group_handle : Option Str)
  | video (id : Str) (parent_id : Option Str)
  | photo (id : Str) (group_id parent_id parent_handle album_id : Option Str)
deriving DecidableEq, Repr

def BASE : Str := BASE_FACEBOOK_URL.toList

/-- `urljoin(BASE_FACEBOOK_URL, path)` (a `ValueError` of `urlsplit` propagates) -/
def joinBase (path : Str) : Except Err (Option Str) :=
  match urljoin BASE path with
  | some u => .ok (some u)
  | none => .error .valueError

/-- the path of `FacebookPhoto.url` when it is built from `photo.php` — facebook.py:298-306 -/
def photoQueryPath (id : Str) (group_id album_id : Option Str) : Str :=
  lit "/photo.php?fbid=" ++ id ++
    (if truthy group_id then lit "&set=g." ++ fmtOpt group_id else []) ++
    (if truthy album_id then lit "&set=a." ++ fmtOpt album_id else [])

/-- the `.url` properties — facebook.py:170-306 -/
def Parsed.url : Parsed → Except Err (Option Str)
  | .user id none => joinBase (lit "/profile.php?id=" ++ id)
  | .user _ (some h) => joinBase ('/' :: h)
  | .handle h => joinBase ('/' :: h)
  | .group _ (some h) => joinBase (lit "groups/" ++ h)
  | .group id none => joinBase (lit "groups/" ++ fmtOpt id)
  | .post id _ (some ph) _ _ => joinBase ('/' :: ph ++ lit "/posts/" ++ id)
  | .post id (some pid) none _ _ => joinBase (lit "/permalink.php?story_fbid=" ++ id ++ lit "&id=" ++ pid)
  | .post id none none (some gid) _ => joinBase (lit "/groups/" ++ gid ++ lit "/permalink/" ++ id)
  | .post id none none none (some gh) => joinBase (lit "/groups/" ++ gh ++ lit "/permalink/" ++ id)
  | .post _ none none none none => .ok none
  | .video id none => joinBase (lit "/watch/?v=" ++ id)
  | .video id (some pid) => joinBase ('/' :: pid ++ lit "/videos/" ++ id)
  | .photo id group_id parent_id parent_handle album_id =>
    if !truthy group_id && truthy parent_id then
      joinBase ('/' :: fmtOpt parent_id ++ lit "/photos/a." ++ fmtOpt album_id ++ '/' :: id)
    else if !truthy group_id && truthy parent_handle then
      joinBase ('/' :: fmtOpt parent_handle ++ lit "/photos/a." ++ fmtOpt album_id ++ '/' :: id)
    else joinBase (photoQueryPath id group_id album_id)

/-- `FacebookPost.full_id` — facebook.py:245-253 (`none` for the other classes: they have no
such attribute) -/
def Parsed.full_id : Parsed → Option Str
  | .post id (some pid) _ _ _ => some (pid ++ '_' :: id)
  | .post id none _ (some gid) _ => some (gid ++ '_' :: id)
  | _ => none

/-- the Python class name -/
def Parsed.className : Parsed → String
  | .user .. => "FacebookUser"
  | .handle .. => "FacebookHandle"
  | .group .. => "FacebookGroup"
  | .post .. => "FacebookPost"
  | .video .. => "FacebookVideo"
  | .photo .. => "FacebookPhoto"

/-! ## `parse_facebook_url` -/

abbrev Result := Except Err (Option Parsed)

/-- `next((s for s in sets if s.startswith(p)), None)` -/
def firstWithPrefix (sets : List Str) (p : Str) : Option Str := sets.find? fun x => startsWith x p

/-- `y or None` for a `str` -/
def orNone (y : Str) : Option Str := if y.isEmpty then none else some y

/-- `x = next(...)`; `if x: x = x.split(p, 1)[1] or None` — facebook.py:373-383 -/
def setId (sets : List Str) (p : Str) : Except Err (Option Str) :=
  match firstWithPrefix sets p with
  | none => .ok none
  | some x => if x.isEmpty then .ok (some x) else (getIdx (splitStr1 x p) 1).map orNone

/-- facebook.py:341-349 -/
def routeWatch (query : Str) : Result :=
  let q := safe_parse_qs query
  if !qsHas q (lit "v") then .ok none
  else do
    let vs ← qsItem q (lit "v")
    let video_id ← getIdx vs 0
    return some (.video video_id none)

/-- facebook.py:351-357 -/
def routeVideos (path : Str) : Result :=
  let parts := pathsplit path
  if parts.length < 3 then .ok none
  else do
    let id ← getIdx parts 2
    let parent ← getIdx parts 0
    return some (.video id (some parent))

/-- the `set` part of the photo route — facebook.py:369-383 -/
def photoSets (q : List (Str × Str)) : Except Err (Option Str × Option Str) :=
  if qsHas q (lit "set") then do
    let sets ← qsItem q (lit "set")
    let g ← setId sets (lit "g.")
    let a ← setId sets (lit "a.")
    return (g, a)
  else return (none, none)

/-- facebook.py:360-385 -/
def routePhotoQuery (query : Str) : Result :=
  let q := safe_parse_qs query
  if !qsHas q (lit "fbid") then .ok none
  else do
    let ga ← photoSets q
    let fbids ← qsItem q (lit "fbid")
    let id ← getIdx fbids 0
    return some (.photo id ga.1 none none ga.2)

/-- `if album_id.startswith("a."): album_id = album_id[2:]` — facebook.py:396-398 -/
def albumOf (p2 : Str) : Str := if startsWith p2 (lit "a.") then p2.drop 2 else p2

/-- facebook.py:387-412 -/
def routePhotos (path : Str) : Result :=
  let parts := pathsplit path
  if parts.length < 4 then .ok none
  else do
    let parent ← getIdx parts 0
    let p2 ← getIdx parts 2
    let album_id := albumOf p2
    -- `if not album_id: return None`
    if album_id.isEmpty then return none
    else do
      let photo_id ← getIdx parts 3
      if is_facebook_id parent then return some (.photo photo_id none (some parent) none (some album_id))
      else return some (.photo photo_id none none (some parent) (some album_id))

/-- facebook.py:415-436 -/
def routePosts (path : Str) : Result :=
  let parts := pathsplit path
  if parts.length < 3 then .ok none
  else do
    let p0 ← getIdx parts 0
    if p0 = lit "groups" then
      if parts.length < 4 then return none
      else do
        let g ← getIdx parts 1
        let id ← getIdx parts 3
        if is_facebook_id g then return some (.post id none none (some g) none)
        else return some (.post id none none none (some g))
    else do
      let id ← getIdx parts 2
      if is_facebook_id p0 then return some (.post id (some p0) none none none)
      else return some (.post id none (some p0) none none)

/-- facebook.py:439-449.  `not parent_id or not post_id`: a list held by the dict of
`parse_qs` is never empty, `None` is falsy. -/
def routePermalink (query : Str) : Result :=
  let q := safe_parse_qs query
  match qsGet q (lit "id"), qsGet q (lit "story_fbid") with
  | some parent_id, some post_id =>
    if parent_id.isEmpty || post_id.isEmpty then .ok none
    else do
      let id ← getIdx post_id 0
      let pid ← getIdx parent_id 0
      return some (.post id (some pid) none none none)
  | _, _ => .ok none

/-- facebook.py:452-470 -/
def routeGroups (path : Str) : Result :=
  let parts := pathsplit path
  if parts.length < 2 then .ok none
  else if contains path (lit "/permalink/") then
    if parts.length < 4 then .ok none
    else do
      let g ← getIdx parts 1
      let id ← getIdx parts 3
      if is_facebook_id g then return some (.post id none none (some g) none)
      else return some (.post id none none none (some g))
  else do
    let g ← getIdx parts 1
    if is_facebook_id g then return some (.group (some g) none)
    else return some (.group none (some g))

/-- facebook.py:473-480 -/
def routeProfile (query : Str) : Result :=
  let q := safe_parse_qs query
  match qsGet q (lit "id") with
  | none => .ok none
  | some user_id =>
    if user_id.isEmpty then .ok none
    else do
      let id ← getIdx user_id 0
      return some (.user id none)

/-- facebook.py:483-490 -/
def routePeople (path : Str) : Result :=
  let parts := pathsplit path
  if parts.length < 3 then .ok none
  else do
    let id ← getIdx parts 2
    return some (.user id none)

/-- facebook.py:493-499 (`parts and not parts[0].endswith(".php")`: `and` short-circuits) -/
def routeHandle (path : Str) : Result :=
  let parts := pathsplit path
  if parts.isEmpty then .ok none
  else do
    let p0 ← getIdx parts 0
    if !endsWith p0 (lit ".php") then return some (.handle p0) else return none

/-- the routing on the split url — facebook.py:337-499 -/
def parseSplit (sp : SplitResult) : Result :=
  let path := sp.path
  if path.isEmpty || path = ['/'] then .ok none
  else if contains path (lit "/watch") then routeWatch sp.query
  else if contains path (lit "/videos/") then routeVideos path
  else if !sp.query.isEmpty &&
      (endsWith path (lit "/photo.php") || endsWith (rstripChars path ['/']) (lit "/photo")) then
    routePhotoQuery sp.query
  else if contains path (lit "/photos/") then routePhotos path
  else if contains path (lit "/posts/") then routePosts path
  else if !sp.query.isEmpty &&
      (contains path (lit "/permalink.php") || contains path (lit "/story.php")) then
    routePermalink sp.query
  else if contains path (lit "/groups/") then routeGroups path
  else if path = lit "/profile.php" then routeProfile sp.query
  else if startsWith path (lit "/people") then routePeople path
  else routeHandle path

/-- `"/".join(part.strip() for part in path.split("/"))` — facebook.py:334: the blanks
(`str.strip()`: every `str.isspace` character) around each path segment are dropped -/
def stripSegments (path : Str) : Str := join ['/'] ((splitOn path '/').map strip)

/-- `path = "/".join(part.strip() for part in splitted.path.split("/"))`,
`splitted._replace(path=SLASH_SQUEEZE_RE.sub("/", path))` — facebook.py:331-335
(`SLASH_SQUEEZE_RE` is `\/{2,}`: table obligation `patterns_unchanged`) -/
def squeezePath (sp : SplitResult) : SplitResult :=
  { sp with path := UrlParts.squeezeSlashes (stripSegments sp.path) }

/-- the first step of `parse_facebook_url` — facebook.py:311-324: the url to split, or `None`
(`.ok none`) when the function returns `None` at once -/
def resolveUrl (url : Str) (allow_relative_urls : Bool) : Except Err (Option Str) :=
  if allow_relative_urls && !startsWith url (lit "http://") && !startsWith url (lit "https://") &&
      !contains url (lit "facebook.") then
    -- try: url = urljoin(BASE_FACEBOOK_URL, url) except ValueError: return None
    .ok (urljoin BASE url)
  else
    (is_facebook_url url).map fun fb => if fb then some url else none

/-- `parse_facebook_url(url, allow_relative_urls)` — facebook.py:309-499 -/
def parse_facebook_url (url : Str) (allow_relative_urls : Bool := false) : Result :=
  match resolveUrl url allow_relative_urls with
  | .error e => .error e
  | .ok none => .ok none
  | .ok (some url) =>
    -- try: splitted = safe_urlsplit(url) except ValueError: return None
    match catchValueError ((safeUrlsplitE url).map some) none with
    | .error e => .error e
    | .ok none => .ok none
    | .ok (some sp) =>
      parseSplit (squeezePath sp)

/-- `isinstance(result, FACEBOOK_TYPES_HAVING_COMMENTS)` -/
def hasComments : Option Parsed → Bool
  | some (.post ..) => true
  | some (.photo ..) => true
  | some (.video ..) => true
  | _ => false

/-- facebook.py:505-511 -/
def has_facebook_comments (url : Str) (allow_relative_urls : Bool := false) : Except Err Bool :=
  match is_facebook_url url with
  | .error e => .error e
  | .ok false => .ok false
  | .ok true => (parse_facebook_url url allow_relative_urls).map hasComments

end Ural.Facebook
