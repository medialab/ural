import UralModel.Props.C18
import UralModel.Gen.SitesLists
import UralModel.Lemmas.StrLit
/-!
# C18 — the regenerated domain lists (own file: the kernel check of all their entries is
# redone only when the lists or the model change)
-/

namespace Ural.Props.C18
open Ural Ural.Py Ural.Py.Re Ural.Sites Ural.HostnameTrieSet Ural.Gen.SitesTables

/-! ## the regenerated domain lists are canonical spellings

`trie_match_spec_clean` / `is_youtube_url_spec_clean` turn the token-level specification into
the string-level one ("the hostname equals a listed domain or ends with `"." + domain`") under
the hypothesis that every listed domain is a `CleanHost`.  The table obligation
`real_lists_clean` discharges it for the REAL lists — `YOUTUBE_DOMAINS`,
`SHORTENER_DOMAINS` and `SHOULD_RESOLVE_DOMAINS`, regenerated from the imported modules
into `Gen/SitesLists.lean` / `Gen/SitesTables.lean` on every run — with `special` the
regenerated `SPECIAL_HOSTS_RE` (`isSpecial`).  The odd entries of the shortener list
(`"chl.li,"`, `"lnkiy.com,"`, `"letop10."`, `"tk."`, `"➡.ws"`, …) ARE clean in this sense (not
special, unpadded, ASCII-lower-case, no `xn--` label): the specification says of them exactly
what the trie does — `"tk."` is matched only by a hostname equal to `tk.` or ending with
`.tk.` (i.e. a `.tk` host written with its trailing dot), `"chl.li,"` only by a hostname
ending with `chl.li,` — so these entries are (nearly) dead, which is a remark on the data,
not a break of the property. -/

/-- `CleanHost`, as a `Bool` -/
def cleanHostB (special : Str → Bool) (h : Str) : Bool :=
  !special h && strip h == h && lower h == h && (splitOn h '.').all fun l => !hasHeader l

theorem cleanHostB_iff (special : Str → Bool) (h : Str) :
    cleanHostB special h = true ↔ CleanHost special h := by
  simp only [cleanHostB, CleanHost, Bool.and_eq_true, Bool.not_eq_true', beq_iff_eq,
    List.all_eq_true, and_assoc]

/-- the regenerated lists, as the model's strings (`shouldResolveDomains` is in
`Model/Sites.lean`) -/
def youtubeDomains : List Str := Ural.Gen.SitesLists.YOUTUBE_DOMAINS.map String.toList
def shortenerDomains : List Str := Ural.Gen.SitesLists.SHORTENER_DOMAINS.map String.toList

/-! ## a test on the bytes of a string literal

The kernel evaluates `String.toList` on a literal by UTF-8-encoding it and decoding the bytes
again, and the matcher of `SPECIAL_HOSTS_RE` scans the ranges of `\d` (every Unicode decimal
digit, `Gen.Patterns.c6`) for every character; over the whole lists that is most of the work.
`cleanStr` reads the bytes only (`codes`, `toList_of_ascii` of `Lemmas/StrLit.lean`): when they are all
printable ASCII and not upper-case, the string is unpadded and lower-case; a code point that
no class of `SPECIAL_HOSTS_RE` holds rules out a special host; without a hyphen there is no
`xn--` label.  What these shortcuts do not settle is left to `cleanHostB` itself. -/

def plainChar (c : Char) : Bool := decide (32 < c.toNat ∧ c.toNat < 128 ∧ ¬ (65 ≤ c.toNat ∧ c.toNat ≤ 90))

/-- the code points among `-`, `a`–`z` that no class of `SPECIAL_HOSTS_RE` holds (read off the
regenerated pattern: a new alternative there only makes this list shorter) -/
def rareCodes : List Nat :=
  (45 :: List.range' 97 26).filter fun n =>
    allCls (fun C => C.avoids [n]) Ural.Gen.Patterns.SPECIAL_HOSTS_RE

theorem not_special_of_rare {h : Str} {c : Char} (hc : c ∈ h) (hr : c.toNat ∈ rareCodes) :
    isSpecial h = false := by
  obtain ⟨hcand, hav⟩ := List.mem_filter.1 hr
  rw [← Bool.not_eq_true]
  intro hs
  rcases pyMatch_avoids hav (by decide) hs c hc with h | e
  · exact h (List.mem_singleton_self _)
  · -- a final line feed is no candidate
    rw [e, List.mem_cons, List.mem_range'] at hcand
    have : ('\n' : Char).toNat = 10 := rfl
    omega

theorem hyphen_of_hasHeader {h l : Str} (hl : l ∈ splitOn h '.') (hh : hasHeader l = true) : '-' ∈ h := by
  have hm : '-' ∈ lower (l.take 4) := by
    rw [show lower (l.take 4) = acePrefix from by simpa only [hasHeader, punyHeader, beq_iff_eq] using hh]
    decide
  rw [← join_splitOn '.' h]
  exact mem_join_of_mem _ hl (List.mem_of_mem_take ((mem_lower_of_not_letter (by decide) (by decide)).1 hm))

def cleanChars (h : Str) : Bool :=
  h.all plainChar && (h.any (fun c => rareCodes.contains c.toNat) || !isSpecial h) &&
    (!h.contains '-' || (splitOn h '.').all fun l => !hasHeader l)

theorem cleanChars_sound {h : Str} (hc : cleanChars h = true) : cleanHostB isSpecial h = true := by
  simp only [cleanChars, Bool.and_eq_true, Bool.or_eq_true, Bool.not_eq_true', List.all_eq_true,
    List.any_eq_true, List.contains_eq_mem, decide_eq_true_eq, decide_eq_false_iff_not] at hc
  obtain ⟨⟨hp, hs⟩, hx⟩ := hc
  refine (cleanHostB_iff _ _).2 ⟨?_, ?_, ?_, ?_⟩
  · rcases hs with ⟨c, hc, hr⟩ | hs
    · exact not_special_of_rare hc hr
    · exact hs
  · refine strip_eq_self _ fun c hc => ?_
    have := of_decide_eq_true (hp c hc)
    simp only [isSpace, spaceCodes, List.contains_eq_mem, decide_eq_false_iff_not, List.mem_cons,
      List.not_mem_nil, or_false]
    omega
  · refine (List.map_congr_left fun c hc => ?_).trans (List.map_id _)
    exact lowerChar_of_not_upper (of_decide_eq_true (hp c hc)).2.2
  · intro l hl
    rcases hx with hx | hx
    · rw [← Bool.not_eq_true]
      exact fun hh => hx (hyphen_of_hasHeader hl hh)
    · exact hx l hl

def cleanStr (s : String) : Bool :=
  ((codes s).all (· < 128) && cleanChars ((codes s).map Char.ofNat)) || cleanHostB isSpecial s.toList

theorem cleanStr_sound {s : String} (h : cleanStr s = true) : cleanHostB isSpecial s.toList = true := by
  simp only [cleanStr, Bool.or_eq_true, Bool.and_eq_true, List.all_eq_true, decide_eq_true_eq] at h
  rcases h with ⟨ha, h⟩ | h
  · rw [toList_of_ascii s ha]
    exact cleanChars_sound h
  · exact h

/-- **table obligation**: every domain of the three regenerated lists is a canonical spelling
(checked by the kernel on every entry after every regeneration) -/
theorem real_lists_clean :
    (youtubeDomains ++ shortenerDomains ++ shouldResolveDomains).all (cleanHostB isSpecial) = true := by
  have h : (Ural.Gen.SitesLists.YOUTUBE_DOMAINS ++ Ural.Gen.SitesLists.SHORTENER_DOMAINS ++
      SHOULD_RESOLVE_DOMAINS).all cleanStr = true := by
    decide +kernel
  simp only [youtubeDomains, shortenerDomains, shouldResolveDomains, ← List.map_append, List.all_map]
  exact List.all_eq_true.2 fun s hs => cleanStr_sound (List.all_eq_true.1 h s hs)

theorem real_lists_cleanHost :
    (∀ d ∈ youtubeDomains, CleanHost isSpecial d) ∧ (∀ d ∈ shortenerDomains, CleanHost isSpecial d) ∧
    (∀ d ∈ shortenerDomains ++ shouldResolveDomains, CleanHost isSpecial d) := by
  have h := List.all_eq_true.1 real_lists_clean
  refine ⟨fun d hd => ?_, fun d hd => ?_, fun d hd => ?_⟩
  · exact (cleanHostB_iff _ _).1 (h d (by simp [hd]))
  · exact (cleanHostB_iff _ _).1 (h d (by simp [hd]))
  · exact (cleanHostB_iff _ _).1 (h d (by
      rcases List.mem_append.1 hd with hd | hd <;> simp [hd]))

/-- **`is_youtube_url` against the real list, string level, no hypothesis on the list**: for
every canonical hostname (not special, unpadded, lower-case, no `xn--` label — what the
parser hands over for an ordinary host, any decoder `puny`), the answer is `True` exactly when
the hostname equals a domain of `YOUTUBE_DOMAINS` or ends with `"." + domain` -/
theorem is_youtube_url_spec_real (puny : Str → Str) (host : Str)
    (hh : CleanHost isSpecial host) (hne : host ≠ []) :
    is_youtube_url_h isSpecial puny youtubeDomains (some host) = true ↔
      ∃ d ∈ youtubeDomains, HostUnder d host :=
  is_youtube_url_spec_clean isSpecial puny youtubeDomains host real_lists_cleanHost.1 hh hne

/-- **`is_shortened_url` / `should_resolve` against the real lists, string level**: for a
canonical hostname, flagged exactly when the path is not a homepage and either the `l.` clause
holds or the hostname equals / ends with `"." +` a domain of `SHORTENER_DOMAINS`
(`+ SHOULD_RESOLVE_DOMAINS` for `should_resolve`) -/
theorem shortened_spec_real (puny : Str → Str) (homes : List Str) (host path : Str)
    (hh : CleanHost isSpecial host) (hne : host ≠ []) :
    (is_shortened_url_p isSpecial puny homes shortenerDomains ⟨some host, path⟩ = true ↔
      is_homepage_path homes path = false ∧
        (is_l_shortened_domain ⟨some host, path⟩ = true ∨ ∃ d ∈ shortenerDomains, HostUnder d host)) ∧
    (should_resolve_p isSpecial puny homes shortenerDomains shouldResolveDomains ⟨some host, path⟩ = true ↔
      is_homepage_path homes path = false ∧
        (is_l_shortened_domain ⟨some host, path⟩ = true ∨
          ∃ d ∈ shortenerDomains ++ shouldResolveDomains, HostUnder d host)) := by
  constructor
  · unfold is_shortened_url_p
    rw [shortenedWith_iff, trie_match_spec_clean isSpecial puny shortenerDomains host
      real_lists_cleanHost.2.1 hh hne]
  · unfold should_resolve_p
    rw [shortenedWith_iff, trie_match_spec_clean isSpecial puny (shortenerDomains ++ shouldResolveDomains) host
      real_lists_cleanHost.2.2 hh hne]

/-- non-vacuity: the hypothesis on the host holds of ordinary hosts, fails of an IP address (a
special host) and of an upper-case spelling; the real lists hold the odd entries named above -/
example :
    cleanHostB isSpecial "www.youtube.co.uk".toList = true ∧ cleanHostB isSpecial "bit.ly".toList = true ∧
    cleanHostB isSpecial "127.0.0.1".toList = false ∧ cleanHostB isSpecial "Bit.ly".toList = false ∧
    cleanHostB isSpecial "xn--bit.ly".toList = false ∧
    "tk.".toList ∈ shortenerDomains ∧ "chl.li,".toList ∈ shortenerDomains ∧
    "youtu.be".toList ∈ youtubeDomains ∧ "doi.org".toList ∈ shouldResolveDomains := by
  -- a comparison of two string literals costs the kernel their UTF-8 encoding: `"tk."`, near the end of
  -- its list, is searched for from the end
  refine ⟨?_, ?_, ?_, ?_, ?_, List.mem_map_of_mem (List.mem_reverse.1 ?_), List.mem_map_of_mem ?_,
    List.mem_map_of_mem ?_, List.mem_map_of_mem ?_⟩
  iterate 5 (simp only [toList_lit]; decide +kernel)
  all_goals decide +kernel

end Ural.Props.C18
