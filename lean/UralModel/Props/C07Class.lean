import UralModel.Props.C06Whole
import UralModel.Props.C07
import UralModel.Lemmas.FpReparse
/-!
# `fingerprint_url` on a string of the grammar class

`StemClass` is the class of C07's stems theorems and of `fingerprint_never_raises_class`, and the base
of `HostClass`.  `fingerprint_class` is the one description of `fingerprint_url` on it (`FpOnClass`):
C06's totality on the class and C07's stems and hostname theorems read `fingerprint_url` through it only.
-/
namespace Ural.Props.C07
open Ural Ural.Py Ural.UrlParts Ural.Normalize Ural.Fingerprint Ural.LruVariants Ural.C07
open Ural.NormBridge Ural.NormReparse Ural.UrlRoundTrip Ural.CanonRoundTrip Ural.FpReparse

/-- the strings of the stems theorems -/
structure StemClass (ir : Bool) (g : UrlG) (po : Option Nat) (u : Str) : Prop where
  cls : InClassOf ir g u
  nobr : g.br = false
  port : portVal g.port = some po

instance (ir : Bool) (g : UrlG) (po : Option Nat) (u : Str) : Decidable (StemClass ir g po u) :=
  decidable_of_iff (InClassOf ir g u ∧ g.br = false ∧ portVal g.port = some po)
    ⟨fun ⟨a, b, c⟩ => ⟨a, b, c⟩, fun h => ⟨h.cls, h.nobr, h.port⟩⟩

theorem StemClass.good {ir : Bool} {g : UrlG} {po : Option Nat} {u : Str} (h : StemClass ir g po u) :
    Good g po := good_of_inClassOf h.cls h.nobr h.port

/-- `fingerprint_url` on `u`, whose lower-cased form is the string of `g`: `t` is the tuple it returns -/
structure FpOnClass (puny : Str → Str) (trie : SNode Str) (sfx : Bool) (g : UrlG) (po : Option Nat)
    (u : Str) (t : Split) : Prop where
  split : fingerprintUrlStringSplit puny id trie sfx u = .ok (.inr t)
  string : fingerprintUrlString puny id trie sfx u = .ok (fpString t)
  noScheme : t.scheme = []
  /-- the netloc is the bare host the language-label / suffix step returned for the host
  `normalize_url` left (`""` for none) -/
  host : fingerprintHost (stringEnv puny id trie) sfx (hostnameView (normH puny g po)) = .ok t.netloc
  delims : ∀ c, isPunyBad c = true → c ∈ t.netloc → c ∈ g.host
  reparse : ReparseOk modelSplit5 (fpString t) t

theorem fingerprint_class (puny : Str → Str) (hpc : PunyClean puny) (trie : SNode Str) (sfx : Bool)
    {g : UrlG} {po : Option Nat} {u : Str} (h : StemClass true g po (lower u))
    (hplain : sfx = true → HostPlain g.host) :
    ∃ t : Split, FpOnClass puny trie sfx g po u t := by
  obtain ⟨H', e0, hbad, hhost⟩ := fp_tuple hpc h.good trie sfx hplain
  have hsplit := Props.C06.fp_split_grammar puny trie sfx g u po h.cls h.port
  rw [e0] at hsplit
  refine ⟨_, hsplit, ?_, rfl, hhost, hbad, ?_⟩
  · unfold fingerprintUrlString; rw [hsplit]; rfl
  · unfold ReparseOk
    rw [fp_reparse hpc h.good trie sfx hplain _ e0]; rfl

end Ural.Props.C07
