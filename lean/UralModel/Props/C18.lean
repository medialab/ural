import UralModel.Lemmas.Sites
import UralModel.Lemmas.SitesUrl
import UralModel.Lemmas.StrLit
import UralModel.Props.C09
/-!
# C18 — site-membership and simple predicates depend only on the documented component

Property theorems and the predicates their statements use (`CleanHost`, `OneTokenPath`,
`Spelling`, `Decoyed`); helpers: `Lemmas/ReWords.lean`, `Lemmas/Sites.lean`,
`Lemmas/SitesUrl.lean`.  The model is `Model/Sites.lean`; every predicate is
`decision ∘ (hostname, path) ∘ safe_urlsplit`.

* **membership** — facebook / twitter / instagram / telegram: `bool(re.search(RE, hostname))`
  on the *regenerated* regex terms is the whole-label membership of the lower-cased hostname
  in the domain family (`site_pattern_spec`, for **every** pattern / family pair that
  passes the decidable check `SiteTableOK`; the four table obligations instantiate it), for
  every hostname: the patterns are compiled with `re.IGNORECASE | re.ASCII` (obligation
  `site_flags_ascii`), so no non-ASCII code point folds onto a letter of a domain.
  YouTube / shorteners / should_resolve: corollaries of C09's `match_spec`, for **every**
  domain list.
* **non-interference**, **forms agree**, **decoys**: the answer is a function of the parsed
  hostname (and, for the two shortener predicates, of two facts about the path); the parsed
  hostname of `[userinfo@]host[:port]tail` is `lower host` whatever the rest
  (`hostname_ignores_decoys`), and `http://`, `https://`, `//`, scheme-less and pre-parsed
  forms have the same hostname and path (`forms_agree`, `forms_agree_parsed`) — theorems about
  the hand models of `urlsplit` / `.hostname`.
* `shortened_implies_resolve`, `bare_domain_not_flagged`, `l_prefixed_one_token_path`,
  `homepage_path_only`, `could_be_html_path_only`, `special_host_only`.
-/

namespace Ural.Props.C18
open Ural Ural.Py Ural.Py.Re Ural.Sites Ural.HostnameTrieSet Ural.Gen.SitesTables

/-! ## table obligations on the regenerated tables -/

/-- `FACEBOOK_DOMAIN_RE` is `(?:^|\.) body $`, and the words of its body denote exactly the
domain patterns of `FACEBOOK_DOMAINS` (`facebook.*`, `fb.me`) -/
theorem facebook_table_ok : SiteTableOK FACEBOOK_DOMAIN_RE FACEBOOK_DOMAINS = true := by decide +kernel

theorem twitter_table_ok : SiteTableOK TWITTER_DOMAIN_RE TWITTER_DOMAINS = true := by decide +kernel

theorem instagram_table_ok : SiteTableOK INSTAGRAM_DOMAIN_RE INSTAGRAM_DOMAINS = true := by decide +kernel

theorem telegram_table_ok : SiteTableOK TELEGRAM_DOMAIN_RE TELEGRAM_DOMAINS = true := by decide +kernel

/-- the four hostname patterns are compiled with `re.IGNORECASE` (2) and `re.ASCII` (256):
without the latter U+0130, U+0131, U+017F, U+212A would fold onto `i`, `s`, `k` (`twıtter.com`
taken for `twitter.com`) -/
theorem site_flags_ascii :
    (FACEBOOK_DOMAIN_RE_flags / 2 % 2 = 1 ∧ FACEBOOK_DOMAIN_RE_flags / 256 % 2 = 1) ∧
    (TWITTER_DOMAIN_RE_flags / 2 % 2 = 1 ∧ TWITTER_DOMAIN_RE_flags / 256 % 2 = 1) ∧
    (INSTAGRAM_DOMAIN_RE_flags / 2 % 2 = 1 ∧ INSTAGRAM_DOMAIN_RE_flags / 256 % 2 = 1) ∧
    (TELEGRAM_DOMAIN_RE_flags / 2 % 2 = 1 ∧ TELEGRAM_DOMAIN_RE_flags / 256 % 2 = 1) := by decide

/-- the class `/` and the class `[0-9a-zA-Z]` as the translator prints them -/
def slashClass : CharClass := ⟨false, [(47, 47)]⟩
def alnumClass : CharClass := ⟨false, [(48, 57), (65, 90), (97, 122)]⟩

/-- `DOMAIN_STARTS_L_RE` is `^ body $` and its body has the two words `/ [0-9a-zA-Z]{3,}` and
`/ [0-9a-zA-Z]{3,} /` -/
theorem l_path_table_ok :
    Framed .bos DOMAIN_STARTS_L_RE ∧ noNullRep DOMAIN_STARTS_L_RE = true ∧
    words (midOf DOMAIN_STARTS_L_RE) =
      some [[.one slashClass, .many alnumClass 3], [.one slashClass, .many alnumClass 3, .one slashClass]] := by
  decide

/-- the empty path is one of `HOMEPAGE_PATHS` -/
theorem homepage_table_ok : homepagePaths.contains [] = true := by decide

/-! ## `re.search` -/

/-- `bool(pattern.search(s))` (the executable `pySearch`) is true exactly when the pattern
matches, in the denotational semantics, at some position of `s` -/
theorem pySearch_spec {r : Re} (hr : noNullRep r = true) (s : Str) :
    pySearch r s = true ↔ ∃ pre suf t, s = pre ++ suf ∧ Match s.length r suf t :=
  pySearch_iff hr s

/-! ## facebook, twitter, instagram, telegram: whole-label membership -/

/-- **membership, for every pattern and every domain family** tied by the check
`SiteTableOK`, and **every hostname** (without newline): `bool(re.search(r, hostname))` is true
exactly when the lower-cased hostname is an instance of one of the family's patterns or a
subdomain of one, by whole labels (`lower` is the ASCII case mapping: a non-ASCII character is
never identified with a letter of the domain) -/
theorem site_pattern_spec {r : Re} {P : List DomPat} (hok : SiteTableOK r P = true)
    (h : Str) (hnl : '\n' ∉ h) :
    pySearch r h = true ↔ ∃ p ∈ P, UnderPattern p (lower h) :=
  site_search_spec_nl hok h hnl

/-- the same without the newline hypothesis: `$` also matches before a final `"\n"` (only a
hand-made `SplitResult` can carry such a hostname, `urlsplit` removes newlines) -/
theorem site_pattern_spec_newline {r : Re} {P : List DomPat} (hok : SiteTableOK r P = true)
    (h : Str) :
    pySearch r h = true ↔
      ∃ pre x b, h = pre ++ x ++ b ∧ Boundary pre ∧ Tail b ∧ ∃ p ∈ P, PatMatches p (lower x) :=
  site_search_spec hok h

/-- a pattern without wild card is a domain: "at or under" it is "equal to it or ending with
`.` + it" -/
theorem underPattern_literal (d h : Str) : UnderPattern (d.map some) h ↔ HostUnder d h :=
  underPattern_literal_iff d h

theorem is_facebook_url_spec (host : Str) (hnl : '\n' ∉ host) :
    (is_facebook_url_h (some host) = true ↔ ∃ p ∈ FACEBOOK_DOMAINS, UnderPattern p (lower host)) ∧
    is_facebook_url_h none = false :=
  ⟨site_pattern_spec facebook_table_ok host hnl, rfl⟩

theorem is_twitter_url_spec (host : Str) (hnl : '\n' ∉ host) :
    (is_twitter_url_h (some host) = true ↔ ∃ p ∈ TWITTER_DOMAINS, UnderPattern p (lower host)) ∧
    is_twitter_url_h none = false :=
  ⟨site_pattern_spec twitter_table_ok host hnl, rfl⟩

theorem is_instagram_url_spec (host : Str) (hnl : '\n' ∉ host) :
    (is_instagram_url_h (some host) = true ↔ ∃ p ∈ INSTAGRAM_DOMAINS, UnderPattern p (lower host)) ∧
    is_instagram_url_h none = false :=
  ⟨site_pattern_spec instagram_table_ok host hnl, rfl⟩

theorem is_telegram_url_spec (host : Str) (hnl : '\n' ∉ host) :
    (is_telegram_url_h (some host) = true ↔ ∃ p ∈ TELEGRAM_DOMAINS, UnderPattern p (lower host)) ∧
    is_telegram_url_h none = false :=
  ⟨site_pattern_spec telegram_table_ok host hnl, rfl⟩

/-- **case**: upper-casing the (ASCII letters of the) hostname does not change the answer -/
theorem site_case_insensitive {r : Re} {P : List DomPat} (hok : SiteTableOK r P = true)
    (h : Str) (hnl : '\n' ∉ h) : pySearch r (upper h) = pySearch r h := by
  rw [Bool.eq_iff_iff, site_pattern_spec hok h hnl,
    site_pattern_spec hok (upper h) (fun hm => hnl (nl_mem_upper.1 hm)), lower_upper]

/-- look-alikes that `re.IGNORECASE` alone would identify with a site domain (U+0131 dotless i,
U+0130, U+017F long s, U+212A Kelvin sign) are **not** flagged (FX-C18-dfca416) -/
example :
    is_twitter_url "http://tw\u0131tter.com/x".toList = false ∧
    is_twitter_url_h (some "tw\u0130tter.com".toList) = false ∧
    is_instagram_url "http://www.\u0131nstagram.com/".toList = false ∧
    is_instagram_url "http://in\u017ftagram.com".toList = false ∧
    is_facebook_url_h (some "faceboo\u212a.com".toList) = false ∧
    is_facebook_url_h (some "FACEBOOK.com".toList) = true := by
  simp only [toList_lit]
  decide +kernel

/-- non-vacuity: hosts in each family, look-alikes outside, through the string forms -/
example :
    is_facebook_url "http://user@WWW.Facebook.com:80/x".toList = true ∧
    is_facebook_url "m.facebook.fr/x.twitter.com".toList = true ∧
    is_facebook_url "http://notfacebook.com".toList = false ∧
    is_facebook_url "http://facebook.co.uk".toList = false ∧
    is_facebook_url "http://fb.me.evil.fr/".toList = false ∧
    is_twitter_url "twitter.com?x=1".toList = true ∧
    is_twitter_url "//mobile.x.com".toList = true ∧
    is_twitter_url "http://netflix.com".toList = false ∧
    is_twitter_url "http://evil.com/@twitter.com".toList = false ∧
    is_instagram_url "http://instagramxcom/p/x/".toList = false ∧
    is_telegram_url "https://t.me/s/x".toList = true ∧
    is_telegram_url "http://chat.me/#t.me".toList = false := by
  simp only [toList_lit]
  decide +kernel

/-! ## youtube, shorteners, should_resolve: corollaries of C09 -/

section Trie
variable (special : Str → Bool) (puny : Str → Str)

/-- the trie built from a domain list is C09's `adds` of the tokenised domains -/
theorem trieOf_eq (D : List Str) :
    trieOf special puny D = C09.adds (D.map (tokenizeHostname special puny)) :=
  C09.addsHost_tokenize special puny D

/-- **trie membership, for every domain list**: `match` on a URL whose parsed hostname is
`host` answers `True` exactly when the token list of some listed domain (labels, TLD first,
stripped, lower-cased, punycode-decoded) is a prefix of the host's — the host *is* the domain
or a whole-label subdomain of it; `False` without hostname -/
theorem trie_match_spec (D : List Str) (host : Str) (hne : host ≠ []) :
    (matchHost special puny (trieOf special puny D) (some host) = true ↔
      ∃ d ∈ D, tokenizeHostname special puny d <+: tokenizeHostname special puny host) ∧
    matchHost special puny (trieOf special puny D) none = false ∧
    matchHost special puny (trieOf special puny D) (some []) = false := by
  refine ⟨?_, rfl, by simp [matchHost]⟩
  simp only [matchHost, hne, if_false]
  rw [trieOf_eq, C09.match_spec_map]

/-- `is_youtube_url`, for every domain list -/
theorem is_youtube_url_spec (youtube : List Str) (host : Str) (hne : host ≠ []) :
    (is_youtube_url_h special puny youtube (some host) = true ↔
      ∃ d ∈ youtube, tokenizeHostname special puny d <+: tokenizeHostname special puny host) ∧
    is_youtube_url_h special puny youtube none = false :=
  ⟨(trie_match_spec special puny youtube host hne).1, rfl⟩

/-- an ordinary host name in canonical spelling: not special, unpadded, lower-case, no
`xn--` label -/
def CleanHost (h : Str) : Prop :=
  special h = false ∧ strip h = h ∧ lower h = h ∧ ∀ l ∈ splitOn h '.', hasHeader l = false

theorem tokenize_clean (h : Str) (hc : CleanHost special h) :
    tokenizeHostname special puny h = (splitOn h '.').reverse := by
  obtain ⟨h1, h2, h3, h4⟩ := hc
  simp only [tokenizeHostname, h1, Bool.false_eq_true, if_false, tok, tokLabels, h2, h3]
  congr 1
  have : ∀ l ∈ splitOn h '.', punyPart puny l = id l := by
    intro l hl; simp [punyPart, h4 l hl]
  rw [List.map_congr_left this, List.map_id]

/-- on canonical spellings the token statement is the string statement: the hostname equals a
listed domain or ends with `"." + domain` -/
theorem trie_match_spec_clean (D : List Str) (host : Str) (hD : ∀ d ∈ D, CleanHost special d)
    (hh : CleanHost special host) (hne : host ≠ []) :
    matchHost special puny (trieOf special puny D) (some host) = true ↔ ∃ d ∈ D, HostUnder d host := by
  rw [(trie_match_spec special puny D host hne).1]
  constructor
  · rintro ⟨d, hd, hp⟩
    rw [tokenize_clean special puny d (hD d hd), tokenize_clean special puny host hh,
      List.reverse_prefix] at hp
    exact ⟨d, hd, (labels_suffix_iff d host).1 hp⟩
  · rintro ⟨d, hd, hu⟩
    refine ⟨d, hd, ?_⟩
    rw [tokenize_clean special puny d (hD d hd), tokenize_clean special puny host hh,
      List.reverse_prefix]
    exact (labels_suffix_iff d host).2 hu

theorem is_youtube_url_spec_clean (youtube : List Str) (host : Str)
    (hD : ∀ d ∈ youtube, CleanHost special d) (hh : CleanHost special host) (hne : host ≠ []) :
    is_youtube_url_h special puny youtube (some host) = true ↔ ∃ d ∈ youtube, HostUnder d host :=
  trie_match_spec_clean special puny youtube host hD hh hne

/-- **case** for the trie-based predicates: an upper-cased hostname has the same tokens -/
theorem trie_case_insensitive (D : List Str) (host : Str) (h1 : special host = false)
    (h2 : special (upper host) = false) :
    matchHost special puny (trieOf special puny D) (some (upper host)) =
      matchHost special puny (trieOf special puny D) (some host) := by
  have hu : upper host = [] ↔ host = [] := by simp [upper]
  by_cases hne : host = []
  · subst hne; rfl
  · have hne' : upper host ≠ [] := fun e => hne (hu.1 e)
    simp only [matchHost, hne, hne', if_false, tokenizeHostname, h1, h2, Bool.false_eq_true,
      C09.tok_upper]

theorem shortenedWith_iff (homes : List Str) (t : T) (p : Parts) :
    shortenedWith special puny homes t p = true ↔
      is_homepage_path homes p.path = false ∧
        (is_l_shortened_domain p = true ∨ matchHost special puny t p.host = true) := by
  unfold shortenedWith
  cases h1 : is_homepage_path homes p.path <;> cases h2 : is_l_shortened_domain p <;> simp

/-- **`is_shortened_url`, for every domain list**: flagged exactly when the path is not a
homepage and either the host is `l.`-prefixed with a one-token path or the host is at or under
a listed domain -/
theorem shortened_spec (homes shorteners : List Str) (host path : Str) (hne : host ≠ []) :
    is_shortened_url_p special puny homes shorteners ⟨some host, path⟩ = true ↔
      is_homepage_path homes path = false ∧
        (is_l_shortened_domain ⟨some host, path⟩ = true ∨
          ∃ d ∈ shorteners, tokenizeHostname special puny d <+: tokenizeHostname special puny host) := by
  unfold is_shortened_url_p
  rw [shortenedWith_iff, (trie_match_spec special puny shorteners host hne).1]

/-- **`should_resolve`**: the same over `SHORTENER_DOMAINS + SHOULD_RESOLVE_DOMAINS` -/
theorem should_resolve_spec (homes shorteners extra : List Str) (host path : Str) (hne : host ≠ []) :
    should_resolve_p special puny homes shorteners extra ⟨some host, path⟩ = true ↔
      is_homepage_path homes path = false ∧
        (is_l_shortened_domain ⟨some host, path⟩ = true ∨
          ∃ d ∈ shorteners ++ extra,
            tokenizeHostname special puny d <+: tokenizeHostname special puny host) := by
  unfold should_resolve_p
  rw [shortenedWith_iff, (trie_match_spec special puny (shorteners ++ extra) host hne).1]

/-- **monotone in the domain list** -/
theorem resolve_monotone (D R : List Str) (hsub : ∀ d ∈ D, d ∈ R) (host : Option Str)
    (h : matchHost special puny (trieOf special puny D) host = true) :
    matchHost special puny (trieOf special puny R) host = true := by
  cases host with
  | none => simp [matchHost] at h
  | some hs =>
    by_cases hne : hs = []
    · subst hne; simp [matchHost] at h
    · rw [(trie_match_spec special puny R hs hne).1]
      obtain ⟨d, hd, hp⟩ := (trie_match_spec special puny D hs hne).1.1 h
      exact ⟨d, hsub d hd, hp⟩

/-- **every URL flagged by `is_shortened_url` is flagged by `should_resolve`** (for every
shortener list, every extra list, every hostname and path) -/
theorem shortened_implies_resolve (homes shorteners extra : List Str) (p : Parts)
    (h : is_shortened_url_p special puny homes shorteners p = true) :
    should_resolve_p special puny homes shorteners extra p = true := by
  unfold is_shortened_url_p at h
  unfold should_resolve_p
  rw [shortenedWith_iff] at h ⊢
  refine ⟨h.1, ?_⟩
  rcases h.2 with hl | hm
  · exact Or.inl hl
  · exact Or.inr (resolve_monotone special puny shorteners (shorteners ++ extra)
      (fun d hd => by simp [hd]) p.host hm)

/-- the same on strings (an exception of `urlsplit` is the same exception for both) -/
theorem shortened_implies_resolve_url (homes shorteners extra : List Str) (url : Str)
    (h : is_shortened_url special puny homes shorteners url = .ok true) :
    should_resolve special puny homes shorteners extra url = .ok true := by
  unfold is_shortened_url at h
  unfold should_resolve
  cases hp : parts url with
  | none => simp [hp, shortenedWith_o] at h
  | some p =>
    simp only [hp, shortenedWith_o, Except.ok.injEq] at h ⊢
    exact shortened_implies_resolve special puny homes shorteners extra p h

/-- **a bare domain is flagged by neither**: with an empty path or `/` (and `""` among the
homepage paths) both predicates answer `False`, whatever the host and the lists -/
theorem bare_domain_not_flagged (homes : List Str) (hh : homes.contains [] = true)
    (shorteners extra : List Str) (host : Option Str) (path : Str) (hp : path = [] ∨ path = ['/']) :
    is_shortened_url_p special puny homes shorteners ⟨host, path⟩ = false ∧
    should_resolve_p special puny homes shorteners extra ⟨host, path⟩ = false := by
  have hhome : is_homepage_path homes path = true := by
    rcases hp with rfl | rfl
    · have : (splitext (rstripChars (strip []) ['/'])).1 = [] := by decide
      simp only [is_homepage_path, this, hh]
    · have : (splitext (rstripChars (strip ['/']) ['/'])).1 = [] := by decide
      simp only [is_homepage_path, this, hh]
  simp [is_shortened_url_p, should_resolve_p, shortenedWith, hhome]

/-- **non-interference** for the two shortener predicates: they are a function of the parsed
hostname, of whether the path is a homepage and of whether it is a one-token path -/
theorem noninterference_shorteners (homes shorteners extra : List Str) (p p' : Parts)
    (hhost : p.host = p'.host)
    (hhome : is_homepage_path homes p.path = is_homepage_path homes p'.path)
    (htok : pySearch DOMAIN_STARTS_L_RE p.path = pySearch DOMAIN_STARTS_L_RE p'.path) :
    is_shortened_url_p special puny homes shorteners p =
      is_shortened_url_p special puny homes shorteners p' ∧
    should_resolve_p special puny homes shorteners extra p =
      should_resolve_p special puny homes shorteners extra p' := by
  have hl : is_l_shortened_domain p = is_l_shortened_domain p' := by
    unfold is_l_shortened_domain
    rw [hhost, htok]
  simp only [is_shortened_url_p, should_resolve_p, shortenedWith, hhome, hl, hhost, and_self]

end Trie

/-! ## the `l.` clause -/

/-- a one-token path: `/`, at least three ASCII letters or digits, an optional `/` (and, as
`$` allows, an optional final newline) -/
def OneTokenPath (path : Str) : Prop :=
  ∃ tok b, 3 ≤ tok.length ∧ (∀ c ∈ tok, alnumClass.mem c = true) ∧ Tail b ∧
    (path = '/' :: tok ++ b ∨ path = '/' :: tok ++ '/' :: b)

theorem slashClass_mem (c : Char) : slashClass.mem c = true ↔ c = '/' :=
  CharClass.mem_single '/' c

/-- ASCII letters and digits, nothing else -/
theorem alnumClass_mem (c : Char) :
    alnumClass.mem c = true ↔ (isAsciiDigit c = true ∨ isAsciiAlpha c = true) := by
  have e : ∀ a b : Char, a ≤ b ↔ a.toNat ≤ b.toNat := fun a b => Py.char_le_iff a b
  simp only [alnumClass, CharClass.mem, CharClass.inRanges, List.any_cons, List.any_nil,
    Bool.or_false, Bool.false_bne, Bool.and_eq_true, Bool.or_eq_true, decide_eq_true_eq,
    isAsciiDigit, isAsciiAlpha, e, Char.reduceToNat]
  omega

/-- `bool(re.search(DOMAIN_STARTS_L_RE, path))` is "the path is a one-token path" -/
theorem l_path_spec (path : Str) : pySearch DOMAIN_STARTS_L_RE path = true ↔ OneTokenPath path := by
  obtain ⟨hf, hn, hw⟩ := l_path_table_ok
  rw [bos_search_iff hf hn hw]
  unfold OneTokenPath
  simp only [List.mem_cons, List.not_mem_nil, or_false, exists_eq_or_imp, exists_eq_left, MWf,
    slashClass_mem]
  constructor
  · rintro ⟨_, b, rfl, hb, ⟨_, _, rfl, rfl, run, _, hl, hall, rfl, rfl⟩ |
      ⟨_, _, rfl, rfl, run, _, hl, hall, rfl, _, _, rfl, rfl, rfl⟩⟩
    · exact ⟨run, b, hl, hall, hb, Or.inl (by simp)⟩
    · exact ⟨run, b, hl, hall, hb, Or.inr (by simp)⟩
  · rintro ⟨tok, b, hl, hall, hb, rfl | rfl⟩
    · exact ⟨'/' :: tok, b, by simp, hb, Or.inl ⟨'/', tok, rfl, rfl, tok, [], hl, hall, by simp, rfl⟩⟩
    · exact ⟨'/' :: tok ++ ['/'], b, by simp, hb,
        Or.inr ⟨'/', _, rfl, rfl, tok, ['/'], hl, hall, rfl, '/', [], rfl, rfl, rfl⟩⟩

/-- **the `l.` clause**: `is_l_shortened_domain` holds exactly for an `l.`-prefixed hostname
with a one-token path -/
theorem l_prefixed_one_token_path (host : Option Str) (path : Str) :
    is_l_shortened_domain ⟨host, path⟩ = true ↔
      ∃ h, host = some h ∧ startsWith h ['l', '.'] = true ∧ OneTokenPath path := by
  unfold is_l_shortened_domain
  cases host with
  | none => simp
  | some h =>
    by_cases hne : h = []
    · subst hne; simp [startsWith]
    · simp only [hne, if_false, Bool.and_eq_true, l_path_spec, Option.some.injEq, exists_eq_left']

example :
    OneTokenPath "/abc123".toList ∧ OneTokenPath "/abcd/".toList ∧
    pySearch DOMAIN_STARTS_L_RE "/ab".toList = false ∧
    pySearch DOMAIN_STARTS_L_RE "/abc/def".toList = false ∧
    is_l_shortened_domain ⟨some "l.facebook.com".toList, "/abc123".toList⟩ = true ∧
    is_l_shortened_domain ⟨some "l.facebook.com".toList, "/abc123/x".toList⟩ = false ∧
    is_l_shortened_domain ⟨some "el.facebook.com".toList, "/abc123".toList⟩ = false := by
  simp only [toList_lit]
  refine ⟨(l_path_spec _).1 (by decide +kernel), (l_path_spec _).1 (by decide +kernel), ?_⟩
  decide +kernel

/-! ## non-interference: the answer is a function of the documented component -/

section NonInterference
variable (special : Str → Bool) (puny : Str → Str)

theorem youtube_from_hostname (t : T) (p : Option Parts) :
    is_youtube_url_t special puny t p = matchHost special puny t (get_hostname_o p) := by
  cases p with
  | none => rfl
  | some p =>
    simp only [is_youtube_url_t, get_hostname_o]
    cases h : p.host with
    | none => rfl
    | some hs =>
      by_cases he : hs = []
      · subst he; simp [matchHost]
      · simp [he]

theorem get_hostname_ne_nil {s h : Str} (hh : get_hostname s = some h) : h ≠ [] := by
  unfold get_hostname get_hostname_o at hh
  rintro rfl
  cases hp : parts s with
  | none => rw [hp] at hh; cases hh
  | some p => cases hq : p.host <;> simp [hp, hq] at hh

theorem youtube_url_spec (youtube : List Str) (s : Str) :
    is_youtube_url special puny youtube s = true ↔
      ∃ h, get_hostname s = some h ∧
        ∃ d ∈ youtube, tokenizeHostname special puny d <+: tokenizeHostname special puny h := by
  rw [is_youtube_url, youtube_from_hostname, ← get_hostname]
  cases hh : get_hostname s with
  | none => simp [matchHost]
  | some h =>
    simp only [Option.some.injEq, exists_eq_left']
    exact (trie_match_spec special puny youtube h (get_hostname_ne_nil hh)).1

/-- **non-interference, site predicates**: two URLs with the same parsed hostname get the same
answer from the five site predicates — whatever their userinfo, port, path, query, fragment -/
theorem noninterference_sites (youtube : List Str) (u u' : Str)
    (h : get_hostname u = get_hostname u') :
    is_facebook_url u = is_facebook_url u' ∧ is_twitter_url u = is_twitter_url u' ∧
    is_instagram_url u = is_instagram_url u' ∧ is_telegram_url u = is_telegram_url u' ∧
    is_youtube_url special puny youtube u = is_youtube_url special puny youtube u' := by
  refine ⟨?_, ?_, ?_, ?_, ?_⟩
  · simp only [is_facebook_url, h]
  · simp only [is_twitter_url, h]
  · simp only [is_instagram_url, h]
  · simp only [is_telegram_url, h]
  · simp only [is_youtube_url, youtube_from_hostname]
    unfold get_hostname at h
    rw [h]

/-- `is_homepage` is a function of the parsed path -/
theorem homepage_path_only (homes : List Str) (u u' : Str)
    (h : (parts u).map (·.path) = (parts u').map (·.path)) :
    is_homepage homes u = is_homepage homes u' := by
  unfold is_homepage is_homepage_o
  cases hp : parts u <;> cases hp' : parts u' <;> simp [hp, hp'] at h ⊢
  rw [h]

/-- `could_be_html` is a function of the parsed path -/
theorem could_be_html_path_only (exts : List Str) (u u' : Str)
    (h : (parts u).map (·.path) = (parts u').map (·.path)) :
    could_be_html exts u = could_be_html exts u' := by
  unfold could_be_html could_be_html_o
  cases hp : parts u <;> cases hp' : parts u' <;> simp [hp, hp'] at h ⊢
  rw [h]

/-- `has_special_host` is a function of the parsed hostname -/
theorem special_host_only (u u' : Str) (h : (parts u).map (·.host) = (parts u').map (·.host)) :
    has_special_host u = has_special_host u' := by
  unfold has_special_host has_special_host_o
  cases hp : parts u <;> cases hp' : parts u' <;> simp [hp, hp'] at h ⊢
  rw [h]

/-- `get_hostname` is a function of the parsed hostname -/
theorem get_hostname_host_only (u u' : Str) (h : (parts u).map (·.host) = (parts u').map (·.host)) :
    get_hostname u = get_hostname u' := by
  unfold get_hostname get_hostname_o
  cases hp : parts u <;> cases hp' : parts u' <;> simp [hp, hp'] at h ⊢
  rw [h]

end NonInterference

/-! ## the input forms -/

/-- **forms agree**: `https://rest`, `//rest`, and — when it does not itself start with a
protocol — the bare `rest` have the same parsed hostname and path as `http://rest`; hence
every predicate answers the same on the four spellings -/
theorem forms_agree (rest : Str) :
    parts ("https://".toList ++ rest) = parts ("http://".toList ++ rest) ∧
    parts ("//".toList ++ rest) = parts ("http://".toList ++ rest) ∧
    (protoLen rest = none → parts rest = parts ("http://".toList ++ rest)) :=
  parts_forms rest

/-- **the pre-parsed form**: `safe_urlsplit` is the identity on a `SplitResult`, so a
predicate given `safe_urlsplit(url)` answers what it answers on `url` -/
theorem forms_agree_parsed (special : Str → Bool) (puny : Str → Str) (homes exts shorteners extra youtube : List Str)
    (u : Str) (r : SplitResult) (h : safe_urlsplit u = some r) :
    parts u = some (partsOf r) ∧
    is_facebook_url_r r = is_facebook_url u ∧ is_twitter_url_r r = is_twitter_url u ∧
    is_instagram_url_r r = is_instagram_url u ∧ is_telegram_url_r r = is_telegram_url u ∧
    is_youtube_url_r special puny youtube r = is_youtube_url special puny youtube u ∧
    is_shortened_url_r special puny homes shorteners r = is_shortened_url special puny homes shorteners u ∧
    should_resolve_r special puny homes shorteners extra r = should_resolve special puny homes shorteners extra u ∧
    is_homepage_r homes r = is_homepage homes u ∧ could_be_html_r exts r = could_be_html exts u ∧
    has_special_host_r r = has_special_host u ∧ get_hostname_r r = get_hostname u := by
  have hp : parts u = some (partsOf r) := by simp [parts, h]
  simp only [hp, is_facebook_url_r, is_facebook_url, is_twitter_url_r, is_twitter_url,
    is_instagram_url_r, is_instagram_url, is_telegram_url_r, is_telegram_url, is_youtube_url_r,
    is_youtube_url, is_shortened_url_r, is_shortened_url, should_resolve_r, should_resolve,
    is_homepage_r, is_homepage, could_be_html_r, could_be_html, has_special_host_r, has_special_host,
    get_hostname_r, get_hostname, and_self]

/-- **decoys**: the parsed hostname of `http://[userinfo@]host[:port]tail` is the lower-cased
host, whatever the userinfo (any text without `/ ? # [ ]`, TAB, CR, LF — it may hold `@`, `:`
and site domains), the port, and the tail (empty or starting with `/`, `?`, `#`: path, query,
fragment with any text) -/
theorem hostname_ignores_decoys (ui : Option Str) (h : Str) (port : Option Str) (tail : Str)
    (hui : ∀ u, ui = some u → ∀ c ∈ u, authChar c = true)
    (hh : ∀ c ∈ h, hostChar c = true) (hne : h ≠ [])
    (hport : ∀ p, port = some p → ∀ c ∈ p, (authChar c && c != '@') = true)
    (ht : TailOK tail) :
    get_hostname ("http://".toList ++ (authority ui h port ++ tail)) = some (lower h) :=
  get_hostname_authority ui h port tail hui hh hne hport ht

/-- the parsed path of `http://[userinfo@]host[:port]path` is `path` (empty, or `/…` without
`?`, `#`), whatever the authority -/
theorem path_ignores_authority (ui : Option Str) (h : Str) (port : Option Str) (path : Str)
    (hui : ∀ u, ui = some u → ∀ c ∈ u, authChar c = true)
    (hh : ∀ c ∈ h, hostChar c = true)
    (hport : ∀ p, port = some p → ∀ c ∈ p, (authChar c && c != '@') = true)
    (ht : PathOK path) :
    (parts ("http://".toList ++ (authority ui h port ++ path))).map (·.path) = some path := by
  obtain ⟨_, hp, hpath⟩ := parts_authority ui h port path hui hh hport ht.tailOK
  rw [hp, hpath ht]; rfl

/-! ## end to end, on strings

The congruence theorems above (`noninterference_sites`, `noninterference_shorteners`,
`homepage_path_only`, `could_be_html_path_only`, `special_host_only`,
`get_hostname_host_only`, `forms_agree_parsed`) have the form `g u = g u' → f (g u) = f (g u')`:
they hold because the model DEFINES each predicate as `decision ∘ component ∘ parts`, i.e. they
certify the shape of the model (which the differential execution ties to the code), not a fact
about URLs.  The statements about URL *strings* are the ones below: they combine
`hostname_ignores_decoys` / `path_ignores_authority` (what the `urlsplit` model reads in
`[userinfo@]host[:port]tail`), `forms_agree` (the four spellings) and the membership
specifications (`site_pattern_spec`, `trie_match_spec`, `shortened_spec`). -/

/-- the four spellings under which the URL `rest = [userinfo@]host[:port]tail` reaches a
predicate as a `str`: with `http://`, with `https://`, protocol-relative, and bare (which is
read as such only when it does not itself start with a protocol, e.g. not `a://…`) -/
inductive Spelling (rest : Str) : Str → Prop
  | http : Spelling rest ("http://".toList ++ rest)
  | https : Spelling rest ("https://".toList ++ rest)
  | relative : Spelling rest ("//".toList ++ rest)
  | bare : protoLen rest = none → Spelling rest rest

theorem parts_spelling {rest s : Str} (h : Spelling rest s) :
    parts s = parts ("http://".toList ++ rest) := by
  cases h with
  | http => rfl
  | https => exact (forms_agree rest).1
  | relative => exact (forms_agree rest).2.1
  | bare hb => exact (forms_agree rest).2.2 hb

/-- the hypotheses on the pieces of `[userinfo@]host[:port]tail`: the userinfo is any text
without `/ ? # [ ]`, TAB, CR, LF (it may hold `@`, `:` and site domains); the host is non-empty
and additionally holds no `@ : %`; the port holds no `@`; the tail is empty or starts with `/`,
`?` or `#` (path, query, fragment with ANY text, site domains included) -/
structure Decoyed (ui : Option Str) (h : Str) (port : Option Str) (tail : Str) : Prop where
  ui_ok : ∀ u, ui = some u → ∀ c ∈ u, authChar c = true
  host_ok : ∀ c ∈ h, hostChar c = true
  host_ne : h ≠ []
  port_ok : ∀ p, port = some p → ∀ c ∈ p, (authChar c && c != '@') = true
  tail_ok : TailOK tail

/-- **the parsed hostname of every spelling** is the lower-cased host -/
theorem hostname_spelling {ui : Option Str} {h : Str} {port : Option Str} {tail s : Str}
    (hd : Decoyed ui h port tail) (hs : Spelling (authority ui h port ++ tail) s) :
    get_hostname s = some (lower h) := by
  have := hostname_ignores_decoys ui h port tail hd.ui_ok hd.host_ok hd.host_ne hd.port_ok hd.tail_ok
  unfold get_hostname at this ⊢
  rw [parts_spelling hs]; exact this

/-- **site membership end to end, for every pattern / family pair tied by `SiteTableOK`**:
for the URL string `s` = any of the four spellings of `[userinfo@]host[:port]tail`,
`bool(re.search(r, get_hostname(s)))` is true exactly when the lower-cased host is at or under
(whole labels) one of the family's domain patterns — whatever the userinfo, port, path, query
and fragment texts -/
theorem site_end_to_end {r : Re} {P : List DomPat} (hok : SiteTableOK r P = true)
    {ui : Option Str} {h : Str} {port : Option Str} {tail s : Str}
    (hd : Decoyed ui h port tail) (hs : Spelling (authority ui h port ++ tail) s) :
    hostSearch r (get_hostname s) = true ↔ ∃ p ∈ P, UnderPattern p (lower h) := by
  rw [site_url_spec hok, hostname_spelling hd hs]
  simp only [Option.some.injEq, exists_eq_left', lower_idem]

/-- **`is_facebook_url` on strings**: true exactly when the host is at or under `facebook.*` /
`fb.me`, for all four spellings and all decoy texts -/
theorem is_facebook_url_end_to_end {ui : Option Str} {h : Str} {port : Option Str} {tail s : Str}
    (hd : Decoyed ui h port tail) (hs : Spelling (authority ui h port ++ tail) s) :
    is_facebook_url s = true ↔ ∃ p ∈ FACEBOOK_DOMAINS, UnderPattern p (lower h) := by
  unfold is_facebook_url is_facebook_url_h
  exact site_end_to_end facebook_table_ok hd hs

/-- **`is_twitter_url` on strings** (`twitter.com`, `x.com`) -/
theorem is_twitter_url_end_to_end {ui : Option Str} {h : Str} {port : Option Str} {tail s : Str}
    (hd : Decoyed ui h port tail) (hs : Spelling (authority ui h port ++ tail) s) :
    is_twitter_url s = true ↔ ∃ p ∈ TWITTER_DOMAINS, UnderPattern p (lower h) := by
  unfold is_twitter_url is_twitter_url_h
  exact site_end_to_end twitter_table_ok hd hs

/-- **`is_instagram_url` on strings** -/
theorem is_instagram_url_end_to_end {ui : Option Str} {h : Str} {port : Option Str} {tail s : Str}
    (hd : Decoyed ui h port tail) (hs : Spelling (authority ui h port ++ tail) s) :
    is_instagram_url s = true ↔ ∃ p ∈ INSTAGRAM_DOMAINS, UnderPattern p (lower h) := by
  unfold is_instagram_url is_instagram_url_h
  exact site_end_to_end instagram_table_ok hd hs

/-- **`is_telegram_url` on strings** (`t.me`, `telegram.me`, `telegram.org`) -/
theorem is_telegram_url_end_to_end {ui : Option Str} {h : Str} {port : Option Str} {tail s : Str}
    (hd : Decoyed ui h port tail) (hs : Spelling (authority ui h port ++ tail) s) :
    is_telegram_url s = true ↔ ∃ p ∈ TELEGRAM_DOMAINS, UnderPattern p (lower h) := by
  unfold is_telegram_url is_telegram_url_h
  exact site_end_to_end telegram_table_ok hd hs

/-- **`is_youtube_url` on strings, for every domain list**: true exactly when the token list of
a listed domain is a prefix of the host's (whole-label subdomain) -/
theorem is_youtube_url_end_to_end (special : Str → Bool) (puny : Str → Str) (youtube : List Str)
    {ui : Option Str} {h : Str} {port : Option Str} {tail s : Str}
    (hd : Decoyed ui h port tail) (hs : Spelling (authority ui h port ++ tail) s) :
    is_youtube_url special puny youtube s = true ↔
      ∃ d ∈ youtube, tokenizeHostname special puny d <+: tokenizeHostname special puny (lower h) := by
  rw [youtube_url_spec, hostname_spelling hd hs]
  simp only [Option.some.injEq, exists_eq_left']

/-- the parsed components of every spelling when the tail is a path (no query / fragment) -/
theorem parts_spelling_path {ui : Option Str} {h : Str} {port : Option Str} {path s : Str}
    (hd : Decoyed ui h port path) (hp : PathOK path) (hs : Spelling (authority ui h port ++ path) s) :
    parts s = some ⟨some (lower h), path⟩ := by
  obtain ⟨_, hparts, hpath⟩ :=
    parts_authority ui h port path hd.ui_ok hd.host_ok hd.port_ok hd.tail_ok
  rw [parts_spelling hs, hparts, hpath hp, if_neg fun e => hd.host_ne (lower_eq_nil.1 e)]

/-- **`is_shortened_url` / `should_resolve` on strings, for every domain list**: for any
spelling of `[userinfo@]host[:port]path`, the answer is `True` exactly when the path is not a
homepage and either the host is `l.`-prefixed with a one-token path or the host is at or under
a listed domain (for `should_resolve`: a shortener or an extra domain); never an exception -/
theorem shortened_end_to_end (special : Str → Bool) (puny : Str → Str)
    (homes shorteners extra : List Str)
    {ui : Option Str} {h : Str} {port : Option Str} {path s : Str}
    (hd : Decoyed ui h port path) (hp : PathOK path) (hs : Spelling (authority ui h port ++ path) s) :
    (∃ b, is_shortened_url special puny homes shorteners s = .ok b ∧
      (b = true ↔ is_homepage_path homes path = false ∧
        (is_l_shortened_domain ⟨some (lower h), path⟩ = true ∨
          ∃ d ∈ shorteners,
            tokenizeHostname special puny d <+: tokenizeHostname special puny (lower h)))) ∧
    (∃ b, should_resolve special puny homes shorteners extra s = .ok b ∧
      (b = true ↔ is_homepage_path homes path = false ∧
        (is_l_shortened_domain ⟨some (lower h), path⟩ = true ∨
          ∃ d ∈ shorteners ++ extra,
            tokenizeHostname special puny d <+: tokenizeHostname special puny (lower h)))) := by
  have hl : lower h ≠ [] := fun e => hd.host_ne (lower_eq_nil.1 e)
  have hparts := parts_spelling_path hd hp hs
  constructor
  · refine ⟨_, by simp only [is_shortened_url, hparts, shortenedWith_o]; rfl, ?_⟩
    exact shortened_spec special puny homes shorteners (lower h) path hl
  · refine ⟨_, by simp only [should_resolve, hparts, shortenedWith_o]; rfl, ?_⟩
    exact should_resolve_spec special puny homes shorteners extra (lower h) path hl

/-- **a bare domain is flagged by neither, in all four spellings**: `[userinfo@]host[:port]`
and the same followed by `/`, given with `http://`, `https://`, `//` or bare -/
theorem bare_domain_spellings_not_flagged (special : Str → Bool) (puny : Str → Str)
    (homes : List Str) (hhome : homes.contains [] = true) (shorteners extra : List Str)
    (ui : Option Str) (h : Str) (port : Option Str) (tail s : Str)
    (hui : ∀ u, ui = some u → ∀ c ∈ u, authChar c = true)
    (hh : ∀ c ∈ h, hostChar c = true)
    (hport : ∀ p, port = some p → ∀ c ∈ p, (authChar c && c != '@') = true)
    (ht : tail = [] ∨ tail = ['/']) (hs : Spelling (authority ui h port ++ tail) s) :
    is_shortened_url special puny homes shorteners s = .ok false ∧
    should_resolve special puny homes shorteners extra s = .ok false := by
  have hpo : PathOK tail := ht.imp id fun e => ⟨[], e, by simp, by simp, by simp⟩
  obtain ⟨_, hp, hpath⟩ := parts_authority ui h port tail hui hh hport hpo.tailOK
  have hb := bare_domain_not_flagged special puny homes hhome shorteners extra
    (if lower h = [] then none else some (lower h)) tail ht
  simp only [is_shortened_url, should_resolve, parts_spelling hs, hp, hpath hpo, shortenedWith_o]
  exact ⟨congrArg Except.ok hb.1, congrArg Except.ok hb.2⟩


/-- **a bare domain, as a URL**: `http://[userinfo@]host[:port]` and the same followed by `/`
are flagged by neither shortener predicate, whatever the host and the lists -/
theorem bare_domain_url_not_flagged (special : Str → Bool) (puny : Str → Str)
    (homes : List Str) (hhome : homes.contains [] = true) (shorteners extra : List Str)
    (ui : Option Str) (h : Str) (port : Option Str) (tail : Str)
    (hui : ∀ u, ui = some u → ∀ c ∈ u, authChar c = true)
    (hh : ∀ c ∈ h, hostChar c = true)
    (hport : ∀ p, port = some p → ∀ c ∈ p, (authChar c && c != '@') = true)
    (ht : tail = [] ∨ tail = ['/']) :
    is_shortened_url special puny homes shorteners ("http://".toList ++ (authority ui h port ++ tail))
      = .ok false ∧
    should_resolve special puny homes shorteners extra ("http://".toList ++ (authority ui h port ++ tail))
      = .ok false :=
  bare_domain_spellings_not_flagged special puny homes hhome shorteners extra ui h port tail _
    hui hh hport ht .http

/-- non-vacuity of the end-to-end theorems: the hypotheses hold of a URL with site domains in
the userinfo, the path, the query and the fragment; all four spellings apply (the bare one
because `u:p@…` does not start with a protocol) -/
example :
    Decoyed (some "twitter.com:x.facebook.com".toList) "WWW.Evil.COM".toList (some "80".toList)
      "/@t.me/facebook.com?u=bit.ly#youtube.com".toList ∧
    protoLen (authority (some "twitter.com:x.facebook.com".toList) "WWW.Evil.COM".toList (some "80".toList)
      ++ "/@t.me/facebook.com?u=bit.ly#youtube.com".toList) = none ∧
    authority (some "twitter.com:x.facebook.com".toList) "WWW.Evil.COM".toList (some "80".toList)
      = "twitter.com:x.facebook.com@WWW.Evil.COM:80".toList := by
  simp only [toList_lit]
  refine ⟨⟨?_, by decide +kernel, by decide +kernel, ?_, Or.inr ⟨'/', _, rfl, rfl⟩⟩,
    by decide +kernel, by decide +kernel⟩
  · intro u hu; cases hu; decide +kernel
  · intro p hp; cases hp; decide +kernel

example : is_twitter_url "//u@Mobile.X.com:443?x=facebook.com".toList = true ∧
    is_twitter_url "https://twitter.com.evil.fr/x.com".toList = false := by
  simp only [toList_lit]
  decide +kernel

/-- non-vacuity of the decoy theorem's hypotheses, and the forms on a concrete URL -/
example :
    (∀ c ∈ "a@twitter.com:x.facebook.com".toList, authChar c = true) ∧
    (∀ c ∈ "Evil.COM".toList, hostChar c = true) ∧
    TailOK "/@t.me?u=bit.ly#youtube.com".toList ∧
    get_hostname "http://a@twitter.com:x.facebook.com@Evil.COM:80/@t.me?u=bit.ly#youtube.com".toList
      = some "evil.com".toList ∧
    parts "//u@Bit.ly:8080/abc?x#y".toList = some ⟨some "bit.ly".toList, "/abc".toList⟩ ∧
    parts "u@Bit.ly:8080/abc?x#y".toList = some ⟨some "bit.ly".toList, "/abc".toList⟩ ∧
    protoLen "u@Bit.ly:8080/abc?x#y".toList = none := by
  simp only [toList_lit]
  refine ⟨by decide +kernel, by decide +kernel, Or.inr ⟨'/', _, rfl, rfl⟩, ?_⟩
  decide +kernel

/-- a two-entry shortener list, one extra should-resolve domain, no special host, no punycode -/
def demoShorteners : List Str := ["bit.ly".toList, "youtu.be".toList]
def demoExtra : List Str := ["doi.org".toList]
def noSpecial : Str → Bool := fun _ => false
def noPuny : Str → Str := fun l => l

/-- non-vacuity for the trie-based predicates and the path predicates, on small lists -/
example :
    is_shortened_url noSpecial noPuny homepagePaths demoShorteners "http://bit.ly/abc".toList = .ok true ∧
    is_shortened_url noSpecial noPuny homepagePaths demoShorteners "http://www.BIT.ly/a/b?u=x".toList = .ok true ∧
    is_shortened_url noSpecial noPuny homepagePaths demoShorteners "bit.ly".toList = .ok false ∧
    is_shortened_url noSpecial noPuny homepagePaths demoShorteners "http://bit.ly/index.html".toList = .ok false ∧
    is_shortened_url noSpecial noPuny homepagePaths demoShorteners "http://rabbit.ly/abc".toList = .ok false ∧
    is_shortened_url noSpecial noPuny homepagePaths demoShorteners "http://doi.org/abc".toList = .ok false ∧
    should_resolve noSpecial noPuny homepagePaths demoShorteners demoExtra "http://doi.org/abc".toList = .ok true ∧
    is_shortened_url noSpecial noPuny homepagePaths demoShorteners "http://l.example.org/abcd".toList = .ok true ∧
    is_youtube_url noSpecial noPuny demoShorteners "http://youtu.be/x#bit.ly".toList = true ∧
    is_youtube_url noSpecial noPuny demoShorteners "http://evil.com/youtu.be".toList = false := by
  unfold demoShorteners demoExtra
  simp only [toList_lit]
  decide +kernel

example :
    is_homepage homepagePaths "http://a.com/index.php?x=1".toList = .ok true ∧
    is_homepage homepagePaths "http://index/a".toList = .ok false ∧
    could_be_html htmlLikeExtensions "http://a.html/x.pdf".toList = .ok false ∧
    could_be_html htmlLikeExtensions "http://a.pdf/x.html?y=z.pdf".toList = .ok true ∧
    has_special_host "http://localhost:80/1.2.3.4".toList = .ok true ∧
    has_special_host "http://localhostcert.net/".toList = .ok false ∧
    has_special_host "/x".toList = .error .typeError := by
  simp only [toList_lit]
  decide +kernel

end Ural.Props.C18
