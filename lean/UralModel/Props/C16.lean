import UralModel.Lemmas.IsUrl
import UralModel.Lemmas.UrlsFromText
import UralModel.Lemmas.ReLang
import UralModel.Lemmas.UrlPattern
import UralModel.Model.LinksConcrete
import UralModel.Lemmas.StrLit
/-!
# C16 — is_url options are monotone; urls_from_text yields genuine URLs of the text

All statements are about the models `IsUrl.is_url`
(`Model/IsUrl.lean`) and `UrlsFromText.urls_from_text` (`Model/UrlsFromText.lean`) running the
**regenerated** regex terms of `Gen/Patterns.lean`, for *all* strings, all 16 option settings,
every `Env` (what `urlsplit(...).hostname` answers, which labels are TLDs).

The theorems depend on the generated terms only through the *table obligations* of the first
section (each re-checked by `decide` after every regeneration).
-/
namespace Ural.Props.C16
open Ural.Py Ural.Py.Re Ural.Py.Re.Extra Ural.Gen.Patterns Ural.IsUrl Ural.UrlsFromText

/-! ## table obligations on the regenerated patterns -/

/-- the protocol part `(?:[a-zA-Z]{1,64}:)?//` (compiled `re.I`), read off
`URL_RE = ^(?:PROTOCOL)?…$`.  Note that the bare `//` is a word of it. -/
def protoRe : Re :=
  match spine URL_RE with
  | _ :: .rep p _ _ _ :: _ => p
  | _ => .empty

/-- everything after the protocol in `URL_RE` (userinfo, host, port, path, `$`) -/
def bodyL : List Re := (spine URL_RE).drop 2

/-- the same for `RELAXED_URL_RE` -/
def relaxedBodyL : List Re := (spine RELAXED_URL_RE).drop 2

/-- the class of the scheme letters inside `protoRe` -/
def protoLetters : CharClass := clsOf (repBody (seqL (repBody (seqL protoRe))))

/-- the code points `[a-zA-Z]` stands for under `re.IGNORECASE | re.UNICODE`: the ASCII
letters and the four characters case folding maps onto ASCII letters — U+0130 `İ`, U+0131 `ı`
(fold to `i`), U+017F `ſ` (folds to `s`), U+212A `K` (folds to `k`) -/
def schemeLetterCodes : List Nat :=
  (List.range 26).map (· + 65) ++ (List.range 26).map (· + 97) ++ [0x130, 0x131, 0x17F, 0x212A]

/-- a scheme letter of the in-text / `is_url` patterns: ASCII letter, or one of `İ ı ſ K` -/
def isSchemeLetterI (c : Char) : Bool := schemeLetterCodes.contains c.toNat

/-- the protocol part IS `(?:[L]{1,64}:)?//` with `L` inside the scheme letters above -/
theorem proto_shape :
    protoRe = .seq (opt (.seq (.rep (.cls protoLetters) 1 (some 64) true) (.cls (CharClass.single ':'))))
      (.seq (.cls (CharClass.single '/')) (.cls (CharClass.single '/'))) ∧
    protoLetters.within schemeLetterCodes = true := by decide +kernel

/-- `URL_RE` is `^ (PROTOCOL)? BODY` -/
theorem shape_url : spine URL_RE = .bos :: opt protoRe :: bodyL ∧
    spine RELAXED_URL_RE = .bos :: opt protoRe :: relaxedBodyL := by decide +kernel

/-- `URL_WITH_PROTOCOL_RE` is `^ PROTOCOL BODY` with the same `PROTOCOL` and `BODY` -/
theorem shape_url_with_protocol :
    spine URL_WITH_PROTOCOL_RE = .bos :: (spine protoRe ++ bodyL) ∧
    spine RELAXED_URL_WITH_PROTOCOL_RE = .bos :: (spine protoRe ++ relaxedBodyL) := by decide +kernel

/-- `RELAXED_URL_RE` is `URL_RE` with some character classes widened -/
theorem shape_relaxed_url : sub URL_RE RELAXED_URL_RE = true := by decide +kernel

theorem shape_relaxed_url_with_protocol :
    sub URL_WITH_PROTOCOL_RE RELAXED_URL_WITH_PROTOCOL_RE = true := by decide +kernel

/-- `URL_WITH_PROTOCOL_RE` is `^ URL_IN_TEXT_RE $` -/
theorem shape_in_text : spine URL_WITH_PROTOCOL_RE = .bos :: spine URL_IN_TEXT_RE ++ [.eos] := by
  decide +kernel

/-- no repetition body of the patterns can match the empty string: the executable matcher is
complete on them -/
theorem patterns_noNullRep :
    noNullRep URL_RE = true ∧ noNullRep URL_WITH_PROTOCOL_RE = true ∧
    noNullRep RELAXED_URL_RE = true ∧ noNullRep RELAXED_URL_WITH_PROTOCOL_RE = true ∧
    noNullRep HTTP_PROTOCOL_RE = true ∧ noNullRep PROTOCOL_RE = true ∧
    noNullRep SPECIAL_HOSTS_RE = true ∧ noNullRep URL_IN_TEXT_RE = true := UrlPattern.all_noNullRep

theorem url_with_protocol_noNullRep : noNullRep URL_WITH_PROTOCOL_RE = true := patterns_noNullRep.2.1

theorem in_text_anchorFree : anchorFree URL_IN_TEXT_RE = true ∧ anchorFree protoRe = true := by
  decide +kernel

theorem in_text_not_nullable : nullable URL_IN_TEXT_RE = false := by decide +kernel

/-- no character class of the in-text pattern contains a `str.isspace` character -/
theorem in_text_no_whitespace_class :
    allCls (fun C => C.avoids spaceCodes) URL_IN_TEXT_RE = true := by
  -- range against range, as in `UrlPattern.class_facts`
  let R : List (Nat × Nat) := [(9, 13), (28, 32), (133, 133), (160, 160), (5760, 5760), (8192, 8202),
    (8232, 8233), (8239, 8239), (8287, 8287), (12288, 12288)]
  have hs : spaceCodes.all (CharClass.inRanges R) = true := by decide +kernel
  have h : allCls (fun C => C.sub ⟨true, R⟩) URL_IN_TEXT_RE = true := by decide +kernel
  exact allCls_imp (fun _ h => CharClass.avoids_of_sub h hs) h

/-- `\s` of `re` and `str.isspace` of the running interpreter are the 29 code points of
`Py.spaceCodes` -/
theorem re_space_is_str_space : reSpaceCodes = spaceCodes ∧ strSpaceCodes = spaceCodes := by
  decide +kernel

/-! ## the matcher decides the denotational semantics on the generated patterns -/

theorem pattern_noNullRep (o : Opts) : noNullRep (pattern o) = true := by
  obtain ⟨h1, h2, h3, h4, _⟩ := patterns_noNullRep
  unfold pattern
  split <;> split <;> assumption

/-- `pattern.match(s) is not None` ⇔ `s` has a prefix-match in the denotational semantics, for
the four `is_url` patterns (the same holds for the others by `Re.pyMatch_iff`) -/
theorem accepts_iff_pyMatch (o : Opts) (s : Str) : pyMatch (pattern o) s = true ↔ Accepts (pattern o) s :=
  pyMatch_iff (pattern_noNullRep o) s

/-- `fullmatch` decides the language of each generated `is_url` pattern -/
theorem fullmatch_iff_lang (o : Opts) (s : Str) : fullmatch (pattern o) s = true ↔ Lang (pattern o) s :=
  fullmatch_iff (pattern_noNullRep o) s

/-! ## is_url -/

/-- the pattern used with `require_protocol=True` accepts nothing the pattern used with
`require_protocol=False` rejects -/
theorem pattern_mono_require_protocol (o : Opts) (s : Str)
    (h : pyMatch (pattern { o with require_protocol := true }) s = true) :
    pyMatch (pattern { o with require_protocol := false }) s = true := by
  rw [accepts_iff_pyMatch] at *
  obtain ⟨u1, u2⟩ := shape_url
  obtain ⟨w1, w2⟩ := shape_url_with_protocol
  cases hsp : o.allow_spaces_in_path <;> simp only [pattern, hsp, if_true] at * <;>
    simp only [Bool.false_eq_true, if_false] at *
  · exact accepts_opt_of_spine w1 u1 h
  · exact accepts_opt_of_spine w2 u2 h

/-- the pattern used with `allow_spaces_in_path=False` accepts nothing the relaxed one rejects -/
theorem pattern_mono_spaces (o : Opts) (s : Str)
    (h : pyMatch (pattern { o with allow_spaces_in_path := false }) s = true) :
    pyMatch (pattern { o with allow_spaces_in_path := true }) s = true := by
  rw [accepts_iff_pyMatch] at *
  cases hrp : o.require_protocol <;> simp only [pattern, hrp, if_true] at * <;>
    simp only [Bool.false_eq_true, if_false] at *
  · exact h.mono shape_relaxed_url
  · exact h.mono shape_relaxed_url_with_protocol

/-- **monotone in `require_protocol`**: accepted with `require_protocol=True` ⇒ accepted with
`require_protocol=False`, all other options equal -/
theorem isurl_mono_require_protocol (env : Env) (s : Str) (o : Opts)
    (h : is_url env s { o with require_protocol := true } = .ok true) :
    is_url env s { o with require_protocol := false } = .ok true := by
  rw [is_url_true_iff] at *
  obtain ⟨h1, _, h3, h4⟩ := h
  exact ⟨h1, by simp, pattern_mono_require_protocol o _ h3, h4⟩

/-- **monotone in `allow_spaces_in_path`**: accepted with `allow_spaces_in_path=False` ⇒
accepted with `allow_spaces_in_path=True` -/
theorem isurl_mono_spaces (env : Env) (s : Str) (o : Opts)
    (h : is_url env s { o with allow_spaces_in_path := false } = .ok true) :
    is_url env s { o with allow_spaces_in_path := true } = .ok true := by
  rw [is_url_true_iff] at *
  obtain ⟨h1, h2, h3, h4⟩ := h
  exact ⟨h1, h2, pattern_mono_spaces o _ h3, h4⟩

/-- **monotone in `tld_aware`**: accepted with `tld_aware=True` ⇒ accepted with
`tld_aware=False` -/
theorem isurl_mono_tld (env : Env) (s : Str) (o : Opts)
    (h : is_url env s { o with tld_aware := true } = .ok true) :
    is_url env s { o with tld_aware := false } = .ok true := by
  rw [is_url_true_iff] at *
  obtain ⟨h1, h2, h3, _⟩ := h
  exact ⟨h1, h2, h3, by simp⟩

/-- **monotone in `only_http_https`**: accepted with `only_http_https=True` ⇒ accepted with
`only_http_https=False` -/
theorem isurl_mono_http (env : Env) (s : Str) (o : Opts)
    (h : is_url env s { o with only_http_https := true } = .ok true) :
    is_url env s { o with only_http_https := false } = .ok true := by
  rw [is_url_true_iff] at *
  obtain ⟨h1, _, h3, h4⟩ := h
  exact ⟨h1, by simp, h3, h4⟩

/-- **the answer ignores surrounding whitespace** (any of the 29 `str.isspace` characters,
`\n` and NBSP included) -/
theorem isurl_strip_invariant (env : Env) (s l r : Str) (o : Opts)
    (hl : ∀ c ∈ l, isSpace c = true) (hr : ∀ c ∈ r, isSpace c = true) :
    is_url env (l ++ s ++ r) o = is_url env s o := by
  simp only [is_url, strip_wrap s hl hr]

/-- **with `tld_aware`, a non-special host is accepted only if its last label is a known
TLD**: when `is_url(…, tld_aware=True)` answers `True`, the parser found a non-empty hostname
for the stripped string and either `SPECIAL_HOSTS_RE` matches it or `is_valid_tld` holds of
its last label -/
theorem isurl_tld_sound (env : Env) (s : Str) (o : Opts) (ht : o.tld_aware = true)
    (h : is_url env s o = .ok true) :
    ∃ host, env.hostname (strip s) = .ok (some host) ∧ host ≠ [] ∧
      (pyMatch SPECIAL_HOSTS_RE host = true ∨ env.validTld (lastLabel host) = true) :=
  (tldCheck_iff env _).mp (((is_url_true_iff env s o).mp h).2.2.2 ht)

/-- **is_url never raises** (given that `urlsplit` raises nothing but the `ValueError` the code
catches) -/
theorem isurl_total (env : Env) (hsplit : ∀ s e, env.hostname s = .error e → e = .valueError)
    (s : Str) (o : Opts) : ∃ b, is_url env s o = .ok b := by
  have hret : ∀ (c : Prop) [Decidable c] (r : Except Err Bool), (¬ c → ∃ b, r = .ok b) →
      ∃ b, (if c then .ok false else r) = .ok b := by
    intro c _ r h
    split
    · exact ⟨_, rfl⟩
    · exact h ‹_›
  simp only [is_url]
  refine hret _ _ fun _ => hret _ _ fun _ => hret _ _ fun _ => ?_
  split
  · simp only [tldCheck]
    split
    · exact ⟨_, rfl⟩
    · rename_i e hne hh
      exact absurd (hsplit _ _ hh) (by intro he; subst he; exact hne rfl)
    · rename_i host hh
      refine hret _ _ fun hn => ?_
      cases host with
      | none => exact absurd rfl hn
      | some h => split <;> exact ⟨_, rfl⟩
  · exact ⟨_, rfl⟩

/-! ### the parser instantiated

`Env.hostname` stands for `safe_urlsplit(string).hostname` and carries ONE exception channel,
while in is_url.py only `safe_urlsplit(string)` sits inside the `try … except ValueError`
(`.hostname`, `has_valid_tld(parsed)` — which calls `safe_urlsplit` again, on the
`SplitResult`, a no-op — and `is_special_host` are outside it).  The model therefore treats a
`ValueError` from any of these as caught.  This is harmless for CPython: `SplitResult.hostname`
never raises (only `.port` does).  Likewise `Env.validTld : Str → Bool` is a total function:
`is_valid_tld` is assumed to raise nothing (its one fallible step, the idna codec, is wrapped
in `try … except UnicodeError` by `attempt_to_decode_idna`).  Both are named in `ASSUMPTIONS`.
With the parser model of `Model/LinksConcrete.lean` put in (`safeHostname`: `PROTOCOL_RE.match`
? string : `"http://" + string`, `Py.urlsplit`, `Py.hostname`) the hypothesis of `isurl_total`
is discharged and `isurl_tld_sound` speaks of that concrete hostname: -/

theorem safeHostname_error {s : Str} {e : Err} (h : Ural.Html.safeHostname s = .error e) :
    e = .valueError := by
  unfold Ural.Html.safeHostname at h
  generalize (if pyMatch PROTOCOL_RE s = true then s else "http://".toList ++ s) = url at h
  dsimp only at h
  split at h
  · exact (Except.error.inj h).symm
  · cases h

/-- **is_url never raises**, the parser being the model of `safe_urlsplit(…).hostname`: no
hypothesis left (all strings, all 16 option settings, every TLD table) -/
theorem isurl_total_concrete (W : Ural.Html.World) (s : Str) (o : Opts) :
    ∃ b, is_url (Ural.Html.isUrlEnv W) s o = .ok b := by
  refine isurl_total (Ural.Html.isUrlEnv W) (fun s e he => ?_) s o
  simp only [Ural.Html.isUrlEnv] at he
  exact safeHostname_error he

/-- **tld_aware, with the concrete parser**: when `is_url(…, tld_aware=True)` answers `True`,
the parser model finds a non-empty hostname in the stripped string (after `http://` was put in
front of a string without protocol) and either `SPECIAL_HOSTS_RE` matches it or its last label
is a known TLD -/
theorem isurl_tld_sound_concrete (W : Ural.Html.World) (s : Str) (o : Opts) (ht : o.tld_aware = true)
    (h : is_url (Ural.Html.isUrlEnv W) s o = .ok true) :
    ∃ host, Ural.Html.safeHostname (strip s) = .ok (some host) ∧ host ≠ [] ∧
      (pyMatch SPECIAL_HOSTS_RE host = true ∨ W.validTld (lastLabel host) = true) := by
  simpa only [Ural.Html.isUrlEnv] using isurl_tld_sound (Ural.Html.isUrlEnv W) s o ht h

/-- a world for the examples: the idna codec fails on every label, `com` is the only TLD -/
def exampleWorld : Ural.Html.World := ⟨id, fun l => l == "com".toList⟩

/-- non-vacuity (the kernel runs the regenerated pattern, the parser model and the accessor):
`http://www.A.com:80/x` is accepted with `com` a TLD, its hostname is `www.a.com`;
`http://a.zz` is refused; `http://127.0.0.1:8000` is accepted as a special host -/
example :
    (is_url (Ural.Html.isUrlEnv exampleWorld) " http://www.A.com:80/x".toList { tld_aware := true }).toOption
      = some true ∧
    (Ural.Html.safeHostname "http://www.A.com:80/x".toList).toOption = some (some "www.a.com".toList) ∧
    (is_url (Ural.Html.isUrlEnv exampleWorld) "http://a.zz".toList { tld_aware := true }).toOption = some false ∧
    (is_url (Ural.Html.isUrlEnv exampleWorld) "http://127.0.0.1:8000".toList { tld_aware := true }).toOption
      = some true := by
  unfold exampleWorld
  simp only [toList_lit]
  decide +kernel

/-- non-vacuity of the monotonicity statements: `http://a.com/x y` is accepted only with
spaces allowed, `a.com` only without mandatory protocol, `ftp://a.com` only without the
http restriction -/
example :
    (is_url Env.trivial "http://a.com/x y".toList { allow_spaces_in_path := true }).toOption = some true ∧
    (is_url Env.trivial "http://a.com/x y".toList {}).toOption = some false ∧
    (is_url Env.trivial " a.com\n".toList { require_protocol := false }).toOption = some true ∧
    (is_url Env.trivial "a.com".toList {}).toOption = some false ∧
    (is_url Env.trivial "ftp://a.com".toList { only_http_https := false }).toOption = some true ∧
    (is_url Env.trivial "ftp://a.com".toList {}).toOption = some false := by
  simp only [toList_lit]
  decide +kernel

/-- non-vacuity of the tld statements: with `zz` unknown and `com` known, `http://a.zz` is
rejected, `http://a.com` and the special host `http://localhost` are accepted; a host-less
parse is rejected, not a `TypeError` -/
def exampleEnv : Env :=
  ⟨fun s => if s = "http://a.zz".toList then .ok (some "a.zz".toList)
    else if s = "http://a.com".toList then .ok (some "a.com".toList)
    else if s = "http://localhost".toList then .ok (some "localhost".toList)
    else if s = "http://[@a.com".toList then .error .valueError
    else .ok none, fun l => l == "com".toList⟩

example :
    (is_url exampleEnv "http://a.zz".toList { tld_aware := true }).toOption = some false ∧
    (is_url exampleEnv "http://a.com".toList { tld_aware := true }).toOption = some true ∧
    (is_url exampleEnv "http://localhost".toList { tld_aware := true }).toOption = some true ∧
    (is_url exampleEnv "http://[@a.com".toList { tld_aware := true }).toOption = some false ∧
    (is_url exampleEnv "http:///x@a.com".toList { tld_aware := true }).toOption = some false := by
  unfold exampleEnv
  simp only [toList_lit]
  decide +kernel

/-! ## urls_from_text -/

/-- the table obligations `urls_from_text` rests on -/
theorem pattern_facts : PatternFacts :=
  ⟨in_text_not_nullable, in_text_no_whitespace_class, in_text_anchorFree.1, shape_in_text,
    url_with_protocol_noNullRep⟩

/-- **urls_from_text never raises** (in particular no `IndexError` in the trimming loop on a
markdown link without target) -/
theorem yield_total (text : Str) : ∃ ys, urls_from_text text = .ok ys := by
  obtain ⟨ys, h, _⟩ := urls_from_text_spec pattern_facts text
  exact ⟨ys, h⟩

/-- **every yield is a substring of the text and the yields come in order of appearance**: the
text is `a₁ ++ y₁ ++ a₂ ++ y₂ ++ … ++ aₖ₊₁` (disjoint occurrences, in this order), also for the
two halves of a markdown link -/
theorem yield_substring_in_order (text : Str) (ys : List Str) (h : urls_from_text text = .ok ys) :
    InOrder ys text ∧ ∀ y ∈ ys, ∃ a b, text = a ++ y ++ b := by
  have ho := (urls_from_text_good pattern_facts h).1
  exact ⟨ho, ho.mem_substring⟩

/-- **every yield is non-empty and has no surrounding whitespace** (`y == y.strip()`) -/
theorem yield_nonempty_no_ws (text : Str) (ys : List Str) (h : urls_from_text text = .ok ys) :
    ∀ y ∈ ys, y ≠ [] ∧ strip y = y := by
  have hg := (urls_from_text_good pattern_facts h).2
  exact fun y hy => ⟨(hg y hy).1, (hg y hy).2.1⟩

/-- **every yield is accepted by `is_url(require_protocol=True, only_http_https=False)`**, also
the two halves of a markdown link and what is left after trimming trailing punctuation -/
theorem yield_is_url (text : Str) (ys : List Str) (h : urls_from_text text = .ok ys) :
    ∀ y ∈ ys, ∀ env, is_url env y { require_protocol := true, only_http_https := false } = .ok true := by
  intro y hy env
  have := ((urls_from_text_good pattern_facts h).2 y hy).2.2
  rw [is_url_no_tld _ _ _ rfl]
  simp only [isUrlPB, Bool.and_eq_true, Bool.not_eq_true'] at this
  simp [pattern, this.1, this.2]

/-- **the words of the protocol part, explicitly**: `//` alone, or 1 to 64 scheme letters
followed by `://` -/
theorem lang_proto {p : Str} (h : Lang protoRe p) :
    p = "//".toList ∨
    ∃ w, p = w ++ "://".toList ∧ 1 ≤ w.length ∧ w.length ≤ 64 ∧ ∀ c ∈ w, isSchemeLetterI c = true := by
  rw [proto_shape.1, lang_seq_iff rfl rfl] at h
  simp only [lang_opt_iff, lang_run_cls_iff, lang_seq_iff (p := .cls (CharClass.single '/'))
    (q := .cls (CharClass.single '/')) rfl rfl, lang_cls_iff, CharClass.mem_single,
    Option.some.injEq, forall_eq'] at h
  obtain ⟨a, _, rfl, ha, _, _, rfl, ⟨_, rfl, rfl⟩, _, rfl, rfl⟩ := h
  rcases ha with rfl | ⟨w, _, rfl, ⟨hw, hlo, hhi⟩, rfl⟩
  · exact Or.inl rfl
  · exact Or.inr ⟨w, by simp, hlo, hhi, fun c hc => by
      simpa [isSchemeLetterI] using within_sound proto_shape.2 (hw c hc)⟩

/-- **every yield carries a protocol** (abstract form): it starts with a word of the protocol
part `(?:[a-zA-Z]{1,64}:)?//` of the patterns; what these words are is `lang_proto`, and the
explicit statement is `yield_has_scheme_or_relative` -/
theorem yield_has_protocol (text : Str) (ys : List Str) (h : urls_from_text text = .ok ys) :
    ∀ y ∈ ys, ∃ p b, y = p ++ b ∧ Lang protoRe p := by
  intro y hy
  obtain ⟨_, hs, hu⟩ := (urls_from_text_good pattern_facts h).2 y hy
  simp only [isUrlPB, hs, Bool.and_eq_true] at hu
  exact prefix_of_spine shape_url_with_protocol.1 in_text_anchorFree.2 (pyMatch_sound hu.2)

/-- **every yield carries a protocol, explicitly**: every URL yielded by `urls_from_text`
either is scheme-relative — it starts with `//` (the "protocol" of ural's patterns includes the
bare `//`: `urls_from_text("x //a.com y")` yields `//a.com`) — or starts with a scheme of 1 to
64 letters followed by `://`, a letter being an ASCII letter or, because the patterns are
compiled with `re.I`, one of `İ ı ſ K` (U+0130, U+0131, U+017F, U+212A). -/
theorem yield_has_scheme_or_relative (text : Str) (ys : List Str) (h : urls_from_text text = .ok ys) :
    ∀ y ∈ ys,
      (∃ b, y = "//".toList ++ b) ∨
      (∃ w b, y = w ++ "://".toList ++ b ∧ 1 ≤ w.length ∧ w.length ≤ 64 ∧
        ∀ c ∈ w, isSchemeLetterI c = true) := by
  intro y hy
  obtain ⟨p, b, rfl, hp⟩ := yield_has_protocol text ys h y hy
  rcases lang_proto hp with rfl | ⟨w, rfl, h1, h2, h3⟩
  · exact Or.inl ⟨b, rfl⟩
  · exact Or.inr ⟨w, b, rfl, h1, h2, h3⟩

/-- both alternatives occur, and the non-ASCII scheme letters too (as on the real code) -/
example :
    (urls_from_text "x //a.com y".toList).toOption = some ["//a.com".toList] ∧
    (urls_from_text "x \u017fttp://a.com y".toList).toOption = some ["\u017fttp://a.com".toList] ∧
    isSchemeLetterI '\u017f' = true ∧ isSchemeLetterI 'z' = true ∧ isSchemeLetterI '1' = false := by
  simp only [toList_lit]
  decide +kernel

/-- non-vacuity: a text with punctuation after a url, a complete markdown link whose first half
is a url, a truncated one, a non-url half, and a TLD made of an ellipsis that trimming would
cut into -/
example :
    (urls_from_text "see http://a.com/x). and [http://b.org/](http://c.fr/y)…".toList).toOption =
      some ["http://a.com/x".toList, "http://b.org/".toList, "http://c.fr/y".toList] ∧
    (urls_from_text "[http://a.com/](".toList).toOption = some ["http://a.com/".toList] ∧
    (urls_from_text "[http://a.com/a](b c)".toList).toOption = some ["http://a.com/a".toList] ∧
    (urls_from_text "http://a.c…".toList).toOption = some [] := by
  simp only [toList_lit]
  decide +kernel

end Ural.Props.C16
