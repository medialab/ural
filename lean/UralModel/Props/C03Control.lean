import UralModel.Lemmas.StrLit
import UralModel.Lemmas.C03Control
import UralModel.Lemmas.CanonIdem
import UralModel.Props.C01Whole
import UralModel.Model.Normalize
import UralModel.Gen.C03Classes
/-!
# C03 — the string level: cleaning the canonical form changes nothing

`normalize_url(canonicalize_url(u))` *cleans* the printed canonical form before parsing it
(`CONTROL_CHARS_RE.sub("", …)`, `str.strip()`, `upper_quoted`).  The component theorems of
`Props/C03.lean` start from the parse; what carries them across the string level is one
invariant, consulted by two steps of the pipeline in two different tables:

> every character the cleaning pass deletes — class of `CONTROL_CHARS_RE` anywhere, white
> space of `str.strip` at the ends — is one the safe unquoters keep escaped (or escape again).

Here it is (1) a **table obligation** over the regenerated classes (`Gen/C03Classes.lean`: the
code points the compiled `CONTROL_CHARS_RE` / `NON_PRINTABLE_RE` match and the running
interpreter's `str.strip` removes, as sorted ranges; the flags of the four
`safely_unquote_*` partials), decided on the finite list of ranges and lifted to every code point
by `C03Control.subRanges_sound`; (2) used: the printed result of `canonicalize_url` holds no
character of either class, for every input string, both modes — except white space that was raw
in the parsed hostname (the one component that is not unquoted), which never ends the printed
string (/repo 16f182c) —, so the cleaning pass of the next call is the identity on it
(`clean_canonical`, full strength).
-/
namespace Ural.Props.C03
open Ural Ural.Py Ural.UrlParts Ural.Quote Ural.Canonicalize Ural.UrlRoundTrip Ural.CanonRoundTrip
  Ural.CanonIdem Ural.C03Control

/-! ## table obligations (regenerated on every run) -/

/-- the regenerated configurations of the four `safely_unquote_*` partials
(`[is partial of unquote, only_printable, normalize_space, lossless, unsafe is …, no other keyword]`) -/
def partialsFlags : List (List Bool) :=
  [Gen.Quote.authItemFlags, Gen.Quote.pathFlags, Gen.Quote.queryItemFlags, Gen.Quote.fragmentFlags]

/-- all four are `partial(unquote, only_printable=True, …)` -/
def onlyPrintable : Bool := partialsFlags.all fun f => f.getD 0 false && f.getD 1 false
/-- all four are `partial(unquote, normalize_space=True, …)` -/
def normalizeSpace : Bool := partialsFlags.all fun f => f.getD 0 false && f.getD 2 false

/-- what the safe unquoters keep escaped, from the regenerated tables: C0 controls and DEL
(`only_printable`), the class of `NON_PRINTABLE_RE`, the space (`normalize_space`) -/
def escRanges : List (Nat × Nat) :=
  escRangesOf onlyPrintable normalizeSpace Gen.C03.nonPrintableRanges

/-- `c` is in the class of `CONTROL_CHARS_RE` (regenerated) -/
def inControlClass (c : Nat) : Bool := inRanges Gen.C03.controlRanges c
/-- `str.strip()` removes `c` (regenerated from the running interpreter) -/
def inStripClass (c : Nat) : Bool := inRanges Gen.C03.stripRanges c
/-- an escape of `c` is not decoded to the raw character by any `safely_unquote_*`, and a raw `c`
is not handed out raw unless it is a C0 control or DEL (regenerated) -/
def staysEscaped (c : Nat) : Bool := inRanges escRanges c

/-- **table obligation**: every code point `CONTROL_CHARS_RE` deletes stays escaped in the safe
unquoters.  (Widening the cleaning class without the decoder following — zero-width space, word
joiner, BOM … — breaks this: the canonical form would hold the raw character, which the
cleaning pass of `normalize_url` then deletes, so `normalize_url(canonicalize_url(u)) ≠
normalize_url(u)`.) -/
theorem control_class_stays_escaped : ∀ c : Nat, inControlClass c = true → staysEscaped c = true :=
  subRanges_sound (xs := Gen.C03.controlRanges) (ys := escRanges) (by decide +kernel)

/-- **table obligation**: every code point `str.strip()` removes stays escaped in the safe
unquoters (FX-C03-5de5f5e, FX-C02-8d2b290 of `KNOWN_FINDINGS.json`: with `%E3%80%80` decoded, a URL ends in a
character `strip()` removes) -/
theorem strip_class_stays_escaped : ∀ c : Nat, inStripClass c = true → staysEscaped c = true :=
  subRanges_sound (xs := Gen.C03.stripRanges) (ys := escRanges) (by decide +kernel)

/-- **table obligation** (the model describes the code): the three hand-written classes of the
model — `isControlChar`, `Py.isSpace`, `Quote.staysEscaped` — are the regenerated ones, and both
regexes match one character at a time -/
theorem cleaning_classes_model :
    (∀ c : Char, isControlChar c = inRanges Gen.C03.controlRanges c.toNat) ∧
    (∀ c : Char, isSpace c = inRanges Gen.C03.stripRanges c.toNat) ∧
    (∀ c : Char, Quote.staysEscaped c = inRanges Gen.C03.nonPrintableRanges c.toNat) ∧
    Gen.C03.controlOneChar = true ∧ Gen.C03.nonPrintableOneChar = true := by
  refine ⟨fun c => ?_, fun c => ?_, fun c => ?_, by decide +kernel, by decide +kernel⟩
  · rw [isControlChar_eq]; exact inRanges_eq_of_sub (by decide +kernel) (by decide +kernel) _
  · rw [isSpace_eq]; exact inRanges_eq_of_sub (by decide +kernel) (by decide +kernel) _
  · rw [staysEscaped_eq]; exact inRanges_eq_of_sub (by decide +kernel) (by decide +kernel) _

/-! ### the other decisions two steps take from two different tables -/

/-- **table obligation**: what the re-parse of the printed canonical form cuts at stays escaped in
the component it would cut: `?` `#` (urlsplit), `/` (segments, `normpath`) and `%` in the path;
the separators of `safe_qsl_iter` (regenerated by probing the function: `&` between items, `=`
between key and value), `#` and `%` in a query key or value; `%` in the fragment; the delimiters
of the authority in user and password.  (The model's `safeQslIter` cuts at `&` and the first `=`.) -/
theorem reparse_separators_stay_escaped :
    (∀ b ∈ ([0x23, 0x3F, 0x2F, 0x25] : List UInt8), b ∈ Gen.Quote.unsafeForPath) ∧
    (∀ n ∈ Gen.C03.queryItemSeparators ++ Gen.C03.queryKeyValueSeparators ++ [0x23, 0x25],
      UInt8.ofNat n ∈ Gen.Quote.unsafeForQueryItem) ∧
    (0x25 : UInt8) ∈ Gen.Quote.unsafeForFragment ∧
    (∀ b ∈ ([0x40, 0x3A, 0x2F, 0x3F, 0x23, 0x5B, 0x5D, 0x25] : List UInt8),
      b ∈ Gen.Quote.unsafeForAuthItem) ∧
    Gen.C03.queryItemSeparators = [0x26] ∧ Gen.C03.queryKeyValueSeparators = [0x3D] := by
  decide +kernel

/-- **table obligation**: whatever CPython's `urlsplit` removes from the string it is handed
(tab, CR, LF anywhere; C0 controls and the space in front; probed on the running interpreter) the
cleaning pass has removed before — so the parser never changes a cleaned string behind ural's
back, and (with the two obligations above) the printed canonical form holds nothing it would remove -/
theorem parser_removals_are_cleaned :
    ∀ c : Nat, inRanges (Gen.C03.urlsplitRemovedRanges ++ Gen.C03.urlsplitStrippedStartRanges ++
        Gen.C03.urlsplitStrippedEndRanges) c = true →
      inControlClass c = true ∨ inStripClass c = true := by
  intro c hc
  have := subRanges_sound (ys := Gen.C03.controlRanges ++ Gen.C03.stripRanges) (by decide +kernel) c hc
  rw [inRanges_append, Bool.or_eq_true] at this
  exact this

def isLowerHex (c : Char) : Bool := 'a' ≤ c ∧ c ≤ 'f'

/-- **table obligation**: the three recognisers of an escape agree — on every `%ab` over a probe
alphabet (hex digits of both cases, letters and signs next to them) the decoder (`HEX_TO_BYTE`)
decodes it iff `safely_quote` (`QUOTED_RE`) keeps it as an escape iff `a`, `b` are hex digits (the
model's `tokens`); `upper_quoted` (`LOWERCASE_QUOTED_RE`) changes it iff it is an escape with a
lower-case digit, and then only its case -/
theorem escape_recognisers_agree :
    Gen.C03.escapeProbes.all (fun p =>
      let hex := isHexDigit p.1 && isHexDigit p.2.1
      p.2.2.1 == hex && p.2.2.2.1 == hex && p.2.2.2.2.2 &&
        p.2.2.2.2.1 == (hex && (isLowerHex p.1 || isLowerHex p.2.1))) = true := by
  decide +kernel

/-- non-vacuity of the obligations: the classes are not empty, and some code points do NOT stay
escaped (the soft hyphen, the zero-width space and the BOM are decoded: they must not be cleaned) -/
example :
    inControlClass 0x00 = true ∧ inControlClass 0x9f = true ∧ inControlClass 0x20 = false ∧
    inStripClass 0x3000 = true ∧ inStripClass 0x200b = false ∧
    staysEscaped 0x85 = true ∧ staysEscaped 0xad = false ∧ staysEscaped 0x200b = false ∧
    staysEscaped 0xfeff = false ∧ staysEscaped 0x41 = false := by decide +kernel

/-! ## the invariant, on the model -/

/-- the class of `CONTROL_CHARS_RE` is an escaped class — from the table obligations -/
theorem escapedClass_control : EscapedClass isControlChar :=
  (escapedClass_of_tables onlyPrintable normalizeSpace Gen.C03.nonPrintableRanges
    Gen.C03.controlRanges control_class_stays_escaped cleaning_classes_model.2.2.1).congr
    cleaning_classes_model.1

/-- the white space of `str.strip` is an escaped class — from the table obligations -/
theorem escapedClass_space : EscapedClass isSpace :=
  (escapedClass_of_tables onlyPrintable normalizeSpace Gen.C03.nonPrintableRanges
    Gen.C03.stripRanges strip_class_stays_escaped cleaning_classes_model.2.2.1).congr
    cleaning_classes_model.2.1

/-- **the invariant**: whatever the unsafe set, a safe unquoter never produces a character the
cleaning pass deletes: such a character in its output was raw in its input and is a C0 control
or DEL (which the cleaning pass has already removed from what `canonicalize_url` unquotes) -/
theorem unquoters_emit_no_cleaned_character (U : List UInt8) (s : Str) (c : Char)
    (hc : c ∈ safelyUnquote U s) (hk : isControlChar c = true ∨ isSpace c = true) :
    c ∈ s ∧ (c.toNat < 0x20 ∨ c.toNat = 0x7f) := by
  rcases hk with hk | hk
  · exact mem_safelyUnquote_class U escapedClass_control hc hk
  · exact mem_safelyUnquote_class U escapedClass_space hc hk

/-- non-vacuity: escaped and raw members of both classes in one component; nothing of either
class comes out raw, the decodable escape (`%41`) does -/
example :
    safelyUnquote Gen.Quote.unsafeForPath
        ['/', 'a', '%', '0', '0', '%', '8', '5', '%', 'C', '2', '%', 'A', '0', Char.ofNat 0x3000,
          '%', 'E', '3', '%', '8', '0', '%', '8', '0', '%', '2', '0', ' ', '%', '4', '1'] =
      "/a%00%85%C2%A0%E3%80%80%E3%80%80%20%20A".toList := by
  simp only [toList_lit]
  decide +kernel

/-! ## the printed canonical form, for every input string -/

theorem isPunyBad_of_space {c : Char} (h : isSpace c = true) : isPunyBad c = true := by
  simp [isPunyBad, h]

/-- **the canonical form holds no character the cleaning pass deletes** — every input string
`canonicalize_url` accepts, both modes, every `strip_fragment`, every default protocol
`urlsplit` reads as a scheme: no character of the class of `CONTROL_CHARS_RE` at all, and no
white space of `str.strip` other than one that was raw in the parsed hostname (the hostname is
lower-cased and punycode-decoded, not unquoted: `'http://a.com\xa0/x'`). -/
theorem canonical_form_has_no_cleaned_character (puny : Str → Str) (hpc : PunyClean puny)
    (o : Canonicalize.Opts) (hdp : SchemeShaped (rstripChars o.defaultProtocol [':', '/']))
    (u r : Str) (hr : canonicalizeUrl puny o u = some r) :
    (∀ c ∈ r, isControlChar c = false) ∧
    (∀ c ∈ r, isSpace c = true →
      ∃ p h0, parseUrl (Canonicalize.cleanUrl u o.defaultProtocol) = some p ∧
        p.hostname = some h0 ∧ c ∈ h0) := by
  obtain ⟨p, ⟨hp, hui⟩, hr'⟩ := (Props.C01.canonicalize_accepts_iff puny o u r).1 hr
  obtain ⟨S, rest, hcl, _⟩ := cleanUrl_cleaned u o.defaultProtocol hdp
  have hf := fromParse hcl hp
  subst hr'
  constructor
  · obtain ⟨t, e, hok, _⟩ := printed_texts hpc o.stripFragment hf o.quoted
    rw [e]
    exact hok.noCtl_print
  · intro c hc hk
    obtain ⟨h0, hh, hch⟩ :=
      class_of_printed hpc escapedClass_space o.quoted o.stripFragment hf hc hk
        (isPunyBad_of_space hk)
    exact ⟨p, h0, hp, hh, hch⟩

/-- **cleaning the canonical form changes nothing**: `CONTROL_CHARS_RE.sub("", r).strip() == r`
for the result `r` of `canonicalize_url` on ANY input string it accepts — both modes, every
`strip_fragment`, no side condition (full strength).  No control character (above); the first
character is a letter of the scheme; the last one is no white space: path, query and fragment
hold none (the table obligations), a port is digits, a bracketed host ends with `]`, and a bare
host ending with white space is followed by a slash (/repo 16f182c; `'http://a.com\xa0/'`). -/
theorem clean_canonical (puny : Str → Str) (hpc : PunyClean puny)
    (o : Canonicalize.Opts) (hdp : SchemeShaped (rstripChars o.defaultProtocol [':', '/']))
    (u r : Str) (hr : canonicalizeUrl puny o u = some r) :
    strip (stripControl r) = r := by
  obtain ⟨p, ⟨hp, hui⟩, hr'⟩ := (Props.C01.canonicalize_accepts_iff puny o u r).1 hr
  obtain ⟨S, rest, hcl, _⟩ := cleanUrl_cleaned u o.defaultProtocol hdp
  subst hr'
  obtain ⟨t, e, hok, _, hlast, _⟩ := printed_texts hpc o.stripFragment (fromParse hcl hp) o.quoted
  rw [e]
  exact hok.strip_id hlast

/-- the default protocol is 1–64 ASCII letters once `:` / `/` are stripped from its end (`https`,
`http://`, `ftp:` …): what `PROTOCOL_RE` recognises again in front of the canonical form -/
def LetterProtocol (dp : Str) : Prop :=
  rstripChars dp [':', '/'] ≠ [] ∧ (∀ c ∈ rstripChars dp [':', '/'], isAsciiAlpha c = true) ∧
    (rstripChars dp [':', '/']).length ≤ 64

instance (dp : Str) : Decidable (LetterProtocol dp) := by unfold LetterProtocol; infer_instance

theorem LetterProtocol.shaped {dp : Str} (hdp : LetterProtocol dp) :
    SchemeShaped (rstripChars dp [':', '/']) := by
  obtain ⟨hne, hall, _⟩ := hdp
  constructor
  · cases hr : rstripChars dp [':', '/'] with
    | nil => exact absurd hr hne
    | cons c r => exact ⟨c, r, rfl, hall c (by rw [hr]; simp)⟩
  · apply List.all_eq_true.2
    intro c hc
    simp [isSchemeChar, hall c hc]

/-- **the whole cleaning pass of `normalize_url` is the identity on the canonical form**
(`CONTROL_CHARS_RE.sub`, `strip`, `upper_quoted`: `Normalize.preClean`), unquoted mode — so
`normalize_url(canonicalize_url(u))` parses exactly the string `canonicalize_url` printed, and the
component theorems of `Props/C03.lean` (`normalize_canonicalize_partial`, hypothesis `Reparses`)
apply to it.  PARTIAL: a default protocol made of letters (`https`, `http://` …) and no `%` in
the parsed hostname (the host is lower-cased where the cleaning pass upper-cases escapes: the
hypothesis of `Props/C02Whole.lean` `canonicalize_idempotent_partial`). -/
theorem normalize_cleaning_canonical_partial (puny : Str → Str) (hpc : PunyClean puny)
    (dp : Str) (sf : Bool)
    (hdp : rstripChars dp [':', '/'] ≠ [] ∧ (∀ c ∈ rstripChars dp [':', '/'], isAsciiAlpha c = true) ∧
      (rstripChars dp [':', '/']).length ≤ 64)
    (u r : Str) (hr : canonicalizeUrl puny ⟨dp, false, sf⟩ u = some r)
    (hpct : ∀ p, parseUrl (Canonicalize.cleanUrl u dp) = some p → ∀ h0, p.hostname = some h0 → '%' ∉ h0) :
    Normalize.preClean r = r := by
  obtain ⟨p, ⟨hp, hui⟩, hr'⟩ := (Props.C01.canonicalize_accepts_iff puny ⟨dp, false, sf⟩ u r).1 hr
  simp only at hp hr'
  obtain ⟨S, rest, hcl, hletters⟩ := cleanUrl_cleaned u dp (LetterProtocol.shaped hdp)
  have hup := upFacts hcl (upperEsc_cleanUrl u dp hdp.2.1) hp
  obtain ⟨t, e, hok, hs, hlast, hU⟩ := printed_texts hpc sf (fromParse hcl hp) false
  unfold Normalize.preClean
  rw [hr', e]
  exact hok.preClean_id (by rw [hs]; exact alpha_lower (hletters hdp.2.1 hdp.2.2).1)
    (hU hup (hpct p hp)) hlast

/-- a hostname ending with a raw no-break space keeps its slash, the cleaning pass leaves
the canonical form alone -/
example :
    canonicalizeUrl id ⟨"https".toList, false, false⟩
        ['h','t','t','p',':','/','/','a','.','c','o','m',Char.ofNat 0xa0,'/'] =
      some ['h','t','t','p',':','/','/','a','.','c','o','m',Char.ofNat 0xa0,'/'] ∧
    strip (stripControl ['h','t','t','p',':','/','/','a','.','c','o','m',Char.ofNat 0xa0,'/']) =
      ['h','t','t','p',':','/','/','a','.','c','o','m',Char.ofNat 0xa0,'/'] := by
  simp only [toList_lit]
  decide +kernel

/-- the canonical form of the next example: the zero-width space and the BOM are decoded (they
are in neither class), every member of the two classes is escaped -/
def demoCanonical : Str :=
  "http://a.com/x%00y%C2%85/z%E3%80%80?k%0A=v%C2%A0&".toList ++ [Char.ofNat 0x200b, '=', Char.ofNat 0xfeff] ++
    "#f%7F%E2%80%A8".toList

/-- non-vacuity: a URL with escaped and raw members of both classes in path, query and
fragment; they are all escaped in the canonical form, which the cleaning pass leaves alone -/
example :
    canonicalizeUrl id ⟨"https".toList, false, false⟩
        (" \x00HTTP://A.com/x%00y%C2%85/z".toList ++ [Char.ofNat 0x3000] ++
          "?k%0A=v%C2%A0&%E2%80%8B=%EF%BB%BF#f%7F%E2%80%A8 ".toList) = some demoCanonical ∧
    strip (stripControl demoCanonical) = demoCanonical ∧
    Normalize.preClean demoCanonical = demoCanonical := by
  unfold demoCanonical
  simp only [toList_lit]
  decide +kernel

end Ural.Props.C03
