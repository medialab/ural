import UralModel.Lemmas.Google
import UralModel.Lemmas.StrLit
/-!
# C19, part `google` — `ural/google.py`

Property theorems only (model: `Model/Google.lean`; helper lemmas: `Lemmas/Google.lean`,
`Lemmas/YoutubeUrl.lean`).  Every theorem is about *every string* `url`: `urlsplit`,
`safe_urlsplit`, `pathsplit` are the shared Lean models.

* `is_amp_url`, `is_google_link`, `extract_url_from_google_link` have no raise site in the
  model (their only exception, the `ValueError` of `urlsplit`, is caught by the code and is the
  `none ↦ false` case of the model): they are total by construction, and the correspondence
  checks on every run that the real functions raise nothing either.
* `parse_google_drive_url` indexes `path[0] … path[3]`, `path[-1]`: `parse_google_drive_url_total`;
  truncated paths give `None`: `truncated_path_none`, `truncated_url_none`, `pub_without_e_none`.
* `record_valid`: drive type in `DRIVE_TYPES`, id a non-empty path segment.
* round trip: `reparse_url` (full, both record types: `reparse_url_public_link`,
  `reparse_url_file` — the parser strips the file id, FX-C19-d47b8e8).
-/
namespace Ural.Props.C19.Google
open Ural Ural.Py Ural.C19 Ural.Google

/-! ## table obligations (regenerated data) -/

/-- the three regexes the hand-written matchers were written for are unchanged (pattern
strings and flags: 34 = `re.I | re.U`, 32 = `re.U`) -/
theorem google_patterns_unchanged :
    Gen.googleAmpQueryPattern = ampQueryPattern ∧ Gen.googleAmpQueryFlags = 34 ∧
    Gen.googleAmpSuffixesPattern = ampSuffixesPattern ∧ Gen.googleAmpSuffixesFlags = 34 ∧
    Gen.googleUrlExtractPattern = urlExtractPattern ∧ Gen.googleUrlExtractFlags = 32 :=
  ⟨rfl, rfl, rfl, rfl, rfl, rfl⟩

/-- the `.url` / `get_export_url` builders answer on the probe record what the model's do -/
theorem google_url_builders_unchanged :
    Gen.googleDriveFileUrlProbe.toList = Record.url (.file ['T'] ['I']) ∧
    Gen.googleDriveFileExportProbe.toList = Record.exportUrl ['F'] (.file ['T'] ['I']) ∧
    Gen.googleDrivePublicLinkUrlProbe.toList = Record.url (.publicLink ['T'] ['I']) ∧
    Gen.googleDrivePublicLinkExportProbe.toList = Record.exportUrl ['F'] (.publicLink ['T'] ['I']) := by
  unfold Gen.googleDriveFileUrlProbe Gen.googleDriveFileExportProbe Gen.googleDrivePublicLinkUrlProbe
    Gen.googleDrivePublicLinkExportProbe
  simp only [toList_lit]
  decide +kernel

/-- every drive type of `DRIVE_TYPES` is a plain non-empty path segment -/
theorem drive_types_plain : ∀ ty ∈ driveTypes, ty ≠ [] ∧ Seg ty := by
  unfold driveTypes Gen.googleDriveTypes
  simp only [List.map, toList_lit]
  decide +kernel

/-! ## totality -/

/-- **`parse_google_drive_url` never raises**: every positional access is dominated by a
length guard -/
theorem parse_google_drive_url_total (url : Str) (e : Err) :
    parse_google_drive_url url ≠ .error e :=
  (parse_google_drive_url_sound url).ne_error e

/-- **`extract_id_from_google_drive_url` never raises** -/
theorem extract_id_from_google_drive_url_total (url : Str) (e : Err) :
    extract_id_from_google_drive_url url ≠ .error e := by
  unfold extract_id_from_google_drive_url
  split
  · rename_i e' h; exact absurd h (parse_google_drive_url_total url e')
  all_goals simp

/-- `extract_id_from_google_drive_url` is the id of a parsed *file* and nothing else (an unfolding
of the definition, kept as a helper; the totality claim rests on the two theorems above) -/
theorem extract_id_spec (url id : Str) :
    extract_id_from_google_drive_url url = .ok (some id) ↔
      ∃ ty, parse_google_drive_url url = .ok (some (.file ty id)) := by
  unfold extract_id_from_google_drive_url
  constructor
  · intro h
    split at h
    · simp at h
    · rename_i ty id' hp
      simp at h; subst h; exact ⟨ty, hp⟩
    · simp at h
  · rintro ⟨ty, hp⟩
    rw [hp]

/-! ## truncated paths parse to `None` -/

/-- **a truncated drive path gives `None`**: fewer than three segments (`document`, `document/d`,
`document/d/` — whatever the segments are) -/
theorem truncated_path_none (path : List Str) (h : path.length < 3) : parsePath path = .ok none := by
  unfold parsePath
  rw [if_pos h]

/-- the same through the whole function: every url whose path has fewer than three segments
(`docs.google.com/document/d`, `docs.google.com/spreadsheets/`, `docs.google.com`) -/
theorem truncated_url_none (url : Str) (r : SplitResult) (hs : safe_urlsplit url = some r)
    (h : (pathsplit r.path).length < 3) : parse_google_drive_url url = .ok none := by
  unfold parse_google_drive_url
  rw [hs]
  simp only []
  split
  · rfl
  · exact truncated_path_none _ h

/-- **a published-link path without its `e` gives `None`**: more than three segments ending with
`pub` whose third segment is not `e` (`document/d/x/pub`) -/
theorem pub_without_e_none (path : List Str) (hl : path.length > 3)
    (hlast : path.getLast? = some "pub".toList) (h2 : path[2]? ≠ some ['e']) :
    parsePath path = .ok none := by
  match path, hl, hlast, h2 with
  | a :: b :: c :: d :: rest, _, hlast, h2 =>
    have hc : c ≠ ['e'] := by intro e; exact h2 (by simp [e])
    have hl' : (d :: rest).getLast? = some "pub".toList := by simpa using hlast
    rw [parsePath4]
    simp [hl', hc]

example : parse_google_drive_url "docs.google.com/document".toList = .ok none := by
  simp only [toList_lit]
  decide +kernel
example : parse_google_drive_url "docs.google.com/document/d/".toList = .ok none := by
  simp only [toList_lit]
  decide +kernel
example : parse_google_drive_url "docs.google.com/document/d".toList = .ok none := by
  simp only [toList_lit]
  decide +kernel
example : parse_google_drive_url "docs.google.com/document/d/x/pub".toList = .ok none := by
  simp only [toList_lit]
  decide +kernel
example : parse_google_drive_url "http://[x".toList = .ok none := by
  simp only [toList_lit]
  decide +kernel
example :
    extract_id_from_google_drive_url "https://docs.google.com/spreadsheets/d/1Bxi_MVs/edit#gid=0".toList =
      .ok (some "1Bxi_MVs".toList) := by
  simp only [toList_lit]
  decide +kernel

/-! ## validators -/

/-- **a returned record is well formed**: its type is one of `DRIVE_TYPES`, its id is a
non-empty path segment (no `/`, `?`, `#`, TAB, CR, LF); the id of a *file* neither starts nor ends
with white space -/
theorem record_valid (url : Str) (r : Record) (h : parse_google_drive_url url = .ok (some r)) :
    r.ty ∈ driveTypes ∧ r.ident ≠ [] ∧ Seg r.ident ∧ (∀ ty id, r = .file ty id → Stripped id) :=
  let w := (parse_google_drive_url_sound url).of_some h
  ⟨w.ty, w.ne, w.seg, w.stripped⟩

example : parse_google_drive_url "docs.google.com/document/d//edit".toList = .ok none := by
  simp only [toList_lit]
  decide +kernel

/-! ## round trip -/

/-- **every well-formed record is the parse of its url**, whether or not it came from the parser
(the parser strips the file id, FX-C19-d47b8e8, so nothing is lost at the end of `record.url`) -/
theorem reparse_of_wellFormed (r : Record) (h : WellFormed r) :
    parse_google_drive_url r.url = .ok (some r) := by
  obtain ⟨hty, hne, hseg, hst⟩ := h
  obtain ⟨htne, htseg⟩ := drive_types_plain _ hty
  cases r with
  | file ty id =>
    have hs : Stripped id := hst ty id rfl
    rw [url_file_eq, parse_docs_url [ty, ['d'], id] (by simp)
      (by
        intro x hx
        simp only [List.mem_cons, List.not_mem_nil, or_false] at hx
        rcases hx with rfl | rfl | rfl
        · exact ⟨htne, htseg⟩
        · decide
        · exact ⟨hne, hseg⟩)
      (by intro x hx; have : x = id := by simpa using hx.symm
          rw [this]; exact hs.2), parsePath3, strip_of_stripped id hs]
    simp only [Record.ty, Record.ident] at hty hne
    simp [hty, hne]
  | publicLink ty id =>
    rw [url_publicLink_eq, parse_docs_url [ty, ['d'], ['e'], id, "pub".toList] (by simp)
      (by
        intro x hx
        simp only [List.mem_cons, List.not_mem_nil, or_false] at hx
        rcases hx with rfl | rfl | rfl | rfl | rfl
        · exact ⟨htne, htseg⟩
        · decide
        · decide
        · exact ⟨hne, hseg⟩
        · decide)
      (by intro x hx; have : x = "pub".toList := by simpa using hx.symm
          rw [this]; decide), parsePath4]
    simp only [Record.ty, Record.ident] at hty hne
    simp [hty, hne]

/-- **re-parsing `record.url` gives the same record**, for every url and both record types -/
theorem reparse_url (url : Str) (r : Record) (h : parse_google_drive_url url = .ok (some r)) :
    parse_google_drive_url r.url = .ok (some r) :=
  reparse_of_wellFormed r ((parse_google_drive_url_sound url).of_some h)

theorem reparse_url_public_link (url ty id : Str)
    (h : parse_google_drive_url url = .ok (some (.publicLink ty id))) :
    parse_google_drive_url (Record.url (.publicLink ty id)) = .ok (some (.publicLink ty id)) :=
  reparse_url url _ h

theorem reparse_url_file (url ty id : Str)
    (h : parse_google_drive_url url = .ok (some (.file ty id))) :
    parse_google_drive_url (Record.url (.file ty id)) = .ok (some (.file ty id)) :=
  reparse_url url _ h

/-- the trailing blank of `x␠` is no part of the id (/repo d47b8e8) -/
example :
    parse_google_drive_url "docs.google.com/document/d/x /edit".toList =
      .ok (some (.file "document".toList "x".toList)) ∧
    parse_google_drive_url "docs.google.com/document/d/ /edit".toList = .ok none := by
  simp only [toList_lit]
  decide +kernel

/-- non-vacuity: a file and a public link that round-trip -/
example :
    parse_google_drive_url "https://docs.google.com/spreadsheets/d/1Bxi_MVs/edit#gid=0".toList =
      .ok (some (.file "spreadsheets".toList "1Bxi_MVs".toList)) ∧
    parse_google_drive_url (Record.url (.file "spreadsheets".toList "1Bxi_MVs".toList)) =
      .ok (some (.file "spreadsheets".toList "1Bxi_MVs".toList)) := by
  simp only [toList_lit]
  decide +kernel

example :
    parse_google_drive_url "docs.google.com/document/d/e/2PACX-1vQ /pub?output=csv".toList =
      .ok (some (.publicLink "document".toList "2PACX-1vQ ".toList)) ∧
    parse_google_drive_url (Record.url (.publicLink "document".toList "2PACX-1vQ ".toList)) =
      .ok (some (.publicLink "document".toList "2PACX-1vQ ".toList)) := by
  simp only [toList_lit]
  decide +kernel

/-! ## the boolean functions on a few inputs (non-vacuity of the model) -/

example : is_amp_url "".toList = false := by
  simp only [toList_lit]
  decide +kernel
example : is_amp_url "https://www.europe1.fr/sante/x.amp".toList = true := by
  simp only [toList_lit]
  decide +kernel
example : is_amp_url "https://a.com/p?amp_js_v=0.1".toList = true := by
  simp only [toList_lit]
  decide +kernel
example : is_google_link "https://www.google.com/url?sa=t&url=https%3A%2F%2Fa.com".toList = true := by
  simp only [toList_lit]
  decide +kernel
example :
    extract_url_from_google_link "https://www.google.com/url?sa=t&url=https%3A%2F%2Fa.com%2F&usg=x".toList =
      some "https://a.com/".toList := by
  simp only [toList_lit]
  decide +kernel

end Ural.Props.C19.Google
