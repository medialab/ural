import UralModel.Lemmas.YoutubeFields
import UralModel.Props.C09
import UralModel.Props.C15
/-!
# C19, part `youtube` — `ural/youtube.py`

The property theorems and their table obligations (the evaluated test vectors:
`Props/C19/YoutubeVectors.lean`; model: `Model/Youtube.lean`;
helper lemmas: `Lemmas/YoutubeUrl.lean`, `Lemmas/Youtube.lean`,
`Lemmas/YoutubeReparse.lean`, `Lemmas/YoutubeFields.lean`).  Every theorem
is about *every string* `url` (`urlsplit`, `safe_urlsplit`, `pathsplit`, `infer_redirection`,
`SplitResult.hostname` are the shared Lean models), every `idna` decoder `puny` and every
`HostnameTrieSet` state `t` (in particular the one built from the regenerated domain list).

* `is_youtube_url`, `is_youtube_video_id`, `is_youtube_channel_id` have no raise site in the
  model (the `ValueError` of `urlsplit` is caught by the code: the `none ↦ false` case): total
  by construction; the correspondence checks on every run that the real functions raise
  nothing either.
* totality: `parse_youtube_url_total`, `extract_video_id_total`, `normalize_youtube_url_total`
  (the model of `normalize_youtube_url` ends with the code's `raise TypeError` branch:
  `normalize_raise_unreachable`, by `record_kind_exhaustive`).  The first step of the parser is
  `infer_redirection`: its totality is C15's (`Ural.Props.C15.infer_total`; the model is defined by
  well-founded recursion on the length of the url, like the loop of the code, /repo 0c9bfa3).
* truncated routes parse to `None`: `truncated_route_none`, `truncated_short_host_none`,
  `truncated_url_none`, `truncated_canonical_routes_none`.
* validators: `record_valid` (`Valid`: ids are 11 long **whatever `fix_common_mistakes`**),
  `extract_video_id_valid`.
* round trip through the canonical url (`recordUrl r`, what `normalize_youtube_url` builds):
  `record_fields`, `record_names_no_continuation` (what the parser guarantees about the fields),
  `reparse_url_any_fix` / `reparse_url_module` — **full**, for both values of `fix_common_mistakes`
  in the first parse and in the re-parse: `parse u fix = some r → parse (recordUrl r) fix' = some r`
  for every string; `normalize_youtube_idempotent` / `normalize_youtube_idempotent_module` — **full**;
  `parse_normalize`: normalising preserves the parse (the `None` case included).
  The round trip rests on these behaviours of the code (/repo 55c9bda, d47b8e8, 569f4b6, 716cf1e,
  KF-C19-YT-4 / KF-C19-YT-5): a reserved word behind `@` is no channel, a trailing blank is no part
  of a name, a name stops at `&`, TAB / CR / LF are removed before the regexes run, a playlist id
  stops at `?`, `/` and `%`.
-/
namespace Ural.Props.C19.Youtube
open Ural Ural.Py Ural.C19 Ural.Youtube Ural.HostnameTrieSet

/-! ## table obligations (regenerated data) -/

/-- the eight regexes the hand-written matchers were written for are unchanged (pattern
strings and flags: 32 = `re.U`, 34 = `re.I | re.U`) -/
theorem youtube_patterns_unchanged :
    Gen.youtubeVideoIdPattern = videoIdPattern ∧ Gen.youtubeVideoIdFlags = 32 ∧
    Gen.youtubeChannelIdPattern = channelIdPattern ∧ Gen.youtubeChannelIdFlags = 32 ∧
    Gen.youtubeQueryVPattern = queryVPattern ∧ Gen.youtubeQueryVFlags = 34 ∧
    Gen.youtubeQueryListPattern = queryListPattern ∧ Gen.youtubeQueryListFlags = 34 ∧
    Gen.youtubeNextVPattern = nextVPattern ∧ Gen.youtubeNextVFlags = 34 ∧
    Gen.youtubeNestedNextVPattern = nestedNextVPattern ∧ Gen.youtubeNestedNextVFlags = 34 ∧
    Gen.youtubeFragmentVPattern = fragmentVPattern ∧ Gen.youtubeFragmentVFlags = 34 ∧
    Gen.youtubeUnsafeUrlCharsPattern = unsafeUrlCharsPattern ∧ Gen.youtubeUnsafeUrlCharsFlags = 32 :=
  ⟨rfl, rfl, rfl, rfl, rfl, rfl, rfl, rfl, rfl, rfl, rfl, rfl, rfl, rfl, rfl, rfl⟩

/-- the stop characters of the four value matchers are the excluded classes of the regenerated
patterns (`list=([^&#?/%]+)`: a playlist id stops at `&`, `#`, `?`, `/`, `%`), and the characters
`stripUnsafe` removes are the class of `UNSAFE_URL_CHARS_RE` -/
theorem youtube_stops_are_pattern_classes :
    Gen.youtubeQueryVPattern = "v=([^" ++ String.ofList stopsAmpHash ++ "]+)" ∧
    Gen.youtubeQueryListPattern = "list=([^" ++ String.ofList stopsList ++ "]+)" ∧
    Gen.youtubeNextVPattern = "next=%2Fwatch%3Fv%3D([^" ++ String.ofList stopsPctAmpHash ++ "]+)" ∧
    Gen.youtubeNestedNextVPattern = "next%3D%252Fwatch%253Fv%253D([^" ++ String.ofList stopsPctAmpHash ++ "]+)" ∧
    (∀ c ∈ stopsList, c ∈ ['&', '#', '?', '/', '%']) ∧ '%' ∈ stopsList ∧ '/' ∈ stopsList ∧
    Gen.youtubeUnsafeUrlCharsPattern = "[\\t\\r\\n]" ∧
    (∀ c, isUnsafeUrlChar c = true ↔ c = '\t' ∨ c = '\r' ∨ c = '\n') := by
  refine ⟨by decide +kernel, by decide +kernel, by decide +kernel, by decide +kernel, fun _ h => h,
    by decide, by decide, rfl, ?_⟩
  intro c
  simp [isUnsafeUrlChar, or_assoc]

/-- the five URL templates are the model's prefixes followed by `%s` -/
theorem youtube_templates_unchanged :
    Gen.youtubeVideoUrlTemplate.toList = videoPrefix ++ "%s".toList ∧
    Gen.youtubeUserUrlTemplate.toList = userPrefix ++ "%s".toList ∧
    Gen.youtubeChannelIdUrlTemplate.toList = channelIdPrefix ++ "%s".toList ∧
    Gen.youtubeChannelNameUrlTemplate.toList = channelNamePrefix ++ "%s".toList ∧
    Gen.youtubeShortUrlTemplate.toList = shortPrefix ++ "%s".toList := by
  unfold Gen.youtubeVideoUrlTemplate Gen.youtubeUserUrlTemplate Gen.youtubeChannelIdUrlTemplate
    Gen.youtubeChannelNameUrlTemplate Gen.youtubeShortUrlTemplate videoPrefix userPrefix channelIdPrefix
    channelNamePrefix shortPrefix
  simp only [toList_lit]
  decide +kernel

/-- the inline literal `"&list=%s"` of `normalize_youtube_url` (no module-level constant): the
real function's answer on a probe video url with a playlist is what the model builds, i.e. the
video template, the id, `listInfix`, the playlist id -/
theorem youtube_list_infix_unchanged :
    Gen.youtubeNormalizeListProbe.toList = recordUrl (.video "AAAAAAAAAAA".toList (some "P".toList)) ∧
    recordUrl (.video "AAAAAAAAAAA".toList (some "P".toList)) =
      videoPrefix ++ "AAAAAAAAAAA".toList ++ listInfix ++ "P".toList := by
  unfold Gen.youtubeNormalizeListProbe recordUrl videoPrefix listInfix
  simp only [toList_lit]
  decide +kernel

theorem map_toList_cons (l : Str) (ss : List String) (r : List Str) (h : ss.map String.toList = r) :
    (String.ofList l :: ss).map String.toList = l :: r := by
  rw [List.map_cons, toList_lit, h]

/-- `domains` as lists of characters.  The list is found by unification, one `map_toList_cons` per
domain (`simp only [List.map, toList_lit]` exceeds the recursion depth on a list this long), so
that evaluations start from the characters and not from the string literals. -/
def domainChars : {l : List Str // domains = l} :=
  ⟨_, by
    unfold domains Gen.youtubeDomains
    repeat apply map_toList_cons
    exact List.map_nil⟩

theorem domains_table :
    (∀ d ∈ domains, ∀ l ∈ splitOn (lower (strip d)) '.', hasHeader l = false) ∧
    (∀ h ∈ domains, isSpecialHost h = false) ∧ "youtube.com".toList ∈ domains := by
  rw [domainChars.2, toList_lit]
  decide +kernel

/-- no label of a listed domain starts with `xn--`: the `idna` decoder is never consulted while
the module's trie is built, which is why the driver may build it once (with the identity) -/
theorem youtube_domains_no_puny_label :
    ∀ d ∈ domains, ∀ l ∈ splitOn (lower (strip d)) '.', hasHeader l = false := domains_table.1

/-- no YouTube domain is a special host (`localhost`, IP literal) -/
theorem youtube_domains_ordinary : ∀ h ∈ domains, isSpecialHost h = false := domains_table.2.1

/-- `youtube.com` is one of the domains -/
theorem youtube_com_listed : "youtube.com".toList ∈ domains := domains_table.2.2

/-! ## totality -/

/-- **`parse_youtube_url` never raises**, whatever the string, the option, the decoder and
the domain trie: every positional access is dominated by a length guard (`youtu.be/`,
`youtube.com/user/`, `/c/`, `/channel/`, `/shorts/`, `/v/` …) -/
theorem parse_youtube_url_total (puny : Str → Str) (t : T) (url : Str) (fix : Bool) (e : Err) :
    parse_youtube_url puny t url fix ≠ .error e :=
  (parse_youtube_url_yields puny t url fix).ne_error e

/-- **`extract_video_id_from_youtube_url` never raises** -/
theorem extract_video_id_total (puny : Str → Str) (t : T) (url : Str) (e : Err) :
    extract_video_id_from_youtube_url puny t url ≠ .error e := by
  unfold extract_video_id_from_youtube_url
  split
  · rename_i e' h; exact absurd h (parse_youtube_url_total puny t url true e')
  all_goals simp

/-- every record is of one of the four kinds the `isinstance` chain of `normalize_youtube_url`
tests (`YoutubeVideo`, `YoutubeUser`, `YoutubeChannel`, `YoutubeShort`) -/
theorem record_kind_exhaustive (r : Record) :
    (r.isVideo || r.isUser || r.isChannel || r.isShort) = true := by
  cases r <;> rfl

/-- a url that does not parse is returned unchanged (restatement of the `parsed is None` branch;
a helper of the theorems below) -/
theorem normalize_unparsed_fixed (puny : Str → Str) (t : T) (url : Str)
    (h : parse_youtube_url puny t url true = .ok none) :
    normalize_youtube_url puny t url = .ok url := by
  unfold normalize_youtube_url
  rw [h]

/-- for a url that parses to a record, `normalize_youtube_url` returns the canonical url of that
record: one of the four `isinstance` branches is taken, never the final `raise` -/
theorem normalize_of_parsed (puny : Str → Str) (t : T) (url : Str) (r : Record)
    (h : parse_youtube_url puny t url true = .ok (some r)) :
    normalize_youtube_url puny t url = .ok (recordUrl r) := by
  unfold normalize_youtube_url
  rw [h]
  cases r <;> rfl

theorem normalize_eq (puny : Str → Str) (t : T) (url : Str) :
    ∃ o, parse_youtube_url puny t url true = .ok o ∧
      normalize_youtube_url puny t url = .ok (o.elim url recordUrl) := by
  cases hp : parse_youtube_url puny t url true with
  | error e => exact absurd hp (parse_youtube_url_total puny t url true e)
  | ok o =>
    refine ⟨o, rfl, ?_⟩
    cases o with
    | none => exact normalize_unparsed_fixed puny t url hp
    | some r => exact normalize_of_parsed puny t url r hp

/-- **`normalize_youtube_url` never raises** -/
theorem normalize_youtube_url_total (puny : Str → Str) (t : T) (url : Str) (e : Err) :
    normalize_youtube_url puny t url ≠ .error e := by
  obtain ⟨_, _, h⟩ := normalize_eq puny t url
  rw [h]
  exact fun h => nomatch h

/-- **the final `raise TypeError` of `normalize_youtube_url` is unreachable** (the instance of
`normalize_youtube_url_total` for the error the model's last branch produces) -/
theorem normalize_raise_unreachable (puny : Str → Str) (t : T) (url : Str) :
    normalize_youtube_url puny t url ≠ .error .typeError :=
  normalize_youtube_url_total puny t url .typeError

/-- the `isinstance` chain of `normalize_youtube_url`, written out with its final `raise`: on every
`Record` one of the four tests succeeds, so the chain answers `.ok (recordUrl r)` -/
example : ∀ r : Record, (if r.isVideo then (Except.ok (recordUrl r) : Except Err Str)
      else if r.isUser then .ok (recordUrl r) else if r.isChannel then .ok (recordUrl r)
      else if r.isShort then .ok (recordUrl r) else .error .typeError) = .ok (recordUrl r) := by
  intro r; cases r <;> rfl

/-! ## validators -/

/-- **a returned record is well formed**: a video / short id satisfies `is_youtube_video_id`
and is exactly 11 characters long — with **either** value of `fix_common_mistakes`: the
validator's `$` would accept one final `"\n"`, but TAB / CR / LF are removed from the url before
anything is cut out of it —, a user has a non-empty name, a channel has either a non-empty id or
a non-empty name that does not start with `@` and is not reserved.  (Channel ids are not checked
against `is_youtube_channel_id`, by the code or here.) -/
theorem record_valid (puny : Str → Str) (t : T) (url : Str) (fix : Bool) (r : Record)
    (h : parse_youtube_url puny t url fix = .ok (some r)) : Valid r := by
  have hsafe : Safe (stripUnsafe (infer url)) := stripUnsafe_safe _
  rcases (parse_youtube_url_yields puny t url fix).of_some h with ⟨v, hv, hr⟩ | ⟨_, parsed, hs, _, hr⟩
  · exact videoOf_valid fix _ _ r (safe_of_infix _ _ (continuation_infix _ _ hv) hsafe) hr
  · exact splitRec_valid fix _ _ r (fun c hc => (safe_urlsplit_path_chars _ parsed hs c hc).2.2)
      (safe_urlsplit_query_chars _ parsed hs) hr

/-- the id `extract_video_id_from_youtube_url` returns satisfies `is_youtube_video_id` -/
theorem extract_video_id_valid (puny : Str → Str) (t : T) (url id : Str)
    (h : extract_video_id_from_youtube_url puny t url = .ok (some id)) :
    is_youtube_video_id id = true ∧ id.length = 11 := by
  unfold extract_video_id_from_youtube_url at h
  split at h
  · simp at h
  · rename_i id' pl hp
    simp at h; subst h
    exact record_valid puny t url true _ hp
  · rename_i id' hp
    simp at h; subst h
    exact record_valid puny t url true _ hp
  · simp at h

/-- non-vacuity of the validators -/
example : is_youtube_video_id "dQw4w9WgXcQ".toList = true ∧ is_youtube_video_id "dQw4w9WgXcQ\n".toList = true ∧
    is_youtube_video_id "dQw4w9WgXc".toList = false ∧ is_youtube_video_id "dQw4w9WgXcQx".toList = false ∧
    is_youtube_channel_id "UCaBcD_-0123456789abcdEF".toList = true ∧
    is_youtube_channel_id "UCaBcD_-0123456789abcdE".toList = false := by
  simp only [toList_lit]
  decide +kernel

/-! ## table obligations of the round trip -/

/-- every literal of `REDIRECTION_DOMAINS_RE` ends with `/`, and `watch` is a reserved name -/
theorem roundtrip_obligations : Obligations := by
  refine ⟨?_, ?_⟩
  · unfold CacheHostsEndWithSlash Gen.cacheHosts
    simp only [List.forall_mem_cons, toList_lit]
    decide +kernel
  · unfold blacklist Gen.youtubeChannelNameBlacklist
    simp only [List.map, toList_lit]
    decide +kernel

theorem youtube_trie_match (puny : Str → Str) (d host : Str) (hd : d ∈ domains) (hne : host ≠ [])
    (hs : isSpecialHost host = false) (hsuf : (tok puny d).reverse <:+ (tok puny host).reverse) :
    matchHost isSpecialHost puny (youtubeTrie puny) (some host) = true :=
  (Ural.Props.C09.match_url_spec isSpecialHost puny domains youtube_domains_ordinary host hne hs).mpr
    ⟨d, hd, hsuf⟩

/-- the trie the module builds knows `www.youtube.com`, whatever the `idna` decoder does -/
theorem youtube_trie_knows_www (puny : Str → Str) : KnowsWww puny (youtubeTrie puny) := by
  have hwww : "www.youtube.com".toList ≠ [] ∧ isSpecialHost "www.youtube.com".toList = false := by
    simp only [toList_lit]
    decide +kernel
  refine youtube_trie_match puny "youtube.com".toList _ youtube_com_listed hwww.1 hwww.2 ?_
  obtain ⟨e1, e2, h1, h2, h3⟩ :
      splitOn (lower (strip "youtube.com".toList)) '.' = ["youtube".toList, "com".toList] ∧
      splitOn (lower (strip "www.youtube.com".toList)) '.' =
        ["www".toList, "youtube".toList, "com".toList] ∧
      hasHeader "youtube".toList = false ∧ hasHeader "com".toList = false ∧
      hasHeader "www".toList = false := by
    simp only [toList_lit]
    decide +kernel
  simp only [tok, tokLabels, e1, e2, List.map, punyPart, h1, h2, h3, List.reverse_reverse]
  exact ⟨["www".toList], rfl⟩

/-! ## truncated routes parse to `None` -/

/-- **a truncated two-segment route gives `None`**: a path that starts with `/user/`, `/c/`,
`/channel/` or `/shorts/` and has fewer than two segments (`/user/`, `/c//`, `/channel/ `, …),
whatever the query, the playlist and `fix_common_mistakes` -/
theorem truncated_route_none (fix : Bool) (path query : Str) (pl : Option Str)
    (hr : startsWith path "/user/".toList = true ∨ startsWith path "/c/".toList = true ∨
      startsWith path "/channel/".toList = true ∨ startsWith path "/shorts/".toList = true)
    (h : (pathsplit path).length < 2) : routePath fix path query pl = .ok none := by
  obtain ⟨w, f, hw, hs⟩ : ∃ w f, (w, f) ∈ secondRoutes fix ∧ startsWith path ('/' :: (w ++ ['/'])) = true := by
    rcases hr with h | h | h | h
    · exact ⟨"user".toList, userOf, by simp [secondRoutes], by simpa [toList_lit] using h⟩
    · exact ⟨"c".toList, cOf, by simp [secondRoutes], by simpa [toList_lit] using h⟩
    · exact ⟨"channel".toList, channelOf, by simp [secondRoutes], by simpa [toList_lit] using h⟩
    · exact ⟨"shorts".toList, shortOf fix, by simp [secondRoutes], by simpa [toList_lit] using h⟩
  rw [routePath_second_of_startsWith fix w f hw path query pl hs]
  exact viaSecond_truncated f path h

/-- **`youtu.be/`, `youtu.be//`, `youtu.be` give `None`**: on a host that ends with `youtu.be`, a
path without any segment -/
theorem truncated_short_host_none (fix : Bool) (parsed : SplitResult) (pl : Option Str)
    (hh : (hostnameOf parsed).isSome = true)
    (he : endsWith (pyHostname parsed.netloc) "youtu.be".toList = true)
    (h : pathsplit parsed.path = []) : parseSplit fix parsed pl = .ok none := by
  unfold parseSplit
  rw [hh, he]
  simp only [Bool.and_self, if_true]
  exact routeShortHost_truncated fix _ pl h

/-- **a truncated two-segment route gives `None`, through the whole function**, on every accepted host
other than `youtu.be` -/
theorem truncated_url_none (puny : Str → Str) (t : T) (url : Str) (fix : Bool) (parsed : SplitResult)
    (hn : NoCont (stripUnsafe (infer url)))
    (hs : safe_urlsplit (stripUnsafe (infer url)) = some parsed)
    (hy : isYoutubeParsed puny t parsed = true)
    (hbe : endsWith (pyHostname parsed.netloc) "youtu.be".toList = false) (hf : parsed.fragment = [])
    (hr : startsWith parsed.path "/user/".toList = true ∨ startsWith parsed.path "/c/".toList = true ∨
      startsWith parsed.path "/channel/".toList = true ∨ startsWith parsed.path "/shorts/".toList = true)
    (h : (pathsplit parsed.path).length < 2) : parse_youtube_url puny t url fix = .ok none := by
  unfold parse_youtube_url
  simp only [noCont_or _ hn, hs, hy, Bool.not_true, Bool.false_eq_true, if_false, parseSplit, hbe, Bool.and_false,
    hf, ne_eq, not_true_eq_false]
  exact truncated_route_none fix _ _ _ hr h

/-- the four truncated routes on the canonical host, through the whole function (redirection
inference, regexes, `urlsplit`, the trie), for every decoder and every trie that knows
`www.youtube.com` -/
theorem truncated_canonical_routes_none (puny : Str → Str) (t : T) (hT : KnowsWww puny t) (fix : Bool) :
    parse_youtube_url puny t "https://www.youtube.com/user/".toList fix = .ok none ∧
    parse_youtube_url puny t "https://www.youtube.com/c/".toList fix = .ok none ∧
    parse_youtube_url puny t "https://www.youtube.com/channel/".toList fix = .ok none ∧
    parse_youtube_url puny t "https://www.youtube.com/shorts/".toList fix = .ok none := by
  obtain ⟨-, hUser, hC, hChannel, hShorts⟩ := routes_clean
  have key : ∀ route : Str, RouteClean route →
      (startsWith route "/user/".toList = true ∨ startsWith route "/c/".toList = true ∨
        startsWith route "/channel/".toList = true ∨ startsWith route "/shorts/".toList = true) ∧
      (pathsplit route).length < 2 →
      parse_youtube_url puny t ("https://www.youtube.com".toList ++ route) fix = .ok none := by
    intro route hr h
    have := parse_path_url puny t hT roundtrip_obligations route [] fix hr (by intro c hc; simp at hc)
      (noCont_of_no_pct [] (by simp))
    simp only [List.append_nil] at this
    rw [this]
    exact truncated_route_none fix route [] _ h.1 h.2
  have kUser := key _ hUser (by simp only [toList_lit]; decide)
  have kC := key _ hC (by simp only [toList_lit]; decide)
  have kChannel := key _ hChannel (by simp only [toList_lit]; decide)
  have kShorts := key _ hShorts (by simp only [toList_lit]; decide)
  simp only [toList_lit, List.cons_append, List.nil_append] at kUser kC kChannel kShorts ⊢
  exact ⟨kUser, kC, kChannel, kShorts⟩

/-! ## round trip -/

/-- **what the parser guarantees about the fields**: a playlist id is non-empty and holds none of
`&`, `#`, `?`, `/`, `%`, TAB, CR, LF; a user name or channel id is a piece of the path `urlsplit`
hands out (no `/`, `?`, `#`, TAB, CR, LF) without `&` and without white space at either end; a
channel name is such a piece without `&` -/
theorem record_fields (puny : Str → Str) (t : T) (url : Str) (fix : Bool) (r : Record)
    (h : parse_youtube_url puny t url fix = .ok (some r)) : Fields r :=
  (parse_fields_noCont puny t url fix r h).1

/-- **a user name, channel id or channel name holds no continuation pattern** (`NEXT_V_RE`,
`NESTED_NEXT_V_RE`): it is a piece of the url — after `infer_redirection` and the removal of
TAB / CR / LF — in which the two patterns were searched, and nothing was found, or the url would
have been a video.  (The removal has to come first: with its TAB still in place
`youtube.com/user/ne<TAB>xt=%2Fwatch%3Fv%3D<id>` would be a user whose name holds the pattern.) -/
theorem record_names_no_continuation (puny : Str → Str) (t : T) (url : Str) (fix : Bool) (r : Record)
    (h : parse_youtube_url puny t url fix = .ok (some r)) : ∀ x, nameField r = some x → NoCont x :=
  (parse_fields_noCont puny t url fix r h).2

/-- **re-parsing the canonical url gives the same record**, for every string `url` and **both
values of `fix_common_mistakes`, in the first parse (`fix`) and in the re-parse (`fix'`)**:
`parse_youtube_url(url, fix) = rec → parse_youtube_url(rec.url, fix') = rec`, where `rec.url` is what
`normalize_youtube_url` builds (`recordUrl`).  `t` is any domain trie that knows
`www.youtube.com` (`youtube_trie_knows_www`: the module's trie does, see `reparse_url_module`).
Everything the round trip needs (`Good`) is guaranteed by the parser: `record_valid` (in
particular the id is 11 long even without `fix_common_mistakes`, so `v[:11]` changes nothing in
the re-parse), `record_fields`, `record_names_no_continuation`. -/
theorem reparse_url_any_fix (puny : Str → Str) (t : T) (hT : KnowsWww puny t) (url : Str)
    (fix fix' : Bool) (r : Record) (h : parse_youtube_url puny t url fix = .ok (some r)) :
    parse_youtube_url puny t (recordUrl r) fix' = .ok (some r) :=
  reparse_of_good puny t hT roundtrip_obligations r (record_valid puny t url fix r h)
    (good_of_fields r (record_valid puny t url fix r h) (record_fields puny t url fix r h)
      (record_names_no_continuation puny t url fix r h)) fix'

/-- the instance `fix = fix' = True` (the default of the code, what `normalize_youtube_url` uses) -/
theorem reparse_url (puny : Str → Str) (t : T) (hT : KnowsWww puny t) (url : Str) (r : Record)
    (h : parse_youtube_url puny t url true = .ok (some r)) :
    parse_youtube_url puny t (recordUrl r) true = .ok (some r) :=
  reparse_url_any_fix puny t hT url true true r h

/-- the same for the trie the module builds from `YOUTUBE_DOMAINS`: no hypothesis left -/
theorem reparse_url_module (puny : Str → Str) (url : Str) (fix fix' : Bool) (r : Record)
    (h : parse_youtube_url puny (youtubeTrie puny) url fix = .ok (some r)) :
    parse_youtube_url puny (youtubeTrie puny) (recordUrl r) fix' = .ok (some r) :=
  reparse_url_any_fix puny _ (youtube_trie_knows_www puny) url fix fix' r h

/-- a helper for the `decide` examples, no part of the property: `parse_youtube_url` with the
fuel-driven form of `infer_redirection` (`infer` is defined by well-founded recursion, which the
kernel does not unfold: this form is what `decide` runs) -/
theorem parse_eq_fuel (puny : Str → Str) (t : T) (url : Str) (fix : Bool) :
    parse_youtube_url puny t url fix =
      (let url := stripUnsafe (inferFuel inferTarget url.length url)
       let playlist := queryList url
       match (nextV url).or (nestedNextV url) with
       | some v => .ok (videoOf fix v playlist)
       | none =>
         match safe_urlsplit url with
         | none => .ok none
         | some parsed =>
           if !isYoutubeParsed puny t parsed then .ok none
           else parseSplit fix parsed playlist) := by
  simp only [parse_youtube_url, (Ural.Props.C15.infer_total url).2]
  -- the two sides differ in their `match` auxiliaries only; on stuck discriminants `rfl` would try
  -- to evaluate them, so they are abstracted first
  generalize (nextV _).or _ = a
  generalize safe_urlsplit _ = b
  cases a <;> cases b <;> rfl

/-- a two-domain trie for the evaluated examples (the theorems hold for every trie) -/
def smallTrie : T := ["youtube.com".toList, "youtu.be".toList].foldl (add isSpecialHost id) new

theorem smallTrie_knows_www : KnowsWww id smallTrie := by unfold KnowsWww; decide +kernel

/-! ## `normalize_youtube_url` is idempotent -/

/-- **`normalize_youtube_url` is idempotent**, for every string `url`:
`normalize_youtube_url(normalize_youtube_url(url)) = normalize_youtube_url(url)` (`t`: any domain
trie that knows `www.youtube.com`).  `normalize_youtube_url` has no `fix_common_mistakes` argument:
it calls the parser with the default. -/
theorem normalize_youtube_idempotent (puny : Str → Str) (t : T) (hT : KnowsWww puny t)
    (url n : Str) (h : normalize_youtube_url puny t url = .ok n) : normalize_youtube_url puny t n = .ok n := by
  obtain ⟨o, hp, hn⟩ := normalize_eq puny t url
  obtain rfl : o.elim url recordUrl = n := Except.ok.inj (hn.symm.trans h)
  cases o with
  | none => exact hn
  | some r => exact normalize_of_parsed puny t _ r (reparse_url puny t hT url r hp)

/-- the same for the trie the module builds, in the usual form: no hypothesis left
(`normalize_youtube_url` never raises: `normalize_youtube_url_total`) -/
theorem normalize_youtube_idempotent_module (puny : Str → Str) (url : Str) :
    ∃ n, normalize_youtube_url puny (youtubeTrie puny) url = .ok n ∧
      normalize_youtube_url puny (youtubeTrie puny) n = .ok n := by
  cases h : normalize_youtube_url puny (youtubeTrie puny) url with
  | error e => exact absurd h (normalize_youtube_url_total puny _ url e)
  | ok n => exact ⟨n, rfl, normalize_youtube_idempotent puny _ (youtube_trie_knows_www puny) url n h⟩

/-! ## normalising preserves the parse -/

/-- **`parse_youtube_url(normalize_youtube_url(url)) = parse_youtube_url(url)`**, for every
string, the `None` case included (a url that does not parse is returned unchanged) -/
theorem parse_normalize (puny : Str → Str) (t : T) (hT : KnowsWww puny t) (url : Str) :
    ∃ n, normalize_youtube_url puny t url = .ok n ∧
      parse_youtube_url puny t n true = parse_youtube_url puny t url true := by
  obtain ⟨o, hp, hn⟩ := normalize_eq puny t url
  refine ⟨_, hn, ?_⟩
  cases o with
  | none => rfl
  | some r => rw [hp]; exact reparse_url puny t hT url r hp

/-- the same for the trie the module builds: no hypothesis left -/
theorem parse_normalize_module (puny : Str → Str) (url : Str) :
    ∃ n, normalize_youtube_url puny (youtubeTrie puny) url = .ok n ∧
      parse_youtube_url puny (youtubeTrie puny) n true = parse_youtube_url puny (youtubeTrie puny) url true :=
  parse_normalize puny _ (youtube_trie_knows_www puny) url

/-- `extract_video_id_from_youtube_url(normalize_youtube_url(url)) =
extract_video_id_from_youtube_url(url)` -/
theorem extract_video_id_normalize (puny : Str → Str) (t : T) (hT : KnowsWww puny t) (url n : Str)
    (h : normalize_youtube_url puny t url = .ok n) :
    extract_video_id_from_youtube_url puny t n = extract_video_id_from_youtube_url puny t url := by
  obtain ⟨n', hn', hpn⟩ := parse_normalize puny t hT url
  rw [h] at hn'
  injection hn' with e
  subst e
  unfold extract_video_id_from_youtube_url
  rw [hpn]

end Ural.Props.C19.Youtube
