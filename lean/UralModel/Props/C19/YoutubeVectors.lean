import UralModel.Props.C19.Youtube
/-!
# C19, part `youtube` — the evaluated test vectors

Ten closed instances of the theorems of `Props/C19/Youtube.lean`, each decided by the kernel on the
two-domain `smallTrie` (the last one on the trie the module builds): the shapes of the known findings
and of the repairs in /repo, and a non-vacuity witness for each group of theorems (round trip,
truncated routes, idempotence, `parse_normalize`).  They stand apart so that the modules
above the theorems do not wait for the evaluations.
-/
namespace Ural.Props.C19.Youtube
open Ural Ural.Py Ural.C19 Ural.Youtube Ural.HostnameTrieSet

/-- the two shapes of KF-C19-YT-4 / KF-C19-YT-5: `youtube.com/user/ne<TAB>xt=%2Fwatch%3Fv%3D<id>`
is a continuation url, hence the video `<id>`, because TAB / CR / LF are removed before the regexes
run (the canonical url of a user `next=%2Fwatch%3Fv%3D<id>` would parse to the video); the playlist
id of `…?list=next=%2Fwatch%3Fv%3D<B>` is `next=`, because a playlist id stops at `%` (a longer one
would hold a second continuation pattern, the only one left in the canonical url) -/
example :
    parse_youtube_url id smallTrie "youtube.com/user/ne\txt=%2Fwatch%3Fv%3DdQw4w9WgXcQ".toList true =
      .ok (some (.video "dQw4w9WgXcQ".toList none)) ∧
    parse_youtube_url id smallTrie
        "youtube.com/next=%2Fwatch%3Fv%3DAAAAAAAAAAA?list=next=%2Fwatch%3Fv%3DBBBBBBBBBBB".toList true =
      .ok (some (.video "AAAAAAAAAAA".toList (some "next=".toList))) ∧
    parse_youtube_url id smallTrie (recordUrl (.video "AAAAAAAAAAA".toList (some "next=".toList))) true =
      .ok (some (.video "AAAAAAAAAAA".toList (some "next=".toList))) := by
  simp only [toList_lit]
  rw [parse_eq_fuel, parse_eq_fuel, parse_eq_fuel]
  decide +kernel

/-- a TAB inside a cache host (`bc.marfeel.co<TAB>m/`): `infer_redirection` reads the cleaned url
(/repo dcfec1d), so the TAB hides nothing and the url is followed as a redirection (to `x`, no
youtube url) like its TAB-free spelling.  A playlist id stops at `/` as well: an escaped TAB `%09`
behind a redirection hint becomes a raw one by unquoting -/
example :
    parse_youtube_url id smallTrie "youtube.com/watch?v=dQw4w9WgXcQ&list=bc.marfeel.co\tm/x".toList true =
      .ok none ∧
    parse_youtube_url id smallTrie "https://www.youtube.com/watch?v=dQw4w9WgXcQ&list=bc.marfeel.com/x".toList true =
      .ok none ∧
    parse_youtube_url id smallTrie "youtube.com/watch?v=dQw4w9WgXcQ&list=bc.marfeel.co\tm".toList true =
      .ok (some (.video "dQw4w9WgXcQ".toList (some "bc.marfeel.com".toList))) := by
  simp only [toList_lit]
  rw [parse_eq_fuel, parse_eq_fuel, parse_eq_fuel]
  decide +kernel

/-- the shapes of /repo 55c9bda, d47b8e8, 569f4b6, 716cf1e: a reserved word behind `@` is no channel; a
trailing blank is no part of a name; a playlist id stops at `?`; a name stops at `&` -/
example :
    parse_youtube_url id smallTrie "youtube.com/@watch".toList true = .ok none ∧
    parse_youtube_url id smallTrie "youtube.com/user/x /".toList true = .ok (some (.user "x".toList)) ∧
    parse_youtube_url id smallTrie "https://www.youtube.com/watch?v=dQw4w9WgXcQ&q=1&list=a?u=http://x.com/".toList true =
      .ok (some (.video "dQw4w9WgXcQ".toList (some "a".toList))) ∧
    parse_youtube_url id smallTrie "q=1@youtube.com/user/a&u=%2Fx".toList true = .ok (some (.user "a".toList)) := by
  simp only [toList_lit]
  rw [parse_eq_fuel, parse_eq_fuel, parse_eq_fuel, parse_eq_fuel]
  decide +kernel

/-- non-vacuity: a video with a playlist, found behind a fragment-swallowing url, and its
canonical url -/
example :
    parse_youtube_url id smallTrie "https://m.youtube.com/watch?feature=share&v=dQw4w9WgXcQxx&list=PL1#frag".toList true =
      .ok (some (.video "dQw4w9WgXcQ".toList (some "PL1".toList))) ∧
    recordUrl (.video "dQw4w9WgXcQ".toList (some "PL1".toList)) =
      "https://www.youtube.com/watch?v=dQw4w9WgXcQ&list=PL1".toList ∧
    parse_youtube_url id smallTrie (recordUrl (.video "dQw4w9WgXcQ".toList (some "PL1".toList))) true =
      .ok (some (.video "dQw4w9WgXcQ".toList (some "PL1".toList))) := by
  simp only [toList_lit]
  rw [parse_eq_fuel, parse_eq_fuel]
  decide +kernel

/-- non-vacuity: names with `%`, a channel behind `/c/@` -/
example :
    parse_youtube_url id smallTrie "youtu.be/".toList true = .ok none ∧
    parse_youtube_url id smallTrie "youtube.com/c/@Some-Name/videos".toList true =
      .ok (some (.channel none (some "Some-Name".toList))) ∧
    parse_youtube_url id smallTrie "m.youtube.com/user/a%20b%2Fnext=/videos".toList true =
      .ok (some (.user "a%20b%2Fnext=".toList)) ∧
    parse_youtube_url id smallTrie (recordUrl (.user "a%20b%2Fnext=".toList)) true =
      .ok (some (.user "a%20b%2Fnext=".toList)) ∧
    NoCont "a%20b%2Fnext=".toList := by
  simp only [toList_lit]
  rw [parse_eq_fuel, parse_eq_fuel, parse_eq_fuel, parse_eq_fuel]
  decide +kernel

/-- non-vacuity of the truncated-route theorems (`truncated_route_none`,
`truncated_short_host_none`), on whole urls: every one of them is `None`, not an `IndexError` -/
example :
    parse_youtube_url id smallTrie "youtu.be/".toList true = .ok none ∧
    parse_youtube_url id smallTrie "youtu.be//".toList false = .ok none ∧
    parse_youtube_url id smallTrie "http://youtu.be".toList true = .ok none ∧
    parse_youtube_url id smallTrie "youtube.com/user/".toList true = .ok none ∧
    parse_youtube_url id smallTrie "youtube.com/c//".toList false = .ok none ∧
    parse_youtube_url id smallTrie "youtube.com/channel/ ".toList true = .ok none ∧
    parse_youtube_url id smallTrie "youtube.com/shorts/".toList true = .ok none ∧
    parse_youtube_url id smallTrie "youtube.com/v/".toList true = .ok none ∧
    parse_youtube_url id smallTrie "youtube.com/embed/".toList false = .ok none := by
  simp only [toList_lit]
  rw [parse_eq_fuel, parse_eq_fuel, parse_eq_fuel, parse_eq_fuel, parse_eq_fuel, parse_eq_fuel,
    parse_eq_fuel, parse_eq_fuel, parse_eq_fuel]
  decide +kernel

/-- non-vacuity of `reparse_url_any_fix` / `record_valid` without `fix_common_mistakes`: a final
line break does not end up in the id (it is removed before the regexes run, so the `$` of the
validator never sees it); an over-long id is refused instead of cut; a record obtained without
the option re-parses to itself without it -/
example :
    parse_youtube_url id smallTrie "youtube.com/watch?v=dQw4w9WgXcQ\n".toList false =
      .ok (some (.video "dQw4w9WgXcQ".toList none)) ∧
    parse_youtube_url id smallTrie "youtube.com/watch?v=dQw4w9WgXcQxx".toList false = .ok none ∧
    parse_youtube_url id smallTrie "youtu.be/dQw4w9WgXcQ?list=PL1".toList false =
      .ok (some (.video "dQw4w9WgXcQ".toList (some "PL1".toList))) ∧
    parse_youtube_url id smallTrie (recordUrl (.video "dQw4w9WgXcQ".toList (some "PL1".toList))) false =
      .ok (some (.video "dQw4w9WgXcQ".toList (some "PL1".toList))) := by
  simp only [toList_lit]
  rw [parse_eq_fuel, parse_eq_fuel, parse_eq_fuel, parse_eq_fuel]
  decide +kernel

/-- non-vacuity: `youtube.com/user/ne<TAB>xt=…` reaches its fixed point in one step -/
example :
    normalize_youtube_url id smallTrie "youtube.com/user/ne\txt=%2Fwatch%3Fv%3DdQw4w9WgXcQ".toList =
      .ok "https://www.youtube.com/watch?v=dQw4w9WgXcQ".toList ∧
    normalize_youtube_url id smallTrie "https://www.youtube.com/watch?v=dQw4w9WgXcQ".toList =
      .ok "https://www.youtube.com/watch?v=dQw4w9WgXcQ".toList := by
  simp only [toList_lit]
  rw [normalize_youtube_url, normalize_youtube_url, parse_eq_fuel, parse_eq_fuel]
  decide +kernel

/-- non-vacuity: an unparsed url and a short, through `normalize_youtube_url` -/
example :
    normalize_youtube_url id smallTrie "youtube.com/shorts/".toList = .ok "youtube.com/shorts/".toList ∧
    normalize_youtube_url id smallTrie "m.youtube.com/shorts/dQw4w9WgXcQzz?x=1".toList =
      .ok "https://www.youtube.com/shorts/dQw4w9WgXcQ".toList ∧
    extract_video_id_from_youtube_url id smallTrie "https://www.youtube.com/shorts/dQw4w9WgXcQ".toList =
      .ok (some "dQw4w9WgXcQ".toList) := by
  simp only [toList_lit]
  rw [normalize_youtube_url, normalize_youtube_url, extract_video_id_from_youtube_url, parse_eq_fuel,
    parse_eq_fuel, parse_eq_fuel]
  decide +kernel

/-! ## the trie the module really builds -/

/-- non-vacuity with the **real** trie (`youtubeTrie`, built from the regenerated
`YOUTUBE_DOMAINS`; every other example uses the two-domain `smallTrie`): a user on a mobile
country domain, parsed without `fix_common_mistakes`.  The trie accepts the host because
`youtube.fr` is listed (`youtube_trie_match`); the rest is evaluated. -/
example :
    parse_youtube_url id (youtubeTrie id) "m.youtube.fr/user/abc".toList false =
      .ok (some (.user "abc".toList)) := by
  have hlisted : "youtube.fr".toList ∈ domains := by
    rw [domainChars.2, toList_lit]
    decide +kernel
  have hhost : isYoutubeParsed id (youtubeTrie id)
      ⟨"http".toList, "m.youtube.fr".toList, "/user/abc".toList, [], []⟩ = true := by
    unfold isYoutubeParsed
    rw [show hostnameOf ⟨"http".toList, "m.youtube.fr".toList, "/user/abc".toList, [], []⟩ =
      some "m.youtube.fr".toList by simp only [toList_lit]; decide +kernel]
    refine youtube_trie_match id "youtube.fr".toList _ hlisted ?_ ?_ ?_
    all_goals simp only [toList_lit]
    all_goals decide +kernel
  rw [parse_of_canonical id _ _ false _ ?_ ?_ ?_ ?_ hhost]
  rotate_left
  · rw [← (Ural.Props.C15.infer_total _).2]
    simp only [toList_lit]
    decide +kernel
  all_goals simp only [toList_lit]
  all_goals decide +kernel

end Ural.Props.C19.Youtube
