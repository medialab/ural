import UralModel.Model.Twitter
import UralModel.Model.Instagram
import UralModel.Model.Telegram
import UralModel.Lemmas.C19Small
import UralModel.Lemmas.C19SmallHost
import UralModel.Lemmas.StrLit
/-!
# C19, part `small` — `ural/twitter.py`, `ural/instagram.py`, `ural/telegram.py`

One namespace per module: totality of the routing and of the parser (twitter: the `while True`
loop leaves within `#'#'` re-entries), what a returned record is made of (`Built` / `Good`: the
fields are path segments, validated where the code validates), what the validators and the host
tests mean.  The last namespace holds the table obligations on the regenerated record types and
patterns.
-/

namespace Ural.Props.C19.Twitter
open Ural Ural.Py Ural.C19 Ural.C19Small Ural.Twitter

theorem listRoute_total (path : List Str) : ∃ r, listRoute path = .ok r := (listRoute_yields path).total

/-- **what one run of the routing does, for every component tuple**: it returns (no `IndexError`:
`path[0]` is guarded by `if path:`, `path[2]` by `len(path) == 3`), and a record it returns is
`Built` from the segments; or — on an empty path whose fragment starts with `!`, and only there — it
asks for another round on the fragment glued to `twitter.com/` -/
theorem twitterRoute_spec (path : List Str) (fragment : Str) :
    (∃ r, twitterRoute path fragment = .ok (.done r) ∧ ∀ rec, r = some rec → Built path rec) ∨
    (path = [] ∧ startsWith fragment ['!'] = true ∧ twitterRoute path fragment = .ok (.reroute
      ("twitter.com/".toList ++ subAnchored Gen.C19Small.TWITTER_FRAGMENT_ROUTING_RE [] fragment))) := by
  unfold twitterRoute
  split
  · rename_i hne
    refine .inl ?_
    cases path with
    | nil => exact absurd rfl hne
    | cons p0 rest =>
      simp only [getIdx, List.getElem?_cons_zero, bind, Except.bind]
      split
      · obtain ⟨r, hr, hb⟩ := listRoute_yields (p0 :: rest)
        rw [hr]
        exact ⟨r, rfl, hb⟩
      · rename_i name hn
        split
        · rename_i h3
          match rest, h3 with
          | [b, c], _ => exact ⟨_, rfl, fun rec h => Option.some.inj h ▸ ⟨⟨p0, rfl, hn⟩, rfl⟩⟩
        · exact ⟨_, rfl, fun rec h => Option.some.inj h ▸ ⟨p0, rfl, hn⟩⟩
  · rename_i hnil
    split
    · exact .inr ⟨Decidable.not_not.mp hnil, ‹_›, rfl⟩
    · exact .inl ⟨none, rfl, fun _ h => nomatch h⟩

/-- **routing is total, for every component tuple** -/
theorem twitterRoute_total (path : List Str) (fragment : Str) :
    ∃ s, twitterRoute path fragment = .ok s := by
  rcases twitterRoute_spec path fragment with ⟨_, h, _⟩ | ⟨_, _, h⟩ <;> exact ⟨_, h⟩

theorem twitterRoute_built (path : List Str) (fragment : Str) (rec : Record)
    (h : twitterRoute path fragment = .ok (.done (some rec))) : Built path rec := by
  rcases twitterRoute_spec path fragment with ⟨r, hr, hb⟩ | ⟨_, _, hr⟩ <;> rw [hr] at h
  · exact hb rec (Step.done.inj (Except.ok.inj h))
  · cases h

/-- one run of the loop body of `parse_twitter_url` never raises, for every string -/
theorem loopBody_total (url : Str) : ∃ s, loopBody url = .ok s := by
  unfold loopBody
  split
  · exact ⟨_, rfl⟩
  · exact twitterRoute_total _ _

/-! ### the `while True` loop, for an arbitrary body -/

/-- if the body never raises, the only error value of the loop is running out of budget -/
theorem runSteps_only_non_termination (step : Str → Except Err Step)
    (htot : ∀ u, ∃ s, step u = .ok s) (limit : Nat) (url : Str) (e : Err)
    (h : runSteps step limit url = .error e) : e = .nonTermination := by
  induction limit generalizing url with
  | zero =>
    obtain ⟨s, hs⟩ := htot url
    cases s with
    | done r => rw [runSteps_done step _ url r hs] at h; cases h
    | reroute u' => rw [runSteps_reroute_zero step url u' hs] at h; exact (Except.error.inj h).symm
  | succ n ih =>
    obtain ⟨s, hs⟩ := htot url
    cases s with
    | done r => rw [runSteps_done step _ url r hs] at h; cases h
    | reroute u' => rw [runSteps_reroute_succ step n url u' hs] at h; exact ih u' h

theorem runSteps_total (step : Str → Except Err Step) (μ : Str → Nat)
    (htot : ∀ u, ∃ s, step u = .ok s)
    (hdec : ∀ u u', step u = .ok (.reroute u') → μ u' + 1 ≤ μ u)
    (limit : Nat) (url : Str) (h : μ url ≤ limit) : ∃ r, runSteps step limit url = .ok r :=
  let ⟨r, hr⟩ := runSteps_stable step μ htot hdec url
  ⟨r, hr limit h⟩

theorem runSteps_limit_irrelevant (step : Str → Except Err Step) (μ : Str → Nat)
    (htot : ∀ u, ∃ s, step u = .ok s)
    (hdec : ∀ u u', step u = .ok (.reroute u') → μ u' + 1 ≤ μ u)
    (l₁ l₂ : Nat) (url : Str) (h₁ : μ url ≤ l₁) (h₂ : μ url ≤ l₂) :
    runSteps step l₁ url = runSteps step l₂ url :=
  let ⟨_, hr⟩ := runSteps_stable step μ htot hdec url
  (hr l₁ h₁).trans (hr l₂ h₂).symm

/-- **a re-entry consumes at least one `#`**: the url the loop goes round again on holds fewer
`#` than the one the body was given (the fragment follows the first `#`, the routed path is a
suffix of the fragment, `"twitter.com/"` holds none) -/
theorem reroute_count (url url' : Str) (h : loopBody url = .ok (.reroute url')) :
    url'.count '#' + 1 ≤ url.count '#' := by
  unfold loopBody at h
  split at h
  · cases h
  · rename_i parsed hp
    rcases twitterRoute_spec (pathsplit parsed.path) parsed.fragment with ⟨_, hr, _⟩ | ⟨_, hbang, hr⟩ <;>
      rw [hr] at h
    · cases h
    · have hfne : parsed.fragment ≠ [] := by
        intro h0; rw [h0] at hbang; exact absurd hbang (by decide)
      have h1 := safe_urlsplit_fragment_count url parsed hp hfne
      have h2 := (subAnchored_nil_suffix Gen.C19Small.TWITTER_FRAGMENT_ROUTING_RE
        parsed.fragment).sublist.count_le '#'
      rw [← Step.reroute.inj (Except.ok.inj h), List.count_append]
      have : "twitter.com/".toList.count '#' = 0 := by decide
      omega

/-- **`parse_twitter_url` never raises and its loop terminates, for every string**: no
`IndexError` (`twitterRoute_total`), and the `while True:` loop leaves within `#'#'` re-entries
(`reroute_count`) — the `nonTermination` value of the model is unreachable -/
theorem parse_twitter_url_total (url : Str) : ∃ r, parse_twitter_url url = .ok r := by
  unfold parse_twitter_url
  split
  · exact ⟨_, rfl⟩
  · exact runSteps_total loopBody (fun u => u.count '#') loopBody_total reroute_count _ url
      (Nat.le_refl _)

/-- the budget the model gives the loop is immaterial: any budget of at least `#'#'` re-entries
gives the same answer (so the model's loop is the code's unbounded `while True`) -/
theorem parse_twitter_url_budget_irrelevant (n : Nat) (url : Str) (h : url.count '#' ≤ n) :
    parse_twitter_url url =
      if !is_twitter_url url then .ok none else runSteps loopBody n url := by
  unfold parse_twitter_url
  split
  · rfl
  · exact runSteps_limit_irrelevant loopBody (fun u => u.count '#') loopBody_total reroute_count
      _ n url (Nat.le_refl _) h

/-- **`extract_screen_name_from_twitter_url` never raises**, for every string -/
theorem extract_screen_name_total (url : Str) :
    ∃ r, extract_screen_name_from_twitter_url url = .ok r := by
  obtain ⟨r, hr⟩ := parse_twitter_url_total url
  unfold extract_screen_name_from_twitter_url
  rw [hr]
  split <;> first | exact ⟨_, rfl⟩ | (rename_i he; cases he)

/-! ### well-formed records -/

/-- no field of a record is the empty string -/
def NonEmptyFields : Record → Prop
  | .tweet n i => n ≠ [] ∧ i ≠ []
  | .user n => n ≠ []
  | .list i => i ≠ []

instance (r : Record) : Decidable (NonEmptyFields r) := by
  cases r <;> unfold NonEmptyFields <;> infer_instance

/-- a normalized screen name is never empty (`twitter.com/@`: what is left behind the `@` is tested) -/
theorem normalize_screen_name_ne_nil (u n : Str) (h : normalize_screen_name u = some n) : n ≠ [] := by
  obtain ⟨v, _, hne, rfl⟩ := normalize_screen_name_some u n h
  exact mt lower_eq_nil.1 hne

theorem built_nonempty {path : List Str} {rec : Record} (he : Ends path) (hb : Built path rec) :
    NonEmptyFields rec := by
  cases rec with
  | tweet n i =>
    obtain ⟨⟨p0, _, hn⟩, hi⟩ := hb
    exact ⟨normalize_screen_name_ne_nil p0 n hn, he.2 i hi⟩
  | user n =>
    obtain ⟨p0, _, hn⟩ := hb
    exact normalize_screen_name_ne_nil p0 n hn
  | list i => exact he.2 i hb

/-- records built by the routing have no empty field, whenever the first and the last path
segment are non-empty (which `pathsplit` guarantees) -/
theorem twitterRoute_nonempty (path : List Str) (fragment : Str) (he : Ends path) (rec : Record)
    (h : twitterRoute path fragment = .ok (.done (some rec))) : NonEmptyFields rec :=
  built_nonempty he (twitterRoute_built path fragment rec h)

/-! ### no field carries a newline or a slash

`is_*`-style validators built on `^…$` admit one trailing `"\n"` (`PlusWord`), and a record field
holding a `/` or a newline would break the URL it is printed into.  Neither can happen: every
field is (the normalisation of) a segment of `pathsplit(safe_urlsplit(url).path)` — a piece of
`split("/")` of a string from which `urlsplit` removed TAB / CR / LF (`Seg`,
`Lemmas/C19SmallHost.lean`). -/

/-- every field of the record is a `Seg`: no `"\n"`, no `"/"` -/
def SegFields : Record → Prop
  | .tweet n i => Seg n ∧ Seg i
  | .user n => Seg n
  | .list i => Seg i

theorem built_seg {path : List Str} {rec : Record} (hp : ∀ s ∈ path, Seg s) (hb : Built path rec) :
    SegFields rec := by
  have hname : ∀ n, (∃ p0, path.head? = some p0 ∧ normalize_screen_name p0 = some n) → Seg n :=
    fun n ⟨p0, h0, hn⟩ => normalize_screen_name_seg p0 n (hp p0 (List.mem_of_mem_head? h0)) hn
  cases rec with
  | tweet n i => exact ⟨hname n hb.1, hp i (List.mem_of_getLast? hb.2)⟩
  | user n => exact hname n hb
  | list i => exact hp i (List.mem_of_getLast? hb)

/-- all that C19 says of a record `parse_twitter_url` returns -/
structure Sound (rec : Record) : Prop where
  nonempty : NonEmptyFields rec
  seg : SegFields rec

/-- **what `parse_twitter_url` returns is sound**, for every string (fragment-routed `#!` urls included): the
record of the turn that leaves the loop is `Built` from the segments of that turn's split path -/
theorem parse_twitter_url_sound (url : Str) (rec : Record) (h : parse_twitter_url url = .ok (some rec)) :
    Sound rec := by
  unfold parse_twitter_url at h
  split at h
  · cases h
  · refine runSteps_result loopBody Sound (fun u rec hu => ?_) _ url rec h
    unfold loopBody at hu
    split at hu
    · cases hu
    · rename_i parsed hs
      have hb := twitterRoute_built _ _ rec hu
      exact ⟨built_nonempty (splitPath u parsed hs).ends hb, built_seg (splitPath u parsed hs).seg hb⟩

/-- **every record `parse_twitter_url` returns is well formed**: no screen name, tweet id or
list id is the empty string — for every string -/
theorem twitter_record_wellformed (url : Str) (rec : Record)
    (h : parse_twitter_url url = .ok (some rec)) : NonEmptyFields rec :=
  (parse_twitter_url_sound url rec h).nonempty

/-- **no field of a record `parse_twitter_url` returns holds a newline or a slash** — screen
names, tweet ids and list ids, for every string (fragment-routed `#!` urls included) -/
theorem twitter_record_no_newline_slash (url : Str) (rec : Record)
    (h : parse_twitter_url url = .ok (some rec)) : SegFields rec :=
  (parse_twitter_url_sound url rec h).seg

/-! ### non-vacuity -/

example : parse_twitter_url "twitter.com/#!/bob/status/1".toList =
    .ok (some (.tweet "bob".toList "1".toList)) := by
  simp only [toList_lit]
  decide +kernel
example : parse_twitter_url "https://mobile.twitter.com/@Bob?lang=fr".toList =
    .ok (some (.user "bob".toList)) := by
  simp only [toList_lit]
  decide +kernel
example : parse_twitter_url "https://x.com/i/lists/55".toList = .ok (some (.list "55".toList)) := by
  simp only [toList_lit]
  decide +kernel
/-- nested hashbangs are routed one `#` at a time (the input class of the fixed RecursionError) -/
example : parse_twitter_url "twitter.com/#!#!#!#!bob".toList = .ok (some (.user "bob".toList)) := by
  simp only [toList_lit]
  decide +kernel
/-- the truncated paths of the statement and of the fixed defects parse to `None` -/
example : parse_twitter_url "twitter.com/i".toList = .ok none ∧
    parse_twitter_url "twitter.com/@".toList = .ok none ∧
    parse_twitter_url "https://[@twitter.com/i".toList = .ok none ∧
    parse_twitter_url "http://nottwitter.com/bob".toList = .ok none := by
  simp only [toList_lit]
  decide +kernel
example : extract_screen_name_from_twitter_url "twitter.com/Bob/status/1".toList = .ok (some "bob".toList) := by
  simp only [toList_lit]
  decide +kernel

end Ural.Props.C19.Twitter

namespace Ural.Props.C19.Instagram
open Ural Ural.Py Ural.Py.Re Ural.C19 Ural.C19Small Ural.Instagram

/-- what "the ids and names of a record satisfy the module's own validators" means -/
def RecordValid : Record → Prop
  | .user n => is_instagram_username n = true
  | .post id name => is_instagram_post_shortcode id = true ∧ ∀ n, name = some n → is_instagram_username n = true
  | .reel id => is_instagram_post_shortcode id = true

instance (r : Record) : Decidable (RecordValid r) := by
  cases r <;> unfold RecordValid
  · infer_instance
  · rename_i id name
    cases name with
    | none => exact decidable_of_iff (is_instagram_post_shortcode id = true) (by simp)
    | some n =>
      exact decidable_of_iff (is_instagram_post_shortcode id = true ∧ is_instagram_username n = true)
        (by simp)
  · infer_instance

/-- the outcome of a route: no exception, and a valid record if any (`Yields RecordValid x`: the
rules `Yields.none`, `.some`, `.ite` apply to it) -/
def Good (x : Except Err (Option Record)) : Prop :=
  ∃ r, x = .ok r ∧ ∀ rec, r = some rec → RecordValid rec

/-- the `p` / `reel` routes, entered with `len(path) >= 2` -/
theorem codeRoute_good (mk : Str → Record) (hmk : ∀ c, is_instagram_post_shortcode c = true → RecordValid (mk c))
    (path : List Str) (h : path.length ≥ 2) : Good (codeRoute mk path) := by
  match path, h with
  | a :: b :: rest, _ =>
    simp only [codeRoute, getIdx, List.getElem?_cons_zero, List.getElem?_cons_succ, bind, Except.bind]
    split
    · rename_i hc; exact Yields.some (hmk b hc)
    · exact Yields.none

/-- the `reels` route, entered with `len(path) >= 2` -/
theorem reelsRoute_good (path : List Str) (h : path.length ≥ 2) : Good (reelsRoute path) := by
  have hcode : ∀ x : Str, (is_instagram_post_shortcode x && decide (x ≠ "videos".toList)) = true →
      Good (.ok (some (.reel x))) := fun x hc => Yields.some (Bool.and_eq_true_iff.mp hc).1
  match path, h with
  | [a, b], _ =>
    simp only [reelsRoute, getIdx, List.getElem?_cons_zero, List.getElem?_cons_succ, bind, Except.bind]
    exact Yields.ite (hcode b) fun _ => Yields.none
  | a :: b :: c :: rest, _ =>
    simp only [reelsRoute, getIdx, List.getElem?_cons_zero, List.getElem?_cons_succ, bind, Except.bind]
    exact Yields.ite (hcode b) fun _ => Yields.ite (fun _ => Yields.ite (fun _ => Yields.ite (hcode c)
      fun _ => Yields.none) fun _ => Yields.none) fun _ => Yields.none

/-- the user routes, entered with a valid username in `path[0]` -/
theorem userRoute_good (path : List Str) (p0 : Str) (rest : List Str) (hp : path = p0 :: rest)
    (hu : is_instagram_username p0 = true) : Good (userRoute path) := by
  subst hp
  match rest with
  | [] =>
    simp only [userRoute, getIdx, List.getElem?_cons_zero, bind, Except.bind]
    exact Yields.some hu
  | [b] =>
    simp only [userRoute, getIdx, List.getElem?_cons_zero, bind, Except.bind]
    exact Yields.some hu
  | b :: c :: rest' =>
    simp only [userRoute, getIdx, List.getElem?_cons_zero, List.getElem?_cons_succ, bind, Except.bind]
    exact Yields.ite (fun _ => Yields.ite (fun _ => Yields.ite
      (fun hc => Yields.some ⟨hc, fun n hn => Option.some.inj hn ▸ hu⟩) fun _ => Yields.some hu)
      fun _ => Yields.some hu) fun _ => Yields.some hu

/-- **routing is total and only builds valid records, for every list of path segments**:
no `IndexError` (`path[0]` after `if not path`, `path[1]` after `len(path) >= 2`, `path[2]`
after `len(path) >= 3`), and every shortcode / username put into a record has passed
`is_instagram_post_shortcode` / `is_instagram_username` -/
theorem instagramRoute_good (path : List Str) : Good (instagramRoute path) := by
  unfold instagramRoute
  split
  · exact Yields.none
  · rename_i hne
    cases path with
    | nil => exact absurd rfl hne
    | cons p0 rest =>
      simp only [getIdx, List.getElem?_cons_zero, bind, Except.bind]
      have hlen : ∀ {x : Bool}, (x && decide ((p0 :: rest).length ≥ 2)) = true → (p0 :: rest).length ≥ 2 :=
        fun h => of_decide_eq_true (Bool.and_eq_true_iff.mp h).2
      exact Yields.ite (fun h => codeRoute_good (fun c => Record.post c none)
          (fun c hc => show RecordValid (.post c none) from ⟨hc, by intro n hn; cases hn⟩) _ (hlen h))
        fun _ => Yields.ite (fun h => codeRoute_good Record.reel
          (fun c hc => show RecordValid (.reel c) from hc) _ (hlen h))
        fun _ => Yields.ite (fun h => reelsRoute_good _ (hlen h))
        fun _ => Yields.ite (fun hu => userRoute_good _ p0 rest rfl hu) fun _ => Yields.none

theorem readsSplit : ReadsSplit parse_instagram_url fun sr => instagramRoute (pathsplit sr.path) := by
  intro url
  unfold parse_instagram_url
  split
  · exact .inl rfl
  · split
    · exact .inl rfl
    · exact .inr ⟨_, ‹_›, rfl⟩

theorem parse_instagram_url_good (url : Str) : Good (parse_instagram_url url) :=
  readsSplit.yields (fun _ _ _ => instagramRoute_good _) url

/-- **`parse_instagram_url` never raises**, for every string -/
theorem parse_instagram_url_total (url : Str) : ∃ r, parse_instagram_url url = .ok r :=
  Yields.total (parse_instagram_url_good url)

/-- **every record `parse_instagram_url` returns is valid**: post and reel ids satisfy
`is_instagram_post_shortcode`, user names `is_instagram_username` -/
theorem instagram_record_valid (url : Str) (rec : Record)
    (h : parse_instagram_url url = .ok (some rec)) : RecordValid rec :=
  Yields.of_some (parse_instagram_url_good url) h

/-- **`extract_username_from_instagram_url` never raises** (the `.name` of a reel, which has
none, is never read), and what it returns is a valid username -/
theorem extract_username_total (url : Str) :
    ∃ r, extract_username_from_instagram_url url = .ok r ∧
      ∀ n, r = some n → is_instagram_username n = true := by
  obtain ⟨r, hr, hv⟩ := parse_instagram_url_good url
  unfold extract_username_from_instagram_url
  rw [hr]
  match r, hv with
  | none, _ => exact ⟨none, rfl, by intro n hn; cases hn⟩
  | some (.user n), hv =>
    exact ⟨some n, rfl, fun m hm => Option.some.inj hm ▸ hv _ rfl⟩
  | some (.post i n), hv => exact ⟨n, rfl, fun m hm => (hv _ rfl).2 m hm⟩
  | some (.reel i), _ => exact ⟨none, rfl, by intro n hn; cases hn⟩

/-! ### what the validators mean -/

/-- **`is_instagram_post_shortcode`** accepts exactly the non-empty words over the class of
`INSTAGRAM_POST_SHORTCODE_RE` (`[a-zA-Z0-9_-]`, pinned by `shortcode_class`), possibly
followed by one final newline -/
theorem is_instagram_post_shortcode_iff (C : CharClass)
    (hC : plusClass? Gen.C19Small.INSTAGRAM_POST_SHORTCODE_RE = some C) (v : Str) :
    is_instagram_post_shortcode v = true ↔ PlusWord C v :=
  searchB_plus_iff _ C hC v

/-- **`is_instagram_username`**: a non-empty word over the class of `INSTAGRAM_USERNAME_RE`
(`[a-zA-Z0-9_.-]`), possibly followed by a newline, that is not in `INSTAGRAM_NOT_A_USER_SET` -/
theorem is_instagram_username_iff (C : CharClass)
    (hC : plusClass? Gen.C19Small.INSTAGRAM_USERNAME_RE = some C) (v : Str) :
    is_instagram_username v = true ↔
      PlusWord C v ∧ inStrSet Gen.C19Small.instagramNotAUserSet v = false := by
  unfold is_instagram_username
  rw [Bool.and_eq_true, searchB_plus_iff _ C hC v]
  simp

/-- table obligation: the shortcode pattern is `^[C]+$` with `C = [-0-9A-Z_a-z]` -/
theorem shortcode_class : plusClass? Gen.C19Small.INSTAGRAM_POST_SHORTCODE_RE =
    some ⟨false, [(45, 45), (48, 57), (65, 90), (95, 95), (97, 122)]⟩ := by decide

/-- table obligation: the username pattern is `^[C]+$` with `C = [-.0-9A-Z_a-z]` -/
theorem username_class : plusClass? Gen.C19Small.INSTAGRAM_USERNAME_RE =
    some ⟨false, [(45, 46), (48, 57), (65, 90), (95, 95), (97, 122)]⟩ := by decide

/-- no field of a record is the empty string -/
def NonEmptyFields : Record → Prop
  | .user n => n ≠ []
  | .post id name => id ≠ [] ∧ ∀ n, name = some n → n ≠ []
  | .reel id => id ≠ []

theorem shortcode_ne_nil (v : Str) (h : is_instagram_post_shortcode v = true) : v ≠ [] :=
  ((is_instagram_post_shortcode_iff _ shortcode_class v).mp h).ne_nil

theorem username_ne_nil (v : Str) (h : is_instagram_username v = true) : v ≠ [] :=
  ((is_instagram_username_iff _ username_class v).mp h).1.ne_nil

/-- **every record `parse_instagram_url` returns is well formed**: no empty id or name -/
theorem instagram_record_wellformed (url : Str) (rec : Record)
    (h : parse_instagram_url url = .ok (some rec)) : NonEmptyFields rec := by
  have hv := instagram_record_valid url rec h
  cases rec with
  | user n => exact username_ne_nil n hv
  | post id name => exact ⟨shortcode_ne_nil id hv.1, fun n hn => username_ne_nil n (hv.2 n hn)⟩
  | reel id => exact shortcode_ne_nil id hv

/-! ### non-vacuity -/

example : parse_instagram_url "https://www.instagram.com/bob/p/BxKRx5CHn5i/?hl=fr".toList =
    .ok (some (.post "BxKRx5CHn5i".toList (some "bob".toList))) := by
  simp only [toList_lit]
  decide +kernel
example : parse_instagram_url "instagram.com/reels/videos/Cabc_-1".toList =
    .ok (some (.reel "Cabc_-1".toList)) := by
  simp only [toList_lit]
  decide +kernel
example : parse_instagram_url "INSTAGRAM.COM/b.o-b_/".toList = .ok (some (.user "b.o-b_".toList)) := by
  simp only [toList_lit]
  decide +kernel
/-- truncated routes and invalid codes parse to `None` (or to the user the segment names) -/
example : parse_instagram_url "instagram.com/reels".toList = .ok none ∧
    parse_instagram_url "instagram.com/p/bad!code".toList = .ok none ∧
    parse_instagram_url "instagram.com/reels/videos".toList = .ok none ∧
    parse_instagram_url "https://[@www.instagram.com/p/".toList = .ok none ∧
    parse_instagram_url "http://instagramxcom/bob".toList = .ok none := by
  simp only [toList_lit]
  decide +kernel
example : RecordValid (.post "BxKRx5CHn5i".toList (some "bob".toList)) := by
  simp only [toList_lit]
  decide +kernel
example : extract_username_from_instagram_url "instagram.com/bob/p/abc".toList = .ok (some "bob".toList) ∧
    extract_username_from_instagram_url "instagram.com/reel/abc".toList = .ok none := by
  simp only [toList_lit]
  decide +kernel

end Ural.Props.C19.Instagram

namespace Ural.Props.C19.Telegram
open Ural Ural.Py Ural.Py.Re Ural.C19 Ural.C19Small Ural.Telegram

/-- the message id of a message record satisfies `is_telegram_message_id` -/
def RecordValid : Record → Prop
  | .message _ id => is_telegram_message_id id = true
  | _ => True

instance (r : Record) : Decidable (RecordValid r) := by
  cases r <;> unfold RecordValid <;> infer_instance

def Good (x : Except Err (Option Record)) : Prop :=
  ∃ r, x = .ok r ∧ ∀ rec, r = some rec → RecordValid rec

theorem built_valid {path : List Str} {rec : Record} (h : Built path rec) : RecordValid rec := by
  cases rec with
  | message n i => exact h.valid
  | group i => trivial
  | channel n => trivial

theorem sRoute_good (path : List Str) : Good (sRoute path) := (sRoute_yields path).mono fun _ => built_valid

theorem plainRoute_good (path : List Str) (hne : path ≠ []) : Good (plainRoute path) :=
  (plainRoute_yields path hne).mono fun _ => built_valid

/-- **routing is total and message ids are validated, for every list of path segments** -/
theorem telegramRoute_good (path : List Str) : Good (telegramRoute path) :=
  (telegramRoute_yields path).mono fun _ => built_valid

/-- "foreign url": `urlsplit` refuses the protocol-equipped url, or its netloc is not a
telegram host -/
def Foreign (url : Str) : Prop :=
  match urlsplit (ensure_protocol url "http".toList) with
  | none => True
  | some sp => is_telegram_url sp.netloc = false

instance (url : Str) : Decidable (Foreign url) := by
  unfold Foreign
  split <;> infer_instance

/-- **`convert_telegram_url_to_public` raises only its documented `TypeError`, and exactly on
foreign urls** -/
theorem convert_telegram_only_documented_error (url : Str) :
    (∀ e, convert_telegram_url_to_public url = .error e → e = .typeError ∧ Foreign url) ∧
    (Foreign url → convert_telegram_url_to_public url = .error .typeError) := by
  -- (`by assumption`, `Except.error.inj`: elaborating a term against `Foreign url` would unfold it)
  have key : convert_telegram_url_to_public url = .error .typeError → Foreign url →
      (∀ e, convert_telegram_url_to_public url = .error e → e = .typeError ∧ Foreign url) ∧
      (Foreign url → convert_telegram_url_to_public url = .error .typeError) := by
    intro hc hf
    rw [hc]
    exact ⟨fun e h => ⟨(Except.error.inj h).symm, by assumption⟩, fun _ => rfl⟩
  cases hs : urlsplit (ensure_protocol url "http".toList) with
  | none =>
    exact key (by simp only [convert_telegram_url_to_public, hs]) (by simp only [Foreign, hs])
  | some sp =>
    cases ht : is_telegram_url sp.netloc with
    | false =>
      exact key (by simp only [convert_telegram_url_to_public, hs, ht, Bool.not_false, if_true])
        (by simp only [Foreign, hs, ht])
    | true =>
      have hf : ¬ Foreign url := by simp only [Foreign, hs, ht]; exact Bool.noConfusion
      refine ⟨?_, fun h => absurd h hf⟩
      intro e h
      exfalso
      simp only [convert_telegram_url_to_public, hs, ht, Bool.not_true, Bool.false_eq_true, if_false,
        pure, Except.pure] at h
      split at h
      · obtain ⟨x, hx⟩ := getLastE_ne_nil _ (splitOnce_ne_nil
          (urlunsplit20 sp.scheme (subAnchored Gen.C19Small.TELEGRAM_PUBLIC_REPLACE_RE "t.me/s".toList sp.netloc)
            sp.path sp.query sp.fragment) "://".toList)
        rw [hx] at h
        cases h
      · cases h

/-! ### "foreign url", independently of the model's guard

`Foreign url` above is the guard of the model of `convert_telegram_url_to_public` read back, so
"raises exactly on foreign urls" is that definition unfolded.  The independent notion: the
pattern `TELEGRAM_DOMAINS_RE` that `is_telegram_url` searches in the parsed hostname denotes
whole-label membership in `telegram.org`, `telegram.me`, `t.me` (C18's `site_search_spec_nl`,
through the table obligation `telegram_domains_table_ok` on the copy of the pattern regenerated
for this property). -/

/-- table obligation: the regenerated `TELEGRAM_DOMAINS_RE` of telegram.py is `(?:^|\.) body $`
and the words of its body denote exactly C18's regenerated family -/
theorem telegram_domains_table_ok :
    Ural.Sites.SiteTableOK Ural.Gen.C19Small.TELEGRAM_DOMAINS_RE Ural.Gen.SitesTables.TELEGRAM_DOMAINS = true := by decide +kernel

/-- table obligation: that family is `telegram.org`, `telegram.me`, `t.me` -/
theorem telegram_family :
    Ural.Gen.SitesTables.TELEGRAM_DOMAINS =
      ["telegram.org".toList.map some, "telegram.me".toList.map some, "t.me".toList.map some] := by
  simp only [toList_lit]
  decide +kernel

/-- the hostname equals `telegram.org`, `telegram.me` or `t.me`, or ends with `.` + one of them -/
def TelegramHost (h : Str) : Prop :=
  Ural.Sites.HostUnder "telegram.org".toList h ∨ Ural.Sites.HostUnder "telegram.me".toList h ∨
    Ural.Sites.HostUnder "t.me".toList h

/-- **`is_telegram_url`, independently**: true exactly when `safe_urlsplit(url).hostname` exists
and, lower-cased, is at or under (whole labels) `telegram.org` / `telegram.me` / `t.me` -/
theorem is_telegram_url_iff (url : Str) :
    is_telegram_url url = true ↔ ∃ h, get_hostname url = some h ∧ TelegramHost (lower h) := by
  unfold is_telegram_url
  rw [hostMatches_site_iff telegram_domains_table_ok url, telegram_family]
  constructor
  · rintro ⟨h, hh, p, hp, hu⟩
    refine ⟨h, hh, ?_⟩
    simp only [List.mem_cons, List.not_mem_nil, or_false] at hp
    rcases hp with rfl | rfl | rfl
    · exact Or.inl ((Ural.Sites.underPattern_literal_iff _ _).1 hu)
    · exact Or.inr (Or.inl ((Ural.Sites.underPattern_literal_iff _ _).1 hu))
    · exact Or.inr (Or.inr ((Ural.Sites.underPattern_literal_iff _ _).1 hu))
  · rintro ⟨h, hh, h1 | h1 | h1⟩
    · exact ⟨h, hh, _, by simp, (Ural.Sites.underPattern_literal_iff _ _).2 h1⟩
    · exact ⟨h, hh, _, by simp, (Ural.Sites.underPattern_literal_iff _ _).2 h1⟩
    · exact ⟨h, hh, _, by simp, (Ural.Sites.underPattern_literal_iff _ _).2 h1⟩

/-- "foreign url", stated without the model's guard: `urlsplit` refuses the protocol-equipped
url, or the netloc it reads — taken as a url, which is what `is_telegram_url(splitted.netloc)`
does — has no hostname at or under `telegram.org` / `telegram.me` / `t.me` -/
def ForeignSpec (url : Str) : Prop :=
  ∀ sp, urlsplit (ensure_protocol url "http".toList) = some sp →
    ∀ h, get_hostname sp.netloc = some h → ¬ TelegramHost (lower h)

theorem foreign_iff (url : Str) : Foreign url ↔ ForeignSpec url := by
  unfold Foreign ForeignSpec
  cases hs : urlsplit (ensure_protocol url "http".toList) with
  | none => simp
  | some sp =>
    simp only [Option.some.injEq, forall_eq']
    rw [← Bool.not_eq_true, is_telegram_url_iff]
    constructor
    · intro hn h hh ht; exact hn ⟨h, hh, ht⟩
    · rintro hn ⟨h, hh, ht⟩; exact hn h hh ht

/-- **`convert_telegram_url_to_public` raises only its documented `TypeError`, and exactly on
urls that are foreign in the independent sense** -/
theorem convert_telegram_error_iff_foreign (url : Str) :
    (∀ e, convert_telegram_url_to_public url = .error e → e = .typeError) ∧
    (convert_telegram_url_to_public url = .error .typeError ↔ ForeignSpec url) := by
  obtain ⟨h1, h2⟩ := convert_telegram_only_documented_error url
  refine ⟨fun e he => (h1 e he).1, ?_⟩
  rw [← foreign_iff]
  exact ⟨fun he => (h1 _ he).2, h2⟩

/-- non-vacuity: both sides of `is_telegram_url_iff` on look-alikes -/
example : is_telegram_url "http://u@A.T.ME:80/x".toList = true ∧
    is_telegram_url "http://xt.me/".toList = false ∧
    is_telegram_url "http://t.me.evil.fr/".toList = false ∧
    get_hostname "http://u@A.T.ME:80/x".toList = some "a.t.me".toList := by
  simp only [toList_lit]
  decide +kernel

/-! ### what the validator means, well-formed records -/

/-- **`is_telegram_message_id`** accepts exactly the non-empty words over the class of
`TELEGRAM_MESSAGE_ID_RE` (the Unicode decimal digits `\d` of the running interpreter; on ASCII:
`0`–`9`, pinned by `message_id_class_ascii`), possibly followed by one final newline -/
theorem is_telegram_message_id_iff (C : CharClass)
    (hC : plusClass? Gen.C19Small.TELEGRAM_MESSAGE_ID_RE = some C) (v : Str) :
    is_telegram_message_id v = true ↔ PlusWord C v :=
  searchB_plus_iff _ C hC v

/-- the class of the message-id pattern -/
def messageIdClass : CharClass := (plusClass? Gen.C19Small.TELEGRAM_MESSAGE_ID_RE).getD ⟨false, []⟩

/-- table obligation: the message-id pattern is `^[C]+$`, and on ASCII `C` is `0`–`9` -/
theorem message_id_class_ascii :
    plusClass? Gen.C19Small.TELEGRAM_MESSAGE_ID_RE = some messageIdClass ∧
    messageIdClass.neg = false ∧
    (List.range 128).all (fun n => CharClass.inRanges messageIdClass.ranges n == (48 ≤ n && n ≤ 57)) = true := by
  decide +kernel

theorem message_id_ne_nil (v : Str) (h : is_telegram_message_id v = true) : v ≠ [] :=
  ((is_telegram_message_id_iff _ message_id_class_ascii.1 v).mp h).ne_nil

/-- no field of a record is the empty string -/
def NonEmptyFields : Record → Prop
  | .message n i => n ≠ [] ∧ i ≠ []
  | .group i => i ≠ []
  | .channel n => n ≠ []

instance (r : Record) : Decidable (NonEmptyFields r) := by
  cases r <;> unfold NonEmptyFields <;> infer_instance

theorem built_nonempty {path : List Str} {rec : Record} (he : Ends path) (h : Built path rec) :
    NonEmptyFields rec := by
  cases rec with
  | message n i => exact ⟨h.name.elim id (he.1 n), message_id_ne_nil i h.valid⟩
  | group i => exact he.2 i h
  | channel n => exact he.2 n h

theorem sRoute_nonempty (path : List Str) (he : Ends path) (rec : Record)
    (h : sRoute path = .ok (some rec)) : NonEmptyFields rec :=
  built_nonempty he ((sRoute_yields path).of_some h)

theorem plainRoute_nonempty (path : List Str) (he : Ends path) (rec : Record)
    (h : plainRoute path = .ok (some rec)) : NonEmptyFields rec := by
  cases path with
  | nil => simp [plainRoute, getIdx, bind, Except.bind] at h
  | cons a rest => exact built_nonempty he ((plainRoute_yields _ (by simp)).of_some h)

/-- every field of the record is a `Seg`: no `"\n"`, no `"/"` -/
def SegFields : Record → Prop
  | .message n i => Seg n ∧ Seg i
  | .group i => Seg i
  | .channel n => Seg n

theorem built_seg {path : List Str} {rec : Record} (hp : ∀ s ∈ path, Seg s) (h : Built path rec) :
    SegFields rec := by
  cases rec with
  | message n i => exact ⟨hp n h.mem, hp i (List.mem_of_getLast? h.last)⟩
  | group i => exact hp i (List.mem_of_getLast? h)
  | channel n => exact hp n (List.mem_of_getLast? h)

/-- all that C19 says of a record `parse_telegram_url` returns -/
structure Sound (rec : Record) : Prop where
  valid : RecordValid rec
  nonempty : NonEmptyFields rec
  seg : SegFields rec

/-- **`parse_telegram_url` never raises, and what it returns is sound**, for every string: the
record is `Built` from the segments of the split path (`telegramRoute_yields`), which are `SplitPath` -/
theorem parse_telegram_url_sound (url : Str) : Yields Sound (parse_telegram_url url) :=
  readsSplit.yields (fun url sr hs => (telegramRoute_yields _).mono fun _ hb =>
    ⟨built_valid hb, built_nonempty (splitPath url sr hs).ends hb, built_seg (splitPath url sr hs).seg hb⟩) url

/-- **`parse_telegram_url` never raises**, for every string -/
theorem parse_telegram_url_total (url : Str) : ∃ r, parse_telegram_url url = .ok r :=
  (parse_telegram_url_sound url).total

/-- **the id of every `TelegramMessage` that `parse_telegram_url` returns satisfies
`is_telegram_message_id`** -/
theorem telegram_record_valid (url : Str) (rec : Record)
    (h : parse_telegram_url url = .ok (some rec)) : RecordValid rec :=
  ((parse_telegram_url_sound url).of_some h).valid

/-- **no field of a record `parse_telegram_url` returns holds a newline or a slash** — channel
names, message ids (although `is_telegram_message_id`, being `^\d+$`, would admit a trailing
`"\n"`) and group ids, for every string -/
theorem telegram_record_no_newline_slash (url : Str) (rec : Record)
    (h : parse_telegram_url url = .ok (some rec)) : SegFields rec :=
  ((parse_telegram_url_sound url).of_some h).seg

/-- **every record `parse_telegram_url` returns is well formed**: no channel name, message id
or group id is the empty string — for every string -/
theorem telegram_record_wellformed (url : Str) (rec : Record)
    (h : parse_telegram_url url = .ok (some rec)) : NonEmptyFields rec :=
  ((parse_telegram_url_sound url).of_some h).nonempty

/-- **`extract_channel_name_from_telegram_url` never raises** (the `.name` of a group, which
has none, is never read) -/
theorem extract_channel_name_total (url : Str) :
    ∃ r, extract_channel_name_from_telegram_url url = .ok r := by
  obtain ⟨r, hr⟩ := parse_telegram_url_total url
  unfold extract_channel_name_from_telegram_url
  rw [hr]
  split <;> first | exact ⟨_, rfl⟩ | (rename_i he; cases he)

/-! ### non-vacuity -/

example : parse_telegram_url "https://t.me/s/bob/123?x=1".toList =
    .ok (some (.message "bob".toList "123".toList)) := by
  simp only [toList_lit]
  decide +kernel
example : parse_telegram_url "telegram.me/joinchat/AAAAAEkk2WdoDrB4-Q8-gg".toList =
    .ok (some (.group "AAAAAEkk2WdoDrB4-Q8-gg".toList)) := by
  simp only [toList_lit]
  decide +kernel
example : parse_telegram_url "T.ME/Bob".toList = .ok (some (.channel "Bob".toList)) := by
  simp only [toList_lit]
  decide +kernel
/-- the truncated paths of the statement and of the fixed defects parse to `None` -/
example : parse_telegram_url "t.me/s".toList = .ok none ∧
    parse_telegram_url "t.me/s//123".toList = .ok none ∧
    parse_telegram_url "t.me/s/joinchat".toList = .ok none ∧
    parse_telegram_url "t.me/bob/12a".toList = .ok none ∧
    parse_telegram_url "https://[@t.me/s".toList = .ok none ∧
    parse_telegram_url "http://xt.me/bob".toList = .ok none := by
  simp only [toList_lit]
  decide +kernel
example : convert_telegram_url_to_public "https://web.telegram.org/bob?x=1#f".toList =
    .ok "https://t.me/s/bob?x=1#f".toList ∧
    convert_telegram_url_to_public "t.me/bob".toList = .ok "t.me/s/bob".toList := by
  simp only [toList_lit]
  decide +kernel
example : Foreign "example.com/x".toList ∧ Foreign "https://[@t.me/s".toList ∧
    ¬ Foreign "T.me/x".toList := by
  simp only [toList_lit]
  decide +kernel
example : extract_channel_name_from_telegram_url "t.me/s/bob/12".toList = .ok (some "bob".toList) ∧
    extract_channel_name_from_telegram_url "t.me/joinchat/x".toList = .ok none := by
  simp only [toList_lit]
  decide +kernel

end Ural.Props.C19.Telegram

namespace Ural.Props.C19.Small
open Ural Ural.Py Ural.Py.Re Ural.C19Small Ural.Gen.C19Small

/-! ## table obligations (over the tables regenerated from the three modules on every run) -/

/-- none of the nine record types of the three modules builds a canonical url: the round-trip
clause of C19 (`parse(rec.url) = rec`) has no object in this part.  (If a record type gains an
`url`, this breaks and the oracle starts re-parsing it.) -/
theorem no_record_has_url : recordsWithUrl = [] := by decide

/-- the record types and their fields, in order, are those of the models' constructors -/
theorem record_fields_unchanged : recordFields =
    [("TwitterTweet", ["user_screen_name", "id"]), ("TwitterUser", ["screen_name"]), ("TwitterList", ["id"]),
     ("InstagramUser", ["name"]), ("InstagramPost", ["id", "name"]), ("InstagramReel", ["id"]),
     ("TelegramMessage", ["name", "id"]), ("TelegramGroup", ["id"]), ("TelegramChannel", ["name"])] :=
  rfl

/-- the two patterns used with `re.sub` start with `^` (what `subAnchored` assumes: at most one
match, at position 0) -/
theorem sub_patterns_anchored :
    (spine TWITTER_FRAGMENT_ROUTING_RE).head? = some .bos ∧
    (spine TELEGRAM_PUBLIC_REPLACE_RE).head? = some .bos := by decide

/-- no repetition of the eight patterns has a body that can match the empty string: on them the
executable matcher finds a match whenever the denotational semantics has one
(`matchEnds_complete`) -/
theorem patterns_no_null_rep :
    [TWITTER_DOMAINS_RE, TWITTER_FRAGMENT_ROUTING_RE, INSTAGRAM_POST_SHORTCODE_RE, INSTAGRAM_USERNAME_RE,
     INSTAGRAM_DOMAIN_RE, TELEGRAM_MESSAGE_ID_RE, TELEGRAM_DOMAINS_RE, TELEGRAM_PUBLIC_REPLACE_RE].all noNullRep
      = true := by decide

/-- the reserved words the routes rely on are in the tables: `i` is not a screen name (so
`/i/lists/<id>` reaches the list branch), `reels` and `explore` are not user names -/
theorem reserved_words_present :
    inStrSet twitterScreenNameBlacklist "i".toList = true ∧
    inStrSet instagramNotAUserSet "reels".toList = true ∧
    inStrSet instagramNotAUserSet "explore".toList = true := by
  simp only [toList_lit]
  decide +kernel

end Ural.Props.C19.Small
