import UralModel.Props.C06
import UralModel.Model.FingerprintUrl
import UralModel.Lemmas.NormBridge
import UralModel.Lemmas.C04Query
import UralModel.Lemmas.Redirect
import UralModel.Lemmas.StrLit
/-!
# C06 on STRINGS: `fingerprint_url(T(u)) = fingerprint_url(u)` with the parser inside the model

`Props/C06.lean` states the port / language-label / `gl`-`hl` theorems on `Parsed` records and for
an abstract environment.  Here the function is the whole-string model `fingerprintUrlString`
(`Model/FingerprintUrl.lean`: modelled `urlsplit` + accessors on the input, the hand models
`pyNetlocAcc` / `pyWalkHost` in the second pass, any suffix trie, any idna decoder) and the
statements are about strings.  Two bridges carry them: `fp_string_of_norm` (equal values of
`normalize_url` give equal fingerprints, every string) and `fp_string_of_parsed` (on the class, equal
fingerprints of the two `Parsed` records).

Class (`NormBridge.InClassOf true g (lower u)`): the strings `u` such that the cleaned, resolved
form of `u.lower()` — what `normalize_url` hands to the parser inside `fingerprint_url` — is the
string `g.str` of the grammar of `Lemmas/NormBridge.lean` (scheme prefix / `//` / nothing,
userinfo, host name or bracketed IP literal, port text, absolute path, query, fragment).  The
letter-case theorem needs no grammar (every string).  `platform_aware` is off.
-/
namespace Ural.Props.C06
open Ural Ural.Py Ural.UrlParts Ural.Normalize Ural.Fingerprint Ural.NormBridge

/-- the environment of the whole-string model satisfies the laws the component theorems assume -/
theorem stringEnv_acc (puny : Str → Str) (trie : SNode Str) :
    AccLaws (stringEnv puny id trie).netlocAcc := accLaws_py

theorem stringEnv_cc (puny : Str → Str) (trie : SNode Str) :
    CcLaws (stringEnv puny id trie).isCC := ccLaws_isCountry

theorem fingerprintUrlStringSplit_norm (puny platform : Str → Str) (trie : SNode Str) (s : Bool)
    (u : Str) :
    fingerprintUrlStringSplit puny platform trie s u =
      fpOfNorm (stringEnv puny platform trie) s
        (normalizeUrlStringSplit puny platform fpOpts true (lower u)) := by
  rw [fingerprintUrlStringSplit_eq, fp_factor, normalizeUrlStringSplit_eq]
  rfl

theorem fp_string_of_norm (puny platform : Str → Str) (trie : SNode Str) (s : Bool) (u v : Str)
    (h : normalizeUrlStringSplit puny platform fpOpts true (lower u) =
      normalizeUrlStringSplit puny platform fpOpts true (lower v)) :
    fingerprintUrlStringSplit puny platform trie s u = fingerprintUrlStringSplit puny platform trie s v ∧
    fingerprintUrlString puny platform trie s u = fingerprintUrlString puny platform trie s v := by
  have e : fingerprintUrlStringSplit puny platform trie s u =
      fingerprintUrlStringSplit puny platform trie s v := by
    rw [fingerprintUrlStringSplit_norm, fingerprintUrlStringSplit_norm, h]
  exact ⟨e, by unfold fingerprintUrlString; rw [e]⟩

/-- **`fingerprint_url` on a string of the class, from the pieces**: the tuple is the second pass
applied to `normalize_url`'s tuple of the record the modelled parser returns -/
theorem fp_split_grammar (puny : Str → Str) (trie : SNode Str) (s : Bool) (g : UrlG) (u : Str)
    (po : Option Nat) (hg : InClassOf true g (lower u)) (hpo : portVal g.port = some po) :
    fingerprintUrlStringSplit puny id trie s u =
      (fpOfParsed (stringEnv puny id trie) s g.proto.hasProto (g.record po)).map .inr := by
  rw [fingerprintUrlStringSplit_norm, normalizeUrlStringSplit_eq,
    normalizeUrlSplit_grammar puny fpOpts true g (lower u) hg]
  unfold UrlG.parsed
  rw [hpo]
  rfl

theorem fp_string_of_split (puny : Str → Str) (trie : SNode Str) (s : Bool) (u v : Str)
    (h : fingerprintUrlStringSplit puny id trie s u = fingerprintUrlStringSplit puny id trie s v) :
    fingerprintUrlString puny id trie s u = fingerprintUrlString puny id trie s v := by
  unfold fingerprintUrlString
  rw [h]

/-- normalization never reads `Parsed.netloc` -/
theorem fpOfParsed_netloc (E : Env) (s hp : Bool) (p : Parsed) (nl : Str) :
    fpOfParsed E s hp { p with netloc := nl } = fpOfParsed E s hp p := rfl

theorem fp_string_of_parsed (puny : Str → Str) (trie : SNode Str) (s : Bool) (g g' : UrlG)
    (po po' : Option Nat) (u u' : Str) (hg : InClassOf true g (lower u))
    (hg' : InClassOf true g' (lower u')) (hpo : portVal g.port = some po)
    (hpo' : portVal g'.port = some po') (p' : Parsed)
    (hrec : g'.record po' = { p' with netloc := g'.netloc })
    (h : fpOfParsed (stringEnv puny id trie) s g'.proto.hasProto p' =
      fpOfParsed (stringEnv puny id trie) s g.proto.hasProto (g.record po)) :
    fingerprintUrlStringSplit puny id trie s u' = fingerprintUrlStringSplit puny id trie s u ∧
    fingerprintUrlString puny id trie s u' = fingerprintUrlString puny id trie s u := by
  have e : fingerprintUrlStringSplit puny id trie s u' = fingerprintUrlStringSplit puny id trie s u := by
    rw [fp_split_grammar puny trie s g u po hg hpo, fp_split_grammar puny trie s g' u' po' hg' hpo',
      hrec, fpOfParsed_netloc, h]
  exact ⟨e, fp_string_of_split puny trie s _ _ e⟩

/-- **the letter case of the whole URL is ignored on strings**: two strings with the same
`str.lower` (the model's: ASCII folding) have the same fingerprint (tuple and string), whatever they
are — every ASCII case flip of every component; Unicode case pairs: oracle only -/
theorem fp_case_string (puny : Str → Str) (platform : Str → Str) (trie : SNode Str) (s : Bool)
    (u v : Str) (h : lower u = lower v) :
    fingerprintUrlStringSplit puny platform trie s u = fingerprintUrlStringSplit puny platform trie s v ∧
    fingerprintUrlString puny platform trie s u = fingerprintUrlString puny platform trie s v :=
  fp_string_of_norm puny platform trie s u v (by rw [h])

/-- **any port is ignored on strings** (none, `:80`, `:8080`, …): `p'` is any port text that is a
port (or none), the base has any port that is a port (or none).  `hs`: the host `normalize_url`
leaves holds none of `@ [ ]` (true of every host of the grammar when the idna decoder brings
none in; stated because `puny` is arbitrary) -/
theorem fp_port_string (puny : Str → Str) (trie : SNode Str) (s : Bool) (g : UrlG)
    (p' : Option Str) (po k : Option Nat) (hpo : portVal g.port = some po) (hk : portVal p' = some k)
    (hs : HostSafe (g.hostname.map (normHost puny fpOpts)))
    (u u' : Str) (hg : InClassOf true g (lower u))
    (hg' : InClassOf true { g with port := p' } (lower u')) :
    fingerprintUrlStringSplit puny id trie s u' = fingerprintUrlStringSplit puny id trie s u ∧
    fingerprintUrlString puny id trie s u' = fingerprintUrlString puny id trie s u :=
  fp_string_of_parsed puny trie s g _ po k u u' hg hg' hpo hk { g.record po with port := k } rfl
    (fp_port_irrelevant (stringEnv puny id trie) (stringEnv_acc puny trie) s _ (g.record po) k hs
      (portVal_ok hpo) (portVal_ok hk))

/-- **a leading language / country label is ignored on strings** — `xx.` or `xx-yy.` (every half a
country code, any letter case) in front of a host of which at least two labels remain — under the
side conditions of `fp_lang_label_partial` (each excluded region really differs, `Props/C06.lean`),
read on the lower-cased host of the base -/
theorem fp_lang_label_string_partial (puny : Str → Str) (trie : SNode Str) (s : Bool) (g : UrlG)
    (w : Str) (po : Option Nat) (hpo : portVal g.port = some po)
    (hne : g.host ≠ []) (hpct : '%' ∉ g.host) (hpct' : '%' ∉ w)
    (hw : LangShape isCountry w)
    (hsafe : HostSafe (some (preAmp puny (lower g.host))))
    (hlabels : 1 ≤ countDots (hostnameView (preAmp puny (lower g.host))))
    (hamp : startsWith (preAmp puny (lower g.host)) ampDash = false)
    (hsingle : stripLangSubdomainsFromHostname isCountry (hostnameView (preAmp puny (lower g.host))) =
      hostnameView (preAmp puny (lower g.host)))
    (hdf : domainFilter (filterHost puny (some (lower g.host))) =
      domainFilter (filterHost puny (some (lower w ++ '.' :: lower g.host))))
    (u u' : Str) (hg : InClassOf true g (lower u))
    (hg' : InClassOf true { g with host := w ++ '.' :: g.host } (lower u')) :
    fingerprintUrlStringSplit puny id trie s u' = fingerprintUrlStringSplit puny id trie s u ∧
    fingerprintUrlString puny id trie s u' = fingerprintUrlString puny id trie s u := by
  have hp2 : '%' ∉ w ++ '.' :: g.host := by simp [hpct, hpct']
  have hlow : lower (w ++ '.' :: g.host) = lower w ++ '.' :: lower g.host := by
    unfold lower
    rw [List.map_append]; rfl
  have hh' : ({ g with host := w ++ '.' :: g.host } : UrlG).hostname =
      some (lower w ++ '.' :: lower g.host) :=
    hlow ▸ hostname_of_no_pct (g := { g with host := w ++ '.' :: g.host }) (by simp) hp2
  have hh : (g.record po).hostname = some (lower g.host) := hostname_of_no_pct hne hpct
  exact fp_string_of_parsed puny trie s g _ po po u u' hg hg' hpo hpo
    { g.record po with hostname := some (lower w ++ '.' :: lower g.host) }
    (by simp only [UrlG.record, hh'])
    (fp_lang_label_partial (stringEnv puny id trie) (stringEnv_acc puny trie) (stringEnv_cc puny trie)
      s _ (g.record po) (lower w) (lower g.host) hh (langShape_lower ccLaws_isCountry hw) hsafe
      (portVal_ok hpo) hlabels hamp hsingle hdf)

/-- **a `gl` / `hl` item inserted at any position of the query is ignored on strings** (the parser
is the identity inside the query): the query of the variant reads, after `normalize_url`'s `&amp;`
repair, `"&".join(xs ++ it :: ys)`, that of the base `"&".join(xs ++ ys)` -/
theorem fp_gl_hl_string (puny : Str → Str) (trie : SNode Str) (s : Bool) (g : UrlG)
    (q q' : Str) (xs ys : List Str) (it : Str) (po : Option Nat) (hpo : portVal g.port = some po)
    (hq : g.query = some q)
    (h1 : fixedQ fpOpts q' = join ['&'] (xs ++ it :: ys))
    (h2 : fixedQ fpOpts q = join ['&'] (xs ++ ys))
    (hamp : ∀ x ∈ xs ++ it :: ys, '&' ∉ x)
    (hkey : itemKey it = "gl".toList ∨ itemKey it = "hl".toList)
    (u u' : Str) (hg : InClassOf true g (lower u))
    (hg' : InClassOf true { g with query := some q' } (lower u')) :
    fingerprintUrlStringSplit puny id trie s u' = fingerprintUrlStringSplit puny id trie s u ∧
    fingerprintUrlString puny id trie s u' = fingerprintUrlString puny id trie s u := by
  -- the base is the variant with its query replaced: the roles of `fp_gl_hl_fingerprint` are swapped
  have e1 : g.record po =
      { ({ ({ g with query := some q' } : UrlG).record po with query := q } : Parsed) with
        netloc := g.netloc } := by
    simp [UrlG.record, hq, UrlG.hostname, UrlG.netloc, UrlG.hostPart]
  have h := fp_string_of_parsed puny trie s { g with query := some q' } g po po u' u hg' hg hpo hpo _ e1
    (fp_gl_hl_fingerprint (stringEnv puny id trie) s _ (({ g with query := some q' } : UrlG).record po)
      q xs ys it (by rw [fixedQuery_eq]; exact h1) (by rw [fixedQuery_eq]; exact h2) hamp hkey).symm
  exact ⟨h.1.symm, h.2.symm⟩

/-- **no scheme, no userinfo, no port — on every string of the class**: the fingerprint tuple of
a parseable string has the empty scheme and a netloc that is the bare (bracketed if it holds `:`)
fingerprinted host -/
theorem fp_shape_whole (puny : Str → Str) (trie : SNode Str) (s : Bool) (g : UrlG) (u : Str)
    (po : Option Nat) (hpo : portVal g.port = some po)
    (hs : HostSafe (g.hostname.map (normHost puny fpOpts)))
    (hg : InClassOf true g (lower u)) (r : Split)
    (h : fingerprintUrlStringSplit puny id trie s u = .ok (.inr r)) :
    r.scheme = [] ∧ ∃ host : Option Str, r.netloc = unsplitNetloc none none host none := by
  rw [fp_split_grammar puny trie s g u po hg hpo] at h
  replace h := map_inr_ok h
  obtain ⟨h1, host, _, h2, _⟩ := fp_shape (stringEnv puny id trie) (stringEnv_acc puny trie) s _
    (g.record po) r hs (portVal_ok hpo) h
  exact ⟨h1, host, h2⟩

/-- `http://shop.a.com/p?x=1`; the examples take its port / label / item variants through
`.lower()` and the cleaning pass -/
def exG : UrlG :=
  { proto := .scheme "http".toList, ui := none, host := "shop.a.com".toList, port := none,
    path := "/p".toList, query := some "x=1".toList, fragment := none }

theorem inClassOf_intro {g : UrlG} {u : Str} (hw : g.wf = true)
    (h1 : domainSplit (cleanedUrl u) = none) (h2 : redirectSearch (cleanedUrl u) = none)
    (h3 : preClean u = g.str) : InClassOf true g u := .of_no_redirect hw h1 h2 h3

example : InClassOf true exG (lower " HTTP://Shop.A.com/p?x=1\n".toList) ∧
    InClassOf true { exG with port := some "8080".toList } (lower "http://shop.a.com:8080/p?x=1".toList) ∧
    InClassOf true { exG with host := "fr-fr".toList ++ '.' :: exG.host }
      (lower "http://fr-FR.Shop.a.com/p?x=1".toList) ∧
    InClassOf true { exG with query := some "hl=en&x=1".toList } (lower "http://shop.a.com/p?HL=en&x=1".toList) ∧
    portVal (some "8080".toList) = some (some 8080) ∧ LangShape isCountry "fr-fr".toList := by
  unfold exG
  simp only [toList_lit]
  -- the last conjunct through the code's own (decidable) test
  refine And.imp_right (And.imp_right (And.imp_right (And.imp_right (And.imp_right
    shape_of_isLangLabel)))) ?_
  decide +kernel

example : fingerprintUrlString id id SNode.empty false "HTTP://fr-FR.Shop.A.com:8080/P?hl=en&X=1".toList =
    fingerprintUrlString id id SNode.empty false "shop.a.com/p?x=1".toList := by
  simp only [toList_lit]
  decide +kernel

end Ural.Props.C06
