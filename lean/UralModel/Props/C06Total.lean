import UralModel.Model.FingerprintUrlExcept
import UralModel.Props.C05Total
import UralModel.Props.C07Class
/-!
# `fingerprint_url` is total: an URL the parser refuses comes back lower-cased

For an unparseable URL `normalize_url(…, unsplit=False)` returns the *string* it was given
(`url.lower()`), and `fingerprint_url` returns it as it is (`if not isinstance(splitted,
SplitResult): return splitted`).  Statements about `fingerprintUrlExcept`
(`Model/FingerprintUrlExcept.lean`: every raise site of the function an `Except` value):

* `fingerprintUrlExcept_eq` — its value is the value of the whole-string model
  (`fingerprintUrlStringSplit` / `fingerprintUrlString`, the functions compared with the code);
* `fingerprint_unparseable_string` — for EVERY string the modelled parser refuses (after the
  cleaning pass of `normalize_url`): the result is `.ok`, under both `unsplit`, and it is
  `url.lower()`, nothing else changed; also for the model functions the checks run;
* `fingerprint_never_raises_partial` — for every string: `.ok`, a string under `unsplit=True`, and
  under `unsplit=False` the lower-cased argument exactly when the prepared string does not parse,
  the tuple otherwise — GIVEN that the second pass' two CPython reads on the netloc / host that
  `normalize_url` assembled (`.port`, `safe_urlsplit(hostname)`) do not raise (`SecondPassOk`);
* `fingerprint_never_raises_class` — `SecondPassOk` is discharged on the grammar class of
  `Props/C07Class.lean` (`StemClass`: no IP literal, the port text is a port; plain host under
  `strip_suffix`): there the result is the tuple, `.ok`, no hypothesis on the run left;
* `old_code_raised` — the same model with the string unpacked into five names instead
  (`unpackOld`) raises on `http://a.com:99999/` (`ValueError`) and on `a:b:c` (`AttributeError`):
  the `isinstance` test is what makes the function total.

`FullFingerprintNeverRaises` (no hypothesis) is NOT proved: the idna decoder is an arbitrary
function in the model and the accessors are read off the netloc it contributed to; no failing input
is known for the real decoder (oracle: no exception on any generated url).
-/
namespace Ural.Props.C06
open Ural Ural.Py Ural.UrlParts Ural.Normalize Ural.Fingerprint Ural.NormBridge Ural.Props.C05
open Ural.Props.C07 Ural.CanonRoundTrip Ural.FpReparse

/-- the second pass' reads succeed on the tuple `normalize_url` returns for this URL -/
def SecondPassOk (puny : Str → Str) (platform : Str → Str) (trie : SNode Str) (sfx : Bool)
    (url : Str) : Prop :=
  ∀ r, normalizeUrlStringSplit puny platform fpOpts true (lower url) = .inr r →
    ∃ r', fpParts (stringEnv puny platform trie) sfx r = .ok r'

/-- the full statement: no hypothesis -/
def FullFingerprintNeverRaises : Prop :=
  ∀ (puny platform : Str → Str) (trie : SNode Str) (sfx unsplit : Bool) (url : Str),
    ∃ v, fingerprintUrlExcept puny platform trie sfx unsplit url = .ok v

theorem fpParts_env_congr {E E' : Env} (hacc : E.netlocAcc = E'.netlocAcc)
    (hwalk : E.walkHost = E'.walkHost) (htrie : E.trie = E'.trie) (hcc : E.isCC = E'.isCC)
    (sfx : Bool) (r : Split) : fpParts E sfx r = fpParts E' sfx r := by
  unfold fpParts fingerprintHost stripSuffix
  rw [hacc, hwalk, htrie, hcc]

theorem fpParts_stringEnv (puny platform : Str → Str) (trie : SNode Str) (sfx : Bool) (r : Split) :
    fpParts (stringEnv puny platform trie) sfx r = fpParts (stringEnv puny id trie) sfx r :=
  fpParts_env_congr (E := stringEnv puny platform trie) (E' := stringEnv puny id trie)
    rfl rfl rfl rfl sfx r

/-- the value of `fingerprintUrlExcept` is the value of the whole-string model -/
theorem fingerprintUrlExcept_eq (puny platform : Str → Str) (trie : SNode Str) (sfx : Bool)
    (url : Str) :
    fingerprintUrlExcept puny platform trie sfx false url =
      liftErr (fingerprintUrlStringSplit puny platform trie sfx url) ∧
    fingerprintUrlExcept puny platform trie sfx true url =
      liftErr ((fingerprintUrlString puny platform trie sfx url).map .inl) := by
  unfold fingerprintUrlExcept fingerprintUrlExceptWith fingerprintUrlString
  rw [fingerprintUrlStringSplit_norm]
  simp only [(normalizeUrlExcept_eq puny platform fpOpts true (lower url)).1]
  cases normalizeUrlStringSplit puny platform fpOpts true (lower url) with
  | inl s => exact ⟨rfl, rfl⟩
  | inr r =>
    simp only [fpOfNorm]
    cases fpParts (stringEnv puny platform trie) sfx r <;> exact ⟨rfl, rfl⟩

theorem normalizeUrlStringSplit_prepared (puny platform : Str → Str) (o : Normalize.Opts) (ir : Bool)
    (url : Str) :
    normalizeUrlStringSplit puny platform o ir url =
      match parseForNormalize (prepared platform ir url).1 with
      | none => .inl url
      | some p => .inr (normParts puny o (prepared platform ir url).2 p) := by
  rw [normalizeUrlStringSplit_eq, parseForNormalize_eq]
  rfl

/-- **a string the modelled parser refuses comes back lower-cased and otherwise unchanged** — every
string, every decoder, platform rewriting, suffix trie, both `strip_suffix`, both `unsplit`; no
exception.  (The refusal is the one of `normalize_url`: of the cleaned, resolved, scheme-prefixed
form of `url.lower()`.) -/
theorem fingerprint_unparseable_string (puny platform : Str → Str) (trie : SNode Str) (sfx : Bool)
    (url : Str) (h : parseForNormalize (prepared platform true (lower url)).1 = none) :
    fingerprintUrlStringSplit puny platform trie sfx url = .ok (.inl (lower url)) ∧
    fingerprintUrlString puny platform trie sfx url = .ok (lower url) ∧
    ∀ unsplit, fingerprintUrlExcept puny platform trie sfx unsplit url = .ok (.inl (lower url)) := by
  have hs : fingerprintUrlStringSplit puny platform trie sfx url = .ok (.inl (lower url)) := by
    rw [fingerprintUrlStringSplit_norm, normalizeUrlStringSplit_prepared, h]
    rfl
  have hstr : fingerprintUrlString puny platform trie sfx url = .ok (lower url) := by
    unfold fingerprintUrlString
    rw [hs]; rfl
  refine ⟨hs, hstr, ?_⟩
  intro unsplit
  obtain ⟨e1, e2⟩ := fingerprintUrlExcept_eq puny platform trie sfx url
  cases unsplit with
  | false => rw [e1, hs]; rfl
  | true => rw [e2, hstr]; rfl

/-- **`fingerprint_url` never raises, and returns a value of the documented shape** — PARTIAL:
given `SecondPassOk` (the two CPython reads of the second pass on what `normalize_url` assembled
do not raise).  `unsplit=True`: a string; `unsplit=False`: the lower-cased argument itself when
the prepared string does not parse, a 5-tuple otherwise. -/
theorem fingerprint_never_raises_partial (puny platform : Str → Str) (trie : SNode Str) (sfx : Bool)
    (url : Str) (h2 : SecondPassOk puny platform trie sfx url) :
    (∃ s : Str, fingerprintUrlExcept puny platform trie sfx true url = .ok (.inl s)) ∧
    ((parseForNormalize (prepared platform true (lower url)).1 = none ∧
        fingerprintUrlExcept puny platform trie sfx false url = .ok (.inl (lower url))) ∨
     (∃ p t, parseForNormalize (prepared platform true (lower url)).1 = some p ∧
        fingerprintUrlExcept puny platform trie sfx false url = .ok (.inr t))) := by
  cases hp : parseForNormalize (prepared platform true (lower url)).1 with
  | none =>
    obtain ⟨_, _, h3⟩ := fingerprint_unparseable_string puny platform trie sfx url hp
    exact ⟨⟨_, h3 true⟩, Or.inl ⟨rfl, h3 false⟩⟩
  | some p =>
    have hn : normalizeUrlStringSplit puny platform fpOpts true (lower url) =
        .inr (normParts puny fpOpts (prepared platform true (lower url)).2 p) := by
      rw [normalizeUrlStringSplit_prepared, hp]
    obtain ⟨r', hr'⟩ := h2 _ hn
    have hs : fingerprintUrlStringSplit puny platform trie sfx url = .ok (.inr r') := by
      rw [fingerprintUrlStringSplit_norm, hn]
      simp only [fpOfNorm, hr']
      rfl
    obtain ⟨e1, e2⟩ := fingerprintUrlExcept_eq puny platform trie sfx url
    refine ⟨⟨fpUnsplit (.inr r'), ?_⟩, Or.inr ⟨p, r', rfl, ?_⟩⟩
    · rw [e2]; unfold fingerprintUrlString; rw [hs]; rfl
    · rw [e1, hs]; rfl

/-- **never raises on the grammar class, no hypothesis on the run**: `StemClass` of
`Props/C07Class.lean` (the cleaned, resolved form of `url.lower()` is
`[scheme://|//|][userinfo@]host[:port][/path][?query][#fragment]`, no IP literal, the port text a
port), plain host under `strip_suffix`; any decoder that brings in no delimiter -/
theorem fingerprint_never_raises_class (puny : Str → Str) (hpc : PunyClean puny) (trie : SNode Str)
    (sfx : Bool) {g : UrlG} {po : Option Nat} {u : Str}
    (h : StemClass true g po (lower u)) (hplain : sfx = true → HostPlain g.host) :
    ∃ t s, fingerprintUrlExcept puny id trie sfx false u = .ok (.inr t) ∧
      fingerprintUrlExcept puny id trie sfx true u = .ok (.inl s) := by
  obtain ⟨t, ht⟩ := fingerprint_class puny hpc trie sfx h hplain
  obtain ⟨e1, e2⟩ := fingerprintUrlExcept_eq puny id trie sfx u
  exact ⟨t, fpString t, by rw [e1, ht.split]; rfl, by rw [e2, ht.string]; rfl⟩

theorem old_code_raised :
    fingerprintUrlExceptWith unpackOld id id SNode.empty false true "http://a.com:99999/".toList =
      .error .valueError ∧
    fingerprintUrlExceptWith unpackOld id id SNode.empty false true "a:b:c".toList =
      .error (.other "AttributeError") := by
  simp only [toList_lit]
  decide +kernel

/-- non-vacuity: refused strings (a port out of range, an unclosed bracket, a non-numeric port)
come back lower-cased under both `unsplit`; a parseable one goes through -/
example :
    fingerprintUrlExcept id id SNode.empty false true "HTTP://A.com:99999/".toList = .ok (.inl "http://a.com:99999/".toList) ∧
    fingerprintUrlExcept id id SNode.empty false false "HTTP://A.com:99999/".toList = .ok (.inl "http://a.com:99999/".toList) ∧
    fingerprintUrlExcept id id SNode.empty true true "http://[X/".toList = .ok (.inl "http://[x/".toList) ∧
    fingerprintUrlExcept id id SNode.empty false true "A:b:c".toList = .ok (.inl "a:b:c".toList) ∧
    fingerprintUrlExcept id id SNode.empty false true "HTTP://WWW.A.com:8080/P".toList = .ok (.inl "a.com/p".toList) := by
  simp only [toList_lit]
  decide +kernel

end Ural.Props.C06
