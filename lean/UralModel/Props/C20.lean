import UralModel.Lemmas.Protocol
import UralModel.Lemmas.PctCodec
import UralModel.Model.Builders
import UralModel.Lemmas.Builders
import UralModel.Lemmas.BuildersSpec
import UralModel.Lemmas.StrLit
import UralModel.Lemmas.Pathsplit
import UralModel.Gen.ProtocolRe
/-!
# C20 — protocol helpers and URL builders compose predictably

Property theorems (models: `Model/Protocol.lean`, `Model/Builders.lean`; helper lemmas
and the vocabulary the statements use — `decodeQuery`, `wireVal`, `queryItems`, `wireArg`,
`expectedGet`, `urlPrefix` — are in `Lemmas/Protocol.lean`, `Lemmas/Builders.lean`,
`Lemmas/BuildersSpec.lean`, `Lemmas/Pathsplit.lean`).  Every theorem is for ALL strings /
argument lists; the only hypotheses are the ones named in the property ("alphabetic
protocol", "the key is new") or needed to exclude an input the code cannot handle (a name
reduced to `""`, TAB/CR/LF that `urlsplit` deletes, a `ValueError` of `urlsplit`).

* protocol helpers: `ensure_idempotent`, `force_idempotent`, `force_prefix`,
  `ensure_keeps_rest`, `force_keeps_rest`, `protocol_spelling_irrelevant`;
  `force_eq_ensure_strip_iff` (the law holds exactly when the remainder has no protocol),
  `force_eq_ensure_strip_partial` + the proof that the full law is false (KF-C20-1);
* `format_url` / `URLFormatter`: `format_query_roundtrip`, `format_url_shape`,
  `format_url_query_fragment`, `format_url_urlsplit_roundtrip` (end to end through `urlsplit`),
  `format_no_dangling_qmark`, `format_path_join`, `format_fragment`, `formatter_format_spec`;
* `add_query_argument` / `get_query_argument`: `add_query_argument_appends_one`,
  `add_then_lookup`, `add_then_get` (WIRE level: quoted key, quoted value),
  `add_then_get_decodes`, `add_then_get_raw` (raw key / value, unreserved characters only),
  `add_then_get_raw_fails_on_reserved` / `fullRawReadBack_false` (the raw clause is false on
  reserved characters); `pathsplit_spec`, `urlpathsplit_spec`.
-/
namespace Ural.Props.C20
open Ural Ural.Py

/-! ## table obligation -/

/-- the pattern of `PROTOCOL_RE` found in the source is the one `protoLen` was written for
(no flags beyond the default `re.UNICODE`) -/
theorem protocol_pattern_unchanged :
    Gen.protocolRePattern = protocolPatternModelled ∧ Gen.protocolReFlags = 32 :=
  protocolRe_modelled

/-! ## protocol helpers

`ProtoArg p` is the hypothesis "alphabetic protocol": what remains of the argument after
`rstrip(":/")` — the real functions accept `http`, `http:`, `http://` alike — is a non-empty
word of at most 64 ASCII letters. -/

/-- the protocol argument, possibly spelled with a trailing `:`, `:/`, `://`, is alphabetic -/
def ProtoArg (p : Str) : Prop := AlphaProto (normProto p)

instance (p : Str) : Decidable (ProtoArg p) := by unfold ProtoArg; infer_instance

/-- `force_protocol`'s result always starts with the requested protocol followed by `://` -/
theorem force_prefix (u p : Str) :
    startsWith (force_protocol u p) (normProto p ++ sepFull) = true := by
  rw [force_protocol_eq]
  unfold startsWith
  exact List.isPrefixOf_iff_prefix.mpr ⟨_, rfl⟩

/-- `strip_protocol (force_protocol u p) = strip_protocol u` -/
theorem force_keeps_rest (u p : Str) (hp : ProtoArg p) :
    strip_protocol (force_protocol u p) = strip_protocol u := by
  rw [force_protocol_eq, strip_protocol_proto_sep _ _ hp]

/-- `force_protocol` is idempotent -/
theorem force_idempotent (u p : Str) (hp : ProtoArg p) :
    force_protocol (force_protocol u p) p = force_protocol u p := by
  rw [force_protocol_eq (force_protocol u p), force_keeps_rest u p hp, ← force_protocol_eq]

/-- `ensure_protocol` is idempotent -/
theorem ensure_idempotent (u p : Str) (hp : ProtoArg p) :
    ensure_protocol (ensure_protocol u p) p = ensure_protocol u p := by
  rcases ensure_protocol_force_or_id u p with h | ⟨_, _, h⟩
  · rcases ensure_protocol_force_or_id (ensure_protocol u p) p with h' | ⟨_, _, h'⟩
    · rw [h', h, force_idempotent u p hp]
    · exact h'
  · rw [h, h]

/-- `strip_protocol (ensure_protocol u p) = strip_protocol u` -/
theorem ensure_keeps_rest (u p : Str) (hp : ProtoArg p) :
    strip_protocol (ensure_protocol u p) = strip_protocol u := by
  rcases ensure_protocol_force_or_id u p with h | ⟨_, _, h⟩
  · rw [h, force_keeps_rest u p hp]
  · rw [h]

/-- the full law `force_protocol(u, p) == ensure_protocol(strip_protocol(u), p)`; it is
FALSE in general (see `force_eq_ensure_strip_counterexample`) -/
def FullForceEqEnsureStrip : Prop :=
  ∀ u p : Str, ProtoArg p → force_protocol u p = ensure_protocol (strip_protocol u) p

/-- the law holds whenever what is left after stripping the protocol does not itself start
with a protocol -/
theorem force_eq_ensure_strip_partial (u p : Str)
    (h : protoLen (strip_protocol u) = none) :
    force_protocol u p = ensure_protocol (strip_protocol u) p := by
  rw [force_protocol_eq]
  unfold ensure_protocol
  rw [h]

/-- **exactly when**: the law `force_protocol(u, p) == ensure_protocol(strip_protocol(u), p)`
holds IF AND ONLY IF what is left after stripping the protocol does not itself start with a
protocol — for every string and every protocol argument (alphabetic or not).  On the excluded
region the two sides have different lengths: `ensure_protocol` adds nothing (or only `p:` in
front of a `//…` remainder) where `force_protocol` adds `p://`. -/
theorem force_eq_ensure_strip_iff (u p : Str) :
    force_protocol u p = ensure_protocol (strip_protocol u) p ↔
      protoLen (strip_protocol u) = none := by
  constructor
  · intro h
    cases hpl : protoLen (strip_protocol u) with
    | none => rfl
    | some n =>
      exfalso
      rw [force_protocol_eq] at h
      unfold ensure_protocol at h
      rw [hpl] at h
      have hlen := congrArg List.length h
      simp only [] at hlen
      split at hlen <;> simp [sepFull] at hlen <;> omega
  · exact force_eq_ensure_strip_partial u p

/-- KF-C20-1: on `a://b://c` the law fails (and must: it contradicts `force_prefix`) -/
theorem force_eq_ensure_strip_counterexample :
    ProtoArg "http".toList ∧
    protoLen (strip_protocol "a://b://c".toList) ≠ none ∧
    force_protocol "a://b://c".toList "http".toList ≠
      ensure_protocol (strip_protocol "a://b://c".toList) "http".toList := by
  decide

theorem fullForceEqEnsureStrip_false : ¬ FullForceEqEnsureStrip := by
  intro h
  exact force_eq_ensure_strip_counterexample.2.2 (h _ _ force_eq_ensure_strip_counterexample.1)

/-- the real functions take `http`, `http:`, `http:/`, `http://` … alike: only
`protocol.rstrip(":/")` matters, and `rstrip` removes exactly such a suffix from an
alphabetic word -/
theorem protocol_spelling_irrelevant (u q t : Str) (hq : AlphaProto q)
    (ht : ∀ c ∈ t, c = ':' ∨ c = '/') :
    ProtoArg (q ++ t) ∧
    ensure_protocol u (q ++ t) = ensure_protocol u q ∧
    force_protocol u (q ++ t) = force_protocol u q := by
  have h1 := normProto_append q t hq ht
  have h2 := normProto_self q hq
  refine ⟨by unfold ProtoArg; rw [h1]; exact hq, ?_, ?_⟩
  · unfold ensure_protocol; rw [h1, h2]
  · unfold force_protocol; rw [h1, h2]

/-! non-vacuity -/
example : ProtoArg "https://".toList := by
  simp only [toList_lit]
  decide +kernel
example : ensure_protocol "//a.com".toList "https://".toList = "https://a.com".toList := by
  simp only [toList_lit]
  decide +kernel
example : force_protocol "ftp://a.com/x".toList "https:".toList = "https://a.com/x".toList := by
  simp only [toList_lit]
  decide +kernel
example : ensure_protocol "localhost//a".toList "http".toList = "http://localhost//a".toList := by
  simp only [toList_lit]
  decide +kernel
example : protoLen ("aaaaaaaaaaaaaaaaaaaaaaaaaaaaaaaaaaaaaaaaaaaaaaaaaaaaaaaaaaaaaaaaaaaaaa://x".toList) = none := by
  simp only [toList_lit]
  decide +kernel

/-! ## builders: `format_url` / `URLFormatter` -/

/-- `unquote(quote(s)) == s` for every string (proved in `Lemmas/PctCodec`) -/
theorem unquote_quote (s : Str) : unquote (quote s) = s :=
  unquote_quote_slash s

/-- **the query decodes back to exactly the retained arguments**, in order: keys and values
survive whatever characters they contain (`& = # ? % +`, space, non-ASCII), `True` comes
back as a bare key and everything else as its `str()`. -/
theorem format_query_roundtrip (items : List (Str × ArgVal)) (hne : items ≠ []) :
    decodeQuery (queryString items) = items.map (fun kv => (kv.1, wireVal kv.2)) := by
  unfold decodeQuery queryString
  rw [splitOn_join '&' _ (by simpa using hne)]
  · simp [List.map_map, Function.comp_def, decodeItem_format]
  · intro it hit
    simp only [List.mem_map] at hit
    obtain ⟨kv, _, rfl⟩ := hit
    exact format_query_argument_no_amp _ _

/-- the shape of every `format_url` result: prefix, then `?query` iff an argument is
retained, then `#fragment` iff one is given -/
theorem format_url_shape (base : Str) (path : Option PathArg) (args : Option Args)
    (fragment ext : Option Str) :
    format_url base path args fragment ext =
      urlPrefix base path ext
      ++ (if retainedArgs args = [] then [] else '?' :: queryString (retainedArgs args))
      ++ (match fragment with | none => [] | some f => '#' :: lstripChars f ['#']) := by
  unfold format_url addFragment addArgs urlPrefix
  cases hr : retainedArgs args <;> cases fragment <;> simp

/-- **no dangling `?`**: when no argument is retained (no `args`, an empty dict/list, only
`None`/`False` values) nothing at all is inserted between path and fragment -/
theorem format_no_dangling_qmark (base : Str) (path : Option PathArg) (args : Option Args)
    (fragment ext : Option Str) (h : retainedArgs args = []) :
    format_url base path args fragment ext = format_url base path none fragment ext := by
  rw [format_url_shape, format_url_shape, h]
  rfl

/-- **query and fragment as a URL parser sees them**: when base, path and extension contain
neither `?` nor `#`, splitting the result at the first `#` and then at the first `?` (which
is what `urlsplit` does, `Ural.urlsplit_query_fragment`) yields exactly the prefix, the
formatted retained arguments — no query at all when none is retained — and the given
fragment without its leading `#`s. -/
theorem format_url_query_fragment (base : Str) (path : Option PathArg) (args : Option Args)
    (fragment ext : Option Str)
    (hq : '?' ∉ urlPrefix base path ext) (hf : '#' ∉ urlPrefix base path ext) :
    splitQuery (format_url base path args fragment ext) =
      (urlPrefix base path ext,
       if retainedArgs args = [] then none else some (queryString (retainedArgs args))) ∧
    (splitFragment (format_url base path args fragment ext)).2 =
      fragment.map (fun f => lstripChars f ['#']) := by
  rw [format_url_shape,
    show (if retainedArgs args = [] then [] else '?' :: queryString (retainedArgs args)) =
        sepSuffix '?' (if retainedArgs args = [] then none else some (queryString (retainedArgs args)))
      by split <;> rfl,
    show (match fragment with | none => [] | some f => '#' :: lstripChars f ['#']) =
        sepSuffix '#' (fragment.map fun f => lstripChars f ['#'])
      by cases fragment <;> rfl]
  refine split_pieces _ _ _ hq fun hm => ?_
  rcases List.mem_append.1 hm with hm | hm
  · exact hf hm
  · split at hm
    · exact List.not_mem_nil hm
    · rcases List.mem_cons.1 hm with hm | hm
      · exact absurd hm (by decide)
      · exact queryString_no_hash _ hm

/-- **end to end: what `urlsplit` reads in a `format_url` result decodes back to exactly the
retained arguments.**  Chains `format_url_query_fragment` (plain split of the result),
`urlsplit_query_fragment` (the `urlsplit` model reads the query / fragment of the plain split)
and `format_query_roundtrip` (the query string decodes to the arguments).  For every base,
path, extension whose joined prefix contains neither `?` nor `#`, every argument dict / list
(keys and values with any characters), every fragment: if the result `U` is not altered by
`urlsplit`'s cleaning (it holds no TAB/CR/LF and does not start with a C0 control or space —
`quote` never produces these, so this is a condition on base / path / fragment only) and
`urlsplit(U)` does not raise, then its `.query` is empty when no argument is retained and
otherwise decodes (`split("&")`, `split("=", 1)`, `unquote`) to the retained `(key, value)`
list in order — `True` as a bare key, everything else as its `str()` —, and its `.fragment`
is the given fragment without its leading `#`s (empty when none is given). -/
theorem format_url_urlsplit_roundtrip (base : Str) (path : Option PathArg) (args : Option Args)
    (fragment ext : Option Str) (r : SplitResult)
    (hq : '?' ∉ urlPrefix base path ext) (hf : '#' ∉ urlPrefix base path ext)
    (hhead : ∀ c rest, format_url base path args fragment ext = c :: rest → isC0OrSpace c = false)
    (hun : ∀ c ∈ format_url base path args fragment ext, isUnsafeUrlChar c = false)
    (hs : urlsplit (format_url base path args fragment ext) [] = some r) :
    (retainedArgs args = [] → r.query = []) ∧
    (retainedArgs args ≠ [] →
      decodeQuery r.query = (retainedArgs args).map (fun kv => (kv.1, wireVal kv.2))) ∧
    r.fragment = (fragment.map (fun f => lstripChars f ['#'])).getD [] := by
  obtain ⟨h1, h2⟩ := urlsplit_query_fragment _ _ r hs
  rw [cleanUrl_eq_self _ hhead hun] at h1 h2
  obtain ⟨g1, g2⟩ := format_url_query_fragment base path args fragment ext hq hf
  unfold plainQuery at h1
  unfold plainFragment at h2
  rw [g1] at h1
  rw [g2] at h2
  refine ⟨?_, ?_, h2⟩
  · intro he
    rw [h1, if_pos he]; rfl
  · intro hne
    rw [h1, if_neg hne]
    exact format_query_roundtrip _ hne

/-- **path join**: base and path are joined by exactly one `/` — the base loses its
trailing slashes, the path (a string, or list items joined by `/`) its leading ones -/
theorem format_path_join (base : Str) (p : PathArg) (args : Option Args)
    (fragment ext : Option Str) :
    let ps := match p with | .str s => s | .list items => join ['/'] items
    (∃ rest, format_url base (some p) args fragment ext =
        rstripChars base ['/'] ++ '/' :: lstripChars ps ['/'] ++ rest) ∧
    (∀ pre, rstripChars base ['/'] ≠ pre ++ ['/']) ∧
    (∀ t, lstripChars ps ['/'] ≠ '/' :: t) := by
  intro ps
  refine ⟨?_, ?_, ?_⟩
  · rw [format_url_shape]
    unfold urlPrefix addExt joinPath
    cases p <;> cases ext <;> simp [ps]
  · intro pre h
    exact rstripChars_last _ _ _ _ h (by simp)
  · intro t h
    exact lstripChars_head _ _ _ _ h (by simp)

/-- **fragment**: the given fragment, without its leading `#`s, is appended after a single
`#` to what `format_url` returns without fragment -/
theorem format_fragment (base : Str) (path : Option PathArg) (args : Option Args)
    (f : Str) (ext : Option Str) :
    format_url base path args (some f) ext =
      format_url base path args none ext ++ '#' :: lstripChars f ['#'] ∧
    (∀ t, lstripChars f ['#'] ≠ '#' :: t) := by
  refine ⟨by simp [format_url, addFragment], ?_⟩
  intro t h
  exact lstripChars_head _ _ _ _ h (by simp)

/-- membership in a merged argument dict: the call's items, and the formatter's items whose
key the call does not redefine -/
theorem mergeDicts_mem (self call : List (Str × ArgVal)) (kv : Str × ArgVal) :
    kv ∈ mergeDicts self call ↔ kv ∈ call ∨ (kv ∈ self ∧ ∀ kv' ∈ call, kv'.1 ≠ kv.1) := by
  unfold mergeDicts
  simp only [List.mem_append, List.mem_filter, Bool.not_eq_true', List.any_eq_false, beq_iff_eq]
  constructor
  · rintro (⟨h1, h2⟩ | h)
    · exact Or.inr ⟨h1, fun kv' hkv' => by simpa using h2 kv' hkv'⟩
    · exact Or.inl h
  · rintro (h | ⟨h1, h2⟩)
    · exact Or.inr h
    · exact Or.inl ⟨h1, fun kv' hkv' => by simpa using h2 kv' hkv'⟩

/-- **`URLFormatter.format`** is `format_url` on the call's parameters, each falling back on
the formatter's default when `None` (the extension has no default), with dict arguments
merged (the call wins); merging anything with a list is refused.
(This RESTATES the model's `Formatter.format` in one equation — it is true by unfolding; what
it says about the code is the model-vs-code correspondence of the `formatter` stream.  A
subclass overriding `format_arg_value` is not modelled: disclosed in `UNPROVED`.) -/
theorem formatter_format_spec (self : Formatter) (base_url : Option Str) (path : Option PathArg)
    (args : Option Args) (fragment ext : Option Str) (b : Str)
    (hb : base_url.or self.base_url = some b) :
    self.format base_url path args fragment ext =
      (match args, self.args with
       | none, sa => .ok (format_url b (path.or self.path) sa (fragment.or self.fragment) ext)
       | some c, none => .ok (format_url b (path.or self.path) (some c) (fragment.or self.fragment) ext)
       | some c, some s =>
         if c.isDict && s.isDict then
           .ok (format_url b (path.or self.path) (some ⟨true, mergeDicts s.items c.items⟩)
             (fragment.or self.fragment) ext)
         else .error .notImplemented) := by
  unfold Formatter.format mergeArgs
  rw [hb]
  cases args with
  | none => rfl
  | some c =>
    cases self.args with
    | none => rfl
    | some s => by_cases h : (c.isDict && s.isDict) = true <;> simp [h]

/-! non-vacuity -/
example : format_url "http://a.com/".toList (some (.str "/p".toList))
    (some ⟨true, [("k".toList, .other "a&b".toList), ("n".toList, .pyNone)]⟩) (some "#f".toList) none
    = "http://a.com/p?k=a%26b#f".toList := by
  simp only [toList_lit]
  decide +kernel
example : format_url "http://a.com".toList none (some ⟨true, [("n".toList, .pyNone)]⟩) none none
    = "http://a.com".toList := by
  simp only [toList_lit]
  decide +kernel
/-- the end-to-end theorem applies (all hypotheses decided) to a call with a reserved key, a
reserved value, a dropped `None` and a fragment; `urlsplit` reads query `a%26b=x%20y&t` -/
example :
    let U := format_url "http://a.com/".toList (some (.str "/p".toList))
      (some ⟨true, [("t".toList, .pyTrue), ("a&b".toList, .other "x y".toList), ("n".toList, .pyNone)]⟩)
      (some "#f".toList) none
    '?' ∉ urlPrefix "http://a.com/".toList (some (.str "/p".toList)) none ∧
    '#' ∉ urlPrefix "http://a.com/".toList (some (.str "/p".toList)) none ∧
    U = "http://a.com/p?a%26b=x%20y&t#f".toList ∧
    (urlsplit U []).map (fun r => (r.query, r.fragment)) = some ("a%26b=x%20y&t".toList, "f".toList) := by
  simp only [toList_lit]
  decide +kernel

/-! ## builders: `add_query_argument`, `get_query_argument`, `pathsplit` -/

/-- **`add_query_argument` appends exactly one item** (`quote=True`, non-empty name): what
precedes the query is unchanged, the fragment — present or not — is unchanged, and the
query items are the existing ones followed by the new one. -/
theorem add_query_argument_appends_one (url name : Str) (value : Option Str) (hn : name ≠ []) :
    (splitQuery (add_query_argument url name value true)).1 = (splitQuery url).1 ∧
    (splitFragment (add_query_argument url name value true)).2 = (splitFragment url).2 ∧
    queryItems (splitQuery (add_query_argument url name value true)).2 =
      queryItems (splitQuery url).2 ++ [wireArg name value] := by
  obtain ⟨-, hq, hh⟩ := url_pieces url
  rw [add_query_argument_eq]
  have hh' : '#' ∉ (splitQuery url).1 ++
      sepSuffix '?' (some (appendedQuery (splitQuery url).2 (wireArg name value))) := by
    intro hm
    rcases List.mem_append.1 hm with hm | hm
    · exact hh (List.mem_append_left _ hm)
    · rcases List.mem_cons.1 hm with hm | hm
      · exact absurd hm (by decide)
      · rcases mem_appendedQuery hm with hm | hm | hm
        · exact hh (List.mem_append_right _ hm)
        · exact absurd hm (by decide)
        · exact wireArg_not_mem _ _ '#' (by decide) (by decide) hm
  obtain ⟨h1, h2⟩ := split_pieces _ _ (splitFragment url).2 hq hh'
  rw [h1]
  exact ⟨rfl, h2, queryItems_appended _ _ (wireArg_ne_nil name value hn)
    (wireArg_not_mem _ _ '&' (by decide) (by decide))⟩

/-- read-back at the level of the query items (no URL parser involved) -/
theorem add_then_lookup (url name : Str) (value : Option Str) (hn : name ≠ [])
    (hnew : ∀ it ∈ queryItems (splitQuery url).2, (qslItem it).1 ≠ quote name) :
    lookupQuery (queryItems (splitQuery (add_query_argument url name value true)).2) (quote name)
      = expectedGet value := by
  rw [(add_query_argument_appends_one url name value hn).2.2]
  exact lookupQuery_append_new _ _ _ hnew

/-- **`get_query_argument` reads the appended item back** (wire level: the key as quoted by
`add_query_argument`, the value as quoted) when the key is new, through the real parsing
path `safe_urlsplit` → `urlsplit` → query → `safe_qsl_iter`.  Hypotheses: the name is not
empty, the url carries no TAB/CR/LF (`urlsplit` deletes them), no existing item has the same
(quoted) key, and `urlsplit` does not raise on the result (malformed brackets). -/
theorem add_then_get (url name : Str) (value : Option Str) (hn : name ≠ [])
    (hclean : ∀ c ∈ url, isUnsafeUrlChar c = false)
    (hnew : ∀ it ∈ queryItems (splitQuery url).2, (qslItem it).1 ≠ quote name)
    (hok : safe_urlsplit (add_query_argument url name value true) ≠ none) :
    get_query_argument (add_query_argument url name value true) (quote name)
      = .ok (expectedGet value) := by
  rw [get_query_argument_plain _ _ ?_ hok, add_then_lookup url name value hn hnew]
  intro c hc
  rcases add_query_argument_chars url name value c hc with h | h | h | h | h
  · exact hclean c h
  · exact wireArg_no_unsafe name value c h
  all_goals rw [h]; decide

/-! ### the reading of "reads back": wire level vs raw

`add_query_argument` percent-quotes name and value (`quote=True`); `get_query_argument`
compares its `key` argument with the item's key AS WRITTEN in the URL and returns the value
AS WRITTEN (it does not unquote; it has no docstring and the README does not mention it).  So
"which `get_query_argument` reads back" is proved above at *wire level* (`add_then_get`:
looked up under `quote(name)`, returning `quote(value)`).  Below: the returned string decodes
to the raw value (`add_then_get_decodes`); under the RAW key and for the RAW value the clause
holds exactly when quoting changes neither (`add_then_get_raw`), and it FAILS otherwise, in
the model as in the code (`add_then_get_raw_fails_on_reserved`). -/

/-- the characters `quote(·)` (default `safe="/"`) leaves alone: `A-Z a-z 0-9 _ . - ~ /` -/
def isUnreserved (c : Char) : Bool :=
  decide (c.toNat < 128) && (alwaysSafe c.toNat.toUInt8 || c == '/')

/-- `quote` is the identity on strings of unreserved characters -/
theorem quote_unreserved (s : Str) (h : ∀ c ∈ s, isUnreserved c = true) : quote s = s := by
  induction s with
  | nil => rfl
  | cons c r ih =>
    have hc := h c (List.mem_cons_self ..)
    simp only [isUnreserved, Bool.and_eq_true, decide_eq_true_eq] at hc
    obtain ⟨h128, hsafe⟩ := hc
    have ih' := ih (fun d hd => h d (List.mem_cons_of_mem _ hd))
    unfold quote utf8Encode at ih' ⊢
    rw [List.flatMap_cons, List.flatMap_append, ih', utf8EncodeChar_ascii c h128]
    simp only [List.flatMap_cons, List.flatMap_nil, List.append_nil]
    have hb : (c.toNat.toUInt8).toNat = c.toNat := by
      simp only [Nat.toUInt8, UInt8.toNat_ofNat']; omega
    have hq : quoteByte [0x2F] c.toNat.toUInt8 = [c] := by
      unfold quoteByte
      have : (alwaysSafe c.toNat.toUInt8 || [(0x2F : UInt8)].contains c.toNat.toUInt8) = true := by
        rcases Bool.or_eq_true _ _ |>.mp hsafe with h1 | h1
        · simp [h1]
        · have : c = '/' := by simpa using h1
          subst this; decide
      rw [if_pos this, hb]
      congr 1
      apply Char.ext
      apply UInt32.toNat_inj.mp
      exact toNat_ofNat_small c.toNat (by omega)
    rw [hq]; rfl

/-- **the value read back decodes to the raw value**: under the hypotheses of `add_then_get`,
what `get_query_argument` returns under the quoted key is a string `w` with
`unquote(w) == value` (and `True` for a bare key) -/
theorem add_then_get_decodes (url name : Str) (value : Option Str) (hn : name ≠ [])
    (hclean : ∀ c ∈ url, isUnsafeUrlChar c = false)
    (hnew : ∀ it ∈ queryItems (splitQuery url).2, (qslItem it).1 ≠ quote name)
    (hok : safe_urlsplit (add_query_argument url name value true) ≠ none) :
    (value = none →
      get_query_argument (add_query_argument url name value true) (quote name) = .ok .bare) ∧
    (∀ v, value = some v →
      ∃ w, get_query_argument (add_query_argument url name value true) (quote name)
            = .ok (.str w) ∧ unquote w = v) := by
  have h := add_then_get url name value hn hclean hnew hok
  refine ⟨fun hv => ?_, fun v hv => ⟨quote v, ?_, unquote_quote v⟩⟩
  · rw [h, hv]; rfl
  · rw [h, hv]; rfl

/-- what the raw read-back must return: `True` for a bare key, else the value as given -/
def rawGet (value : Option Str) : QArg :=
  match value with
  | none => .bare
  | some v => .str v

/-- **raw read-back** (partial: name and value made of unreserved characters
`A-Za-z0-9_.-~/`, which `quote` leaves alone): `get_query_argument(add_query_argument(url,
name, value), name)` is `value` itself (`True` for a bare key) when the key is new.  Other
hypotheses as in `add_then_get`. -/
theorem add_then_get_raw (url name : Str) (value : Option Str) (hn : name ≠ [])
    (hname : ∀ c ∈ name, isUnreserved c = true)
    (hvalue : ∀ v, value = some v → ∀ c ∈ v, isUnreserved c = true)
    (hclean : ∀ c ∈ url, isUnsafeUrlChar c = false)
    (hnew : ∀ it ∈ queryItems (splitQuery url).2, (qslItem it).1 ≠ name)
    (hok : safe_urlsplit (add_query_argument url name value true) ≠ none) :
    get_query_argument (add_query_argument url name value true) name
      = .ok (rawGet value) := by
  have hqn : quote name = name := quote_unreserved name hname
  have hnew' : ∀ it ∈ queryItems (splitQuery url).2, (qslItem it).1 ≠ quote name := by
    rw [hqn]; exact hnew
  have h := add_then_get url name value hn hclean hnew' hok
  rw [hqn] at h
  rw [h]
  cases value with
  | none => rfl
  | some v =>
    have hqv : quote v = v := quote_unreserved v (hvalue v rfl)
    simp only [expectedGet, rawGet, hqv]

/-- the full raw clause: for every new non-empty key and every value, the raw key reads the raw
value back.  FALSE for the model and for the code (next theorem). -/
def FullRawReadBack : Prop :=
  ∀ (url name v : Str), name ≠ [] → (∀ c ∈ url, isUnsafeUrlChar c = false) →
    (∀ it ∈ queryItems (splitQuery url).2, (qslItem it).1 ≠ name) →
    safe_urlsplit (add_query_argument url name (some v) true) ≠ none →
    get_query_argument (add_query_argument url name (some v) true) name = .ok (.str v)

/-- **without the unreserved hypothesis the raw read-back fails** (as it does on the code:
`get_query_argument(add_query_argument("http://a.com/p?x=1#f", "k&", "a b"), "k&")` is `None`):
a reserved KEY is not found under its raw spelling, only under `quote(key)`; a reserved VALUE
under an unreserved key comes back quoted (`"a%20b"`, not `"a b"`). -/
theorem add_then_get_raw_fails_on_reserved :
    add_query_argument "http://a.com/p?x=1#f".toList "k&".toList (some "a b".toList) true
      = "http://a.com/p?x=1&k%26=a%20b#f".toList ∧
    get_query_argument "http://a.com/p?x=1&k%26=a%20b#f".toList "k&".toList = .ok .absent ∧
    get_query_argument "http://a.com/p?x=1&k%26=a%20b#f".toList (quote "k&".toList)
      = .ok (.str "a%20b".toList) ∧
    get_query_argument (add_query_argument "http://a.com".toList "k".toList (some "a b".toList) true)
      "k".toList = .ok (.str "a%20b".toList) := by
  simp only [toList_lit]
  refine ⟨by decide +kernel, ?_, ?_, ?_⟩ <;> rfl

theorem fullRawReadBack_false : ¬ FullRawReadBack := by
  intro h
  have := h "http://a.com/p?x=1#f".toList "k&".toList "a b".toList
  rw [add_then_get_raw_fails_on_reserved.1, add_then_get_raw_fails_on_reserved.2.1] at this
  simp only [toList_lit] at this
  cases this (by decide +kernel) (by decide +kernel) (by decide +kernel) (by decide +kernel)

/-- non-vacuity of `add_then_get_raw`: all hypotheses hold on a url with a query and a fragment -/
example : get_query_argument
    (add_query_argument "http://a.com/p?x=1#f".toList "k-2".toList (some "a/b~c".toList) true) "k-2".toList
      = .ok (.str "a/b~c".toList) := by
  simp only [toList_lit]
  exact add_then_get_raw _ _ _ (by decide +kernel) (by decide +kernel)
    (by intro v hv; cases hv; decide +kernel) (by decide +kernel) (by decide +kernel) (by decide +kernel)

/-- **`pathsplit`**: with `core` = the path without surrounding white space and without its
leading and trailing slashes, the result joined by `/` is `core`, no segment contains a `/`,
the result is empty exactly when `core` is (so `//` gives `[]` like `/`), and `core` indeed
neither starts nor ends with a slash — i.e. the result is `core` split on `/`. -/
theorem pathsplit_spec (urlpath : Str) :
    let core := stripChars (strip urlpath) ['/']
    join ['/'] (pathsplit urlpath) = core ∧
    (∀ seg ∈ pathsplit urlpath, '/' ∉ seg) ∧
    (pathsplit urlpath = [] ↔ core = []) ∧
    (∀ t, core ≠ '/' :: t) ∧ (∀ pre, core ≠ pre ++ ['/']) := by
  intro core
  have he := C19.pathCore_ends urlpath
  exact ⟨C19.join_pathsplit urlpath, fun seg h => not_mem_of_mem_splitOn _ _ seg (C19.mem_pathsplit h),
    C19.pathsplit_eq_nil, fun t h => he.1 (by rw [show C19.pathCore urlpath = _ from h]; rfl),
    fun pre h => he.2 (by rw [show C19.pathCore urlpath = _ from h]; simp)⟩

/-- **`urlpathsplit`** is `pathsplit` of the path `urlsplit` finds (after `http://` has been
prepended to a scheme-less url), so `pathsplit_spec` applies to it -/
theorem urlpathsplit_spec (url : Str) (l : List Str) (h : urlpathsplit url = .ok l) :
    ∃ r, safe_urlsplit url = some r ∧ l = pathsplit r.path ∧
      join ['/'] l = stripChars (strip r.path) ['/'] ∧ (∀ seg ∈ l, '/' ∉ seg) := by
  unfold urlpathsplit at h
  cases hs : safe_urlsplit url with
  | none => rw [hs] at h; exact absurd h (by simp)
  | some r =>
    rw [hs] at h
    injection h with h
    refine ⟨r, rfl, h.symm, ?_, ?_⟩
    · rw [← h]; exact (pathsplit_spec r.path).1
    · rw [← h]; exact (pathsplit_spec r.path).2.1

/-! non-vacuity -/
example : add_query_argument "http://a.com/p?x=1#f#g".toList "k".toList (some "a&b".toList)
    = "http://a.com/p?x=1&k=a%26b#f#g".toList := by
  simp only [toList_lit]
  decide +kernel
example : get_query_argument "http://a.com/p?x=1&k=a%26b#f".toList "k".toList
    = .ok (.str "a%26b".toList) := by
  simp only [toList_lit]
  rfl
example : pathsplit "//".toList = [] ∧ pathsplit " /a//b/ ".toList = ["a".toList, [], "b".toList] := by
  simp only [toList_lit]
  decide +kernel
example : urlpathsplit "a.com/x/y/".toList = .ok ["x".toList, "y".toList] := by
  simp only [toList_lit]
  rfl

end Ural.Props.C20
