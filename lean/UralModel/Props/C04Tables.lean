import UralModel.Lemmas.C04Lower
/-!
# C04 — the table obligations of the query filter

What the regenerated tracking / AMP / `ref` patterns and the per-domain filters decide on the pinned
keys, each evaluated on the tables; and `norm_stripped_item_fixed`, the one theorem of the family that
C06 cites as it stands.
-/
namespace Ural.Props.C04
open Ural Ural.Py Ural.UrlParts Ural.Quote Ural.Canonicalize Ural.Normalize Ural.Normpath

/-! ## table obligations -/

/-- the pinned core of tracking / session keys is stripped, with or without a value, whatever
`normalize_amp` (dropping `fbclid` from the source pattern breaks this; adding an exotic key
does not) -/
theorem tracking_core_stripped :
    ["utm_source", "utm_medium", "utm_campaign", "utm_term", "utm_content", "utm_x", "fbclid", "gclid",
      "igshid", "mc_cid", "mc_eid", "sessionid", "phpsessionid", "aspsessionid", "jsessionid", "sid",
      "_ga", "usqp", "UTM_Source", "FBCLID"].all (fun k =>
        [true, false].all fun amp => [none, some "x".toList, some []].all fun v =>
          shouldStripQueryItem amp .none none (k.toList, v)) = true := by
  simp only [List.all_cons, List.all_nil, toList_lit]
  decide +kernel

/-- AMP keys are stripped exactly when `normalize_amp` is on -/
theorem tracking_core_amp :
    ["amp", "amp_analytics", "amp_x", "AMP"].all (fun k =>
      [none, some "1".toList].all fun v =>
        shouldStripQueryItem true .none none (k.toList, v) &&
          !shouldStripQueryItem false .none none (k.toList, v)) = true := by
  simp only [List.all_cons, List.all_nil, toList_lit]
  decide +kernel

/-- `ref` is stripped for the social-network values, kept otherwise -/
theorem ref_values_core :
    ["fb", "tw", "twitter", "ts", "tw_i", "fb_i", "bookmark", "notif"].all (fun v =>
      shouldStripQueryItem true .none none ("ref".toList, some v.toList) &&
        shouldStripQueryItem false .none none ("REF".toList, some v.toList)) = true ∧
    shouldStripQueryItem true .none none ("ref".toList, some "other".toList) = false ∧
    shouldStripQueryItem true .none none ("ref".toList, none) = false := by
  simp only [List.all_cons, List.all_nil, toList_lit]
  decide +kernel

/-- ordinary keys are kept -/
theorem plain_keys_kept :
    ["a", "id", "page", "q", "utm", "ga", "x_ga", "utm_", "ampx", "fbclidx", "xsid"].all (fun k =>
      [true, false].all fun amp => !shouldStripQueryItem amp .none none (k.toList, some "1".toList)) = true := by
  simp only [List.all_cons, List.all_nil, toList_lit]
  decide +kernel

/-- the empty item is kept whatever the options and the per-domain filter (an empty query and
its single empty item serialise alike) -/
theorem keeps_empty : KeepsEmpty := by
  intro amp qf df hdf
  have hall : (none :: Gen.Normalize.perDomainQueryFilters.map (fun e => some e.2)).all (fun df =>
      [true, false].all fun amp => [QueryItemFilter.none, QueryItemFilter.lang].all fun qf =>
        !shouldStripQueryItem amp qf df ([], none)) = true := by decide +kernel
  simp only [List.all_eq_true, Bool.not_eq_true'] at hall
  have hm : df ∈ none :: Gen.Normalize.perDomainQueryFilters.map (fun e => some e.2) := by
    rcases hdf with rfl | ⟨e, he, rfl⟩
    · simp
    · exact List.mem_cons_of_mem _ (List.mem_map.2 ⟨e, he, rfl⟩)
  have := hall df hm amp (by cases amp <;> simp) qf (by cases qf <;> simp)
  exact this

/-! ## an item the filter strips -/

/-- **a raw item the filter strips is irrelevant at ANY position of the repaired query** (first,
last, alone, against an empty base query), every option set with `strip_trailing_slash`: the item
is judged as the filter sees it — split at its first `=`, unescaped, lower-cased under `lowercase` -/
theorem norm_stripped_item_fixed (puny : Str → Str) (o : Normalize.Opts)
    (hts : o.stripTrailingSlash = true) (hp : Bool) (p : Parsed) (q q' : Str) (xs ys : List Str) (it : Str)
    (h1 : fixedQ o q = join ['&'] (xs ++ it :: ys)) (h2 : fixedQ o q' = join ['&'] (xs ++ ys))
    (hamp : ∀ x ∈ xs ++ it :: ys, '&' ∉ x)
    (hx : keepItem o (hostKey puny p.hostname) (lcItem o (unqItem (cutFirst '=' it))) = false) :
    normParts puny o hp { p with query := q } = normParts puny o hp { p with query := q' } := by
  apply normParts_congr_fixedQ keeps_empty puny o hts
  rw [h1, h2, decoded_join _ (by simp) hamp]
  simp only [List.map_append, List.map_cons, List.filter_append, List.filter_cons, hx,
    Bool.false_eq_true, if_false]
  by_cases hb : xs ++ ys = []
  · -- the stripped item alone against the empty query, whose single empty item is kept
    obtain ⟨rfl, rfl⟩ := List.append_eq_nil_iff.1 hb
    simp only [List.map_nil, List.filter_nil, List.append_nil, join, decoded_nil, List.map_cons,
      lcItem_empty, List.filter_cons, keepItem_empty keeps_empty, if_true, sortIf_singleton,
      renderQsl_empty_item]
    cases o.sortQuery <;> simp [sortIf, sortQsl, renderQsl_nil]
  · have hamp' : ∀ x ∈ xs ++ ys, '&' ∉ x := fun x hx =>
      hamp x (by
        rcases List.mem_append.1 hx with h | h
        · exact List.mem_append_left _ h
        · exact List.mem_append_right _ (List.mem_cons_of_mem _ h))
    rw [decoded_join _ hb hamp']
    simp only [List.map_append, List.filter_append]

end Ural.Props.C04
