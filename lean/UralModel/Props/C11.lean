import UralModel.Lemmas.LruTrieSerial
import UralModel.Props.C10
import UralModel.Lemmas.StrLit
/-!
# C11 — LRU tries return the value of the longest stored URL prefix

The property theorems and the vocabulary they are stated in (`Op`, `run`, `entries`); helper
lemmas: `Lemmas/LruTrie.lean`, `Lemmas/LruTrieSerial.lean`; the trie itself is C10's.

`υ` is an arbitrary type of URLs and `tokenize : υ → List Str` an arbitrary tokeniser — the
hook that `LRUTrie`, `CanonicalizedLRUTrie`, `NormalizedLRUTrie` and `FingerprintedLRUTrie`
override (the stems functions themselves belong to C12 / C07).  A history is a list of
`set(url, v)` / `set_lru(lru, v)` calls; `entries tokenize ops` is the list of
(cleaned stems, value) pairs they store, `latest es k` the value of the last entry of `es`
with key `k`.  All theorems are for every history, every tokeniser, every value type (a stored
`None` is just a value).
-/
set_option linter.unusedSectionVars false

namespace Ural.Props.C11
open Ural Ural.TNode Ural.LruTrie Ural.Py

variable {υ α : Type} (tokenize : υ → List Str)

/-- one mutating call -/
inductive Op (υ α : Type) where
  | set (url : υ) (v : α)
  | setLru (lru : Lru) (v : α)

/-- the (key, value) pair a call stores: the cleaned stems of its argument -/
def Op.entry : Op υ α → List Str × α
  | .set u v => (cleanTrailingPath (tokenize u), v)
  | .setLru l v => (cleanTrailingPath (ensureLruStems l), v)

def step (t : TNode Str α) : Op υ α → TNode Str α
  | .set u v => LruTrie.set tokenize t u v
  | .setLru l v => LruTrie.setLru t l v

/-- the trie after a history, starting from `LRUTrie()` -/
def run (ops : List (Op υ α)) : TNode Str α := ops.foldl (step tokenize) TNode.empty

/-- what the history stores, in order -/
def entries (ops : List (Op υ α)) : List (List Str × α) := ops.map (Op.entry tokenize)

/-- an LRU trie after a history is C10's `TrieDict` after the corresponding assignments -/
theorem run_eq (ops : List (Op υ α)) : run tokenize ops = C10.run (entries tokenize ops) := by
  unfold run C10.run entries
  rw [List.foldl_map]
  congr 1
  funext t op
  cases op <;> rfl

theorem get_run (ops : List (Op υ α)) (k : List Str) :
    (run tokenize ops).get k = latest (entries tokenize ops) k := by
  rw [run_eq, C10.history_refines, C10.specRun_latest, latest_eq_find]

theorem lmpv_run (ops : List (Op υ α)) (qs : List Str) :
    (∀ v, (run tokenize ops).lmpv qs = some v ↔
      ∃ p, p <+: qs ∧ latest (entries tokenize ops) p = some v ∧
        ∀ p', p' <+: qs → p.length < p'.length → latest (entries tokenize ops) p' = none) ∧
    ((run tokenize ops).lmpv qs = none ↔
      ∀ p, p <+: qs → latest (entries tokenize ops) p = none) := by
  have h := C10.lmpv_spec (run tokenize ops) qs
  have hg : (run tokenize ops).get = latest (entries tokenize ops) :=
    funext (get_run tokenize ops)
  rw [hg] at h
  exact h

/-- **match.**  After any history of `set` / `set_lru` calls, `match(url)` returns `v` exactly
when `v` is the most recent value stored under the stored key that is the longest prefix of the
query's cleaned stems; it returns nothing exactly when no stored key is a prefix of them -/
theorem lrutrie_match_spec (ops : List (Op υ α)) (q : υ) :
    let es := entries tokenize ops
    let qs := cleanTrailingPath (tokenize q)
    (∀ v, LruTrie.match tokenize (run tokenize ops) q = some v ↔
      ∃ p, p <+: qs ∧ latest es p = some v ∧
        ∀ p', p' <+: qs → p.length < p'.length → latest es p' = none) ∧
    (LruTrie.match tokenize (run tokenize ops) q = none ↔ ∀ p, p <+: qs → latest es p = none) :=
  lmpv_run tokenize ops _

/-- the same for `match_lru`, on the cleaned stems of its (string or list) argument -/
theorem lrutrie_match_lru_spec (ops : List (Op υ α)) (q : Lru) :
    let es := entries tokenize ops
    let qs := cleanTrailingPath (ensureLruStems q)
    (∀ v, LruTrie.matchLru (run tokenize ops) q = some v ↔
      ∃ p, p <+: qs ∧ latest es p = some v ∧
        ∀ p', p' <+: qs → p.length < p'.length → latest es p' = none) ∧
    (LruTrie.matchLru (run tokenize ops) q = none ↔ ∀ p, p <+: qs → latest es p = none) :=
  lmpv_run tokenize ops _

/-- reading of `latest`: `v` was stored under `k` by some call and no later call stores
anything under `k` -/
theorem latest_reading (es : List (List Str × α)) (k : List Str) (v : α) :
    latest es k = some v ↔ ∃ es1 es2, es = es1 ++ (k, v) :: es2 ∧ ∀ e ∈ es2, e.1 ≠ k :=
  latest_eq_some_iff es k v

/-- empty path stems are ignored: stems that differ only by `p:` stems are the same key -/
theorem clean_idem (stems : List Str) :
    cleanTrailingPath (cleanTrailingPath stems) = cleanTrailingPath stems := by
  simp [cleanTrailingPath, List.filter_filter]

theorem clean_drops_empty_path (a b : List Str) :
    cleanTrailingPath (a ++ emptyPathStem :: b) = cleanTrailingPath (a ++ b) := by
  simp [cleanTrailingPath, List.filter_append]

/-- **len / iteration.**  After any history, the stored (key, value) pairs are exactly the
entries that are the last ones for their key, each once; `len` is their number and iteration
yields their values -/
theorem len_iter_spec (ops : List (Op υ α)) :
    (run tokenize ops).items.Perm (lastEntries (entries tokenize ops)) ∧
    (LruTrie.iter (run tokenize ops)).Perm ((lastEntries (entries tokenize ops)).map Prod.snd) ∧
    LruTrie.len (run tokenize ops) = (lastEntries (entries tokenize ops)).length := by
  have hwf : Wf (run tokenize ops) := by rw [run_eq]; exact (C10.refines_run _).wf
  have hnd := nodup_lastEntries_keys (entries tokenize ops)
  have hg : ∀ k v, (k, v) ∈ lastEntries (entries tokenize ops) ↔ (run tokenize ops).get k = some v :=
    fun k v => by rw [mem_lastEntries, get_run]
  exact ⟨items_perm_of_graph hwf hnd hg, values_perm_of_graph hwf hnd hg, len_of_graph hwf hnd hg⟩

/-- **str / list interchangeable.**  On a well-formed stem list (`WellTagged`: non-empty,
`|`-free stems, every stem but the first starts with a tag — what the stems functions emit)
`set_lru` / `match_lru` behave identically on the list and on its serialisation -/
theorem set_lru_str_list_interchangeable (stems : List Str) (h : WellTagged stems)
    (t : TNode Str α) (v : α) :
    ensureLruStems (.str (serializeLru stems)) = ensureLruStems (.list stems) ∧
    LruTrie.setLru t (.str (serializeLru stems)) v = LruTrie.setLru t (.list stems) v ∧
    LruTrie.matchLru t (.str (serializeLru stems)) = LruTrie.matchLru t (.list stems) := by
  have e : ensureLruStems (.str (serializeLru stems)) = ensureLruStems (.list stems) := by
    simp [ensureLruStems, unserialize_serialize stems h]
  exact ⟨e, by simp [LruTrie.setLru, e], by simp [LruTrie.matchLru, e]⟩

/-- `set(url)` and `set_lru(tokenize(url))` are the same call -/
theorem set_eq_setLru (t : TNode Str α) (u : υ) (v : α) :
    LruTrie.set tokenize t u v = LruTrie.setLru t (.list (tokenize u)) v ∧
    LruTrie.match tokenize t u = LruTrie.matchLru t (.list (tokenize u)) := ⟨rfl, rfl⟩

/-- **variant tries.**  If the tokeniser of a variant factors through the variant's URL
function `X` (`tokenize u = stems (X u)`), two URLs with the same `X`-image are the same key -/
theorem variant_same_string_same_key {σ : Type} (X : υ → σ) (stems : σ → List Str)
    (hfac : ∀ u, tokenize u = stems (X u)) (u v : υ) (h : X u = X v) :
    tokenize u = tokenize v := by
  rw [hfac u, hfac v, h]

theorem lmpv_of_get {t : TNode Str α} {k : List Str} {v : α} (h : t.get k = some v) :
    t.lmpv k = some v := by
  refine ((C10.lmpv_spec t k).1 v).2 ⟨k, List.prefix_refl k, h, ?_⟩
  intro p' hp' hl
  have := hp'.length_le
  omega

/-- storing under one URL and querying with another hits as soon as both have the same stems -/
theorem store_then_query_hits_of_eq (t : TNode Str α) (u v : υ) (val : α)
    (h : tokenize u = tokenize v) :
    LruTrie.match tokenize (LruTrie.set tokenize t u val) v = some val := by
  unfold LruTrie.match LruTrie.set
  rw [h]
  exact lmpv_of_get (by rw [C10.get_setitem]; simp)

/-- …so storing one and querying the other hits, whatever was stored before -/
theorem variant_store_then_query_hits {σ : Type} (X : υ → σ) (stems : σ → List Str)
    (hfac : ∀ u, tokenize u = stems (X u)) (t : TNode Str α) (u v : υ) (val : α)
    (h : X u = X v) :
    LruTrie.match tokenize (LruTrie.set tokenize t u val) v = some val :=
  store_then_query_hits_of_eq tokenize t u v val
    (variant_same_string_same_key tokenize X stems hfac u v h)

/-! ## table obligation: the tags emitted by the stems functions are all recognised by the
regenerated splitter class -/

theorem splitter_tags_cover :
    ∀ c ∈ ['s', 't', 'h', 'p', 'q', 'f', 'u', 'w'], Gen.LruSplitter.tags.contains c = true := by
  decide +kernel

/-! ## non-vacuity -/

private def s (x : String) : Str := x.toList

/-- a toy tokeniser on stem lists given as strings -/
private def toyTok (u : String) : List Str := unserializeLru u.toList

example :
    let ops : List (Op String Nat) :=
      [.set "s:http|h:fr|h:lemonde|" 1,
       .set "s:http|h:fr|h:lemonde|p:articles|p:economy|" 2,
       .setLru (.list [s "s:http", s "h:fr", s "h:lemonde", s "p:"]) 3,
       .setLru (.str (s "s:http|h:fr|h:lefigaro|p:a|b|p:|")) 4]
    LruTrie.len (run toyTok ops) = 3 ∧
    LruTrie.match toyTok (run toyTok ops) "s:http|h:fr|h:lemonde|p:|p:articles|p:x|" = some 3 ∧
    LruTrie.match toyTok (run toyTok ops) "s:http|h:fr|h:lemonde|p:articles|p:|p:economy|p:i|" = some 2 ∧
    LruTrie.match toyTok (run toyTok ops) "s:http|h:fr|" = none ∧
    LruTrie.matchLru (run toyTok ops) (.list [s "s:http", s "h:fr", s "h:lefigaro", s "p:a|b", s "p:c"]) = some 4 ∧
    unserializeLru (s "s:http|h:fr|h:lefigaro|p:a|b|p:|") = [s "s:http", s "h:fr", s "h:lefigaro", s "p:a|b", s "p:"] ∧
    serializeLru [s "s:http", s "h:fr"] = s "s:http|h:fr|" := by
  simp only [s, toList_lit]
  decide +kernel

example : WellTagged [s "s:http", s "h:fr", s "p:"] := by
  refine ⟨by simp, ?_, ?_⟩
  · intro l hl c hc; revert l c; decide +kernel
  · intro l hl; revert l; decide +kernel

end Ural.Props.C11
