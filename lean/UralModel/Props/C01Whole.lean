import UralModel.Props.C01
import UralModel.Lemmas.CanonClosure
import UralModel.Lemmas.StrLit
/-!
# C01 on the whole string — the parser is inside the model

`Props/C01.lean` speaks about the components `canonComps` computes from what the parser
returned.  Here the parser itself is the model (`Py.urlsplit` + the `SplitResult` accessors,
`Py.parseUrl`, compared with CPython on every run) and the function is the whole-string
`canonicalizeUrl` (`Model/CanonicalizeUrl.lean`):

* `urlsplit_urlunsplit` — the parser inverts the printer on well-formed 5-tuples (`WF`);
* `accessors_unsplitNetloc` — the accessors invert `unsplit_netloc`;
* `canonicalize_accepts_iff` — `canonicalize_url` returns exactly when the cleaned string
  parses and its userinfo holds no bracket (`Accepted`; `ValueError` otherwise), and then
  prints `canonParts` of the parse;
* `canonParts_wf` — what `canonicalize_url` hands to the printer is well-formed;
* `canonicalize_reparse` — the parse of the OUTPUT STRING is the components `canonComps`
  computed (`reparsedOf`), hence (`canonicalize_same_resource`) every per-component theorem
  of `Props/C01.lean` is a statement about the re-parsed output.

Side conditions, all explicit: the default protocol is scheme-shaped (so that the cleaned
string has a scheme: `https`, `http`, `ftp`, `wss:` …) and the decoder `puny` invents no
delimiter and empties no label (`PunyClean`, tested on the real codec on every run).  There is
no hypothesis on brackets: a bracket in the userinfo is rejected (KF-C01-1, FX-C01-ca9f3e6), a
bracketed host keeps its brackets (KF-C01-2, FX-C01-feb1ed1), and that the canonical host of an
ip literal passes the bracket check again is proved (`Lemmas/BracketHost.lean`).
-/
namespace Ural.Props.C01
open Ural Ural.Py Ural.UrlParts Ural.Quote Ural.Canonicalize Ural.UrlRoundTrip Ural.CanonRoundTrip

/-! ## table obligations -/

/-- every delimiter of the authority (and the brackets of an IP literal) is in
`UNSAFE_FOR_AUTH_ITEM`; `/ ? #` are in `UNSAFE_FOR_PATH`; `#` is in `UNSAFE_FOR_QUERY_ITEM` -/
theorem tables_authority :
    (∀ b ∈ ([0x40, 0x3A, 0x2F, 0x3F, 0x23, 0x5B, 0x5D] : List UInt8), b ∈ Gen.Quote.unsafeForAuthItem) ∧
    (∀ b ∈ ([0x2F, 0x3F, 0x23] : List UInt8), b ∈ Gen.Quote.unsafeForPath) ∧
    (0x23 : UInt8) ∈ Gen.Quote.unsafeForQueryItem := by
  decide

/-! ## the parser inverts the printer -/

/-- **parser/printer round trip**: for every well-formed 5-tuple (scheme scheme-shaped and
lower-case or empty; netloc without `/?#` passing the bracket check; path without `?#`,
absolute when an authority is printed, not starting with `//` when there is none; no scheme
look-alike before the first `:` of a scheme-less path; query without `#`; no tab / CR / LF,
no leading C0 or space), `urlsplit (urlunsplit t) = t` — an absent fragment / query being
the empty one -/
theorem urlsplit_urlunsplit (s : Split)
    (h : WF s.scheme s.netloc s.path s.query (s.fragment.getD [])) :
    urlsplit (urlunsplit s) [] =
      some ⟨s.scheme, s.netloc, s.path, s.query, s.fragment.getD []⟩ := by
  rw [urlunsplit_eq_urlunsplit20]
  exact urlsplit_urlunsplit20 _ _ _ _ _ h

/-- the same for the `urlunsplit` model of C15 / C20 -/
theorem urlsplit_urlunsplit20 (scheme netloc path query fragment : Str)
    (h : WF scheme netloc path query fragment) :
    urlsplit (urlunsplit20 scheme netloc path query fragment) [] =
      some ⟨scheme, netloc, path, query, fragment⟩ :=
  UrlRoundTrip.urlsplit_urlunsplit20 _ _ _ _ _ h

/-- the two models of `urlunsplit` agree -/
theorem urlunsplit_models_agree (s : Split) :
    urlunsplit s = urlunsplit20 s.scheme s.netloc s.path s.query (s.fragment.getD []) :=
  urlunsplit_eq_urlunsplit20 s

/-- non-vacuity: `WF` holds of a tuple with userinfo, an IPv6 host, a port, a path, a query
and a fragment -/
example : WF "https".toList "u:p@[2001:db8::1]:8080".toList "/a/b".toList "k=v&x".toList "f".toList := by
  simp only [toList_lit]
  exact
    { scheme_ok := Or.inr ⟨⟨⟨_, _, rfl, by decide⟩, by decide⟩, by decide⟩
      netloc_nodelim := by decide
      netloc_ok := by decide +kernel
      path_noq := by decide
      path_noh := by decide
      query_noh := by decide
      path_abs := fun _ => Or.inr ⟨_, rfl⟩
      path_no2 := fun h => absurd h (by decide)
      rel_nocolon := fun h => absurd h (by decide)
      rel_nolead := fun h => absurd h (by decide)
      clean := by decide +kernel }

/-- the hypotheses are needed: a path starting with `//` under an empty authority, a relative
path with a scheme look-alike, a raw `#` in the query are not read back -/
example :
    urlsplit (urlunsplit20 "http".toList [] "//x/y".toList [] []) [] ≠
      some ⟨"http".toList, [], "//x/y".toList, [], []⟩ ∧
    urlsplit (urlunsplit20 [] [] "a:b".toList [] []) [] ≠ some ⟨[], [], "a:b".toList, [], []⟩ ∧
    urlsplit (urlunsplit20 "http".toList "h".toList "/p".toList "a#b".toList []) [] ≠
      some ⟨"http".toList, "h".toList, "/p".toList, "a#b".toList, []⟩ := by
  simp only [toList_lit]
  decide +kernel

/-! ## the accessors invert `unsplit_netloc` -/

/-- **accessors ∘ unsplit_netloc**: for a user without `:`, a host without `@ [ ]` and a port
≤ 65535 the accessors give the components back — user and password (falsy = absent; a
password without user gives the empty user), the host lower-cased (an IPv6 literal gets its
brackets from `unsplit_netloc` and loses them in `.hostname`), the port -/
theorem accessors_unsplitNetloc (user pass host : Option Str) (port : Option Nat)
    (hu : ':' ∉ strOf user)
    (hh : '@' ∉ strOf host ∧ '[' ∉ strOf host ∧ ']' ∉ strOf host)
    (hp : ∀ n ∈ port, n ≤ 65535) :
    username (unsplitNetloc user pass host port) =
      (if strOf pass ≠ [] ∨ strOf user ≠ [] then some (strOf user) else none) ∧
    password (unsplitNetloc user pass host port) =
      (if strOf pass ≠ [] then some (strOf pass) else none) ∧
    hostname (unsplitNetloc user pass host port) =
      (if strOf host = [] then none else some (lowerHost (strOf host))) ∧
    Py.port (unsplitNetloc user pass host port) = some port :=
  UrlRoundTrip.accessors_unsplitNetloc user pass host port hu hh hp

/-- non-vacuity: IPv6 host with port, password without user, empty user -/
example :
    hostname (unsplitNetloc none (some "p@:".toList) (some "2001:DB8::1".toList) (some 8080)) =
      some "2001:db8::1".toList ∧
    username (unsplitNetloc none (some "p@:".toList) (some "2001:DB8::1".toList) (some 8080)) =
      some [] ∧
    password (unsplitNetloc none (some "p@:".toList) (some "2001:DB8::1".toList) (some 8080)) =
      some "p@:".toList ∧
    username (unsplitNetloc (some []) none (some "a.com".toList) none) = none := by
  simp only [toList_lit]
  decide +kernel

/-! ## `canonicalize_url` prints well-formed tuples, and its output re-parses to them -/

/-- the default protocol gives the cleaned string a scheme (`https`, `http`, `ftp`,
`https://`, `wss:` …; not `""`, `1x`) -/
def DefaultProtocolOk (dp : Str) : Prop := SchemeShaped (rstripChars dp [':', '/'])

theorem defaultProtocolOk_https : DefaultProtocolOk "https".toList :=
  ⟨⟨'h', "ttps".toList, by decide +kernel, by decide +kernel⟩, by decide +kernel⟩

/-- what `canonicalize_url` accepts (everything else raises `ValueError`): the cleaned string
parses — `urlsplit` and the accessors — to `p`, and the userinfo of `p` holds no bracket
(FX-C01-ca9f3e6).  Decidable: `parseUrl` and `userinfoBrackets` are computable. -/
def Accepted (u dp : Str) (p : Parsed) : Prop :=
  parseUrl (Canonicalize.cleanUrl u dp) = some p ∧ userinfoBrackets p.netloc = false

/-- `canonicalize_url` returns exactly on the accepted strings, and then prints
`canonParts` of the parse -/
theorem canonicalize_accepts_iff (puny : Str → Str) (o : Opts) (u s : Str) :
    canonicalizeUrl puny o u = some s ↔
      ∃ p, Accepted u o.defaultProtocol p ∧
        s = printSplit (canonParts puny o.quoted o.stripFragment p) := by
  unfold canonicalizeUrl canonicalizeSplit canonSplit Accepted
  cases hp : parseUrl (Canonicalize.cleanUrl u o.defaultProtocol) with
  | none => simp
  | some p =>
    by_cases hb : userinfoBrackets p.netloc = true
    · simp [hb]
    · simp only [Option.bind_some, hb, Bool.false_eq_true, if_false, Option.map_some,
        Option.some.injEq]
      constructor
      · intro e; exact ⟨p, ⟨rfl, by simpa using hb⟩, e.symm⟩
      · rintro ⟨p', ⟨e, _⟩, rfl⟩; cases e; rfl

/-- **`canonParts` is well-formed**: for every input string `canonicalize_url` accepts, every
default protocol, option setting and decoder, the 5-tuple handed to the printer satisfies
every hypothesis of the parser/printer round trip (the bracket check on the new netloc
included: `Lemmas/BracketHost.lean`) -/
theorem canonParts_wf (puny : Str → Str) (hpc : PunyClean puny) (quoted sf : Bool)
    (u dp : Str) (hdp : DefaultProtocolOk dp) (p : Parsed) (ha : Accepted u dp p) :
    WF (canonParts puny quoted sf p).scheme (canonParts puny quoted sf p).netloc
      (canonParts puny quoted sf p).path (canonParts puny quoted sf p).query
      ((canonParts puny quoted sf p).fragment.getD []) := by
  obtain ⟨S, rest, hcl, _⟩ := cleanUrl_cleaned u dp hdp
  have hf := fromParse hcl ha.1
  exact CanonRoundTrip.canonParts_wf hpc quoted sf hf (netlocOk_new hpc quoted sf hf ha.2)

/-- **delimiter clause of C01 on the output string, full**: for every string
`canonicalize_url` accepts — every netloc the parser accepts whose userinfo holds no bracket:
registered names, IPv4, IPv6 and IPvFuture literals, zone ids, any userinfo and port — the
output parses, and its parse is the components `canonComps` computed
(`reparsedOf` = those components behind the printed netloc) -/
theorem canonicalize_reparse (puny : Str → Str) (hpc : PunyClean puny) (o : Opts)
    (hdp : DefaultProtocolOk o.defaultProtocol) (u : Str) (p : Parsed)
    (ha : Accepted u o.defaultProtocol p) :
    ∃ s, canonicalizeUrl puny o u = some s ∧
      parseUrl s = some (reparsedOf puny o.quoted o.stripFragment p) := by
  obtain ⟨S, rest, hcl, _⟩ := cleanUrl_cleaned u o.defaultProtocol hdp
  have hf := fromParse hcl ha.1
  refine ⟨printSplit (canonParts puny o.quoted o.stripFragment p),
    (canonicalize_accepts_iff puny o u _).2 ⟨p, ha, rfl⟩, ?_⟩
  exact parseUrl_printed hpc o.quoted o.stripFragment hf ha.2

/-- the same, read from the result: whatever `canonicalize_url` returns parses, to the
components computed from the parse of the cleaned input -/
theorem canonicalize_reparse_of_some (puny : Str → Str) (hpc : PunyClean puny) (o : Opts)
    (hdp : DefaultProtocolOk o.defaultProtocol) (u s : Str)
    (hs : canonicalizeUrl puny o u = some s) :
    ∃ p, Accepted u o.defaultProtocol p ∧
      parseUrl s = some (reparsedOf puny o.quoted o.stripFragment p) := by
  obtain ⟨p, ha, rfl⟩ := (canonicalize_accepts_iff puny o u s).1 hs
  obtain ⟨s', hs', hp'⟩ := canonicalize_reparse puny hpc o hdp u p ha
  rw [(canonicalize_accepts_iff puny o u _).2 ⟨p, ha, rfl⟩] at hs'
  cases hs'
  exact ⟨p, ha, hp'⟩

/-- the witnesses of KF-C01-1 / KF-C01-2: a bracket in the userinfo is rejected
(the cleaned string does parse); an IPvFuture literal holding `[`, also behind junk, keeps
its brackets and is read back with the same host -/
example :
    (parseUrl (Canonicalize.cleanUrl "http://u[::1%7A]@a.com/".toList "https".toList)).isSome = true ∧
    canonicalizeUrl id ⟨"https".toList, false, false⟩ "http://u[::1%7A]@a.com/".toList = none ∧
    canonicalizeUrl id ⟨"https".toList, true, false⟩ "HTTP://u[::1]@[::1 ]#f".toList = none ∧
    canonicalizeUrl id ⟨"https".toList, false, false⟩ "http://[v1.[]/".toList =
      some "http://[v1.[]".toList ∧
    canonicalizeUrl id ⟨"https".toList, false, false⟩ "http://x[v1.[]/".toList =
      some "http://[v1.[]".toList ∧
    ((canonicalizeUrl id ⟨"https".toList, false, false⟩ "http://x[v1.[]/".toList).bind parseUrl).map
        (fun p => p.hostname) = some (some "v1.[".toList) ∧
    canonicalizeUrl id ⟨"https".toList, false, false⟩ "http://[V1.X]:80/p".toList = none ∧
    canonicalizeUrl id ⟨"https".toList, false, false⟩ "http://[v1.X]:80/p".toList =
      some "http://[v1.x]/p".toList := by
  simp only [toList_lit]
  decide +kernel

/-- non-vacuity inside the bracket region: an IPv6 URL with userinfo, upper-case hex, default
port, dot segments, query and fragment -/
example :
    (canonicalizeUrl id ⟨"https".toList, false, false⟩
        " HTTP://%41:p%40@[2001:DB8::1]:80/a/../b%2Fc/?k=%26#f ".toList =
      some "http://A:p%40@[2001:db8::1]/b%2Fc/?k=%26#f".toList) ∧
    ((canonicalizeUrl id ⟨"https".toList, false, false⟩
        " HTTP://%41:p%40@[2001:DB8::1]:80/a/../b%2Fc/?k=%26#f ".toList).bind parseUrl).map
        (fun p => (p.username, p.password, p.hostname, p.port, p.path)) =
      some (some "A".toList, some "p%40".toList, some "2001:db8::1".toList, none, "/b%2Fc/".toList) := by
  simp only [toList_lit]
  decide +kernel

/-! ## the per-component theorems, about the parse of the output string -/

/-- the path hypothesis of `canon_path` is no hypothesis on accepted strings: the path the
parser returns for a cleaned string (which has a scheme and `//`: `ensure_protocol`) is empty
or starts with `/` -/
theorem absPath_of_accepted (u dp : Str) (hdp : DefaultProtocolOk dp) (p : Parsed)
    (ha : Accepted u dp p) : Normpath.absPath p.path = true := by
  obtain ⟨S, rest, hcl, _⟩ := cleanUrl_cleaned u dp hdp
  exact absPath_of_AbsPath (fromParse hcl ha.1).split.path_abs

theorem strOf_reparsedOf (puny : Str → Str) (quoted sf : Bool) (p : Parsed) :
    strOf (reparsedOf puny quoted sf p).username = strOf (canonComps puny quoted sf p).user ∧
    strOf (reparsedOf puny quoted sf p).password = strOf (canonComps puny quoted sf p).pass ∧
    strOf (reparsedOf puny quoted sf p).hostname = strOf (canonComps puny quoted sf p).host := by
  have h := CanonTexts.textsOf_reparsed (canonParts puny quoted sf p).netloc (canonComps puny quoted sf p)
  exact ⟨congrArg CanonTexts.Texts.user h, congrArg CanonTexts.Texts.pass h,
    congrArg CanonTexts.Texts.host h⟩

theorem apply_strOf {α : Type} (f : Str → α) {o o' : Option Str} (h : o.map f = o'.map f) :
    f (strOf o) = f (strOf o') := by
  cases o <;> cases o' <;> simp_all [strOf_some]

/-- **C01 on the output string**: the whole-string function returns a string that parses,
and the parse `p'` of THAT STRING denotes the same resource as the parse `p` of the cleaned
input, clause by clause as the property words them:

* the same scheme;
* the same decoded userinfo (user, password; absent ≡ empty);
* the same host up to letter case and IDNA spelling: label by label the same ASCII-compatible
  spelling `hostKey ace` — for every decoder that keeps the name of the `xn--` labels of the
  input host (`SameNameOn`, the per-case obligation evaluated on the real decoder; implied by
  `IdnaLaws`: `canonicalize_same_resource_laws`) — and, for the record, the weaker fixed-point
  form `canonHost puny host' = canonHost puny host` that any idempotent decoder satisfies;
* the same effective port;
* **the same path view**: `pathView p'.path = pathView p.path` — the same sequence of
  percent-decoded segments after `.`, `..` and empty-segment resolution and the same
  trailing-slash flag — with NO path hypothesis: `absPath` follows from `Accepted`
  (`absPath_of_accepted`);
* the same ordered list of decoded query keys and values, under both readings of a key /
  value: percent-decoding (`pctItem`: `+` is a plus sign) and form decoding (`formItem`: a raw
  `+` is a space, `%2B` a plus sign; FX-C01-6e09416);
* the same decoded fragment, or the empty one when `strip_fragment` was requested.

This is `Props/C01.lean` carried through the printer and the parser by
`canonicalize_reparse`. -/
theorem canonicalize_same_resource (ace puny : Str → Str) (hpl : PunyLaws puny) (hpc : PunyClean puny)
    (hl : ∀ l, ace (Py.lower l) = ace l)
    (o : Opts) (hdp : DefaultProtocolOk o.defaultProtocol) (u : Str) (p : Parsed)
    (ha : Accepted u o.defaultProtocol p)
    (hsn : ∀ h, p.hostname = some h → SameNameOn ace puny h) :
    ∃ s p', canonicalizeUrl puny o u = some s ∧ parseUrl s = some p' ∧
      p'.scheme = p.scheme ∧
      optPct p'.username = optPct p.username ∧ optPct p'.password = optPct p.password ∧
      hostKey ace (p'.hostname.getD []) = hostKey ace (p.hostname.getD []) ∧
      canonHost puny (p'.hostname.getD []) = canonHost puny (p.hostname.getD []) ∧
      effPort p.scheme p'.port = effPort p.scheme p.port ∧
      pathView p'.path = pathView p.path ∧
      (safeQslIter p'.query).map pctItem = (safeQslIter p.query).map pctItem ∧
      (safeQslIter p'.query).map formItem = (safeQslIter p.query).map formItem ∧
      (o.stripFragment = false → pctStr p'.fragment = pctStr p.fragment) ∧
      (o.stripFragment = true → p'.fragment = []) := by
  obtain ⟨s, hs, hps⟩ := canonicalize_reparse puny hpc o hdp u p ha
  obtain ⟨hu, hpw, hh⟩ := strOf_reparsedOf puny o.quoted o.stripFragment p
  simp only [optPct, ← strOf_eq_getD]
  refine ⟨s, _, hs, hps, rfl, ?_, ?_, ?_, ?_, ?_, ?_, ?_, ?_, ?_, ?_⟩
  · rw [hu, strOf_eq_getD, strOf_eq_getD]; exact (canon_userinfo puny o.quoted o.stripFragment p).1
  · rw [hpw, strOf_eq_getD, strOf_eq_getD]; exact (canon_userinfo puny o.quoted o.stripFragment p).2
  · rw [hh]; exact apply_strOf _ (canon_host_name ace puny hpl hl o.quoted o.stripFragment p hsn)
  · rw [hh]; exact apply_strOf _ (canon_host puny hpl o.quoted o.stripFragment p)
  · exact canon_port puny o.quoted o.stripFragment p
  · exact canon_path puny o.quoted o.stripFragment p (absPath_of_accepted u _ hdp p ha)
  · exact canon_query puny o.quoted o.stripFragment p
  · exact canon_query_form puny o.quoted o.stripFragment p
  · intro hsf
    have := (canon_fragment puny o.quoted p).1
    rw [hsf]; exact this
  · intro hsf
    have := (canon_fragment puny o.quoted p).2
    simp only [reparsedOf, reparsed, hsf, this, Option.getD_none]

/-- the same under the decoder law stated of ALL labels (`IdnaLaws`): no per-host hypothesis
is left -/
theorem canonicalize_same_resource_laws (ace puny : Str → Str) (hpl : PunyLaws puny)
    (hpc : PunyClean puny) (hi : IdnaLaws ace puny)
    (o : Opts) (hdp : DefaultProtocolOk o.defaultProtocol) (u : Str) (p : Parsed)
    (ha : Accepted u o.defaultProtocol p) :
    ∃ s p', canonicalizeUrl puny o u = some s ∧ parseUrl s = some p' ∧
      p'.scheme = p.scheme ∧
      optPct p'.username = optPct p.username ∧ optPct p'.password = optPct p.password ∧
      hostKey ace (p'.hostname.getD []) = hostKey ace (p.hostname.getD []) ∧
      canonHost puny (p'.hostname.getD []) = canonHost puny (p.hostname.getD []) ∧
      effPort p.scheme p'.port = effPort p.scheme p.port ∧
      pathView p'.path = pathView p.path ∧
      (safeQslIter p'.query).map pctItem = (safeQslIter p.query).map pctItem ∧
      (safeQslIter p'.query).map formItem = (safeQslIter p.query).map formItem ∧
      (o.stripFragment = false → pctStr p'.fragment = pctStr p.fragment) ∧
      (o.stripFragment = true → p'.fragment = []) :=
  canonicalize_same_resource ace puny hpl hpc hi.ace_lower o hdp u p ha
    (fun h _ => sameNameOn_of_laws hi h)

/-- the URL of the non-vacuity example below -/
def demoUrl : Str := " HTTP://WWW.XN--9CA.Fr:80/a/../b/?x=%2B&y=+#f".toList
def demoOpts : Opts := ⟨"https".toList, false, false⟩

/-- non-vacuity of the whole-function theorem with a decoder that decodes
(`decoder_laws_together`): an accepted URL with an upper-case ACE label, a default port, dot
segments, `+` and `%2B` in its query; the result, and the views of its parse -/
example :
    ((parseUrl (Canonicalize.cleanUrl demoUrl demoOpts.defaultProtocol)).map
      (fun p => userinfoBrackets p.netloc)) = some false ∧
    canonicalizeUrl punyOne demoOpts demoUrl = some "http://www.é.fr/b/?x=%2B&y=+#f".toList ∧
    ((canonicalizeUrl punyOne demoOpts demoUrl).bind parseUrl).map
        (fun p' => hostKey aceOne (p'.hostname.getD [])) = some "www.xn--9ca.fr".toList ∧
    ((canonicalizeUrl punyOne demoOpts demoUrl).bind parseUrl).map (fun p' => pathView p'.path) =
      some ([[0x62]], true) ∧
    ((canonicalizeUrl punyOne demoOpts demoUrl).bind parseUrl).map
        (fun p' => (safeQslIter p'.query).map formItem) =
      some [([0x78], some [0x2B]), ([0x79], some [0x20])] := by
  unfold demoUrl demoOpts
  simp only [toList_lit]
  decide +kernel

/-- **the host clause on the output string, as the property words it**: the string
`canonicalize_url` returns parses, and the host of THAT parse is the host of the cleaned
input up to letter case and IDNA spelling — label by label the same ASCII-compatible spelling
(`hostKey ace`) — for every decoder that obeys `PunyLaws`, `PunyClean` and keeps the name
of the `xn--` labels of the input host (`SameNameOn`, evaluated on the real decoder for every
case of every run). -/
theorem canonicalize_same_host_name (ace puny : Str → Str) (hpl : PunyLaws puny)
    (hpc : PunyClean puny) (hl : ∀ l, ace (Py.lower l) = ace l)
    (o : Opts) (hdp : DefaultProtocolOk o.defaultProtocol) (u : Str) (p : Parsed)
    (ha : Accepted u o.defaultProtocol p)
    (hs : ∀ h, p.hostname = some h → SameNameOn ace puny h) :
    ∃ s p', canonicalizeUrl puny o u = some s ∧ parseUrl s = some p' ∧
      hostKey ace (p'.hostname.getD []) = hostKey ace (p.hostname.getD []) := by
  obtain ⟨s, p', h1, h2, _, _, _, hk, _⟩ := canonicalize_same_resource ace puny hpl hpc hl o hdp u p ha hs
  exact ⟨s, p', h1, h2, hk⟩

end Ural.Props.C01
