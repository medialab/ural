import UralModel.Model.Redirect
import UralModel.Lemmas.Redirect
import UralModel.Lemmas.StrLit
import UralModel.Gen.RedirectRe
import UralModel.Gen.UrllibTables
import UralModel.Gen.ProtocolRe
import UralModel.Lemmas.Protocol
/-!
# C15 — infer_redirection terminates and returns the input or an embedded target

Model: `Model/Redirect.lean`; helper lemmas: `Lemmas/Redirect.lean`.  The recursion is treated for
ANY target-extraction function (`inferOf_*`): everything follows from `hop_cases` — a hop finds
nothing in the cleaned url and the recursion stops, or follows a strictly shorter target.
`clean_once_is_not_a_fixed_point`: cleaning at the entry only would break the fixed-point clause.
-/
namespace Ural.Props.C15
open Ural Ural.Py

/-! ## table obligations -/

/-- a literal the case-insensitive matcher `matchLit` handles as the regex engine does: lower
case letters, digits, `_`, `-`, `.`, `/` only (in particular no `=`, `&`, no upper case) -/
def litOk (s : String) : Bool :=
  s.toList ≠ [] && s.toList.all (fun c =>
    ('a' ≤ c && c ≤ 'z') || ('0' ≤ c && c ≤ '9') || c = '_' || c = '-' || c = '.' || c = '/')

/-- the two regexes of `infer_redirection.py` still have the frame the matchers implement
— `(?:^|[?&])(` keys `)=([^&]+)`, resp. a bare alternation —, are compiled with exactly
`re.IGNORECASE` (| `re.UNICODE`), and their expansions are plain lower-case literals.  The
key list and the cache-host list themselves are free to change. -/
theorem redirect_patterns_shape :
    Gen.obviousRedirectsPattern =
      obviousRedirectsPrefix ++ Gen.redirectKeysSource ++ obviousRedirectsSuffix ∧
    Gen.obviousRedirectsFlags = 34 ∧ Gen.redirectionDomainsFlags = 34 ∧
    Gen.redirectKeys.all litOk = true ∧ Gen.cacheHosts.all litOk = true ∧
    Gen.redirectKeys ≠ [] ∧ Gen.cacheHosts ≠ [] := by decide +kernel

/-- the scheme tables of the running `urllib.parse` are the ones copied into the `urljoin`
model -/
theorem urllib_tables_unchanged :
    Gen.usesRelative = Py.usesRelative ∧ Gen.usesNetloc = Py.usesNetloc20 ∧
    Gen.usesParams = Py.usesParams := by decide +kernel

/-- `PROTOCOL_RE` (used to tell scheme-less urls) is the one `protoLen` models -/
theorem protocol_pattern_unchanged :
    Gen.protocolRePattern = protocolPatternModelled ∧ Gen.protocolReFlags = 32 :=
  protocolRe_modelled

/-- the cleaning class of the running code is the one `cleanedUrl` models: what
`CONTROL_CHARS_RE.sub("", ·)` removes (observed by the translator on the string of all code points,
so a respelling of the pattern is a harmless edit) is `[\x00-\x1f\x7f-\x9f]`, and `str.strip()`
removes the 29 code points of `Py.spaceCodes` -/
theorem cleaning_class_unchanged :
    Gen.controlRemovedRanges = [(0, 0x1f), (0x7f, 0x9f)] ∧ Gen.stripRemovedCodes = spaceCodes := by
  decide

/-- … hence `cleanedUrl` is the regenerated cleaning: drop the code points of the regenerated
ranges, then the regenerated strip set from both ends -/
theorem cleanedUrl_is_regenerated_cleaning (u : Str) :
    cleanedUrl u =
      let inStrip := fun (c : Char) => Gen.stripRemovedCodes.contains c.toNat
      let kept := u.filter (fun c => !Gen.controlRemovedRanges.any (fun r => r.1 ≤ c.toNat && c.toNat ≤ r.2))
      ((kept.dropWhile inStrip).reverse.dropWhile inStrip).reverse := by
  obtain ⟨h1, h2⟩ := cleaning_class_unchanged
  rw [h1, h2]
  unfold cleanedUrl strip rstrip lstrip UrlParts.stripControl
  have e : (fun c => !UrlParts.isControlChar c) =
      (fun (c : Char) => !List.any [(0, 0x1f), (0x7f, 0x9f)] (fun r => decide (r.1 ≤ c.toNat) && decide (c.toNat ≤ r.2))) := by
    funext c
    simp [UrlParts.isControlChar]
  rw [e]
  rfl

/-! ## termination, fixed point, iteration — for ANY target function

`inferOf target` is the recursion of the code (clean the url, follow `target (cleaned url)`
while it is strictly shorter than the cleaned url) and `stepOf target` its non-recursive form.
That Lean accepts the definition of `inferOf` (`termination_by url.length`, discharged by the
guard `t.length < (cleanedUrl url).length` itself and `cleanedUrl_length_le`: cleaning only removes
characters) *is* the termination proof: `inferOf target` is a total function for every
`target`.  Nothing below depends on how targets are extracted. -/

section Generic
variable (target : Str → Option Str)

/-- the defining equation of the recursion (what the Python code does) -/
theorem inferOf_unfold (u : Str) :
    inferOf target u =
      match target (cleanedUrl u) with
      | some t => if t.length < (cleanedUrl u).length then inferOf target t else u
      | none => u := by
  rw [inferOf]
  cases target (cleanedUrl u) <;> rfl

/-! ### every hop reads the cleaned form of what it is given -/

/-- the non-recursive form is: clean the argument, follow what the cleaned url designates -/
theorem stepOf_eq_hop (u : Str) : stepOf target u = (followed target (cleanedUrl u)).getD u := by
  unfold stepOf followed
  cases target (cleanedUrl u) with
  | none => rfl
  | some t => by_cases h : t.length < (cleanedUrl u).length <;> simp [h]

/-- … and so is EVERY level of the recursion: the recursive call is made on the target, which is
cleaned again before anything is looked for in it -/
theorem inferOf_eq_hop (u : Str) :
    inferOf target u =
      match followed target (cleanedUrl u) with
      | some t => inferOf target t
      | none => u := by
  rw [inferOf_unfold]
  unfold followed
  cases target (cleanedUrl u) with
  | none => rfl
  | some t => by_cases h : t.length < (cleanedUrl u).length <;> simp [h]

/-- a hop either finds nothing to follow in the cleaned url — the recursion stops — or follows a
strictly shorter target, on which the recursion goes on -/
theorem hop_cases (u : Str) :
    (followed target (cleanedUrl u) = none ∧ stepOf target u = u ∧ inferOf target u = u) ∨
    (∃ t, followed target (cleanedUrl u) = some t ∧ stepOf target u = t ∧ t.length < u.length ∧
      inferOf target u = inferOf target t) := by
  rw [inferOf_eq_hop, stepOf_eq_hop]
  cases h : followed target (cleanedUrl u) with
  | none => exact Or.inl ⟨rfl, rfl, rfl⟩
  | some t =>
    exact Or.inr ⟨t, rfl, rfl,
      Nat.lt_of_lt_of_le (followed_length_lt target _ t h) (cleanedUrl_length_le u), rfl⟩

/-- one step either changes nothing — and then the recursion stops there — or yields a
string strictly shorter than the cleaned url (hence than the url) on which the recursion
continues -/
theorem step_cases (u : Str) :
    (stepOf target u = u ∧ inferOf target u = u) ∨
    ((stepOf target u).length < (cleanedUrl u).length ∧ (stepOf target u).length < u.length ∧
      inferOf target u = inferOf target (stepOf target u)) := by
  rcases hop_cases target u with ⟨_, hs, hi⟩ | ⟨t, hf, hs, hlt, hi⟩
  · exact Or.inl ⟨hs, hi⟩
  · rw [hs]
    exact Or.inr ⟨followed_length_lt target _ t hf, hlt, hi⟩

/-- the recursive result is a fixed point of the step -/
theorem inferOf_fixed_point (u : Str) : stepOf target (inferOf target u) = inferOf target u := by
  induction u using length_induction with
  | _ u ih =>
    rcases step_cases target u with ⟨h1, h2⟩ | ⟨_, h1, h2⟩
    · rw [h2]; exact h1
    · rw [h2]; exact ih _ h1

/-- … hence applying the function to its own result changes nothing -/
theorem inferOf_idempotent (u : Str) : inferOf target (inferOf target u) = inferOf target u := by
  rcases step_cases target (inferOf target u) with ⟨_, h2⟩ | ⟨_, h1, _⟩
  · exact h2
  · rw [inferOf_fixed_point] at h1; exact absurd h1 (Nat.lt_irrefl _)

/-- the result is never longer than the input -/
theorem inferOf_length_le (u : Str) : (inferOf target u).length ≤ u.length := by
  induction u using length_induction with
  | _ u ih =>
    rcases step_cases target u with ⟨_, h2⟩ | ⟨_, h1, h2⟩
    · rw [h2]; omega
    · rw [h2]
      have := ih (stepOf target u) h1
      omega

theorem inferFuel_succ (n : Nat) (u : Str) :
    inferFuel target (n + 1) u =
      match followed target (cleanedUrl u) with
      | some t => inferFuel target n t
      | none => u := by
  simp only [inferFuel, followed]
  cases target (cleanedUrl u) with
  | none => rfl
  | some t => by_cases h : t.length < (cleanedUrl u).length <;> simp [h]

/-- the fuel-driven recursion (used by the driver's cross-check and by `decide`) computes the
same function once the fuel reaches the length of the url: `len(url)` bounds the depth -/
theorem inferFuel_eq (fuel : Nat) (u : Str) (h : u.length ≤ fuel) :
    inferFuel target fuel u = inferOf target u := by
  induction fuel generalizing u with
  | zero =>
    rcases hop_cases target u with ⟨_, _, hi⟩ | ⟨t, _, _, hlt, _⟩
    · exact hi.symm
    · omega
  | succ fuel ih =>
    rw [inferFuel_succ]
    rcases hop_cases target u with ⟨h0, _, hi⟩ | ⟨t, h0, _, hlt, hi⟩
    · rw [h0, hi]
    · rw [h0, hi]
      exact ih t (by omega)

/-- the fuel-driven recursion IS the iterated non-recursive form — the iterate of
"clean, then follow" —, for every amount of fuel -/
theorem inferFuel_eq_iterStep (n : Nat) (u : Str) :
    inferFuel target n u = iterStep (stepOf target) n u := by
  induction n generalizing u with
  | zero => rfl
  | succ n ih =>
    rw [inferFuel_succ]
    simp only [iterStep]
    rcases hop_cases target u with ⟨h0, hs, _⟩ | ⟨t, h0, hs, _, _⟩
    · rw [h0, hs]
      exact (iterStep_fixed _ n u hs).symm
    · rw [h0, hs]
      exact ih t

/-- **the number of hops is bounded by the length of the cleaned url.**  The result of the loop is
reached by exactly `n` turns that follow a target (`infer_redirection_target(xᵢ) = xᵢ₊₁` for every
`i < n`, each strictly shorter than the cleaned form of the one before) and the next turn finds
nothing to follow (`infer_redirection_target(result) = None`); `n ≤ len(cleaned url) ≤ len(url)`,
and `n` turns of the bounded loop are enough. -/
theorem inferOf_hops_bounded (u : Str) :
    ∃ n, n ≤ (cleanedUrl u).length ∧ iterStep (stepOf target) n u = inferOf target u ∧
      (∀ i, i < n → targetOf target (iterStep (stepOf target) i u) =
          some (iterStep (stepOf target) (i + 1) u) ∧
        (iterStep (stepOf target) (i + 1) u).length <
          (cleanedUrl (iterStep (stepOf target) i u)).length) ∧
      targetOf target (inferOf target u) = none ∧
      inferFuel target n u = inferOf target u := by
  induction u using length_induction with
  | _ u ih =>
    rcases hop_cases target u with ⟨h0, _, h2⟩ | ⟨t, h0, hs, hlt, h2⟩
    · rw [h2]
      exact ⟨0, Nat.zero_le _, rfl, fun i hi => absurd hi (Nat.not_lt_zero _), h0, rfl⟩
    · obtain ⟨m, hm, him, hall, hend, _⟩ := ih t hlt
      have hlt' := followed_length_lt target _ t h0
      have hle := cleanedUrl_length_le t
      have hit : iterStep (stepOf target) (m + 1) u = inferOf target t := by
        simp only [iterStep, hs]
        exact him
      rw [h2]
      refine ⟨m + 1, by omega, hit, fun i hi => ?_, hend, by rw [inferFuel_eq_iterStep]; exact hit⟩
      cases i with
      | zero =>
        simp only [iterStep, hs]
        exact ⟨h0, hlt'⟩
      | succ i =>
        simp only [iterStep, hs]
        exact hall i (by omega)

/-- **every hop cleans.**  The recursive result is reached by `n ≤ len(u)` hops
`u = x₀, x₁, …, xₙ`; each `xᵢ₊₁` is what the CLEANED form of `xᵢ` designates — also for `i ≥ 1`,
where `xᵢ` is a percent-decoded value that may hold control characters or padding that were
escaped in `u` —, and nothing is left to follow in the cleaned form of the result. -/
theorem inferOf_hops_clean (u : Str) :
    ∃ n, n ≤ u.length ∧ iterStep (stepOf target) n u = inferOf target u ∧
      (∀ i, i < n → followed target (cleanedUrl (iterStep (stepOf target) i u)) =
        some (iterStep (stepOf target) (i + 1) u)) ∧
      followed target (cleanedUrl (inferOf target u)) = none := by
  obtain ⟨n, hn, hit, hall, hend, _⟩ := inferOf_hops_bounded target u
  exact ⟨n, Nat.le_trans hn (cleanedUrl_length_le u), hit, fun i hi => (hall i hi).1, hend⟩

/-- the recursive result is what repeated non-recursive application converges to, after at
most `len(url)` steps -/
theorem inferOf_is_iterated_step (u : Str) :
    ∃ n, n ≤ u.length ∧ iterStep (stepOf target) n u = inferOf target u ∧
      stepOf target (inferOf target u) = inferOf target u := by
  obtain ⟨n, hn, hit, _⟩ := inferOf_hops_bounded target u
  exact ⟨n, Nat.le_trans hn (cleanedUrl_length_le u), hit, inferOf_fixed_point target u⟩

/-- the result of the loop is the argument itself, or strictly shorter than the CLEANED argument -/
theorem inferOf_shrinks (u : Str) :
    inferOf target u = u ∨ (inferOf target u).length < (cleanedUrl u).length := by
  rcases hop_cases target u with ⟨_, _, h2⟩ | ⟨t, h0, _, _, h2⟩
  · exact Or.inl h2
  · right
    rw [h2]
    exact Nat.lt_of_le_of_lt (inferOf_length_le target t) (followed_length_lt target _ t h0)

/-- what a level of the recursion does with a target `t` is what it does with the cleaned form of
`t`: both resolve to the same string, or each to itself -/
theorem inferOf_hop_reads_cleaned (t : Str) :
    inferOf target t = inferOf target (cleanedUrl t) ∨
      (inferOf target t = t ∧ inferOf target (cleanedUrl t) = cleanedUrl t) :=
  inferOf_clean_congr target t (cleanedUrl t) (cleanedUrl_idempotent t).symm

end Generic

/-! ## the statements for `infer_redirection` -/

/-- **the loop, as the code spells it** (infer_redirection.py:104-113): one turn asks
`infer_redirection_target`; `None` → the argument of the turn comes back as it is; otherwise the
non-recursive form returns the target and the recursive form goes on with it. -/
theorem infer_loop_spec (u : Str) :
    inferStep u = (inferRedirectionTarget u).getD u ∧
    infer u = (match inferRedirectionTarget u with
      | some t => infer t
      | none => u) :=
  ⟨stepOf_eq_hop inferTarget u, inferOf_eq_hop inferTarget u⟩

/-- **bounded number of steps.**  `infer_redirection(u)` is reached by exactly `n` hops with
`n ≤ len(cleaned u) ≤ len(u)`: `infer_redirection_target(xᵢ) = xᵢ₊₁` for `i < n`
(`x₀ = u`, `xᵢ₊₁` strictly shorter than the cleaned `xᵢ`), `xₙ` is the result and
`infer_redirection_target(xₙ) = None`; the loop bounded by `n` turns returns it. -/
theorem infer_hops_bounded (u : Str) :
    ∃ n, n ≤ (cleanedUrl u).length ∧ iterStep inferStep n u = infer u ∧
      (∀ i, i < n → inferRedirectionTarget (iterStep inferStep i u) =
          some (iterStep inferStep (i + 1) u) ∧
        (iterStep inferStep (i + 1) u).length < (cleanedUrl (iterStep inferStep i u)).length) ∧
      inferRedirectionTarget (infer u) = none ∧
      inferFuel inferTarget n u = infer u :=
  inferOf_hops_bounded inferTarget u

/-- **termination.**  `infer` is a function on all strings (the loop, written as a tail recursion,
is accepted by well-founded recursion on `len(url)` with the code's own guard), its value is
reached by at most `len(cleaned url)` hops (`infer_hops_bounded`), and the loop bounded by
`len(url)` turns never runs out. -/
theorem infer_total (u : Str) :
    (∃ n, n ≤ (cleanedUrl u).length ∧ n ≤ u.length ∧ inferFuel inferTarget n u = infer u) ∧
    inferFuel inferTarget u.length u = infer u := by
  obtain ⟨n, hn, _, _, _, hf⟩ := infer_hops_bounded u
  exact ⟨⟨n, hn, Nat.le_trans hn (cleanedUrl_length_le u), hf⟩,
    inferFuel_eq inferTarget _ u (Nat.le_refl _)⟩

/-- **fixed point.**  `infer_redirection(infer_redirection(u)) == infer_redirection(u)` -/
theorem infer_fixed_point (u : Str) : infer (infer u) = infer u :=
  inferOf_idempotent inferTarget u

/-- the non-recursive form leaves the recursive result alone -/
theorem infer_step_fixed (u : Str) : inferStep (infer u) = infer u :=
  inferOf_fixed_point inferTarget u

/-- **iteration law.**  The recursive result equals what repeated application of
`infer_redirection(·, recursive=False)` converges to — within `len(u)` applications — and
applying it once more changes nothing. -/
theorem infer_is_iterated_step (u : Str) :
    ∃ n, n ≤ u.length ∧ iterStep inferStep n u = infer u ∧ inferStep (infer u) = infer u :=
  inferOf_is_iterated_step inferTarget u

/-- **every hop of `infer_redirection` cleans what it is given** (`inferOf_hops_clean` for the
modelled extraction): the chain of targets leading to the recursive result is obtained by
"clean, then follow" at every level, and the cleaned result designates nothing to follow -/
theorem infer_every_hop_cleans (u : Str) :
    ∃ n, n ≤ u.length ∧ iterStep inferStep n u = infer u ∧
      (∀ i, i < n → followed inferTarget (cleanedUrl (iterStep inferStep i u)) =
        some (iterStep inferStep (i + 1) u)) ∧
      followed inferTarget (cleanedUrl (infer u)) = none :=
  inferOf_hops_clean inferTarget u

/-- `infer_redirection(u)` is the `len(u)`-fold iterate of `infer_redirection(·, recursive=False)`
— of "clean, then follow" (`stepOf_eq_hop`) -/
theorem infer_eq_iterated_step (u : Str) : infer u = iterStep inferStep u.length u := by
  rw [← (infer_total u).2]
  exact inferFuel_eq_iterStep inferTarget u.length u

/-- **per-hop cleaning is what the fixed-point clause rests on**: for the recursion that cleans its
argument once, at the entry, and lets the hops look at their decoded targets as they are
(`inferCleanOnce`), the clause FAILS — its result is not a fixed point of the non-recursive form
and is not what repeated non-recursive application converges to.  (The inner url, once decoded,
holds a TAB between `?` and the key `l`: a fresh call removes it and follows `/z`, the uncleaned
hop finds no hint.)  A
tree that recurses that way therefore disagrees with `infer`, and with its own non-recursive form,
on such inputs: `harness/props/C15.py: unclean_hops` enumerates them. -/
theorem clean_once_is_not_a_fixed_point :
    ∃ u, inferStep (inferCleanOnce inferTarget u) ≠ inferCleanOnce inferTarget u ∧
      inferCleanOnce inferTarget u ≠ inferFuel inferTarget u.length u ∧
      inferFuel inferTarget u.length u = infer u := by
  refine ⟨"http://a.com/?u=http%3A%2F%2Fb.com%2Fp%3F%09l%3D%2Fz".toList,
    and_assoc.1 ⟨?_, (infer_total _).2⟩⟩
  simp only [toList_lit]
  decide +kernel

/-- the result is never longer than the input -/
theorem infer_never_longer (u : Str) : (infer u).length ≤ u.length :=
  inferOf_length_le inferTarget u

/-- **strict shrink of the whole result**: `infer_redirection(u)` is `u` itself or strictly
shorter than the cleaned `u` -/
theorem infer_shrinks (u : Str) : infer u = u ∨ (infer u).length < (cleanedUrl u).length :=
  inferOf_shrinks inferTarget u

/-- resolving the cleaned form of the argument gives the same result, unless the argument is
returned as it is (nothing followed) -/
theorem infer_of_cleaned (u : Str) : infer (cleanedUrl u) = infer u ∨ infer u = u := by
  rcases inferOf_hop_reads_cleaned inferTarget u with h | ⟨h, _⟩
  · exact Or.inl h.symm
  · exact Or.inr h

/-- **the function reads its argument through the cleaned url only** (control characters removed,
stripped — what every url function of the library does to its input): two strings with the same
cleaned form are resolved alike, both to the same target or each to itself -/
theorem infer_reads_cleaned (a b : Str) (h : cleanedUrl a = cleanedUrl b) :
    infer a = infer b ∨ (infer a = a ∧ infer b = b) :=
  infer_clean_congr a b h

/-! ## embeddedness -/

/-- what follows a cache-host match is a suffix of the url -/
theorem domainSplit_suffix (u t : Str) (h : domainSplit u = some t) : t <:+ u := by
  induction u with
  | nil => simp [domainSplit] at h
  | cons c cs ih =>
    simp only [domainSplit] at h
    cases hd : domainHere (c :: cs) with
    | some r => rw [hd] at h; simp at h; rw [← h]; exact domainHere_suffix _ _ hd
    | none => rw [hd] at h; exact (ih h).trans (List.suffix_cons c cs)

/-- the hint found by the regex search is literally present in the url:
`url = pre ++ key ++ "=" ++ value ++ post`, `key` a redirect key up to case, at the start or
right after `?`/`&`, `value` non-empty, `&`-free and maximal -/
theorem redirectSearch_embedded (u k v : Str) (h : redirectSearch u = some (k, v)) :
    ∃ pre post, HintAt u pre k v post := by
  obtain ⟨pre, post, ⟨e1, e2, e3, e4, e5⟩, e6⟩ := redirectSearchFrom_spec u k v true h
  refine ⟨pre, post, e1, e2, e3, e4, e5, ?_⟩
  rcases e6 with ⟨e, _⟩ | e
  · exact Or.inl e
  · exact Or.inr e

/-- `r` is a target embedded in the (cleaned) url `c`:
* `https://` + a non-empty suffix of `c` (the tail after an AMP / Marfeel cache host), or
* built from `unquote v` for a hint `key=v` literally present in `c`: that decoded value
  itself, `https://` + it (youtube), or — when it starts with `/` — its `urljoin` to `c`
  (to `http://` + `c`, minus that prefix, when `c` has no protocol). -/
def EmbeddedIn (c r : Str) : Prop :=
  (∃ tail, tail <:+ c ∧ tail ≠ [] ∧ r = httpsPrefix ++ tail) ∨
  (∃ pre k v post, HintAt c pre k v post ∧
    (r = unquote v ∨ r = httpsPrefix ++ unquote v ∨
     (startsWith (unquote v) ['/'] = true ∧ joinRelative c (unquote v) = some r)))

/-- `r` is the input itself, or a target embedded in the input as the function reads it: with
its control characters removed and stripped (`cleanedUrl`, the cleaning every url function of the
library applies; `cleanedUrl_sublist`, `cleanedUrl_eq_self`: nothing but such characters goes, and a
string without them is read as it is) -/
def Embedded (u r : Str) : Prop := r = u ∨ EmbeddedIn (cleanedUrl u) r

theorem hintTarget_cases (c k v t : Str) (h : hintTarget c k v = some t) :
    t = unquote v ∨ t = httpsPrefix ++ unquote v ∨
      (startsWith (unquote v) ['/'] = true ∧ joinRelative c (unquote v) = some t) := by
  revert h
  unfold hintTarget
  simp only []
  -- the branches in the order of the source; `none` is never `some t`
  split
  · exact fun h => absurd h (by simp)
  split
  · exact fun h => Or.inl (Option.some.inj h).symm
  split
  · exact fun h => Or.inl (Option.some.inj h).symm
  split
  · rename_i hsl
    exact fun h => Or.inr (Or.inr ⟨hsl, h⟩)
  split
  · exact fun h => Or.inr (Or.inl (Option.some.inj h).symm)
  · exact fun h => absurd h (by simp)

/-- what the extraction returns is embedded in the string it is run on -/
theorem inferTarget_embedded (c t : Str) (ht : inferTarget c = some t) : EmbeddedIn c t := by
  unfold inferTarget at ht
  cases hd : domainSplit c with
  | some tail =>
    rw [hd] at ht
    simp only [] at ht
    split at ht
    · rename_i hne
      exact Or.inl ⟨tail, domainSplit_suffix c tail hd, hne, (Option.some.inj ht).symm⟩
    · exact absurd ht (by simp)
  | none =>
    rw [hd] at ht
    simp only [] at ht
    cases hs : redirectSearch c with
    | none => rw [hs] at ht; exact absurd ht (by simp)
    | some kv =>
      rw [hs] at ht
      obtain ⟨pre, post, hint⟩ := redirectSearch_embedded c kv.1 kv.2 hs
      exact Or.inr ⟨pre, kv.1, kv.2, post, hint, hintTarget_cases c kv.1 kv.2 t ht⟩

/-- **what `infer_redirection_target` returns** is embedded in the cleaned argument and strictly
shorter than it -/
theorem infer_redirection_target_spec (u t : Str) (h : inferRedirectionTarget u = some t) :
    EmbeddedIn (cleanedUrl u) t ∧ t.length < (cleanedUrl u).length := by
  obtain ⟨ht, hlt⟩ := followed_eq_some (target := inferTarget) (c := cleanedUrl u) h
  exact ⟨inferTarget_embedded _ _ ht, hlt⟩

/-- **one step returns the input or an embedded target** -/
theorem infer_target_embedded (u : Str) : Embedded u (inferStep u) := by
  rw [(infer_loop_spec u).1]
  cases h : inferRedirectionTarget u with
  | none => exact Or.inl rfl
  | some t => exact Or.inr (infer_redirection_target_spec u t h).1

/-- on an argument that is read as it is (`cleanedUrl u = u`: no control character, no blank at
either end — `cleanedUrl_eq_self`) one step returns the argument or a target embedded in the
argument ITSELF -/
theorem infer_step_embedded_of_clean (u : Str) (h : cleanedUrl u = u) :
    inferStep u = u ∨ (EmbeddedIn u (inferStep u) ∧ (inferStep u).length < u.length) := by
  rw [(infer_loop_spec u).1]
  cases ht : inferRedirectionTarget u with
  | none => exact Or.inl rfl
  | some t =>
    have := infer_redirection_target_spec u t ht
    rw [h] at this
    exact Or.inr this

/-- the cleaned url is the url minus some of its characters, in order … -/
theorem cleanedUrl_sublist (u : Str) : (cleanedUrl u).Sublist u :=
  (stripBy_infix isSpace _).sublist.trans List.filter_sublist

/-- … and a url without control characters that neither starts nor ends with whitespace (every
well-formed url) is read as it is: on such inputs `Embedded` speaks of the input itself -/
theorem cleanedUrl_eq_self (u : Str) (hc : ∀ c ∈ u, UrlParts.isControlChar c = false)
    (h1 : ∀ c, u.head? = some c → isSpace c = false)
    (h2 : ∀ c, u.getLast? = some c → isSpace c = false) : cleanedUrl u = u :=
  cleanedUrl_of_clean u hc h1 h2

/-- **the recursive result is reached through embedded targets only**: it is the end of a
chain `u = x₀, x₁, …, xₙ = infer u` (`n ≤ len(u)`) in which every element is a target
embedded in the previous one. -/
theorem infer_result_chain (u : Str) :
    ∃ n, n ≤ u.length ∧ iterStep inferStep n u = infer u ∧
      ∀ i, i < n → Embedded (iterStep inferStep i u) (iterStep inferStep (i + 1) u) := by
  obtain ⟨n, h1, h2, _⟩ := infer_is_iterated_step u
  refine ⟨n, h1, h2, ?_⟩
  intro i _
  rw [iterStep_succ_apply]
  exact infer_target_embedded _

/-- **the whole result is reached through genuinely embedded, strictly shrinking targets**: the
chain `u = x₀, …, xₙ = infer u` of `infer_hops_bounded` (`n ≤ len(cleaned u)`) has every `xᵢ₊₁`
embedded in the cleaned `xᵢ` (the `r = u` alternative of `Embedded` is not used) and strictly
shorter than it; in particular `infer u ≠ u` implies `n ≥ 1` and `infer u` strictly shorter than
the cleaned `u` (`infer_shrinks`). -/
theorem infer_result_chain_strict (u : Str) :
    ∃ n, n ≤ (cleanedUrl u).length ∧ iterStep inferStep n u = infer u ∧
      (∀ i, i < n → EmbeddedIn (cleanedUrl (iterStep inferStep i u)) (iterStep inferStep (i + 1) u) ∧
        (iterStep inferStep (i + 1) u).length < (cleanedUrl (iterStep inferStep i u)).length) ∧
      (infer u ≠ u → 0 < n) := by
  obtain ⟨n, h1, h2, h3, _, _⟩ := infer_hops_bounded u
  refine ⟨n, h1, h2, fun i hi => infer_redirection_target_spec _ _ (h3 i hi).1, ?_⟩
  intro hne
  cases n with
  | zero => exact absurd h2.symm hne
  | succ n => exact Nat.succ_pos n

/-! ## non-vacuity (computed through the fuel-driven form: by `inferFuel_eq` any fuel not below the
length of the url gives `infer`; the urls here are shorter than 200) -/

example : inferFuel inferTarget 200 "http://a.com/?url=http%3A%2F%2Fb.com%2F%3Fu%3D%2Fx".toList
    = "http://b.com/x".toList := by
  simp only [toList_lit]
  decide +kernel
example : inferStep "http://x&u=/p".toList = "http://x&u=/p".toList := by
  simp only [toList_lit]
  decide +kernel
example : inferStep "a.com/?url=/z".toList = "a.com/z".toList := by
  simp only [toList_lit]
  decide +kernel
example : inferStep "https://cdn.ampproject.org/c/s/b.com/x".toList = "https://b.com/x".toList := by
  simp only [toList_lit]
  decide +kernel
example : inferStep "http://[x?u=/p".toList = "http://[x?u=/p".toList := by
  simp only [toList_lit]
  decide +kernel
-- hints are searched in the cleaned url; nothing found: the argument itself comes back
example : inferStep "\x00 http://a.com/x?redi\x00rect=/z \n".toList = "http://a.com/z".toList ∧
    inferStep " url=http://b.com/x".toList = "http://b.com/x".toList ∧
    inferStep "http://x.cdn.ampproject.org/c/ ".toList = "http://x.cdn.ampproject.org/c/ ".toList ∧
    inferStep "\t\thttp://x&u=%2Fx@a.com/p".toList = "\t\thttp://x&u=%2Fx@a.com/p".toList := by
  simp only [toList_lit]
  decide +kernel
-- an inner hop that has to be cleaned: the decoded target holds a TAB before the key / a NEL (U+0085) and a blank at its end
example : inferStep "http://a.com/?u=http%3A%2F%2Fb.com%2Fp%3F%09l%3D%2Fz".toList = "http://b.com/p?\tl=/z".toList ∧
    cleanedUrl "http://b.com/p?\tl=/z".toList ≠ "http://b.com/p?\tl=/z".toList ∧
    followed inferTarget (cleanedUrl "http://b.com/p?\tl=/z".toList) = some "http://b.com/z".toList ∧
    inferFuel inferTarget 200 "http://a.com/?u=http%3A%2F%2Fb.com%2Fp%3F%09l%3D%2Fz".toList = "http://b.com/z".toList ∧
    inferFuel inferTarget 200 "a.com?url=http%3A%2F%2Fb.com%2Fp%3Fnext%3D%2Fz%C2%85%20".toList = "http://b.com/z".toList := by
  simp only [toList_lit]
  decide +kernel
-- the public one-hop function: a target, `None` (guard: not shorter; nothing found; empty cache tail)
example : inferRedirectionTarget " http://a.com/?url=http%3A%2F%2Fb.com%2F%3Fu%3D%2Fx\n".toList
      = some "http://b.com/?u=/x".toList ∧
    inferRedirectionTarget "http://b.com/?u=/x".toList = some "http://b.com/x".toList ∧
    inferRedirectionTarget "http://b.com/x".toList = none ∧
    inferRedirectionTarget "http://x&u=/p".toList = none ∧
    inferRedirectionTarget "http://x.cdn.ampproject.org/c/ ".toList = none := by
  simp only [toList_lit]
  decide +kernel
example : Embedded "\x00http://a.com/x?redirect=/z".toList "http://a.com/z".toList :=
  Or.inr (Or.inr ⟨"http://a.com/x?".toList, "redirect".toList, "/z".toList, [],
    ⟨by decide +kernel, ⟨"redirect", by decide +kernel, by decide +kernel⟩, by decide +kernel,
      by decide +kernel, Or.inl rfl, Or.inr ⟨"http://a.com/x".toList, Or.inl (by decide +kernel)⟩⟩,
    Or.inr (Or.inr (by decide +kernel))⟩)

end Ural.Props.C15
