import UralModel.Props.C11
import UralModel.Props.C07Whole
import UralModel.Lemmas.StrLit
/-!
# C11 — the variant tries, for the model tokenisers

`Props/C11.lean` proves the variant clause ("two URLs that the variant's function maps to the same
string are the same key, so storing one and querying the other always hits") for an abstract
tokeniser under the hypothesis `hfac : ∀ u, tokenize u = stems (X u)`.  Here the three tokenisers
are the model functions of `Model/LruVariants.lean` (`canonicalized_lru_stems`,
`normalized_lru_stems`, `fingerprinted_lru_stems`, with the modelled parser), the three `X` are the
whole-string models `canonicalizeUrl`, `normalizeUrlString`, `fingerprintUrlString`.  The
factorisation proved for C07 (`Props/C07Whole.lean`: `canonicalized_stems_factor`,
`normalized_stems_factor`, `fingerprinted_stems_factor`) holds on a class of URLs, not for all `u`:
so the clause is stated here for two URLs of that class and proved from those theorems (through
`store_then_query_hits_of_eq`), not by instantiating `hfac`.

The tokeniser of a trie must be total: an unparseable URL makes the real `tokenize` raise; the
total functions below answer `[]` there (outside the class, where nothing is claimed).
-/
set_option linter.unusedSimpArgs false

namespace Ural.Props.C11
open Ural Ural.Py Ural.UrlParts Ural.Normalize Ural.Fingerprint Ural.LruVariants Ural.LruTrie
open Ural.NormBridge Ural.NormReparse Ural.CanonRoundTrip Ural.Props.C07

variable {α : Type}

/-! ## `NormalizedLRUTrie` -/

/-- `NormalizedLRUTrie.tokenize` (trie.py:76-79), total -/
def tokNorm (sp : Str → Option (Str × Str)) (puny : Str → Str) (o : Opts) (ir sa : Bool) (u : Str) :
    List Str :=
  (normalizedLruStems sp puny parseUrl id o ir sa u).getD []

/-- **same normalized string, same key** — for two URLs of the class, every option set -/
theorem variant_same_string_same_key_norm (sp : Str → Option (Str × Str)) (puny : Str → Str)
    (hpc : PunyClean puny) (o : Opts) (sa ir : Bool) {g g' : UrlG} {po po' : Option Nat} {u v : Str}
    (hu : StemClass ir g po u) (hv : StemClass ir g' po' v)
    (hnu : HasNet (normParts puny o g.proto.hasProto (g.record po)))
    (hnv : HasNet (normParts puny o g'.proto.hasProto (g'.record po')))
    (h : normalizeUrlString puny id o ir u = normalizeUrlString puny id o ir v) :
    normalizedLruStems sp puny parseUrl id o ir sa u = normalizedLruStems sp puny parseUrl id o ir sa v := by
  rw [normalized_stems_factor sp puny hpc o sa hu hnu, normalized_stems_factor sp puny hpc o sa hv hnv, h]

/-- the same on the `SplitResult`s, the shape of the code (stems.py:120-122 hands
`normalize_url(url, unsplit=False)` to `lru_stems_from_parsed_url`): two tuples in the image of
`normalize_url` on the class that are PRINTED alike have the same stems -/
theorem variant_same_print_same_stems_norm (sp : Str → Option (Str × Str)) (puny : Str → Str)
    (hpc : PunyClean puny) (o : Opts) (sa ir : Bool) {g g' : UrlG} {po po' : Option Nat} {u v : Str}
    (hu : StemClass ir g po u) (hv : StemClass ir g' po' v)
    (hnu : HasNet (normParts puny o g.proto.hasProto (g.record po)))
    (hnv : HasNet (normParts puny o g'.proto.hasProto (g'.record po')))
    (h : finalString o g.proto.hasProto (normParts puny o g.proto.hasProto (g.record po)) =
      finalString o g'.proto.hasProto (normParts puny o g'.proto.hasProto (g'.record po'))) :
    stemsOfSplit sp sa (normParts puny o g.proto.hasProto (g.record po)) =
      stemsOfSplit sp sa (normParts puny o g'.proto.hasProto (g'.record po')) := by
  have hs : normalizeUrlString puny id o ir u = normalizeUrlString puny id o ir v := by
    rw [(normalizeUrlString_class puny o hu).1, (normalizeUrlString_class puny o hv).1, h]
  have := variant_same_string_same_key_norm sp puny hpc o sa ir hu hv hnu hnv hs
  unfold normalizedLruStems at this
  rw [(normalizeUrlString_class puny o hu).2, (normalizeUrlString_class puny o hv).2] at this
  simpa using this

/-- **… so storing one and querying the other hits**, whatever was stored before -/
theorem variant_store_then_query_hits_norm (sp : Str → Option (Str × Str)) (puny : Str → Str)
    (hpc : PunyClean puny) (o : Opts) (sa ir : Bool) {g g' : UrlG} {po po' : Option Nat} {u v : Str}
    (hu : StemClass ir g po u) (hv : StemClass ir g' po' v)
    (hnu : HasNet (normParts puny o g.proto.hasProto (g.record po)))
    (hnv : HasNet (normParts puny o g'.proto.hasProto (g'.record po')))
    (h : normalizeUrlString puny id o ir u = normalizeUrlString puny id o ir v)
    (t : TNode Str α) (val : α) :
    LruTrie.match (tokNorm sp puny o ir sa) (LruTrie.set (tokNorm sp puny o ir sa) t u val) v = some val := by
  apply store_then_query_hits_of_eq
  unfold tokNorm
  rw [variant_same_string_same_key_norm sp puny hpc o sa ir hu hv hnu hnv h]

/-! ## `FingerprintedLRUTrie` -/

/-- `FingerprintedLRUTrie.tokenize` (trie.py:82-85), total -/
def tokFp (sp : Str → Option (Str × Str)) (puny : Str → Str) (trie : SNode Str) (sa sfx : Bool) (u : Str) :
    List Str :=
  match fingerprintedLruStems sp (stringEnv puny id trie) sa sfx u with
  | .ok (some st) => st
  | .ok none => []
  | .error _ => []

open Ural.FpReparse in
/-- **same fingerprint, same key** — for two URLs of the class, both `strip_suffix`, every trie -/
theorem variant_same_string_same_key_fp (sp : Str → Option (Str × Str)) (puny : Str → Str)
    (hpc : PunyClean puny) (trie : SNode Str) (sa sfx : Bool) {g g' : UrlG} {po po' : Option Nat}
    {u v : Str} (hu : StemClass true g po (lower u)) (hv : StemClass true g' po' (lower v))
    (hpu : sfx = true → HostPlain g.host) (hpv : sfx = true → HostPlain g'.host)
    (h : fingerprintUrlString puny id trie sfx u = fingerprintUrlString puny id trie sfx v) :
    fingerprintedLruStems sp (stringEnv puny id trie) sa sfx u =
      fingerprintedLruStems sp (stringEnv puny id trie) sa sfx v := by
  obtain ⟨s, st, hs, htok, hst⟩ := fingerprinted_stems_factor sp puny hpc trie sa sfx hu hpu
  obtain ⟨s', st', hs', htok', hst'⟩ := fingerprinted_stems_factor sp puny hpc trie sa sfx hv hpv
  rw [hs, hs'] at h
  simp only [Except.ok.injEq] at h
  subst h
  rw [hst] at hst'
  simp only [Option.some.injEq] at hst'
  rw [htok, htok', hst']

open Ural.FpReparse in
theorem variant_store_then_query_hits_fp (sp : Str → Option (Str × Str)) (puny : Str → Str)
    (hpc : PunyClean puny) (trie : SNode Str) (sa sfx : Bool) {g g' : UrlG} {po po' : Option Nat}
    {u v : Str} (hu : StemClass true g po (lower u)) (hv : StemClass true g' po' (lower v))
    (hpu : sfx = true → HostPlain g.host) (hpv : sfx = true → HostPlain g'.host)
    (h : fingerprintUrlString puny id trie sfx u = fingerprintUrlString puny id trie sfx v)
    (t : TNode Str α) (val : α) :
    LruTrie.match (tokFp sp puny trie sa sfx) (LruTrie.set (tokFp sp puny trie sa sfx) t u val) v = some val := by
  apply store_then_query_hits_of_eq
  unfold tokFp
  rw [variant_same_string_same_key_fp sp puny hpc trie sa sfx hu hv hpu hpv h]

/-! ## `CanonicalizedLRUTrie` -/

/-- `CanonicalizedLRUTrie.tokenize` (trie.py:70-73, defaults of `canonicalize_url`), total -/
def tokCanon (sp : Str → Option (Str × Str)) (puny : Str → Str) (sa : Bool) (u : Str) : List Str :=
  (canonicalizedLruStems sp puny parseUrl sa u).getD []

/-- the strings of the canonicalize theorems: accepted by the modelled parser after cleaning, no
bracket in the netloc, canonical netloc not empty -/
structure CanonClass (puny : Str → Str) (u : Str) (p : Parsed) : Prop where
  parses : parseUrl (Canonicalize.cleanUrl u httpsStr) = some p
  nobr : '[' ∉ p.netloc ∧ ']' ∉ p.netloc
  net : (Canonicalize.canonParts puny false false p).netloc ≠ []

/-- **same canonical string, same key** -/
theorem variant_same_string_same_key_canon (sp : Str → Option (Str × Str)) (puny : Str → Str)
    (hpc : PunyClean puny) (sa : Bool) {u v : Str} {p q : Parsed}
    (hu : CanonClass puny u p) (hv : CanonClass puny v q)
    (h : Canonicalize.canonicalizeUrl puny ⟨httpsStr, false, false⟩ u =
      Canonicalize.canonicalizeUrl puny ⟨httpsStr, false, false⟩ v) :
    canonicalizedLruStems sp puny parseUrl sa u = canonicalizedLruStems sp puny parseUrl sa v := by
  obtain ⟨s, hs, htok⟩ := canonicalized_stems_factor sp puny hpc sa u p hu.parses hu.nobr hu.net
  obtain ⟨s', hs', htok'⟩ := canonicalized_stems_factor sp puny hpc sa v q hv.parses hv.nobr hv.net
  rw [hs, hs'] at h
  simp only [Option.some.injEq] at h
  subst h
  rw [htok, htok']

theorem variant_store_then_query_hits_canon (sp : Str → Option (Str × Str)) (puny : Str → Str)
    (hpc : PunyClean puny) (sa : Bool) {u v : Str} {p q : Parsed}
    (hu : CanonClass puny u p) (hv : CanonClass puny v q)
    (h : Canonicalize.canonicalizeUrl puny ⟨httpsStr, false, false⟩ u =
      Canonicalize.canonicalizeUrl puny ⟨httpsStr, false, false⟩ v)
    (t : TNode Str α) (val : α) :
    LruTrie.match (tokCanon sp puny sa) (LruTrie.set (tokCanon sp puny sa) t u val) v = some val := by
  apply store_then_query_hits_of_eq
  unfold tokCanon
  rw [variant_same_string_same_key_canon sp puny hpc sa hu hv h]

/-! ## non-vacuity -/

private def gU : UrlG :=
  { proto := .scheme "http".toList, ui := none, host := "www.a.com".toList, port := none,
    path := "/x/".toList, query := none, fragment := none }
private def gV : UrlG :=
  { proto := .bare, ui := none, host := "A.com".toList, port := some "80".toList,
    path := "/x".toList, query := some "utm_source=t".toList, fragment := none }

/-- `http://www.a.com/x/` and `A.com:80/x?utm_source=t` are two strings of the class with the
same normalized string: the hypotheses of `variant_*_norm` are satisfiable by distinct URLs -/
example :
    StemClass false gU none "http://www.a.com/x/".toList ∧
    StemClass false gV (some 80) "A.com:80/x?utm_source=t".toList ∧
    normalizeUrlString id id {} false "http://www.a.com/x/".toList =
      normalizeUrlString id id {} false "A.com:80/x?utm_source=t".toList ∧
    tokNorm (fun _ => none) id {} false false "A.com:80/x?utm_source=t".toList =
      ["h:com".toList, "h:a".toList, "p:x".toList] := by
  unfold gU gV
  simp only [toList_lit]
  refine ⟨⟨⟨?_, ?_⟩, rfl, ?_⟩, ⟨⟨?_, ?_⟩, rfl, ?_⟩, ?_, ?_⟩ <;> decide +kernel

end Ural.Props.C11
