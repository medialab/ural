import UralModel.Props.C04Whole
import UralModel.Props.C05Whole
import UralModel.Props.C06Whole
import UralModel.Lemmas.Platform
import UralModel.Lemmas.SitesUrl
import UralModel.Props.C09
import UralModel.Props.C19.Facebook
import UralModel.Props.C19.Youtube
/-!
# `platform_aware=True`, concretely (C04, C05, C06)

In the other models of the normalize / fingerprint family the option is an abstract
`platform : Str → Str`.  With the models of `ural/facebook.py` / `ural/youtube.py` (C19) the branch
is the concrete function `Platform.platformConcrete` (`Model/Platform.lean`, lines 267-276 of
`normalize_url.py`), and `normalizeUrlStringPA` / `fingerprintUrlStringPA` are
`normalize_url(…, platform_aware=True)` / `fingerprint_url(…, platform_aware=True)` as functions of
the string; the design findings KF-C03-2 / KF-C04-4 / KF-C06-4 (= D53) become theorems about it.

* `platformE_cascade`: the branch as one equation — `.ok` of `p.url` for a facebook url that parses,
  of the canonical url of the record for a youtube url that parses, of the url itself otherwise; no
  exception can leave it, for every string: the five calls are total (C19's totality theorems; for
  `p.url`: `url_total_of_parse`, the reference handed to `urljoin` has no authority) and `p.url` is
  never `None`.  `platformE_total`, `platformE_eq` (the branch **is** the total function
  `platformWith` / `platformConcrete`) and `platformWith_eq`, which the theorems below read, follow.
* (a) `platform_only_platform_hosts`: a string that is neither a facebook url nor a youtube url (by
  the two modelled predicates) is left alone; `normalize_pa_of_not_platform`,
  `fingerprint_pa_of_not_platform`: there the option changes nothing, hence every platform-unaware
  theorem of C04 / C05 / C06 transfers (`pa_transfer`, the `norm_*_string_pa` corollaries,
  `normalize_only_deletes_string_pa`, `fp_*_string_pa`); the hypothesis is a property of the parsed
  hostname (`isPlatformUrl_eq_host`), which is the `.hostname` of the split `normalize_url` makes
  (`get_hostname_of_urlsplit`); for a string of the grammar class it is a property of its host text
  (`isPlatformUrl_of_class`, `notPlatform_of_host`).
* (b) `platform_idempotent`: rewriting twice = rewriting once (youtube: every string, every trie
  that knows `www.youtube.com`; facebook: under the residual hypothesis `charsOk` of C19's round
  trip — `platform_idempotent_needs_charsOk`: it fails without).
* (c) `normalize_pa_only_deletes_or_rewrites`: with the option on, the result is glued from
  components that are *deletions of the pieces of the canonical platform url*
  `platformConcrete (ensured u)`, not of `u`; `normalize_pa_eq_normalize_canonical`: it is
  `normalize_url` (option off) of that canonical url.
* (d) `d53_*`: the design finding D53 as theorems about the model — an escaped path letter, an
  index file name, a label in front of the host change what the branch makes of the url, while
  without the option the two spellings are normalized alike.
-/
namespace Ural.Props.C05
open Ural Ural.Py Ural.UrlParts Ural.Quote Ural.Normalize Ural.Fingerprint Ural.NormBridge Ural.Platform

/-! ## the branch never raises -/

/-- `p = parse_facebook_url(url)`, `url = p.url`: for a record the parser returned `.url` is a
string (it does not raise, it is not `None`) -/
theorem parsed_url_total (u : Str) (rel : Bool) (r : Facebook.Parsed)
    (h : Facebook.parse_facebook_url u rel = .ok (some r)) : ∃ v, r.url = .ok (some v) :=
  Ural.Props.C19.Facebook.url_total_of_parse u rel r h

def facebookResultUrl (u : Str) : Str :=
  match Facebook.parse_facebook_url u false with
  | .ok (some p) =>
    (match p.url with
     | .ok (some v) => v
     | _ => u)
  | _ => u

theorem facebookResultUrl_of_parsed {u w : Str} {r : Facebook.Parsed}
    (h : Facebook.parse_facebook_url u false = .ok (some r)) (hw : r.url = .ok (some w)) :
    facebookResultUrl u = w := by
  unfold facebookResultUrl
  rw [h]
  simp only [hw]

theorem facebookRewrite_eq (u : Str) : facebookRewrite u = .ok (facebookResultUrl u) := by
  unfold facebookRewrite facebookResultUrl
  cases h : Facebook.parse_facebook_url u false with
  | error e => exact absurd h (Ural.Props.C19.Facebook.parse_facebook_url_total u false e)
  | ok o =>
    cases o with
    | none => rfl
    | some p =>
      obtain ⟨v, hv⟩ := parsed_url_total u false p h
      simp only [hv]

/-- what the youtube half of the branch binds `url` to, from the result of `parse_youtube_url` -/
def youtubeResultUrl (u : Str) : Except Youtube.Err (Option Youtube.Record) → Str
  | .ok (some r) => Youtube.recordUrl r
  | _ => u

theorem normalize_youtube_url_eq (puny : Str → Str) (t : HostnameTrieSet.T) (u : Str) :
    Youtube.normalize_youtube_url puny t u =
      .ok (youtubeResultUrl u (Youtube.parse_youtube_url puny t u true)) := by
  obtain ⟨o, hp, hn⟩ := Ural.Props.C19.Youtube.normalize_eq puny t u
  rw [hn, hp]
  cases o <;> rfl

theorem youtubeRewrite_eq (puny : Str → Str) (t : HostnameTrieSet.T) (u : Str) :
    youtubeRewrite puny t u = .ok (youtubeResultUrl u (Youtube.parse_youtube_url puny t u true)) := by
  unfold youtubeRewrite
  rw [normalize_youtube_url_eq]

/-- **the `platform_aware` branch as one equation**: no exception can leave it, and what `url` is
bound to at its end is `p.url` for a facebook url that parses, the canonical url of the record for
a youtube url that parses, the url itself otherwise -/
theorem platformE_cascade (puny : Str → Str) (t : HostnameTrieSet.T) (u : Str) :
    platformE puny t u = .ok
      (if Facebook.isFacebookUrlB u then facebookResultUrl u
       else if Youtube.is_youtube_url puny t u then
         youtubeResultUrl u (Youtube.parse_youtube_url puny t u true)
       else u) := by
  unfold platformE
  rw [Facebook.is_facebook_url_eq]
  cases Facebook.isFacebookUrlB u with
  | true => simp only [if_true, facebookRewrite_eq]
  | false => simp only [Bool.false_eq_true, if_false, youtubeRewrite_eq, apply_ite Except.ok]

/-- **the `platform_aware` branch never raises**: for every string, every `puny`, every state of
the youtube trie, the body of `if platform_aware:` ends with `url` bound to a string -/
theorem platformE_total (puny : Str → Str) (t : HostnameTrieSet.T) (u : Str) :
    ∃ v, platformE puny t u = .ok v :=
  ⟨_, platformE_cascade puny t u⟩

theorem platformWith_eq (puny : Str → Str) (t : HostnameTrieSet.T) (u : Str) :
    platformWith puny t u =
      if Facebook.isFacebookUrlB u then facebookResultUrl u
      else if Youtube.is_youtube_url puny t u then
        youtubeResultUrl u (Youtube.parse_youtube_url puny t u true)
      else u := by
  unfold platformWith
  rw [platformE_cascade]

/-- hence the branch **is** the function `platformWith` -/
theorem platformE_eq (puny : Str → Str) (t : HostnameTrieSet.T) (u : Str) :
    platformE puny t u = .ok (platformWith puny t u) := by
  rw [platformWith_eq]
  exact platformE_cascade puny t u

theorem ensured_eq (ir : Bool) (x : Str) : ensured ir x = ensureHttp (resolvedClean ir x) := by
  simp only [ensured, prepared, resolvedClean, id]

theorem prepared_eq (platform : Str → Str) (ir : Bool) (u : Str) :
    prepared platform ir u = (platform (ensured ir u), hasProtocol (resolvedClean ir u)) := by
  simp only [ensured, prepared, resolvedClean, id]

/-- `normalize_url(u, unsplit=False)` for any branch `platform`: the component rules on the parse
of what the branch returns (`has_protocol` is that of `u`) -/
theorem normalizeUrlStringSplit_platform (puny : Str → Str) (platform : Str → Str) (o : Normalize.Opts)
    (ir : Bool) (u : Str) :
    normalizeUrlStringSplit puny platform o ir u =
      match parseUrl (platform (ensured ir u)) with
      | none => .inl u
      | some p => .inr (normParts puny o (hasProtocol (resolvedClean ir u)) p) := by
  simp only [normalizeUrlStringSplit_eq, normalizeUrlSplit, prepared_eq]
  cases parseUrl (platform (ensured ir u)) <;> rfl

theorem normalizeUrlString_platform (puny : Str → Str) (platform : Str → Str) (o : Normalize.Opts)
    (ir : Bool) (u : Str) :
    normalizeUrlString puny platform o ir u =
      match parseUrl (platform (ensured ir u)) with
      | none => u
      | some p => finalString o (hasProtocol (resolvedClean ir u))
          (normParts puny o (hasProtocol (resolvedClean ir u)) p) := by
  simp only [normalizeUrlString_eq, normalizeUrl, prepared_eq]
  cases parseUrl (platform (ensured ir u)) <;> rfl

/-! ## (a) only facebook / youtube urls are touched -/

/-- **a string that is neither a facebook url nor a youtube url is left alone** -/
theorem platform_only_platform_hosts (puny : Str → Str) (t : HostnameTrieSet.T) (u : Str)
    (h : isPlatformUrl puny t u = false) : platformWith puny t u = u := by
  unfold isPlatformUrl at h
  rw [Facebook.is_facebook_url_eq, Bool.or_eq_false_iff] at h
  rw [platformWith_eq, if_neg (by intro hb; simp [hb] at h), if_neg (by simp [h.2])]

/-- … for the trie the module builds -/
theorem platform_only_platform_hosts_module (puny : Str → Str) (u : Str)
    (h : isPlatformUrl puny (Youtube.youtubeTrie puny) u = false) : platformConcrete puny u = u :=
  platform_only_platform_hosts puny _ u h

/-- "the string `normalize_url` hands to the branch is neither a facebook nor a youtube url":
the hypothesis under which the option changes nothing (decidable) -/
def NotPlatform (puny : Str → Str) (ir : Bool) (u : Str) : Prop :=
  isPlatformUrl puny (Youtube.youtubeTrie puny) (ensured ir u) = false

instance (puny : Str → Str) (ir : Bool) (u : Str) : Decidable (NotPlatform puny ir u) := by
  unfold NotPlatform; infer_instance

/-- **off platform hosts `platform_aware=True` changes nothing** (`normalize_url`) -/
theorem normalize_pa_of_not_platform (puny : Str → Str) (o : Normalize.Opts) (ir : Bool) (u : Str)
    (h : NotPlatform puny ir u) :
    normalizeUrlStringPA puny o ir u = normalizeUrlString puny id o ir u ∧
    normalizeUrlStringSplitPA puny o ir u = normalizeUrlStringSplit puny id o ir u := by
  have hp : platformConcrete puny (prepared id ir u).1 = (prepared id ir u).1 :=
    platform_only_platform_hosts_module puny _ h
  unfold normalizeUrlStringPA normalizeUrlStringSplitPA
  rw [normalizeUrlString_eq, normalizeUrlString_eq, normalizeUrlStringSplit_eq, normalizeUrlStringSplit_eq]
  exact normalize_platform_partial puny parseUrl (platformConcrete puny) o ir u hp

/-- **off platform hosts `platform_aware=True` changes nothing** (`fingerprint_url`; the string the
branch sees is that of the lower-cased url, under `infer_redirection`) -/
theorem fingerprint_pa_of_not_platform (puny : Str → Str) (trie : SNode Str) (s : Bool) (u : Str)
    (h : NotPlatform puny true (lower u)) :
    fingerprintUrlStringPA puny trie s u = fingerprintUrlString puny id trie s u ∧
    fingerprintUrlStringSplitPA puny trie s u = fingerprintUrlStringSplit puny id trie s u := by
  have e := (normalize_pa_of_not_platform puny fpOpts true (lower u) h).2
  unfold normalizeUrlStringSplitPA at e
  have e2 : fingerprintUrlStringSplitPA puny trie s u = fingerprintUrlStringSplit puny id trie s u := by
    unfold fingerprintUrlStringSplitPA fingerprintUrlStringSplit
    simp only [e]
  refine ⟨?_, e2⟩
  unfold fingerprintUrlStringPA fingerprintUrlString
  unfold fingerprintUrlStringSplitPA at e2
  rw [e2]

/-- **transfer**: every equation between two spellings proved without the option holds with it
when neither spelling is a platform url -/
theorem pa_transfer (puny : Str → Str) (o : Normalize.Opts) (ir : Bool) (u u' : Str)
    (hu : NotPlatform puny ir u) (hu' : NotPlatform puny ir u')
    (h : normalizeUrlString puny id o ir u' = normalizeUrlString puny id o ir u) :
    normalizeUrlStringPA puny o ir u' = normalizeUrlStringPA puny o ir u := by
  rw [(normalize_pa_of_not_platform puny o ir u hu).1, (normalize_pa_of_not_platform puny o ir u' hu').1, h]

theorem fp_pa_transfer (puny : Str → Str) (trie : SNode Str) (s : Bool) (u u' : Str)
    (hu : NotPlatform puny true (lower u)) (hu' : NotPlatform puny true (lower u'))
    (h : fingerprintUrlString puny id trie s u' = fingerprintUrlString puny id trie s u) :
    fingerprintUrlStringPA puny trie s u' = fingerprintUrlStringPA puny trie s u := by
  rw [(fingerprint_pa_of_not_platform puny trie s u hu).1, (fingerprint_pa_of_not_platform puny trie s u' hu').1, h]

/-! ## (a, continued) "not a platform url" is a property of the parsed hostname -/

/-- "`h` is a facebook host or a youtube host": `FACEBOOK_DOMAIN_RE.search(h)` or
`YOUTUBE_DOMAINS_TRIE.match` on the hostname `h` -/
def platformHost (puny : Str → Str) (t : HostnameTrieSet.T) (h : Str) : Bool :=
  Facebook.reSearch Gen.C19Facebook.FACEBOOK_DOMAIN_RE h ||
    HostnameTrieSet.matchHost isSpecialHost puny t (some h)

/-- **whether the branch looks at a url at all depends on its parsed hostname only**: for every
string, "facebook url or youtube url" = "`get_hostname(url)` is a facebook / youtube host" -/
theorem isPlatformUrl_eq_host (puny : Str → Str) (t : HostnameTrieSet.T) (url : Str) :
    isPlatformUrl puny t url =
      match Sites.get_hostname url with
      | none => false
      | some h => platformHost puny t h := by
  unfold isPlatformUrl
  rw [is_facebook_url_eq_host, is_youtube_url_eq_host]
  cases Sites.get_hostname url with
  | none => rfl
  | some h =>
    simp only [platformHost]
    cases Facebook.reSearch Gen.C19Facebook.FACEBOOK_DOMAIN_RE h <;> rfl

/-- **decoys**: for `http://[userinfo@]host[:port]tail` (userinfo / port: any text without
`/ ? # [ ]` TAB CR LF — `@`, `:` and platform domains allowed in the userinfo —; tail empty or
starting with `/ ? #`) the branch fires only if the *host text*, lower-cased, is a facebook /
youtube host — `Sites.get_hostname_authority` -/
theorem isPlatformUrl_of_authority (puny : Str → Str) (t : HostnameTrieSet.T)
    (ui : Option Str) (h : Str) (port : Option Str) (tail : Str)
    (hui : ∀ u, ui = some u → ∀ c ∈ u, Sites.authChar c = true)
    (hh : ∀ c ∈ h, Sites.hostChar c = true) (hne : h ≠ [])
    (hport : ∀ p, port = some p → ∀ c ∈ p, (Sites.authChar c && c != '@') = true)
    (ht : Sites.TailOK tail) :
    isPlatformUrl puny t ("http://".toList ++ (Sites.authority ui h port ++ tail)) =
      platformHost puny t (lower h) := by
  rw [isPlatformUrl_eq_host,
    Sites.get_hostname_authority ui h port tail hui hh hne hport ht]

theorem isPlatformUrl_forms (puny : Str → Str) (t : HostnameTrieSet.T) (rest : Str) :
    isPlatformUrl puny t ("https://".toList ++ rest) = isPlatformUrl puny t ("http://".toList ++ rest) ∧
    isPlatformUrl puny t ("//".toList ++ rest) = isPlatformUrl puny t ("http://".toList ++ rest) ∧
    (protoLen rest = none → isPlatformUrl puny t rest = isPlatformUrl puny t ("http://".toList ++ rest)) := by
  obtain ⟨h1, h2, h3⟩ := Sites.parts_forms rest
  simp only [isPlatformUrl_eq_host, Sites.get_hostname, h1, h2, true_and]
  intro hp
  rw [h3 hp]

/-- **the youtube trie of the module, by its domain list**: an ordinary host is matched iff the
label list of a listed domain is a whole-label suffix of its label list (C09's `match_url_spec`) -/
theorem youtube_host_iff (puny : Str → Str) (host : Str) (hne : host ≠ [])
    (hq : isSpecialHost host = false) :
    HostnameTrieSet.matchHost isSpecialHost puny (Youtube.youtubeTrie puny) (some host) = true ↔
      ∃ d ∈ Youtube.domains, (HostnameTrieSet.tok puny d).reverse <:+ (HostnameTrieSet.tok puny host).reverse :=
  Ural.Props.C09.match_url_spec isSpecialHost puny Youtube.domains
    Ural.Props.C19.Youtube.youtube_domains_ordinary host hne hq

theorem not_youtube_host (puny : Str → Str) (host : Str) (hne : host ≠ []) (hq : isSpecialHost host = false)
    (h : ∀ d ∈ Youtube.domains,
      ¬ (HostnameTrieSet.tok puny d).reverse <:+ (HostnameTrieSet.tok puny host).reverse) :
    HostnameTrieSet.matchHost isSpecialHost puny (Youtube.youtubeTrie puny) (some host) = false := by
  cases hm : HostnameTrieSet.matchHost isSpecialHost puny (Youtube.youtubeTrie puny) (some host) with
  | false => rfl
  | true =>
    obtain ⟨d, hd, hs⟩ := (youtube_host_iff puny host hne hq).mp hm
    exact absurd hs (h d hd)

/-- `amp-facebook.com` is neither a facebook host (`(?:^|\.)facebook\.` needs a label boundary) nor
a youtube host of the module's list -/
theorem amp_facebook_not_platform_host :
    platformHost id (Youtube.youtubeTrie id) "amp-facebook.com".toList = false := by
  simp only [toList_lit, platformHost, Bool.or_eq_false_iff]
  refine ⟨by decide +kernel, not_youtube_host id _ (List.cons_ne_nil _ _) (by decide +kernel) ?_⟩
  rw [Ural.Props.C19.Youtube.domainChars.2]
  decide +kernel

/-! ## (a, continued) … of the host text, for the strings of the grammar class -/

/-- the scheme prefixes `Sites.parts_forms` speaks about: `http://`, `https://`, `//`, none -/
def webProto : Proto → Bool
  | .scheme sc => sc = "http".toList || sc = "https".toList
  | .slashes => true
  | .bare => true

/-- **on the grammar class, "facebook url or youtube url" is a property of the host text** — any scheme, any
userinfo, any port text, bracketed hosts and zone ids included -/
theorem isPlatformUrl_of_class (puny : Str → Str) (t : HostnameTrieSet.T) (ir : Bool) (g : UrlG) (hg : InClass ir g) :
    isPlatformUrl puny t (ensured ir g.str) =
      match g.hostname with
      | none => false
      | some h => platformHost puny t h := by
  obtain ⟨r, hr, hn⟩ := urlsplit_str g hg.wf hg.of.noUnsafe
  rw [isPlatformUrl_eq_host, ensured_eq, hg.plain.resolved,
    get_hostname_of_urlsplit _ r (by rw [ensureHttp_idem]; exact hr), hn, hostname_netloc (wf_facts hg.wf)]
  rfl

/-- **for a string of the grammar class with a web scheme and a host name (no IP literal, no
`%`), "not a platform url" is a property of the host text**: `NotPlatform` holds as soon as the
lower-cased host is neither a facebook host (`FACEBOOK_DOMAIN_RE`) nor a youtube host
(`YOUTUBE_DOMAINS_TRIE`) — whatever the userinfo, the port, the path, the query, the fragment
(`isPlatformUrl_of_class` needs neither the web scheme nor the host name) -/
theorem notPlatform_of_host (puny : Str → Str) (ir : Bool) (g : UrlG) (hg : InClass ir g)
    (hpr : webProto g.proto = true) (hbr : g.br = false) (hne : g.host ≠ []) (hpct : '%' ∉ g.host)
    (hh : platformHost puny (Youtube.youtubeTrie puny) (lower g.host) = false) :
    NotPlatform puny ir g.str := by
  unfold NotPlatform
  rw [isPlatformUrl_of_class puny _ ir g hg, hostname_of_no_pct hne hpct]
  exact hh

/-- non-vacuity of `notPlatform_of_host` (and of the transfer corollaries): the grammar record of
`https://u:p@amp-facebook.com:8080/nasa/posts/123?x=1#f` is in the class, its host is no platform
host, hence the string is no platform url — userinfo, port, path, query, fragment play no role -/
example :
    let g : UrlG := { proto := .scheme "https".toList, ui := some "u:p".toList, host := "amp-facebook.com".toList,
                      port := some "8080".toList, path := "/nasa/posts/123".toList, query := some "x=1".toList,
                      fragment := some "f".toList }
    g.str = "https://u:p@amp-facebook.com:8080/nasa/posts/123?x=1#f".toList ∧ NotPlatform id false g.str := by
  simp -zeta only [toList_lit]
  intro g
  refine ⟨by decide +kernel, ?_⟩
  have hh : lower g.host = "amp-facebook.com".toList := by
    simp only [toList_lit]
    decide +kernel
  exact notPlatform_of_host id false g (by decide +kernel) (by decide +kernel) rfl (by decide +kernel)
    (by decide +kernel) (hh ▸ amp_facebook_not_platform_host)

end Ural.Props.C05

/-! ## (a, continued) the string-level theorems of C04 with the option on

Each `norm_*_string` of `Props/C04Whole.lean` (`platform = id`) holds for
`normalize_url(…, platform_aware=True)` when neither spelling is a facebook / youtube url
(`NotPlatform`, decidable; for a url `http://[userinfo@]host[:port]…` it is a property of the
host text alone: `notPlatform_of_host`).  Surrounding white space / control characters need no
such hypothesis: the cleaning pass runs before the branch (`norm_clean_string_pa`, every string,
platform urls included). -/

namespace Ural.Props.C04
open Ural Ural.Py Ural.UrlParts Ural.Quote Ural.Canonicalize Ural.Normalize Ural.Normpath Ural.NormBridge Ural.Platform
open Ural.Props.C05 (NotPlatform pa_transfer)

/-- **control characters anywhere, white space at the ends are irrelevant with the option on, for
every string** (facebook / youtube urls included): the branch sees the cleaned string -/
theorem norm_clean_string_pa (puny : Str → Str) (o : Normalize.Opts) (ir : Bool) (a b : Str)
    (h : cleanedUrl a = cleanedUrl b)
    (hparse : parseUrl (prepared (platformConcrete puny) ir b).1 ≠ none) :
    normalizeUrlStringPA puny o ir a = normalizeUrlStringPA puny o ir b := by
  unfold normalizeUrlStringPA
  rw [normalizeUrlString_eq, normalizeUrlString_eq]
  exact norm_clean_irrelevant puny parseUrl (platformConcrete puny) o ir a b h hparse

/-- **white space and control characters around the url, option on, every string** -/
theorem norm_surrounding_ws_string_pa (puny : Str → Str) (o : Normalize.Opts) (ir : Bool) (w1 w2 s : Str)
    (h1 : w1.all isSurrounding = true) (h2 : w2.all isSurrounding = true)
    (hparse : parseUrl (prepared (platformConcrete puny) ir s).1 ≠ none) :
    normalizeUrlStringPA puny o ir (w1 ++ s ++ w2) = normalizeUrlStringPA puny o ir s :=
  norm_clean_string_pa puny o ir _ _ (cleanedUrl_surrounding w1 w2 s h1 h2) hparse

theorem norm_scheme_string_pa (puny : Str → Str) (o : Normalize.Opts) (hs : o.stripProtocol = true) (ir : Bool)
    (g : UrlG) (P : Proto) (hg : InClass ir g) (hg' : InClass ir { g with proto := P })
    (hport : portVal g.port ≠ none)
    (hnp : NotPlatform puny ir g.str)
    (hnp' : NotPlatform puny ir ({ g with proto := P } : UrlG).str) :
    normalizeUrlStringPA puny o ir ({ g with proto := P } : UrlG).str =
      normalizeUrlStringPA puny o ir g.str :=
  pa_transfer puny o ir _ _ hnp hnp'
    (norm_scheme_string puny o hs ir g P hg hg' hport)

theorem norm_userinfo_string_pa (puny : Str → Str) (o : Normalize.Opts) (hs : o.stripAuthentication = true)
    (ir : Bool) (g : UrlG) (ui' : Option Str) (hg : InClass ir g)
    (hg' : InClass ir { g with ui := ui' }) (hport : portVal g.port ≠ none)
    (hnp : NotPlatform puny ir g.str)
    (hnp' : NotPlatform puny ir ({ g with ui := ui' } : UrlG).str) :
    normalizeUrlStringPA puny o ir ({ g with ui := ui' } : UrlG).str =
      normalizeUrlStringPA puny o ir g.str :=
  pa_transfer puny o ir _ _ hnp hnp'
    (norm_userinfo_string puny o hs ir g ui' hg hg' hport)

theorem norm_default_port_string_pa (puny : Str → Str) (o : Normalize.Opts) (ir : Bool) (g : UrlG) (p : Str)
    (n : Nat) (hn : n = 80 ∨ n = 443) (hp : portVal (some p) = some (some n))
    (hbase : portVal g.port = some none)
    (hg : InClass ir g) (hg' : InClass ir { g with port := some p })
    (hnp : NotPlatform puny ir g.str)
    (hnp' : NotPlatform puny ir ({ g with port := some p } : UrlG).str) :
    normalizeUrlStringPA puny o ir ({ g with port := some p } : UrlG).str =
      normalizeUrlStringPA puny o ir g.str :=
  pa_transfer puny o ir _ _ hnp hnp'
    (norm_default_port_string puny o ir g p n hn hp hbase hg hg')

theorem norm_host_case_string_pa (puny : Str → Str) (o : Normalize.Opts) (ir : Bool) (g : UrlG) (h' : Str)
    (hl : lower h' = lower g.host) (hpct : '%' ∉ g.host) (hpct' : '%' ∉ h')
    (hg : InClass ir g) (hg' : InClass ir { g with host := h' }) (hport : portVal g.port ≠ none)
    (hnp : NotPlatform puny ir g.str)
    (hnp' : NotPlatform puny ir ({ g with host := h' } : UrlG).str) :
    normalizeUrlStringPA puny o ir ({ g with host := h' } : UrlG).str =
      normalizeUrlStringPA puny o ir g.str :=
  pa_transfer puny o ir _ _ hnp hnp'
    (norm_host_case_string puny o ir g h' hl hpct hpct' hg hg' hport)

theorem norm_irrelevant_label_string_pa (puny : Str → Str) (hpl : PunyLaws puny) (o : Normalize.Opts)
    (hs : o.stripIrrelevantSubdomains = true) (ir : Bool) (g : UrlG) (lab : Str)
    (hne : g.host ≠ []) (hdot : '.' ∉ lab) (hlen : lab.length ≤ 6)
    (hx : lower (lab.take 4) ≠ "xn--".toList)
    (hlab : isIrrLabel o.normalizeAmp (lower lab) = true)
    (hpct : '%' ∉ g.host) (hpct' : '%' ∉ lab)
    (hg : InClass ir g) (hg' : InClass ir { g with host := lab ++ '.' :: g.host })
    (hport : portVal g.port ≠ none)
    (hnp : NotPlatform puny ir g.str)
    (hnp' : NotPlatform puny ir ({ g with host := lab ++ '.' :: g.host } : UrlG).str) :
    normalizeUrlStringPA puny o ir ({ g with host := lab ++ '.' :: g.host } : UrlG).str =
      normalizeUrlStringPA puny o ir g.str :=
  pa_transfer puny o ir _ _ hnp hnp'
    (norm_irrelevant_label_string puny hpl o hs ir g lab hne hdot hlen hx hlab hpct hpct' hg hg' hport)

theorem norm_trailing_slash_string_pa (puny : Str → Str) (o : Normalize.Opts) (hl : o.lowercase = false)
    (hts : o.stripTrailingSlash = true) (ir : Bool) (g : UrlG)
    (hg : InClass ir g) (hg' : InClass ir { g with path := g.path ++ ['/'] })
    (hport : portVal g.port ≠ none)
    (hnp : NotPlatform puny ir g.str)
    (hnp' : NotPlatform puny ir ({ g with path := g.path ++ ['/'] } : UrlG).str) :
    normalizeUrlStringPA puny o ir ({ g with path := g.path ++ ['/'] } : UrlG).str =
      normalizeUrlStringPA puny o ir g.str :=
  pa_transfer puny o ir _ _ hnp hnp'
    (norm_trailing_slash_string puny o hl hts ir g hg hg' hport)

theorem norm_index_string_pa (puny : Str → Str) (o : Normalize.Opts) (hl : o.lowercase = false)
    (hts : o.stripTrailingSlash = true) (hi : o.stripIndex = true) (ir : Bool) (g : UrlG)
    (name : Str) (hn : '/' ∉ unquotePath name)
    (hroot : splitextRoot (unquotePath name) = "index".toList ∨
      splitextRoot (unquotePath name) = "default".toList)
    (hnamp : o.normalizeAmp = true → ampSuffixSubFrom (unquotePath name) true 0 = unquotePath name)
    (hbamp : o.normalizeAmp = true →
      ampSuffixSub (resolveUnquoted true (unquotePath g.path)) = resolveUnquoted true (unquotePath g.path))
    (hbidx : stripIndex (resolveUnquoted true (unquotePath g.path)) =
      resolveUnquoted true (unquotePath g.path))
    (hg : InClass ir g) (hg' : InClass ir { g with path := g.path ++ '/' :: name })
    (hport : portVal g.port ≠ none)
    (hnp : NotPlatform puny ir g.str)
    (hnp' : NotPlatform puny ir ({ g with path := g.path ++ '/' :: name } : UrlG).str) :
    normalizeUrlStringPA puny o ir ({ g with path := g.path ++ '/' :: name } : UrlG).str =
      normalizeUrlStringPA puny o ir g.str :=
  pa_transfer puny o ir _ _ hnp hnp'
    (norm_index_string puny o hl hts hi ir g name hn hroot hnamp hbamp hbidx hg hg' hport)

theorem norm_fragment_string_pa (puny : Str → Str) (o : Normalize.Opts) (hl : o.lowercase = false) (ir : Bool)
    (g : UrlG) (f' : Option Str) (hf : DroppedFragment o g.fragment) (hf' : DroppedFragment o f')
    (hg : InClass ir g) (hg' : InClass ir { g with fragment := f' })
    (hport : portVal g.port ≠ none)
    (hnp : NotPlatform puny ir g.str)
    (hnp' : NotPlatform puny ir ({ g with fragment := f' } : UrlG).str) :
    normalizeUrlStringPA puny o ir ({ g with fragment := f' } : UrlG).str =
      normalizeUrlStringPA puny o ir g.str :=
  pa_transfer puny o ir _ _ hnp hnp'
    (norm_fragment_string puny o hl ir g f' hf hf' hg hg' hport)

theorem norm_tracking_item_string_pa (puny : Str → Str) (o : Normalize.Opts) (hl : o.lowercase = false)
    (hts : o.stripTrailingSlash = true) (ir : Bool) (g : UrlG) (r0 : Str) (R1 R2 : List Str) (t : Str)
    (hq : g.query = some (join ['&'] (r0 :: R1 ++ R2)))
    (hR : ∀ r ∈ r0 :: R1 ++ t :: R2, '&' ∉ r)
    (hx : keepItem o (hostKey puny g.hostname) (seenAt o (unqItem (cutFirst '=' t))) = false)
    (hg : InClass ir g)
    (hg' : InClass ir { g with query := some (join ['&'] (r0 :: R1 ++ t :: R2)) })
    (hport : portVal g.port ≠ none)
    (hnp : NotPlatform puny ir g.str)
    (hnp' : NotPlatform puny ir ({ g with query := some (join ['&'] (r0 :: R1 ++ t :: R2)) } : UrlG).str) :
    normalizeUrlStringPA puny o ir ({ g with query := some (join ['&'] (r0 :: R1 ++ t :: R2)) } : UrlG).str =
      normalizeUrlStringPA puny o ir g.str :=
  pa_transfer puny o ir _ _ hnp hnp'
    (norm_tracking_item_string puny o hl hts ir g r0 R1 R2 t hq hR hx hg hg' hport)

theorem norm_query_permutation_string_pa (puny : Str → Str) (o : Normalize.Opts) (hl : o.lowercase = false)
    (hts : o.stripTrailingSlash = true) (hs : o.sortQuery = true) (ir : Bool) (g : UrlG)
    (q q' : Str) (hq : g.query = some q) (hperm : (decoded q').Perm (decoded q))
    (hamp : o.fixCommonMistakes = true →
      ∀ kv ∈ decoded q', dropAmp (serializeItem kv) = serializeItem kv)
    (hg : InClass ir g) (hg' : InClass ir { g with query := some q' })
    (hport : portVal g.port ≠ none)
    (hnp : NotPlatform puny ir g.str)
    (hnp' : NotPlatform puny ir ({ g with query := some q' } : UrlG).str) :
    normalizeUrlStringPA puny o ir ({ g with query := some q' } : UrlG).str =
      normalizeUrlStringPA puny o ir g.str :=
  pa_transfer puny o ir _ _ hnp hnp'
    (norm_query_permutation_string puny o hl hts hs ir g q q' hq hperm hamp hg hg' hport)

theorem norm_amp_semicolon_string_partial_pa (puny : Str → Str) (o : Normalize.Opts) (hl : o.lowercase = false)
    (hts : o.stripTrailingSlash = true) (hf : o.fixCommonMistakes = true) (ir : Bool) (g : UrlG)
    (q q' : Str) (hq : g.query = some q) (a : QItem) (L1 L2 : List QItem) (x y : QItem)
    (hd' : decoded q' = a :: L1 ++ y :: L2) (hd : decoded q = a :: L1 ++ x :: L2)
    (hy : ampRest (serializeItem y) = some (serializeItem x))
    (hx : dropAmp (serializeItem x) = serializeItem x)
    (hg : InClass ir g) (hg' : InClass ir { g with query := some q' })
    (hport : portVal g.port ≠ none)
    (hnp : NotPlatform puny ir g.str)
    (hnp' : NotPlatform puny ir ({ g with query := some q' } : UrlG).str) :
    normalizeUrlStringPA puny o ir ({ g with query := some q' } : UrlG).str =
      normalizeUrlStringPA puny o ir g.str :=
  pa_transfer puny o ir _ _ hnp hnp'
    (norm_amp_semicolon_string_partial puny o hl hts hf ir g q q' hq a L1 L2 x y hd' hd hy hx hg hg' hport)

theorem norm_tracking_item_first_string_pa (puny : Str → Str) (o : Normalize.Opts) (hl : o.lowercase = false)
    (hts : o.stripTrailingSlash = true) (ir : Bool) (g : UrlG) (q q' : Str) (b : QItem) (L2 : List QItem)
    (x : QItem) (hqg : g.query = some q')
    (hq : decoded q = x :: b :: L2) (hq' : decoded q' = b :: L2)
    (hb : o.fixCommonMistakes = true → dropAmp (serializeItem b) = serializeItem b)
    (hx : keepItem o (hostKey puny g.hostname) (if o.fixCommonMistakes then seenHead x else x) = false)
    (hg : InClass ir g) (hg' : InClass ir { g with query := some q }) (hport : portVal g.port ≠ none)
    (hnp : NotPlatform puny ir g.str)
    (hnp' : NotPlatform puny ir ({ g with query := some q } : UrlG).str) :
    normalizeUrlStringPA puny o ir ({ g with query := some q } : UrlG).str =
      normalizeUrlStringPA puny o ir g.str :=
  pa_transfer puny o ir _ _ hnp hnp'
    (norm_tracking_item_first_string puny o hl hts ir g q q' b L2 x hqg hq hq' hb hx hg hg' hport)

theorem norm_tracking_item_alone_string_pa (puny : Str → Str) (o : Normalize.Opts) (hl : o.lowercase = false)
    (hts : o.stripTrailingSlash = true) (ir : Bool) (g : UrlG) (q : Str) (x : QItem)
    (hqg : g.query.getD [] = []) (hq : decoded q = [x])
    (hx : keepItem o (hostKey puny g.hostname) (if o.fixCommonMistakes then seenHead x else x) = false)
    (hg : InClass ir g) (hg' : InClass ir { g with query := some q }) (hport : portVal g.port ≠ none)
    (hnp : NotPlatform puny ir g.str)
    (hnp' : NotPlatform puny ir ({ g with query := some q } : UrlG).str) :
    normalizeUrlStringPA puny o ir ({ g with query := some q } : UrlG).str =
      normalizeUrlStringPA puny o ir g.str :=
  pa_transfer puny o ir _ _ hnp hnp'
    (norm_tracking_item_alone_string puny o hl hts ir g q x hqg hq hx hg hg' hport)

theorem norm_escape_spelling_string_pa (puny : Str → Str) (o : Normalize.Opts) (hl : o.lowercase = false)
    (hts : o.stripTrailingSlash = true) (ir : Bool) (g : UrlG) (path' : Str) (Q' F' : Option Str)
    (hpath : unquotePath path' = unquotePath g.path)
    (hq : decoded (Q'.getD []) = decoded (g.query.getD []))
    (hf : unquoteFragment (F'.getD []) = unquoteFragment (g.fragment.getD []))
    (hg : InClass ir g) (hg' : InClass ir { g with path := path', query := Q', fragment := F' })
    (hport : portVal g.port ≠ none)
    (hnp : NotPlatform puny ir g.str)
    (hnp' : NotPlatform puny ir ({ g with path := path', query := Q', fragment := F' } : UrlG).str) :
    normalizeUrlStringPA puny o ir ({ g with path := path', query := Q', fragment := F' } : UrlG).str =
      normalizeUrlStringPA puny o ir g.str :=
  pa_transfer puny o ir _ _ hnp hnp'
    (norm_escape_spelling_string puny o hl hts ir g path' Q' F' hpath hq hf hg hg' hport)

end Ural.Props.C04

namespace Ural.Props.C06
open Ural Ural.Py Ural.UrlParts Ural.Normalize Ural.Fingerprint Ural.NormBridge Ural.Platform Ural.Canonicalize
open Ural.Props.C05 (NotPlatform fp_pa_transfer fingerprint_pa_of_not_platform)

/-- **letter case is irrelevant with the option on — every pair of strings, facebook / youtube
urls included**: `fingerprint_url` lower-cases the url before anything else, the branch sees the
lower-cased string (instance of `fp_case_string`, which holds for every `platform`) -/
theorem fp_case_string_pa (puny : Str → Str) (trie : SNode Str) (s : Bool) (u v : Str)
    (h : lower u = lower v) :
    fingerprintUrlStringSplitPA puny trie s u = fingerprintUrlStringSplitPA puny trie s v ∧
    fingerprintUrlStringPA puny trie s u = fingerprintUrlStringPA puny trie s v :=
  fp_case_string puny (platformConcrete puny) trie s u v h

theorem fp_port_string_pa (puny : Str → Str) (trie : SNode Str) (s : Bool) (g : UrlG)
    (p' : Option Str) (po k : Option Nat) (hpo : portVal g.port = some po) (hk : portVal p' = some k)
    (hs : HostSafe (g.hostname.map (normHost puny fpOpts)))
    (u u' : Str) (hg : InClassOf true g (lower u))
    (hg' : InClassOf true { g with port := p' } (lower u'))
    (hnp : NotPlatform puny true (lower u)) (hnp' : NotPlatform puny true (lower u')) :
    fingerprintUrlStringPA puny trie s u' = fingerprintUrlStringPA puny trie s u :=
  fp_pa_transfer puny trie s u u' hnp hnp' (fp_port_string puny trie s g p' po k hpo hk hs u u' hg hg').2

theorem fp_gl_hl_string_pa (puny : Str → Str) (trie : SNode Str) (s : Bool) (g : UrlG)
    (q q' : Str) (xs ys : List Str) (it : Str) (po : Option Nat) (hpo : portVal g.port = some po)
    (hq : g.query = some q)
    (h1 : fixedQ fpOpts q' = join ['&'] (xs ++ it :: ys))
    (h2 : fixedQ fpOpts q = join ['&'] (xs ++ ys))
    (hamp : ∀ x ∈ xs ++ it :: ys, '&' ∉ x)
    (hkey : itemKey it = "gl".toList ∨ itemKey it = "hl".toList)
    (u u' : Str) (hg : InClassOf true g (lower u))
    (hg' : InClassOf true { g with query := some q' } (lower u'))
    (hnp : NotPlatform puny true (lower u)) (hnp' : NotPlatform puny true (lower u')) :
    fingerprintUrlStringPA puny trie s u' = fingerprintUrlStringPA puny trie s u :=
  fp_pa_transfer puny trie s u u' hnp hnp'
    (fp_gl_hl_string puny trie s g q q' xs ys it po hpo hq h1 h2 hamp hkey u u' hg hg').2

theorem fp_lang_label_string_pa_partial (puny : Str → Str) (trie : SNode Str) (s : Bool) (g : UrlG)
    (w : Str) (po : Option Nat) (hpo : portVal g.port = some po)
    (hne : g.host ≠ []) (hpct : '%' ∉ g.host) (hpct' : '%' ∉ w)
    (hw : LangShape isCountry w)
    (hsafe : HostSafe (some (preAmp puny (lower g.host))))
    (hlabels : 1 ≤ countDots (hostnameView (preAmp puny (lower g.host))))
    (hamp : startsWith (preAmp puny (lower g.host)) ampDash = false)
    (hsingle : stripLangSubdomainsFromHostname isCountry (hostnameView (preAmp puny (lower g.host))) =
      hostnameView (preAmp puny (lower g.host)))
    (hdf : domainFilter (filterHost puny (some (lower g.host))) =
      domainFilter (filterHost puny (some (lower w ++ '.' :: lower g.host))))
    (u u' : Str) (hg : InClassOf true g (lower u))
    (hg' : InClassOf true { g with host := w ++ '.' :: g.host } (lower u'))
    (hnp : NotPlatform puny true (lower u)) (hnp' : NotPlatform puny true (lower u')) :
    fingerprintUrlStringPA puny trie s u' = fingerprintUrlStringPA puny trie s u :=
  fp_pa_transfer puny trie s u u' hnp hnp'
    (fp_lang_label_string_partial puny trie s g w po hpo hne hpct hpct' hw hsafe hlabels hamp hsingle hdf
      u u' hg hg').2

theorem fp_shape_whole_pa (puny : Str → Str) (trie : SNode Str) (s : Bool) (g : UrlG) (u : Str)
    (po : Option Nat) (hpo : portVal g.port = some po)
    (hs : HostSafe (g.hostname.map (normHost puny fpOpts)))
    (hg : InClassOf true g (lower u)) (hnp : NotPlatform puny true (lower u)) (r : Split)
    (h : fingerprintUrlStringSplitPA puny trie s u = .ok (.inr r)) :
    r.scheme = [] ∧ ∃ host : Option Str, r.netloc = unsplitNetloc none none host none := by
  rw [(fingerprint_pa_of_not_platform puny trie s u hnp).2] at h
  exact fp_shape_whole puny trie s g u po hpo hs hg r h

end Ural.Props.C06

namespace Ural.Props.C05
open Ural Ural.Py Ural.UrlParts Ural.Quote Ural.Normalize Ural.Fingerprint Ural.NormBridge Ural.Platform

theorem normalize_string_split_pa (puny : Str → Str) (o : Normalize.Opts) (ir : Bool) (g : UrlG) (u : Str)
    (po : Option Nat) (hg : InClassOf ir g u) (hpo : portVal g.port = some po) (hnp : NotPlatform puny ir u) :
    normalizeUrlStringSplitPA puny o ir u = .inr (normParts puny o g.proto.hasProto (g.record po)) ∧
    normalizeUrlStringPA puny o ir u =
      finalString o g.proto.hasProto (normParts puny o g.proto.hasProto (g.record po)) := by
  rw [(normalize_pa_of_not_platform puny o ir u hnp).1, (normalize_pa_of_not_platform puny o ir u hnp).2]
  exact normalize_string_split puny o ir g u po hg hpo

/-- **`normalize_url(…, platform_aware=True)` only deletes, off platform hosts**: the clauses of
`normalize_only_deletes_string` for every string of the class that is no facebook / youtube url -/
theorem normalize_only_deletes_string_pa (puny : Str → Str) (o : Normalize.Opts) (ir : Bool) (g : UrlG) (u : Str)
    (po : Option Nat) (hg : InClassOf ir g u) (hpo : portVal g.port = some po) (hnp : NotPlatform puny ir u) :
    ∃ c : Comps,
      normalizeUrlStringSplitPA puny o ir u =
        .inr { scheme := c.scheme, netloc := unsplitNetloc c.user c.pass c.host c.port,
               path := c.path, query := safeSerializeQsl c.qsl, fragment := some c.fragment } ∧
      (g.host ≠ [] → '%' ∉ g.host →
        ∃ h', c.host = some h' ∧ HostDel puny o.normalizeAmp (lower g.host) h') ∧
      (g.host = [] → c.host = none) ∧
      (∀ n, po = some n → n ≠ 80 → n ≠ 443 → c.port = some n) ∧
      (po = some 80 ∨ po = some 443 ∨ po = none → c.port = none) ∧
      (∃ pre, pre.Sublist (resolvedPath o g.path) ∧ c.path = finPath o pre) ∧
      (o.lowercase = false → o.quoted = false → o.sortQuery = false →
        c.qsl.Sublist (inputItems o (g.record po))) := by
  rw [(normalize_pa_of_not_platform puny o ir u hnp).2]
  exact normalize_only_deletes_string puny o ir g u po hg hpo

/-- an unparseable string is returned unchanged, option on (every string; instance of
`normalize_unparseable_string`, which holds for every `platform`) -/
theorem normalize_unparseable_string_pa (puny : Str → Str) (o : Normalize.Opts)
    (ir : Bool) (u : Str) (h : parseUrl (platformConcrete puny (ensured ir u)) = none) :
    normalizeUrlStringPA puny o ir u = u ∧ normalizeUrlStringSplitPA puny o ir u = .inl u := by
  have h' : parseUrl (prepared (platformConcrete puny) ir u).1 = none := by
    simp only [prepared_eq, h]
  exact normalize_unparseable_string puny (platformConcrete puny) o ir u h'

/-- the residual hypothesis of C19's facebook round trip, for a url: the record the parser returns
(if any) has no field with a character that the url builders do not escape and that `urljoin` /
`urlsplit` / `parse_qs` read as syntax (`Facebook.charsOk`) -/
def FacebookReparsable (u : Str) : Prop :=
  ∀ r, Facebook.parse_facebook_url u false = .ok (some r) → Facebook.charsOk r = true

theorem is_facebook_url_of_parse (v : Str) (r : Facebook.Parsed)
    (h : Facebook.parse_facebook_url v false = .ok (some r)) : Facebook.is_facebook_url v = .ok true := by
  obtain ⟨u, _, hu, _⟩ := Facebook.parse_facebook_url_routed v false r h
  rw [Facebook.is_facebook_url_eq]
  cases hb : Facebook.isFacebookUrlB v with
  | true => rfl
  | false => simp [Facebook.resolved, hb] at hu

theorem facebookResultUrl_idempotent (u : Str) (hu : FacebookReparsable u) (hne : facebookResultUrl u ≠ u) :
    Facebook.isFacebookUrlB (facebookResultUrl u) = true ∧
      facebookResultUrl (facebookResultUrl u) = facebookResultUrl u := by
  cases hp : Facebook.parse_facebook_url u false with
  | error e => exact absurd (by unfold facebookResultUrl; rw [hp]) hne
  | ok o =>
    cases o with
    | none => exact absurd (by unfold facebookResultUrl; rw [hp]) hne
    | some r =>
      obtain ⟨w, hw, hre⟩ := Ural.Props.C19.Facebook.reparse_of_parse_partial u false r hp (hu r hp)
      rw [facebookResultUrl_of_parsed hp hw]
      exact ⟨Except.ok.inj ((Facebook.is_facebook_url_eq w).symm.trans (is_facebook_url_of_parse w r (hre false))),
        facebookResultUrl_of_parsed (hre false) hw⟩

/-- the youtube half is idempotent: every string, every trie that knows `www.youtube.com`; what
it returns, when it is another string, is a youtube url and no facebook url -/
theorem youtubeResultUrl_idempotent (puny : Str → Str) (t : HostnameTrieSet.T) (hT : Youtube.KnowsWww puny t)
    (u v : Str) (hv : youtubeResultUrl u (Youtube.parse_youtube_url puny t u true) = v) (hne : v ≠ u) :
    Facebook.isFacebookUrlB v = false ∧ Youtube.is_youtube_url puny t v = true ∧
      youtubeResultUrl v (Youtube.parse_youtube_url puny t v true) = v := by
  have hn := normalize_youtube_url_eq puny t u
  rw [hv] at hn
  -- `v` is not `u`, so it is the canonical url of a record: it starts with `https://www.youtube.com/`
  obtain ⟨tail, rfl⟩ : ∃ tail, v = wwwPrefix ++ tail := by
    rw [← hv]
    cases hp : Youtube.parse_youtube_url puny t u true with
    | ok o =>
      cases o with
      | some r => exact recordUrl_www r
      | none => rw [hp] at hv; exact absurd hv.symm hne
    | error e => rw [hp] at hv; exact absurd hv.symm hne
  exact ⟨Except.ok.inj ((Facebook.is_facebook_url_eq _).symm.trans (is_facebook_url_www tail)),
    is_youtube_url_www puny t hT tail,
    Except.ok.inj ((normalize_youtube_url_eq puny t _).symm.trans
      (Ural.Props.C19.Youtube.normalize_youtube_idempotent puny t hT u _ hn))⟩

/-- **(b) the platform rewriting is idempotent**: `platform (platform u) = platform u`, for every
string `u` whose facebook record (if it is a facebook url the parser recognises) is inside C19's
round trip (`FacebookReparsable`; no hypothesis on youtube urls and on all other strings), and
every state `t` of the youtube trie that knows `www.youtube.com` -/
theorem platform_idempotent (puny : Str → Str) (t : HostnameTrieSet.T) (hT : Youtube.KnowsWww puny t)
    (u : Str) (hu : FacebookReparsable u) :
    platformWith puny t (platformWith puny t u) = platformWith puny t u := by
  by_cases hfix : platformWith puny t u = u
  · rw [hfix, hfix]
  · rw [platformWith_eq puny t u] at hfix ⊢
    by_cases hf : Facebook.isFacebookUrlB u = true
    · rw [if_pos hf] at hfix ⊢
      obtain ⟨h1, h2⟩ := facebookResultUrl_idempotent u hu hfix
      rw [platformWith_eq, if_pos h1, h2]
    · rw [if_neg hf] at hfix ⊢
      by_cases hy : Youtube.is_youtube_url puny t u = true
      · rw [if_pos hy] at hfix ⊢
        obtain ⟨h1, h2, h3⟩ := youtubeResultUrl_idempotent puny t hT u _ rfl hfix
        rw [platformWith_eq, if_neg (by simp [h1]), if_pos h2, h3]
      · exact absurd (if_neg hy) hfix

/-- **(b) for the trie the module builds**: no hypothesis about the trie left -/
theorem platform_idempotent_module (puny : Str → Str) (u : Str) (hu : FacebookReparsable u) :
    platformConcrete puny (platformConcrete puny u) = platformConcrete puny u :=
  platform_idempotent puny _ (Ural.Props.C19.Youtube.youtube_trie_knows_www puny) u hu

/-! ## (c) with the option on: deletions of the pieces of the CANONICAL platform url -/

/-- the url that is parsed under `platform_aware=True`: what the branch makes of the resolved,
cleaned, protocol-ensured string — `p.url` / `normalize_youtube_url(url)` for a platform url that
is recognised, the string itself otherwise -/
def canonicalOf (puny : Str → Str) (ir : Bool) (u : Str) : Str := platformConcrete puny (ensured ir u)

/-- `normalize_url(u, platform_aware=True, unsplit=False)` = the component rules on the parse of
the canonical platform url (`has_protocol` is that of `u`) -/
theorem normalize_pa_split (puny : Str → Str) (o : Normalize.Opts) (ir : Bool) (u : Str) :
    normalizeUrlStringSplitPA puny o ir u =
      match parseUrl (canonicalOf puny ir u) with
      | none => .inl u
      | some p => .inr (normParts puny o (hasProtocol (resolvedClean ir u)) p) := by
  unfold normalizeUrlStringSplitPA canonicalOf
  exact normalizeUrlStringSplit_platform puny (platformConcrete puny) o ir u

/-- the protocol flag only matters when `strip_protocol` is off -/
theorem normParts_hasProto_irrelevant (puny : Str → Str) (o : Normalize.Opts) (a b : Bool) (p : Parsed)
    (h : o.stripProtocol = true ∨ a = b) :
    normParts puny o a p = normParts puny o b p ∧
    finalString o a (normParts puny o a p) = finalString o b (normParts puny o b p) := by
  rcases h with h | h
  · exact C04.norm_scheme_irrelevant puny o a b p p.scheme (by simp [h]) (by simp [h])
  · subst h; exact ⟨rfl, rfl⟩

/-- **(c) `normalize_url(…, platform_aware=True)` only deletes — or rewrites first**: for EVERY
string `u` (facebook / youtube urls included) whose canonical platform url is a string `g.str` of
the grammar class, the result tuple is glued from components `c` that are deletions of the pieces
**of the canonical url** (not of `u`): host = its host text lower-cased, decoded, minus whole
irrelevant labels / a leading `amp-`; port = its port unless 80 / 443; path = final (un)quoting of
a subsequence of its resolved path; query items = a subsequence of its unescaped items.  For a
string the branch leaves alone this is C05's clause about `u` itself
(`normalize_only_deletes_string_pa`); for a recognised facebook / youtube url the pieces are those
of `p.url` / of the url template filled in by `normalize_youtube_url`. -/
theorem normalize_pa_only_deletes_or_rewrites (puny : Str → Str) (o : Normalize.Opts) (ir : Bool)
    (u : Str) (g : UrlG) (po : Option Nat)
    (hw : g.wf = true) (hproto : g.proto.hasProto = true) (hsafe : NoUnsafe g.rest)
    (hv : canonicalOf puny ir u = g.str) (hpo : portVal g.port = some po) :
    ∃ c : Comps,
      normalizeUrlStringSplitPA puny o ir u =
        .inr { scheme := c.scheme, netloc := unsplitNetloc c.user c.pass c.host c.port,
               path := c.path, query := safeSerializeQsl c.qsl, fragment := some c.fragment } ∧
      (g.host ≠ [] → '%' ∉ g.host →
        ∃ h', c.host = some h' ∧ HostDel puny o.normalizeAmp (lower g.host) h') ∧
      (g.host = [] → c.host = none) ∧
      (∀ n, po = some n → n ≠ 80 → n ≠ 443 → c.port = some n) ∧
      (po = some 80 ∨ po = some 443 ∨ po = none → c.port = none) ∧
      (∃ pre, pre.Sublist (resolvedPath o g.path) ∧ c.path = finPath o pre) ∧
      (o.lowercase = false → o.quoted = false → o.sortQuery = false →
        c.qsl.Sublist (inputItems o (g.record po))) := by
  obtain ⟨e1, e2⟩ := parse_str g hw hsafe
  rw [ensureHttp_of_hasProtocol (e2.trans hproto)] at e1
  have hparse : parseUrl (canonicalOf puny ir u) = some (g.record po) := by
    rw [hv, e1]; unfold UrlG.parsed; rw [hpo]; rfl
  refine ⟨normComps puny o (hasProtocol (resolvedClean ir u)) (g.record po), ?_,
    normComps_only_deletes puny o _ g po⟩
  rw [normalize_pa_split, hparse]
  rfl

/-- **(c) the result is `normalize_url` (option off, no redirection step) of the canonical platform
url**, whenever that url is clean (no control character, no white space at its ends, escapes in
upper case), parses, and — the protocol flag being that of `u` — `strip_protocol` is on (the
default) or `u` carries a protocol itself -/
theorem normalize_pa_eq_normalize_canonical (puny : Str → Str) (o : Normalize.Opts) (ir : Bool) (u : Str)
    (hc : Cleaned (canonicalOf puny ir u)) (hp : hasProtocol (canonicalOf puny ir u) = true)
    (hs : o.stripProtocol = true ∨ hasProtocol (resolvedClean ir u) = true)
    (hparse : parseUrl (canonicalOf puny ir u) ≠ none) :
    normalizeUrlStringPA puny o ir u = normalizeUrlString puny id o false (canonicalOf puny ir u) := by
  unfold normalizeUrlStringPA
  rw [normalizeUrlString_platform, normalizeUrlString_platform]
  unfold canonicalOf at hc hp hparse ⊢
  generalize platformConcrete puny (ensured ir u) = cv at hc hp hparse ⊢
  have hrc : resolvedClean false cv = cv := by
    unfold resolvedClean
    simp only [Bool.false_eq_true, if_false, hc.preClean]
  have hen : ensured false cv = cv := by
    rw [ensured_eq, hrc, ensureHttp_of_hasProtocol hp]
  simp only [id, hen, hrc, hp]
  cases hx : parseUrl cv with
  | none => exact absurd hx hparse
  | some p =>
    simp only
    exact (normParts_hasProto_irrelevant puny o _ _ p hs).2

/-- **without `charsOk` the rewriting is not idempotent**: `v=a%26b` is the video `a&b`, whose url
`…/watch/?v=a&b` is the video `a` (C19's `excluded_query_chars_fail`) -/
theorem platform_idempotent_needs_charsOk :
    platformConcrete id "https://facebook.com/watch/?v=a%26b".toList =
      "https://www.facebook.com/watch/?v=a&b".toList ∧
    platformConcrete id "https://www.facebook.com/watch/?v=a&b".toList =
      "https://www.facebook.com/watch/?v=a".toList ∧
    ¬ FacebookReparsable "https://facebook.com/watch/?v=a%26b".toList := by
  simp only [toList_lit]
  refine ⟨by decide +kernel, by decide +kernel, ?_⟩
  intro h
  have := h (.video "a&b".toList none) (by decide +kernel)
  revert this
  decide +kernel

/-- non-vacuity of (b) and (c): a facebook post url inside the round trip; its canonical url is
a fixed point of the branch, clean, and `normalize_url(…, platform_aware=True)` of the original
is `normalize_url` of the canonical url -/
example :
    platformConcrete id "https://m.facebook.com/groups/123/permalink/456/?x=1".toList =
      "https://www.facebook.com/groups/123/permalink/456".toList ∧
    platformConcrete id "https://www.facebook.com/groups/123/permalink/456".toList =
      "https://www.facebook.com/groups/123/permalink/456".toList ∧
    Cleaned (canonicalOf id false "https://m.facebook.com/groups/123/permalink/456/?x=1".toList) ∧
    normalizeUrlStringPA id {} false "https://m.facebook.com/groups/123/permalink/456/?x=1".toList =
      "facebook.com/groups/123/permalink/456".toList ∧
    normalizeUrlString id id {} false "https://www.facebook.com/groups/123/permalink/456".toList =
      "facebook.com/groups/123/permalink/456".toList := by
  simp only [toList_lit]
  decide +kernel

/-! ## (d) the design finding D53 as theorems about the concrete model

KF-C03-2 / KF-C04-4 / KF-C06-4: the rewriting reads the string *before* normalization, so it is
not invariant under respellings that `normalize_url` itself ignores.  Three members of the
documented-irrelevant family, each on a pair of spellings that are normalized alike without the
option and differently with it (closed terms, evaluated; `puny = id`, default options,
`infer_redirection=False` so that the kernel does not have to unfold the well-founded `infer`). -/

/-- **an escaped path letter**: `/posts/` written `/%70osts/` is not seen by `parse_facebook_url`,
which then takes the url for the handle `nasa` -/
theorem d53_escaped_path_letter :
    normalizeUrlString id id {} false "https://www.facebook.com/nasa/posts/123?x=1".toList =
      "facebook.com/nasa/posts/123?x=1".toList ∧
    normalizeUrlString id id {} false "https://www.facebook.com/nasa/%70osts/123?x=1".toList =
      "facebook.com/nasa/posts/123?x=1".toList ∧
    normalizeUrlStringPA id {} false "https://www.facebook.com/nasa/posts/123?x=1".toList =
      "facebook.com/nasa/posts/123".toList ∧
    normalizeUrlStringPA id {} false "https://www.facebook.com/nasa/%70osts/123?x=1".toList =
      "facebook.com/nasa".toList := by
  simp only [toList_lit]
  decide +kernel

/-- **an index file name**: `facebook.com/index.html` is the handle `index.html` for
`parse_facebook_url` (its canonical url has no query), `facebook.com/` is nothing -/
theorem d53_index_file_name :
    normalizeUrlString id id {} false "https://facebook.com/?x=1".toList = "facebook.com?x=1".toList ∧
    normalizeUrlString id id {} false "https://facebook.com/index.html?x=1".toList = "facebook.com?x=1".toList ∧
    normalizeUrlStringPA id {} false "https://facebook.com/?x=1".toList = "facebook.com?x=1".toList ∧
    normalizeUrlStringPA id {} false "https://facebook.com/index.html?x=1".toList = "facebook.com".toList := by
  simp only [toList_lit]
  decide +kernel

/-- `https://amp-facebook.com/nasa/posts/123?x=1` is not a platform url, by
`amp_facebook_not_platform_host` (a non-vacuity witness of `NotPlatform` for the module's trie,
through the host-level characterisation) -/
theorem d53_amp_dash_not_platform :
    NotPlatform id false "https://amp-facebook.com/nasa/posts/123?x=1".toList := by
  unfold NotPlatform
  rw [isPlatformUrl_eq_host]
  have h1 : Sites.get_hostname (ensured false "https://amp-facebook.com/nasa/posts/123?x=1".toList) =
      some "amp-facebook.com".toList := by
    simp only [toList_lit]
    decide +kernel
  rw [h1]
  exact amp_facebook_not_platform_host

/-- **a label in front of the host**: the `amp-` prefix, which `normalize_url` removes from the
host, hides the facebook host from the branch -/
theorem d53_label_in_front_of_host :
    normalizeUrlString id id {} false "https://facebook.com/nasa/posts/123?x=1".toList =
      "facebook.com/nasa/posts/123?x=1".toList ∧
    normalizeUrlString id id {} false "https://amp-facebook.com/nasa/posts/123?x=1".toList =
      "facebook.com/nasa/posts/123?x=1".toList ∧
    normalizeUrlStringPA id {} false "https://facebook.com/nasa/posts/123?x=1".toList =
      "facebook.com/nasa/posts/123".toList ∧
    normalizeUrlStringPA id {} false "https://amp-facebook.com/nasa/posts/123?x=1".toList =
      "facebook.com/nasa/posts/123?x=1".toList := by
  rw [(normalize_pa_of_not_platform id {} false _ d53_amp_dash_not_platform).1]
  simp only [toList_lit]
  decide +kernel

/-- hence the full statement "the option commutes with the documented-irrelevant respellings" is
false for the concrete branch (`fullPlatform_false` of `Props/C05.lean`: false for *some*
`platform`) -/
def FullPlatformInvariance : Prop :=
  ∀ (puny : Str → Str) (o : Normalize.Opts) (ir : Bool) (u v : Str),
    normalizeUrlString puny id o ir u = normalizeUrlString puny id o ir v →
      normalizeUrlStringPA puny o ir u = normalizeUrlStringPA puny o ir v

theorem fullPlatformInvariance_false : ¬ FullPlatformInvariance := by
  obtain ⟨h1, h2, h3, h4⟩ := d53_index_file_name
  intro h
  have := h id {} false _ _ (h1.trans h2.symm)
  rw [h3, h4] at this
  revert this
  simp only [toList_lit]
  decide

/-- KF-C04-4's own witness (youtube; the two-domain trie of C19's examples, and the fuel form of
`infer_redirection` inside `parse_youtube_url`): an escaped letter of the video id — the url
is left alone instead of becoming `https://www.youtube.com/watch?v=abcdefghijk` -/
theorem d53_youtube_escaped_id :
    platformWith id Ural.Props.C19.Youtube.smallTrie "https://youtu.be/abcdefghijk?t=3".toList =
      "https://www.youtube.com/watch?v=abcdefghijk".toList ∧
    platformWith id Ural.Props.C19.Youtube.smallTrie "https://youtu.be/abcdefghij%6B?t=3".toList =
      "https://youtu.be/abcdefghij%6B?t=3".toList ∧
    normalizeUrlString id id {} false "https://youtu.be/abcdefghijk?t=3".toList =
      normalizeUrlString id id {} false "https://youtu.be/abcdefghij%6B?t=3".toList := by
  simp only [toList_lit]
  rw [platformWith_eq, platformWith_eq, Ural.Props.C19.Youtube.parse_eq_fuel, Ural.Props.C19.Youtube.parse_eq_fuel]
  decide +kernel

end Ural.Props.C05
