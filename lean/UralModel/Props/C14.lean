import UralModel.Lemmas.QuoteUpper
import UralModel.Lemmas.QuoteSplit
import UralModel.Lemmas.QuoteAuth
import UralModel.Lemmas.StrLit
import UralModel.Gen.QuoteTables
import UralModel.Model.Canonicalize
/-!
# C14 — Safe quoting/unquoting preserves decoded content and delimiters

Every function of `quote.py` is read through one scan of its argument into tokens (raw character, escape,
stray `%`), and the clauses of the statement are facts about token lists.  They are stated first for the
general parameters — any `safe` set of `safely_quote`, any unsafe set `U` holding `%` of `safely_unquote_*`,
`upper_quoted` on plain decompositions `a ++ %h1h2 ++ b` — and then, with no hypothesis left, for what the
public API runs: the four regenerated tables (`api_*`), `safely_unquote_auth_item` with its NFKC wrapper
(`auth_item_contract`) and the key/value lists of `safely_unquote_qsl` / `safely_quote_qsl` (`qsl_contract`).  The table obligations come first.
-/
namespace Ural.Props.C14
open Ural Ural.Py Ural.Quote Ural.QuoteUpper

/-! ## table obligations: re-checked whenever the tables are regenerated -/

/-- `%` must stay escaped in every component (else `%2541` is decoded twice) -/
theorem tables_percent_unsafe :
    (0x25 : UInt8) ∈ Gen.Quote.unsafeForAuthItem ∧ (0x25 : UInt8) ∈ Gen.Quote.unsafeForPath ∧
    (0x25 : UInt8) ∈ Gen.Quote.unsafeForQueryItem ∧ (0x25 : UInt8) ∈ Gen.Quote.unsafeForFragment :=
  ⟨unsafeForAuthItem_ok.1, unsafeForPath_ok.1, unsafeForQueryItem_ok.1, unsafeForFragment_ok.1⟩

/-- `/ ? #` delimit a path -/
theorem tables_path_delims :
    ∀ b ∈ ([0x2F, 0x3F, 0x23] : List UInt8), b ∈ Gen.Quote.unsafeForPath := by decide

/-- `@ : / ? #` delimit a userinfo item -/
theorem tables_auth_delims :
    ∀ b ∈ ([0x40, 0x3A, 0x2F, 0x3F, 0x23] : List UInt8), b ∈ Gen.Quote.unsafeForAuthItem := by decide

/-- `& = #` delimit a query item, and `+` has a meaning of its own there (a space; `%2B` is a
plus sign: FX-C01-6e09416) -/
theorem tables_query_delims :
    ∀ b ∈ ([0x26, 0x3D, 0x23, 0x2B] : List UInt8), b ∈ Gen.Quote.unsafeForQueryItem := by decide

/-- **table obligation** (the model describes the code): the model's `quoteSafeQ` — what
`safely_quote(item, safe="/+")` leaves alone — is the set of ASCII characters the real
`safely_quote_qsl` leaves alone in a key and in a value (probed on the function, every ASCII
code point; `+` is in it), a stray `%` is escaped, existing escapes are kept, a missing value
stays missing, every probed non-ASCII code point becomes the escapes of its UTF-8 bytes -/
theorem tables_qsl_safe :
    (∀ n, n < 0x80 → n ≠ 0x25 →
      quoteSafeQ (Char.ofNat n) = Gen.Quote.qslQuoteSafeKey.contains n ∧
      quoteSafeQ (Char.ofNat n) = Gen.Quote.qslQuoteSafeValue.contains n) ∧
    quoteSafeQ '%' = false ∧ quoteSafeQ '+' = true ∧ Gen.Quote.qslQuoteShape = true ∧
    Gen.Quote.qslQuoteEscapesNonAscii = true := by
  refine ⟨by decide +kernel, by decide, by decide, by decide, by decide⟩

/-- the four functions are `partial(unquote, only_printable=True, normalize_space=True,
lossless=True, unsafe=UNSAFE_FOR_<component>)` and nothing else -/
theorem tables_flags :
    Gen.Quote.authItemFlags.all id ∧ Gen.Quote.pathFlags.all id ∧
    Gen.Quote.queryItemFlags.all id ∧ Gen.Quote.fragmentFlags.all id := by decide

/-- the regexes the hand-written scanner stands for are the ones it was written for -/
theorem tables_patterns :
    Gen.Quote.quotedSplitPattern = "(%[0-9A-Fa-f]{2})" ∧
    Gen.Quote.quotedPattern = "^%[0-9A-Fa-f]{2}$" ∧
    Gen.Quote.lowercaseQuotedPattern = "%(?:[0-9A-F][a-f]|[a-f][0-9A-F]|[a-f]{2})" ∧
    Gen.Quote.asciiRunPattern = "([\x00-\x7f]+)" ∧
    Gen.Quote.c1ControlPattern = "[\x80-\x9f\xa0\u1680\u2000-\u200a\u2028\u2029\u202f\u205f\u3000]" ∧
    Gen.Quote.hexAlphabet = "0123456789ABCDEFabcdef" ∧
    [Gen.Quote.quotedSplitPatternFlags, Gen.Quote.quotedPatternFlags,
      Gen.Quote.lowercaseQuotedPatternFlags, Gen.Quote.asciiRunPatternFlags,
      Gen.Quote.c1ControlPatternFlags] = [32, 32, 32, 32, 32] :=
  ⟨rfl, rfl, rfl, rfl, rfl, rfl, rfl⟩

/-- the four unsafe sets only hold ASCII bytes (a re-escaped byte ≥ 0x80 is never "unsafe") -/
theorem tables_ascii :
    AsciiSet Gen.Quote.unsafeForAuthItem ∧ AsciiSet Gen.Quote.unsafeForPath ∧
    AsciiSet Gen.Quote.unsafeForQueryItem ∧ AsciiSet Gen.Quote.unsafeForFragment :=
  ⟨unsafeForAuthItem_ok.2, unsafeForPath_ok.2, unsafeForQueryItem_ok.2, unsafeForFragment_ok.2⟩

/-! ## scanning

`tokens` is the scan shared by all functions of `quote.py`; `render` writes tokens back. -/

/-- writing the tokens of a string gives the string back: nothing is lost by the scan -/
theorem render_tokens (s : Str) : render (tokens s) = s := Quote.render_tokens s

/-- a token list without stray `%` whose escapes have hex digits and whose raw characters
are not `%` re-scans to itself: in such an output no text can combine into a new escape and
no escape can fall apart -/
theorem tokens_render_canonical (ts : List Tok) (h : ∀ t ∈ ts, CanonTok t) :
    tokens (render ts) = ts := tokens_render_of_canon ts h

/-! ## `safely_quote(string, safe=…)`, for every `safe`

`safely_quote` takes the `safe` argument of `urllib.parse.quote` (default `"/"`);
`safely_quote_qsl` passes `safe="/+"` (FX-C01-6e09416: in a query a raw `+` is a space and `%2B` a
plus sign).  `safelyQuoteBy f` is `safely_quote` with the set `f` of characters left alone,
`quoteSafeIn safe` the set `quote(…, safe=safe)` leaves alone; every clause of the statement
holds for every `safe` whose ASCII characters are printable and neither the space nor `%`
(`safeStrOk`; `SafeSet f` in general).  The default `safe="/"` has definitions of its own, `safelyQuote`,
`quoteToks`, `harden`: they are `safelyQuoteBy`, `quoteToksBy`, `hardenBy` at `quoteSafe`
(`safelyQuote_fun`, `quoteToks_fun`, `harden_fun`). -/

/-- `safely_quote(s)` is `safely_quote(s, safe="/")`, and the query variant is
`safely_quote(s, safe="/+")` -/
theorem quote_default_safe (s : Str) :
    safelyQuote s = safelyQuoteIn ['/'] s ∧ Canonicalize.quoteQsl [(s, some s)] =
      [(safelyQuoteIn ['/', '+'] s, some (safelyQuoteIn ['/', '+'] s))] :=
  ⟨by rw [safelyQuote_fun, quoteSafe_fun]; rfl, rfl⟩

/-- every `safe` string of printable ASCII characters other than the space and `%` gives a
set the theorems below apply to; `"/"` and `"/+"` are such strings -/
theorem quote_safe_sets (safe : Str) (h : safeStrOk safe = true) : SafeSet (quoteSafeIn safe) :=
  safeSet_in h

theorem quoteBy_tokens {f : Char → Bool} (hf : SafeSet f) (s : Str) :
    tokens (safelyQuoteBy f s) = quoteToksBy f (tokens s) := tokens_safelyQuoteBy hf s

/-- pure ASCII; same decoded bytes; every pre-existing escape kept as is, where it was;
outside its escapes only characters of `f`, and no stray `%`; quoting twice is quoting once -/
theorem quoteBy_contract {f : Char → Bool} (hf : SafeSet f) (s : Str) :
    (∀ ch ∈ safelyQuoteBy f s, ch.toNat < 0x80) ∧
    pctStr (safelyQuoteBy f s) = pctStr s ∧
    (∀ a b h1 h2, isHexDigit h1 = true → isHexDigit h2 = true →
      safelyQuoteBy f (a ++ '%' :: h1 :: h2 :: b) =
        safelyQuoteBy f a ++ '%' :: h1 :: h2 :: safelyQuoteBy f b) ∧
    (∀ c, Tok.raw c ∈ tokens (safelyQuoteBy f s) → f c = true) ∧
    Tok.stray ∉ tokens (safelyQuoteBy f s) ∧
    safelyQuoteBy f (safelyQuoteBy f s) = safelyQuoteBy f s :=
  ⟨ascii_safelyQuoteBy hf s, pctStr_safelyQuoteBy hf s,
    fun a b _ _ hh1 hh2 => safelyQuoteBy_append_esc f hh1 hh2 a b, raw_tokens_safelyQuoteBy hf s,
    stray_not_mem_safelyQuoteBy hf s, safelyQuoteBy_idem hf s⟩

/-- **unquote then quote**, for any `safe`: the scan of
`safely_unquote_*(safely_quote(safely_unquote_*(s), safe))` is the scan of `safely_unquote_*(s)`
with the raw characters that `quote` escapes and the unquoter keeps escaped spelled as escapes -/
theorem unquote_quoteBy_unquote {f : Char → Bool} (hf : SafeSet f) (U : List UInt8)
    (hU : (0x25 : UInt8) ∈ U) (hA : AsciiSet U) (s : Str) :
    tokens (safelyUnquote U (safelyQuoteBy f (safelyUnquote U s))) =
      (tokens (safelyUnquote U s)).map (hardenBy f U) := by
  rw [tokens_safelyUnquote U hU, tokens_safelyQuoteBy hf, escapeRaw_quoteToksBy hf,
    tokens_safelyUnquote U hU]
  exact unquoteToks_quoteBy_unquote_hardenBy hf U hU hA _ (wf_escapeRaw (wf_tokens s))
    (fun c hc => (raw_mem_escapeRaw hc).2)

/-- … hence `safely_quote(·, safe) ∘ safely_unquote_*` is idempotent, for every string -/
theorem quoteBy_unquote_idempotent {f : Char → Bool} (hf : SafeSet f) (U : List UInt8)
    (hU : (0x25 : UInt8) ∈ U) (hA : AsciiSet U) (s : Str) :
    safelyQuoteBy f (safelyUnquote U (safelyQuoteBy f (safelyUnquote U s))) =
      safelyQuoteBy f (safelyUnquote U s) := by
  show render (quoteToksBy f (tokens (safelyUnquote U (safelyQuoteBy f (safelyUnquote U s))))) =
    render (quoteToksBy f (tokens (safelyUnquote U s)))
  rw [unquote_quoteBy_unquote hf U hU hA, quoteToksBy_map_hardenBy]

/-- `upper_quoted` and `safely_quote(·, safe)` can be applied in either order -/
theorem upper_commutes_quoteBy {f : Char → Bool} (hf : SafeSet f) (s : Str) :
    safelyQuoteBy f (upperQuoted s) = upperQuoted (safelyQuoteBy f s) :=
  safelyQuoteBy_upperQuoted hf s

/-! ## `safely_quote(string)`: the default `safe="/"` -/

/-- **token-level characterisation**: the scan of `safely_quote s` is, token for token, the
scan of `s` with every escape kept as written, every unreserved character (and `/`) kept, a
stray `%` turned into `%25` and every other character replaced by the upper-case escapes of
its UTF-8 bytes -/
theorem quote_tokens (s : Str) : tokens (safelyQuote s) = quoteToks (tokens s) := by
  rw [safelyQuote_fun, quoteToks_fun]; exact quoteBy_tokens safeSet_quoteSafe s

/-- the result is pure ASCII -/
theorem quote_ascii (s : Str) : ∀ ch ∈ safelyQuote s, ch.toNat < 0x80 := by
  rw [safelyQuote_fun]; exact ascii_safelyQuoteBy safeSet_quoteSafe s

/-- decoding the output gives the same bytes as decoding the input -/
theorem quote_pct (s : Str) : pctStr (safelyQuote s) = pctStr s := pctStr_safelyQuote s

/-- every pre-existing escape is kept as is, where it was -/
theorem quote_keeps_escapes (a b : List Tok) (h1 h2 : Char) :
    quoteToks (a ++ .esc h1 h2 :: b) = quoteToks a ++ .esc h1 h2 :: quoteToks b := by
  simp [quoteToks, quoteTok]

/-- quoting twice is quoting once -/
theorem quote_idempotent (s : Str) : safelyQuote (safelyQuote s) = safelyQuote s := by
  rw [safelyQuote_fun]; exact safelyQuoteBy_idem safeSet_quoteSafe s

/-! ## safely_unquote_* (any unsafe set `U` containing `%`; the four regenerated sets do:
`tables_percent_unsafe`) -/

/-- **token-level characterisation**: the scan of the output is exactly the token list the
model assembles (from the scan of the input with its raw non-printable characters escaped,
`escapeRaw`), every token of which is (`OutTok`) a raw non-space character of the input, a
well-formed escape, a decoded printable ASCII character outside `U`, or a decoded non-ASCII
character that is not a C1 control; and no raw character of the output is one that
`NON_PRINTABLE_RE` matches -/
theorem unquote_tokens (U : List UInt8) (hU : (0x25 : UInt8) ∈ U) (s : Str) :
    tokens (safelyUnquote U s) = unquoteToks U (escapeRaw (tokens s)) ∧
    (∀ t ∈ unquoteToks U (escapeRaw (tokens s)), OutTok U (escapeRaw (tokens s)) t) ∧
    (∀ c, Tok.raw c ∈ unquoteToks U (escapeRaw (tokens s)) → staysEscaped c = false) := by
  exact ⟨tokens_safelyUnquote U hU s,
    outTok_unquoteToks U (escapeRaw (tokens s)) (wf_escapeRaw (wf_tokens s)),
    raw_unquoteToks U (fun c hc => (raw_mem_escapeRaw hc).2)⟩

/-- the output decodes to the same bytes as the input: nothing is lost, nothing is decoded
twice, undecodable bytes stay escaped -/
theorem unquote_pct (U : List UInt8) (hU : (0x25 : UInt8) ∈ U) (s : Str) :
    pctStr (safelyUnquote U s) = pctStr s := pctStr_safelyUnquote U hU s

/-- the output contains no raw space -/
theorem unquote_no_space (U : List UInt8) (s : Str) : ' ' ∉ safelyUnquote U s :=
  space_not_mem_safelyUnquote U s

/-- for every ASCII delimiter `d` of the unsafe set other than the space, the raw
occurrences of `d` are the same in the output and in the input: an escaped delimiter is
never unescaped, a raw one never escaped -/
theorem unquote_delimiters (U : List UInt8) (hU : (0x25 : UInt8) ∈ U) (d : Char)
    (hd : d.toNat < 0x80) (hsp : d ≠ ' ') (hdU : UInt8.ofNat d.toNat ∈ U) (s : Str) :
    (tokens (safelyUnquote U s)).count (.raw d) = (tokens s).count (.raw d) := by
  rw [(unquote_tokens U hU s).1, count_unquoteToks U d hd hsp (keepEsc_of_mem hdU), count_escapeRaw d hd]

/-- **positional form of the delimiter clause**: around a raw occurrence of a character `d`
that can neither start nor continue an escape (not `%`, not a hex digit: every delimiter), is
not the space and is not one `NON_PRINTABLE_RE` matches, a safe unquoter works on what precedes
and on what follows, and leaves `d` where it is -/
theorem unquote_delimiter_positional (U : List UInt8) (d : Char) (hd : Sep d) (hsp : d ≠ ' ')
    (hlt : d.toNat < 0x80) (a b : Str) :
    safelyUnquote U (a ++ d :: b) = safelyUnquote U a ++ d :: safelyUnquote U b :=
  safelyUnquote_append_sep U hd hsp (staysEscaped_of_lt hlt) a b

/-- … and when `d` is a byte of the unsafe set, no piece acquires a new raw `d`: cutting the
output at `d` gives the unquoted pieces of the input cut at `d` — the raw `d` of the output are
exactly those of the input, in the same order, with the same (unquoted) text between them -/
theorem unquote_split_delimiter (U : List UInt8) (d : Char) (hd : Sep d) (hsp : d ≠ ' ')
    (hlt : d.toNat < 0x80) (hdU : UInt8.ofNat d.toNat ∈ U) (s : Str) :
    splitOn (safelyUnquote U s) d = (splitOn s d).map (safelyUnquote U) ∧
    (d ∉ s → d ∉ safelyUnquote U s) :=
  ⟨splitOn_safelyUnquote U hd hsp hlt hdU s, not_mem_safelyUnquote U hd hlt hdU s⟩

/-- C0 / DEL / C1 control characters -/
def isControl (c : Char) : Prop := c.toNat < 0x20 ∨ (0x7f ≤ c.toNat ∧ c.toNat ≤ 0x9f)

theorem isControl_sep {ch : Char} (hc : isControl ch) : Quote.Sep ch := by
  unfold isControl at hc
  constructor
  · rintro rfl
    exact absurd hc (by decide)
  · cases h : isHexDigit ch with
    | false => rfl
    | true => have := (isHexDigit_toNat_iff ch).1 h; omega

/-- a control character of the output was already a (raw) character of the input -/
theorem unquote_no_new_control (U : List UInt8) (s : Str) :
    ∀ ch ∈ safelyUnquote U s, isControl ch → ch ∈ s :=
  fun _ hmem hctl => mem_of_control_mem_safelyUnquote hmem hctl

/-- **idempotence**: unquoting twice is unquoting once (for every unsafe set of ASCII bytes
containing `%`): a raw character `≥ U+0080` and its pending bytes are the same thing for `assemble`
(`assemble_expand`, `Lemmas/QuoteIdem.lean`), so the second pass reproduces the first. -/
theorem unquote_idempotent (U : List UInt8) (hU : (0x25 : UInt8) ∈ U) (hA : AsciiSet U) (s : Str) :
    safelyUnquote U (safelyUnquote U s) = safelyUnquote U s := safelyUnquote_idem U hU hA s

/-! ## upper_quoted

`upper_quoted = LOWERCASE_QUOTED_RE.sub(upper_match, ·)`: the function `canonicalize_url` and
`normalize_url` apply to the whole URL before parsing it (`Model/Canonicalize.lean`
`cleanUrl`, `Model/Normalize.lean` `preClean` call this very `upperQuoted`).  The clause "only
changes the case of hex digits inside valid escapes" is stated on plain string
decompositions, not on the model's tokens: an escape of `s` is any occurrence of `%` followed
by two hex digits, `s = a ++ %h1h2 ++ b`. -/

/-- position `i` of `s` holds one of the two hex digits of a valid escape of `s` -/
def EscDigitAt (s : Str) (i : Nat) : Prop :=
  ∃ a h1 h2 b, s = a ++ '%' :: h1 :: h2 :: b ∧ isHexDigit h1 = true ∧ isHexDigit h2 = true ∧
    (i = a.length + 1 ∨ i = a.length + 2)

/-- the scan of the output is the scan of the input with the hex digits of every escape
upper-cased: no escape appears, disappears or moves, raw characters and stray `%` stay -/
theorem upper_tokens (s : Str) : tokens (upperQuoted s) = (tokens s).map upperTok :=
  tokens_upperQuoted s

/-- same length -/
theorem upper_length (s : Str) : (upperQuoted s).length = s.length := by
  unfold upperQuoted
  rw [render_map_upperTok, applyMask, List.length_zipWith, length_upMask, Nat.min_self, Quote.render_tokens]

theorem upMask_iff (s : Str) (i : Nat) : (upMask (tokens s))[i]? = some true ↔ EscDigitAt s i := by
  constructor
  · intro hm
    obtain ⟨ta, h1, h2, tb, e, hi⟩ := upMask_true _ _ hm
    obtain ⟨hs, hh1, hh2⟩ := esc_of_tokens_eq e
    exact ⟨render ta, h1, h2, render tb, hs, hh1, hh2, hi⟩
  · rintro ⟨a, h1, h2, b, rfl, hh1, hh2, hi⟩
    have hl : (upMask (tokens a)).length = a.length := by rw [length_upMask, Quote.render_tokens]
    rw [tokens_append_esc hh1 hh2, upMask, List.flatMap_append, List.flatMap_cons, ← upMask, ← upMask,
      maskTok]
    rcases hi with rfl | rfl <;> rw [← hl] <;> simp

open Classical in
theorem upper_getElem? (s : Str) (i : Nat) :
    (upperQuoted s)[i]? = s[i]?.map fun c => if EscDigitAt s i then upperChar c else c := by
  have hr := render_map_upperTok (tokens s)
  rw [Quote.render_tokens] at hr
  have hlen := length_upMask (tokens s)
  rw [Quote.render_tokens] at hlen
  show (render ((tokens s).map upperTok))[i]? = _
  rw [hr, applyMask, List.getElem?_zipWith]
  have hiff := upMask_iff s i
  cases hm : (upMask (tokens s))[i]? with
  | none =>
    have : s[i]? = none := by rw [List.getElem?_eq_none_iff] at hm ⊢; omega
    simp [this]
  | some m =>
    rw [hm] at hiff
    cases m with
    | false =>
      have hn : ¬ EscDigitAt s i := fun h => nomatch hiff.2 h
      simp only [hn, if_false]; cases s[i]? <;> rfl
    | true =>
      have hp : EscDigitAt s i := hiff.1 rfl
      simp only [hp, if_true]; cases s[i]? <;> rfl

/-- (a, inside) at the position of a hex digit of a valid escape the output holds that digit
upper-cased -/
theorem upper_inside (s : Str) (i : Nat) (h : EscDigitAt s i) :
    (upperQuoted s)[i]? = s[i]?.map upperChar := by
  rw [upper_getElem?]; simp only [h, if_true]

/-- (a, outside) at every other position the output holds the character of the input -/
theorem upper_outside (s : Str) (i : Nat) (h : ¬ EscDigitAt s i) :
    (upperQuoted s)[i]? = s[i]? := by
  rw [upper_getElem?]; simp only [h, if_false]; cases s[i]? <;> rfl

/-- (a) the output equals the input up to ASCII case, everywhere -/
theorem upper_caseless (s : Str) : (upperQuoted s).map upperChar = s.map upperChar := by
  apply List.ext_getElem?
  intro i
  rw [List.getElem?_map, List.getElem?_map, upper_getElem?, Option.map_map]
  congr 1
  funext c
  simp only [Function.comp]
  split
  · exact upperChar_idem c
  · rfl

theorem escDigitAt_hex {s : Str} {i : Nat} (h : EscDigitAt s i) :
    ∃ d, s[i]? = some d ∧ isHexDigit d = true := by
  obtain ⟨a, h1, h2, b, rfl, hh1, hh2, hi⟩ := h
  rcases hi with rfl | rfl
  · exact ⟨h1, getElem?_mid1 _ _ _ _ _, hh1⟩
  · exact ⟨h2, getElem?_mid2 _ _ _ _ _, hh2⟩

/-- (a) a character that is not a hex digit — every delimiter, `%`, every non-ASCII
character — is where it was, and nothing else is there -/
theorem upper_nonhex_fixed (s : Str) (i : Nat) (c : Char) (hc : isHexDigit c = false) :
    (upperQuoted s)[i]? = some c ↔ s[i]? = some c := by
  by_cases h : EscDigitAt s i
  · -- both sides are false: position `i` holds a hex digit in both strings
    obtain ⟨d, hd, hhd⟩ := escDigitAt_hex h
    rw [upper_inside s i h, hd]
    simp only [Option.map_some, Option.some.injEq]
    constructor <;> rintro rfl
    · rw [isHexDigit_upperChar, hhd] at hc; cases hc
    · rw [hc] at hhd; cases hhd
  · rw [upper_outside s i h]

/-- the escapes of the output are where the escapes of the input are -/
theorem upper_same_escapes (s : Str) (i : Nat) : EscDigitAt (upperQuoted s) i ↔ EscDigitAt s i := by
  rw [← upMask_iff, ← upMask_iff, upper_tokens, upMask_map_upperTok]

/-- (c) idempotent -/
theorem upper_idempotent (s : Str) : upperQuoted (upperQuoted s) = upperQuoted s := by
  show render ((tokens (upperQuoted s)).map upperTok) = upperQuoted s
  rw [upper_tokens, List.map_map]
  have : upperTok ∘ upperTok = upperTok := by funext t; exact upperTok_idem t
  rw [this]; rfl

/-- (b) every valid escape of the output — any `%` followed by two hex digits in it — has
upper-case hex digits -/
theorem upper_escapes_upper (s a b : Str) (h1 h2 : Char)
    (h : upperQuoted s = a ++ '%' :: h1 :: h2 :: b)
    (hh1 : isHexDigit h1 = true) (hh2 : isHexDigit h2 = true) :
    isUpperHex h1 = true ∧ isUpperHex h2 = true := by
  -- `upper_quoted` leaves its output alone and works piecewise around the escape: it leaves `h1`, `h2` alone
  have e := upper_idempotent s
  rw [h, upperQuoted_append_esc hh1 hh2] at e
  have e' := (List.append_inj e (upper_length a)).2
  simp only [List.cons.injEq] at e'
  exact ⟨(isUpperHex_iff_fixed h1).2 ⟨hh1, e'.2.1⟩, (isUpperHex_iff_fixed h2).2 ⟨hh2, e'.2.2.1⟩⟩

/-- `upper_quoted` leaves a string alone exactly when each of its escapes is upper-case -/
theorem upper_fixed_iff (s : Str) :
    upperQuoted s = s ↔
      ∀ a h1 h2 b, s = a ++ '%' :: h1 :: h2 :: b → isHexDigit h1 = true → isHexDigit h2 = true →
        isUpperHex h1 = true ∧ isUpperHex h2 = true := by
  constructor
  · intro hfix a h1 h2 b e hh1 hh2
    exact upper_escapes_upper s a b h1 h2 (by rw [hfix]; exact e) hh1 hh2
  · intro hall
    have : (tokens s).map upperTok = tokens s := by
      apply map_eq_self
      intro t ht
      cases t with
      | raw c => rfl
      | stray => rfl
      | esc h1 h2 =>
        obtain ⟨ta, tb, e⟩ := List.append_of_mem ht
        obtain ⟨hs, hh1, hh2⟩ := esc_of_tokens_eq e
        obtain ⟨u1, u2⟩ := hall _ _ _ _ hs hh1 hh2
        simp only [upperTok, ((isUpperHex_iff_fixed h1).1 u1).2, ((isUpperHex_iff_fixed h2).1 u2).2]
    show render ((tokens s).map upperTok) = s
    rw [this, Quote.render_tokens]

/-- (d) the output decodes to the same bytes as the input -/
theorem upper_pct (s : Str) : pctStr (upperQuoted s) = pctStr s := by
  simp only [pctStr, upper_tokens, pct_map_upperTok]

/-- (d) raw delimiters and stray percent signs: as many in the output as in the input (with
`upper_tokens`: the same ones at the same places) -/
theorem upper_delimiters (s : Str) (d : Char) :
    (tokens (upperQuoted s)).count (.raw d) = (tokens s).count (.raw d) ∧
    (tokens (upperQuoted s)).count .stray = (tokens s).count .stray := by
  rw [upper_tokens]
  exact ⟨count_map_upperTok (fun _ _ => Tok.noConfusion) _, count_map_upperTok (fun _ _ => Tok.noConfusion) _⟩

/-- `upper_quoted` and a safe unquoter can be applied in either order -/
theorem upper_commutes_unquote (U : List UInt8) (hU : (0x25 : UInt8) ∈ U) (s : Str) :
    safelyUnquote U (upperQuoted s) = upperQuoted (safelyUnquote U s) :=
  safelyUnquote_upperQuoted U hU s

/-- `upper_quoted` and `safely_quote` can be applied in either order -/
theorem upper_commutes_quote (s : Str) : safelyQuote (upperQuoted s) = upperQuoted (safelyQuote s) := by
  rw [safelyQuote_fun]; exact upper_commutes_quoteBy safeSet_quoteSafe s

/-- what `canonicalize_url` / `normalize_url` do — `upper_quoted` on the whole URL first, the
safe unquoters (and `safely_quote`) on its components afterwards — leaves only upper-case
escapes: the later steps do not bring a lower-case escape back -/
theorem upper_kept_by_quoters (U : List UInt8) (hU : (0x25 : UInt8) ∈ U) (s : Str)
    (h : upperQuoted s = s) :
    upperQuoted (safelyUnquote U s) = safelyUnquote U s ∧ upperQuoted (safelyQuote s) = safelyQuote s := by
  rw [← upper_commutes_unquote U hU, ← upper_commutes_quote, h]
  exact ⟨rfl, rfl⟩

example :
    upperQuoted "%c3%A9%e9%zz%4%%2fé%aG".toList = "%C3%A9%E9%zz%4%%2Fé%aG".toList ∧
    upperQuoted "a%2f".toList ≠ "a%2f".toList ∧
    EscDigitAt "a%2f".toList 2 ∧ EscDigitAt "a%2f".toList 3 ∧ ¬ EscDigitAt "%zf%".toList 2 := by
  simp only [toList_lit]
  refine ⟨by decide +kernel, by decide +kernel, ⟨['a'], '2', 'f', [], rfl, rfl, rfl, .inl rfl⟩,
    ⟨['a'], '2', 'f', [], rfl, rfl, rfl, .inr rfl⟩, ?_⟩
  rintro ⟨a, h1, h2, b, e, hh1, hh2, hi⟩
  match a, e with
  | [], e => simp at e; obtain ⟨rfl, _⟩ := e; revert hh1; decide
  | [x], e => simp at e
  | [x, y], e => simp at e
  | x :: y :: z :: r, e => simp at hi

/-! ## string-level forms and the remaining clauses of the statement -/

/-- "every pre-existing `%XX` escape is kept as is", on plain strings: around any occurrence
of `%` + two hex digits, `safely_quote` works on what precedes and on what follows, and copies
the escape -/
theorem quote_keeps_escapes_str (a b : Str) (h1 h2 : Char)
    (hh1 : isHexDigit h1 = true) (hh2 : isHexDigit h2 = true) :
    safelyQuote (a ++ '%' :: h1 :: h2 :: b) = safelyQuote a ++ '%' :: h1 :: h2 :: safelyQuote b := by
  rw [safelyQuote_fun]; exact safelyQuoteBy_append_esc _ hh1 hh2 a b

/-- "everything else is escaped": outside its escapes the output of `safely_quote` only holds
characters that `urllib.parse.quote` leaves alone (unreserved and `/`), and no stray `%` -/
theorem quote_rest_escaped (s : Str) :
    (∀ c, Tok.raw c ∈ tokens (safelyQuote s) → quoteSafe c = true) ∧
    Tok.stray ∉ tokens (safelyQuote s) := by
  rw [safelyQuote_fun]
  exact ⟨raw_tokens_safelyQuoteBy safeSet_quoteSafe s, stray_not_mem_safelyQuoteBy safeSet_quoteSafe s⟩

/-- the output of a safe unquoter has no stray `%`: nothing in it can combine with what a
later pass decodes into a new escape -/
theorem unquote_no_stray (U : List UInt8) (hU : (0x25 : UInt8) ∈ U) (s : Str) :
    Tok.stray ∉ tokens (safelyUnquote U s) := by
  intro h
  rw [tokens_safelyUnquote U hU] at h
  exact canon_unquoteToks hU s _ h

/-- "leaves escaped every character that delimits its component", for any table: every byte
of the unsafe set other than the space is a character whose raw occurrences are the same in
the output and in the input -/
theorem unquote_delimiters_table (U : List UInt8) (hU : (0x25 : UInt8) ∈ U) (hA : AsciiSet U)
    (b : UInt8) (hb : b ∈ U) (hsp : b ≠ 0x20) (s : Str) :
    (tokens (safelyUnquote U s)).count (.raw (Char.ofNat b.toNat)) =
      (tokens s).count (.raw (Char.ofNat b.toNat)) := by
  have hlt := hA b hb
  have hn : (Char.ofNat b.toNat).toNat = b.toNat := toNat_ofNat_small _ (by omega)
  exact unquote_delimiters U hU _ (by omega) (fun e => hsp (byte_of_ofNat_eq e))
    (by rw [hn, UInt8.ofNat_toNat]; exact hb) s

/-- "introduces no control character", counting form: a control character occurs in the
output at most as often as in the input (exactly as often for C0 controls and DEL — their
escapes are kept —, never for C1 controls) -/
theorem unquote_control_count (U : List UInt8) (hU : (0x25 : UInt8) ∈ U) (s : Str) (ch : Char)
    (hc : isControl ch) : (safelyUnquote U s).count ch ≤ s.count ch := by
  by_cases hlow : ch.toNat < 0x20 ∨ ch.toNat = 0x7f
  · have hsp : ch ≠ ' ' := by rintro rfl; revert hlow; decide
    exact Nat.le_of_eq (count_of_cut
      (safelyUnquote_append_sep U (isControl_sep hc) hsp (staysEscaped_of_lt (by omega)))
      (fun _ ha hm => ha (mem_of_control_mem_safelyUnquote hm hc)) s)
  · rw [List.count_eq_zero.2 fun hm => ?_]
    · exact Nat.zero_le _
    · have hc1 : isC1 ch = true := by
        unfold isControl at hc
        simp only [isC1, Bool.and_eq_true, decide_eq_true_eq]
        omega
      simpa [staysEscaped, hc1] using staysEscaped_safelyUnquote U s ch hm

/-- **unquote then quote** (what `canonicalize_url(quoted=True)` applies to a component): the
scan of `safely_unquote_*(safely_quote(safely_unquote_*(s)))` is the scan of
`safely_unquote_*(s)` with its raw delimiters and control characters spelled as escapes -/
theorem unquote_quote_unquote (U : List UInt8) (hU : (0x25 : UInt8) ∈ U) (hA : AsciiSet U) (s : Str) :
    tokens (safelyUnquote U (safelyQuote (safelyUnquote U s))) =
      (tokens (safelyUnquote U s)).map (harden U) := by
  rw [safelyQuote_fun, harden_fun]; exact unquote_quoteBy_unquote safeSet_quoteSafe U hU hA s

/-- … hence `safely_quote ∘ safely_unquote_*` is idempotent, for every string -/
theorem quote_unquote_idempotent (U : List UInt8) (hU : (0x25 : UInt8) ∈ U) (hA : AsciiSet U) (s : Str) :
    safelyQuote (safelyUnquote U (safelyQuote (safelyUnquote U s))) = safelyQuote (safelyUnquote U s) := by
  rw [safelyQuote_fun]; exact quoteBy_unquote_idempotent safeSet_quoteSafe U hU hA s

/-- **a raw `+` and `%2B` are never rewritten into each other in a query item**
(FX-C01-6e09416): the safe unquoter keeps the raw `+` where they are and `%2B` escaped (`+` is in
`UNSAFE_FOR_QUERY_ITEM`), the quoting step of query items leaves the raw `+` alone and keeps
`%2B` as written -/
theorem query_plus_kept (a b : Str) :
    (tokens (Canonicalize.unquoteQueryItem a)).count (.raw '+') = (tokens a).count (.raw '+') ∧
    (tokens (quoteQueryItem a)).count (.raw '+') = (tokens a).count (.raw '+') ∧
    quoteQueryItem (a ++ '+' :: b) = quoteQueryItem a ++ '+' :: quoteQueryItem b ∧
    quoteQueryItem (a ++ '%' :: '2' :: 'B' :: b) =
      quoteQueryItem a ++ '%' :: '2' :: 'B' :: quoteQueryItem b := by
  refine ⟨?_, ?_, ?_, ?_⟩
  · exact unquote_delimiters _ tables_percent_unsafe.2.2.1 '+' (by decide) (by decide) (by decide) a
  · show (tokens (safelyQuoteBy quoteSafeQ a)).count (.raw '+') = _
    rw [quoteBy_tokens safeSet_quoteSafeQ]
    exact count_raw_quoteToksBy (by decide) _
  · exact safelyQuoteBy_append_sep ⟨by decide, by decide⟩ (by decide) a b
  · exact safelyQuoteBy_append_esc _ (by decide) (by decide) a b

/-! ## the four configurations the public API uses

`safely_unquote_auth_item`, `_path`, `_query_item`, `_fragment` are `safelyUnquote` at the four
regenerated tables (`tables_flags`: nothing else differs).  Every clause of the statement, for
each of them, with no hypothesis left. -/

def apiTables : List (List UInt8) :=
  [Gen.Quote.unsafeForAuthItem, Gen.Quote.unsafeForPath, Gen.Quote.unsafeForQueryItem,
    Gen.Quote.unsafeForFragment]

theorem api_tables_ok (U : List UInt8) (h : U ∈ apiTables) : (0x25 : UInt8) ∈ U ∧ AsciiSet U := by
  obtain ⟨p1, p2, p3, p4⟩ := tables_percent_unsafe
  obtain ⟨a1, a2, a3, a4⟩ := tables_ascii
  simp only [apiTables, List.mem_cons, List.not_mem_nil, or_false] at h
  rcases h with rfl | rfl | rfl | rfl
  · exact ⟨p1, a1⟩
  · exact ⟨p2, a2⟩
  · exact ⟨p3, a3⟩
  · exact ⟨p4, a4⟩

/-- each `safely_unquote_*` function, for every string: same decoded bytes; no raw space; no
new control character; no stray `%` left; idempotent; idempotent when followed by
`safely_quote`; commutes with `upper_quoted`; every byte of its own unsafe set other than the
space has the same raw occurrences in the output as in the input -/
theorem api_unquote_contract (U : List UInt8) (h : U ∈ apiTables) (s : Str) :
    pctStr (safelyUnquote U s) = pctStr s ∧
    ' ' ∉ safelyUnquote U s ∧
    (∀ ch, isControl ch → (safelyUnquote U s).count ch ≤ s.count ch) ∧
    Tok.stray ∉ tokens (safelyUnquote U s) ∧
    safelyUnquote U (safelyUnquote U s) = safelyUnquote U s ∧
    safelyQuote (safelyUnquote U (safelyQuote (safelyUnquote U s))) = safelyQuote (safelyUnquote U s) ∧
    safelyUnquote U (upperQuoted s) = upperQuoted (safelyUnquote U s) ∧
    (∀ b ∈ U, b ≠ 0x20 → (tokens (safelyUnquote U s)).count (.raw (Char.ofNat b.toNat)) =
      (tokens s).count (.raw (Char.ofNat b.toNat))) := by
  obtain ⟨hU, hA⟩ := api_tables_ok U h
  exact ⟨unquote_pct U hU s, unquote_no_space U s, unquote_control_count U hU s,
    unquote_no_stray U hU s, unquote_idempotent U hU hA s, quote_unquote_idempotent U hU hA s,
    upper_commutes_unquote U hU s, fun b hb hsp => unquote_delimiters_table U hU hA b hb hsp s⟩

/-- the delimiters of each component, by name (the lists of the table obligations
`tables_*_delims`): `@ : / ? #` for a userinfo item, `/ ? #` for a path, `& = #` and `+` for a
query item stay raw where raw and escaped where escaped (counting form; the positional form is
`api_delimiters_positional`; a fragment has no delimiter of its own;
`unquote_delimiters_table` covers every further byte of each table, `[ ]` of the userinfo
table included) -/
theorem api_delimiters (s : Str) :
    (∀ d ∈ ['@', ':', '/', '?', '#'],
      (tokens (safelyUnquote Gen.Quote.unsafeForAuthItem s)).count (.raw d) = (tokens s).count (.raw d)) ∧
    (∀ d ∈ ['/', '?', '#'],
      (tokens (safelyUnquote Gen.Quote.unsafeForPath s)).count (.raw d) = (tokens s).count (.raw d)) ∧
    (∀ d ∈ ['&', '=', '#', '+'],
      (tokens (safelyUnquote Gen.Quote.unsafeForQueryItem s)).count (.raw d) = (tokens s).count (.raw d)) := by
  have key : ∀ (U : List UInt8), (0x25 : UInt8) ∈ U → ∀ ds : List Char,
      (∀ d ∈ ds, d.toNat < 0x80 ∧ d ≠ ' ' ∧ UInt8.ofNat d.toNat ∈ U) →
      ∀ d ∈ ds, (tokens (safelyUnquote U s)).count (.raw d) = (tokens s).count (.raw d) := by
    intro U hU ds hds d hd
    obtain ⟨h1, h2, h3⟩ := hds d hd
    exact unquote_delimiters U hU d h1 h2 h3 s
  obtain ⟨p1, p2, p3, _⟩ := tables_percent_unsafe
  exact ⟨key _ p1 _ (by decide), key _ p2 _ (by decide), key _ p3 _ (by decide)⟩

/-- the named delimiters, **positional form**: each function, applied to a string cut at the
raw occurrences of one of its delimiters, gives the function applied to the pieces, cut at the
same delimiter -/
theorem api_delimiters_positional (s : Str) :
    (∀ d ∈ ['@', ':', '/', '?', '#', '[', ']'],
      splitOn (safelyUnquote Gen.Quote.unsafeForAuthItem s) d =
        (splitOn s d).map (safelyUnquote Gen.Quote.unsafeForAuthItem)) ∧
    (∀ d ∈ ['/', '?', '#'],
      splitOn (safelyUnquote Gen.Quote.unsafeForPath s) d =
        (splitOn s d).map (safelyUnquote Gen.Quote.unsafeForPath)) ∧
    (∀ d ∈ ['&', '=', '#', '+'],
      splitOn (safelyUnquote Gen.Quote.unsafeForQueryItem s) d =
        (splitOn s d).map (safelyUnquote Gen.Quote.unsafeForQueryItem)) := by
  have key : ∀ (U : List UInt8) (ds : List Char),
      (∀ d ∈ ds, Sep d ∧ d ≠ ' ' ∧ d.toNat < 0x80 ∧ UInt8.ofNat d.toNat ∈ U) →
      ∀ d ∈ ds, splitOn (safelyUnquote U s) d = (splitOn s d).map (safelyUnquote U) := by
    intro U ds hds d hd
    obtain ⟨h1, h2, h3, h4⟩ := hds d hd
    exact splitOn_safelyUnquote U h1 h2 h3 h4 s
  refine ⟨key _ _ ?_, key _ _ ?_, key _ _ ?_⟩ <;>
  · unfold Quote.Sep
    decide

/-- **the model follows the order of the code**: each `safely_unquote_*` function computed the
way `unquote` does — decode the escapes (`_unquote_impl` + `.decode("utf-8", "ural.requote")` per
ASCII run), THEN `NON_PRINTABLE_RE.sub` on the decoded string, THEN `.replace(" ", "%20")`
(`safelyUnquotePost`, `Model/Quote.lean`) — is the function `safelyUnquote` of the theorems
above, which escapes the raw non-printable characters before decoding -/
theorem api_code_order (U : List UInt8) (h : U ∈ apiTables) (s : Str) :
    safelyUnquotePost U s = safelyUnquote U s :=
  safelyUnquotePost_eq U (api_tables_ok U h).2 s

/-- the case the equality is about: a raw no-break space between two halves of an escaped
character, and in front of a continuation byte -/
example :
    decodeOnly Gen.Quote.unsafeForPath "%E2\u00a0%A0 %C2%A0%41".toList = "%E2\u00a0%A0 \u00a0A".toList ∧
    safelyUnquotePost Gen.Quote.unsafeForPath "%E2\u00a0%A0 %C2%A0%41".toList =
      "%E2%C2%A0%A0%20%C2%A0A".toList ∧
    safelyUnquote Gen.Quote.unsafeForPath "%E2\u00a0%A0 %C2%A0%41".toList =
      "%E2%C2%A0%A0%20%C2%A0A".toList := by
  simp only [toList_lit]
  decide +kernel

/-- the functions `canonicalize_url`'s model applies to the components are these four
configurations (and `safely_quote`, `upper_quoted` themselves): the theorems above are about
what the public API runs -/
theorem api_functions :
    (∀ s, Canonicalize.unquoteAuthItem s =
      requoteNfkc (safelyUnquote Gen.Quote.unsafeForAuthItem s)) ∧
    Canonicalize.unquotePath = safelyUnquote Gen.Quote.unsafeForPath ∧
    Canonicalize.unquoteQueryItem = safelyUnquote Gen.Quote.unsafeForQueryItem ∧
    Canonicalize.unquoteFragment = safelyUnquote Gen.Quote.unsafeForFragment ∧
    (∀ url dp, Canonicalize.cleanUrl url dp =
      UrlParts.ensureProtocol (upperQuoted (strip (UrlParts.stripControl url))) dp) :=
  ⟨fun _ => rfl, rfl, rfl, rfl, fun _ _ => rfl⟩

/-! ## `safely_unquote_auth_item` (FX-C01-194b1c7): the partial, then `requoteNfkc` -/

/-- **table obligation** (the model describes the code): the real `safely_unquote_auth_item`
differs from `partial(unquote, …)` of the regenerated configuration exactly on the non-ASCII code
points the running `urlsplit` refuses in a netloc for their NFKC form (`Gen.nfkcDelimCodes`,
probed: every code point escaped, the candidates also in lower case and raw), on which it gives `quote(char)`; the
model's `nfkcDelimChar` is membership in that table.  On a /repo without the wrapper of FX-C01-194b1c7 the
probed list is empty and the flag false: the obligation fails. -/
theorem tables_auth_wrapper :
    Gen.Quote.authItemRequotesNfkcDelims = true ∧
    Gen.Quote.authItemRequotedCodes = Gen.nfkcDelimCodes ∧
    Gen.nfkcDelimCodes ≠ [] ∧
    (∀ c : Char, nfkcDelimChar c = Gen.Quote.authItemRequotedCodes.contains c.toNat) :=
  ⟨by decide, by decide, by decide, fun _ => rfl⟩

/-- **`safely_unquote_auth_item`, for every string** — the clauses of `api_unquote_contract` for
the function the API runs on a user name / password (FX-C01-194b1c7): same decoded bytes;
no raw space; no control character more often than in the input; no stray `%`; idempotent;
idempotent when followed by `safely_quote`, and `safely_quote` after it is `safely_quote` after the
bare partial (quoted mode does not see the wrapper); commutes with `upper_quoted`; the delimiters
`@ : / ? # [ ]` have the same raw occurrences in the output as in the input — and the clause of its own:
**no character of the output is one `urlsplit` refuses for its NFKC form**; where the partial
decodes no such character the function is the partial -/
theorem auth_item_contract (s : Str) :
    pctStr (safelyUnquoteAuthItem s) = pctStr s ∧
    ' ' ∉ safelyUnquoteAuthItem s ∧
    (∀ ch, isControl ch → (safelyUnquoteAuthItem s).count ch ≤ s.count ch) ∧
    Tok.stray ∉ tokens (safelyUnquoteAuthItem s) ∧
    safelyUnquoteAuthItem (safelyUnquoteAuthItem s) = safelyUnquoteAuthItem s ∧
    safelyQuote (safelyUnquoteAuthItem (safelyQuote (safelyUnquoteAuthItem s))) =
      safelyQuote (safelyUnquoteAuthItem s) ∧
    safelyQuote (safelyUnquoteAuthItem s) =
      safelyQuote (safelyUnquote Gen.Quote.unsafeForAuthItem s) ∧
    safelyUnquoteAuthItem (upperQuoted s) = upperQuoted (safelyUnquoteAuthItem s) ∧
    (∀ d ∈ ['@', ':', '/', '?', '#', '[', ']'],
      (tokens (safelyUnquoteAuthItem s)).count (.raw d) = (tokens s).count (.raw d)) ∧
    (∀ c ∈ safelyUnquoteAuthItem s, c.toNat ∉ Gen.nfkcDelimCodes) ∧
    ((∀ c ∈ safelyUnquote Gen.Quote.unsafeForAuthItem s, c.toNat ∉ Gen.nfkcDelimCodes) →
      safelyUnquoteAuthItem s = safelyUnquote Gen.Quote.unsafeForAuthItem s) := by
  have hU := pct_auth
  have hA := asciiSet_authItem
  refine ⟨pctStr_authItem s, ?_, ?_, ?_, authItem_idem s, ?_, safelyQuote_authItem s, ?_, ?_, ?_,
    fun h => authItem_eq_partial h⟩
  · intro hm
    rcases mem_requoteNfkc_cases hm with h | h | h
    · exact unquote_no_space _ s h
    · revert h; decide
    · revert h; decide
  · intro ch hc
    exact Nat.le_trans (count_requoteBy_le nfkcDelimChar (isControl_sep hc) _) (unquote_control_count _ hU s ch hc)
  · intro h
    rw [tokens_authItem] at h
    exact canon_nfkcToks (canon_unquoteToks pct_auth s) _ h
  · rw [safelyQuote_authItem, safelyQuote_authItem]
    exact quote_unquote_idempotent _ hU hA s
  · exact authItem_upperQuoted s
  · intro d hd
    have key : ∀ d ∈ ['@', ':', '/', '?', '#', '[', ']'], d.toNat < 0x80 ∧ d ≠ ' ' ∧
        UInt8.ofNat d.toNat ∈ Gen.Quote.unsafeForAuthItem := by decide
    obtain ⟨h1, h2, h3⟩ := key d hd
    rw [tokens_authItem, count_raw_nfkcToks d h1, ← tokens_safelyUnquote _ hU]
    exact unquote_delimiters _ hU d h1 h2 h3 s
  · intro c hc hm
    have := authItem_no_nfkc s c hc
    simp [nfkcDelimChar, hm] at this

/-- `safely_unquote_qsl` / `safely_quote_qsl` (key/value lists): same shape — as many pairs, a
missing value stays missing —, keys and values decode to the same bytes, and each of the two,
and `quote ∘ unquote`, is idempotent -/
theorem qsl_contract (l : List (Str × Option Str)) :
    (Canonicalize.unquoteQsl l).map (fun p => (pctStr p.1, p.2.map pctStr)) =
      l.map (fun p => (pctStr p.1, p.2.map pctStr)) ∧
    (Canonicalize.quoteQsl l).map (fun p => (pctStr p.1, p.2.map pctStr)) =
      l.map (fun p => (pctStr p.1, p.2.map pctStr)) ∧
    Canonicalize.unquoteQsl (Canonicalize.unquoteQsl l) = Canonicalize.unquoteQsl l ∧
    Canonicalize.quoteQsl (Canonicalize.quoteQsl l) = Canonicalize.quoteQsl l ∧
    Canonicalize.quoteQsl (Canonicalize.unquoteQsl (Canonicalize.quoteQsl (Canonicalize.unquoteQsl l))) =
      Canonicalize.quoteQsl (Canonicalize.unquoteQsl l) := by
  obtain ⟨_, _, hU, _⟩ := tables_percent_unsafe
  obtain ⟨_, _, hA, _⟩ := tables_ascii
  have hp := unquote_pct _ hU
  have hi := unquote_idempotent _ hU hA
  have hq : ∀ s, quoteQueryItem (safelyUnquote Gen.Quote.unsafeForQueryItem (quoteQueryItem
      (safelyUnquote Gen.Quote.unsafeForQueryItem s))) =
      quoteQueryItem (safelyUnquote Gen.Quote.unsafeForQueryItem s) :=
    quoteBy_unquote_idempotent safeSet_quoteSafeQ _ hU hA
  have hqp : ∀ s, pctStr (quoteQueryItem s) = pctStr s :=
    pctStr_safelyQuoteBy safeSet_quoteSafeQ
  have hqi : ∀ s, quoteQueryItem (quoteQueryItem s) = quoteQueryItem s :=
    safelyQuoteBy_idem safeSet_quoteSafeQ
  simp only [Canonicalize.unquoteQsl, Canonicalize.quoteQsl, Canonicalize.unquoteQueryItem,
    List.map_map]
  refine ⟨?_, ?_, ?_, ?_, ?_⟩ <;>
  · apply List.map_congr_left
    rintro ⟨k, v⟩ _
    cases v <;> simp [hp, hi, hq, hqp, hqi]

/-! ## non-vacuity: the path configuration and `safely_quote` on strings with every kind of token -/

example :
    safelyUnquote Gen.Quote.unsafeForPath "/a%E9b%C3%A9 %41%2F%zz%C2%85%7F%2541".toList
      = "/a%E9bé%20A%2F%25zz%C2%85%7F%2541".toList ∧
    safelyQuote "té%20 %zz/".toList = "t%C3%A9%20%20%25zz/".toList := by
  simp only [toList_lit]
  decide +kernel

/-- quoted mode on a path with a raw delimiter, a raw control character and a raw non-ASCII
character: the second round changes nothing, although unquoting the quoted form is not the
first unquoted form (`?` has become `%3F`) -/
example :
    safelyQuote (safelyUnquote Gen.Quote.unsafeForPath "a?é%41\n[".toList) = "a%3F%C3%A9A%0A%5B".toList ∧
    safelyUnquote Gen.Quote.unsafeForPath "a%3F%C3%A9A%0A%5B".toList = "a%3FéA%0A[".toList ∧
    safelyUnquote Gen.Quote.unsafeForPath "a?é%41\n[".toList = "a?éA\n[".toList ∧
    Gen.Quote.unsafeForPath ∈ apiTables := by
  simp only [toList_lit]
  decide +kernel

end Ural.Props.C14
