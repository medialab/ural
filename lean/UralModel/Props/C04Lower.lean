import UralModel.Props.C04
import UralModel.Lemmas.NormBridge
import UralModel.Lemmas.C04Lower
/-!
# C04 on the TUPLE `normalize_url(…, unsplit=False)`, for both values of `lowercase`

`fingerprint_url` calls `normalize_url(url.lower(), lowercase=True, unsplit=False)`: for
"fingerprint_url ignores everything normalize_url ignores" (C06) the invariances of the family are
needed for **every** `o : Opts` (hypotheses about what the code looks at after unescaping stated on
the case-folded text `lcStr o …` / `lcItem o …`) and on the **tuple** of a string of the grammar
class: one `partsG_*` per transformation of the family.  The `normG_*` of `Props/C04Whole.lean`,
about the printed string, follow from them.

`Props/C06Fp.lean` instantiates them at `fpOpts`.
-/
set_option linter.unusedSimpArgs false
namespace Ural.Props.C04
open Ural Ural.Py Ural.UrlParts Ural.Quote Ural.Canonicalize Ural.Normalize Ural.Normpath Ural.NormBridge

/-- the `lowercase = false` statements of `Props/C04.lean` are instances of the `norm_*_lc`: e.g. -/
example (puny : Str → Str) (o : Normalize.Opts) (hl : o.lowercase = false) (hts : o.stripTrailingSlash = true)
    (hp : Bool) (p : Parsed) (q q' : Str) (a : QItem) (L1 L2 : List QItem) (x : QItem)
    (hq : decoded q = a :: L1 ++ x :: L2) (hq' : decoded q' = a :: L1 ++ L2)
    (hx : keepItem o (hostKey puny p.hostname) (seenAt o x) = false) :
    normParts puny o hp { p with query := q } = normParts puny o hp { p with query := q' } :=
  norm_tracking_item_any_position_lc puny o hts hp p q q' a L1 L2 x hq hq'
    (by rw [lcItem_false o hl]; exact hx)

/-- non-vacuity under `lowercase`: `UTM_Source=X` between two kept items, `Index.HTML`, `#Top`
(the options are those `fingerprint_url` passes) -/
example :
    let o : Normalize.Opts := { lowercase := true, queryItemFilter := .lang }
    keepItem o (some "a.com".toList) (lcItem o (seenAt o ("UTM_Source".toList, some "X".toList))) = false ∧
    keepItem { o with lowercase := false } (some "a.com".toList)
      (lcItem { o with lowercase := false } (seenAt o ("UTM_Source".toList, some "X".toList))) = false ∧
    splitextRoot (lcStr o (unquotePath "Index.HTML".toList)) = "index".toList ∧
    splitextRoot (unquotePath "Index.HTML".toList) ≠ "index".toList ∧
    shouldStripFragment (unquoteFragment "Top".toList) = false := by
  simp only [toList_lit]
  decide +kernel

theorem lower_eq_nil_iff {s : Str} : lower s = [] ↔ s = [] := lower_eq_nil

/-- no fragment, or one the fragment rule drops (the hypothesis of `norm_fragment_nonrouting`) -/
def DroppedFragment (o : Normalize.Opts) : Option Str → Prop
  | none => True
  | some f => o.stripFragment = .yes ∨
      (o.stripFragment = .exceptRouting ∧ shouldStripFragment (unquoteFragment f) = false)

instance (o : Normalize.Opts) (f : Option Str) : Decidable (DroppedFragment o f) := by
  cases f <;> (unfold DroppedFragment; infer_instance)

theorem record_query (g : UrlG) (q : Str) (po : Option Nat) :
    ({ g with query := some q } : UrlG).record po = { g.record po with query := q } := rfl

theorem record_query_self (g : UrlG) (q : Str) (po : Option Nat) (h : g.query = some q) :
    g.record po = { g.record po with query := q } := by
  simp [UrlG.record, h]

/-! ## the tuple on a string of the grammar -/

/-- `normalize_url(…, unsplit=False)` on a string of the grammar, from the pieces (`none`: the
port text is no port, the argument is returned as it is) -/
def partsG (puny : Str → Str) (o : Normalize.Opts) (g : UrlG) : Option Split :=
  g.parsed.map fun p => normParts puny o g.proto.hasProto p

/-- the printed string is a function of the tuple and of whether a protocol was written -/
theorem normG_eq_partsG (puny : Str → Str) (o : Normalize.Opts) (g : UrlG) :
    normG puny o g = (partsG puny o g).map (finalString o g.proto.hasProto) := by
  unfold normG partsG
  cases g.parsed <;> rfl

/-- **`normalize_url(…, unsplit=False)` on a string of the class is `partsG`** -/
theorem normalizeUrlSplit_partsG (puny : Str → Str) (o : Normalize.Opts) (ir : Bool) (g : UrlG) (x : Str)
    (hg : InClassOf ir g x) :
    normalizeUrlSplit puny parseUrl id o ir x =
      match partsG puny o g with
      | none => .inl x
      | some r => .inr r := by
  rw [normalizeUrlSplit_grammar puny o ir g x hg]
  unfold partsG
  cases g.parsed <;> rfl

/-- a transformation that keeps prefix and port value: it is enough to compare the tuples on the
two `Parsed` records -/
theorem partsG_congr (puny : Str → Str) (o : Normalize.Opts) (g g' : UrlG) (hproto : g'.proto = g.proto)
    (hport : portVal g'.port = portVal g.port)
    (h : ∀ po, normParts puny o g.proto.hasProto (g'.record po) =
      normParts puny o g.proto.hasProto (g.record po)) :
    partsG puny o g' = partsG puny o g := by
  unfold partsG UrlG.parsed
  rw [hport, hproto]
  cases portVal g.port with
  | none => rfl
  | some po => simp only [Option.map_some, h po]

/-- scheme swap / removal (`strip_protocol`) -/
theorem partsG_scheme (puny : Str → Str) (o : Normalize.Opts) (hs : o.stripProtocol = true)
    (g : UrlG) (P : Proto) :
    partsG puny o ({ g with proto := P } : UrlG) = partsG puny o g := by
  unfold partsG UrlG.parsed
  cases portVal g.port with
  | none => rfl
  | some po =>
    simp only [Option.map_some]
    have := (norm_scheme_irrelevant puny o P.hasProto g.proto.hasProto (g.record po) P.parsedScheme
      (by simp [hs]) (by simp [hs])).1
    exact congrArg some this

/-- userinfo (`strip_authentication`) -/
theorem partsG_userinfo (puny : Str → Str) (o : Normalize.Opts) (hs : o.stripAuthentication = true)
    (g : UrlG) (ui' : Option Str) :
    partsG puny o ({ g with ui := ui' } : UrlG) = partsG puny o g := by
  refine partsG_congr puny o g _ rfl rfl ?_
  intro po
  exact norm_userinfo_irrelevant puny o _ (g.record po) _ _ _ hs

/-- explicit `:80` / `:443` -/
theorem partsG_default_port (puny : Str → Str) (o : Normalize.Opts) (g : UrlG) (p : Str)
    (n : Nat) (hn : n = 80 ∨ n = 443) (hp : portVal (some p) = some (some n))
    (hbase : portVal g.port = some none) :
    partsG puny o ({ g with port := some p } : UrlG) = partsG puny o g := by
  unfold partsG UrlG.parsed
  simp only [hp, hbase, Option.map_some]
  congr 1
  simp only [normParts_eq, UrlG.record, UrlG.hostname, normPort, hn, if_true]

/-- letter case of the host -/
theorem partsG_host_case (puny : Str → Str) (o : Normalize.Opts) (g : UrlG) (h' : Str)
    (hl : lower h' = lower g.host) (hpct : '%' ∉ g.host) (hpct' : '%' ∉ h') :
    partsG puny o ({ g with host := h' } : UrlG) = partsG puny o g := by
  refine partsG_congr puny o g _ rfl rfl ?_
  intro po
  have hh : ({ g with host := h' } : UrlG).hostname = g.hostname := by
    unfold UrlG.hostname
    simp only [lowerHost_of_no_pct hpct, lowerHost_of_no_pct hpct', hl]
    have : h' = [] ↔ g.host = [] := by rw [← lower_eq_nil_iff, hl, lower_eq_nil_iff]
    by_cases he : g.host = []
    · simp [he, this.2 he]
    · have he' : h' ≠ [] := fun e => he (this.1 e)
      simp [he, he']
  simp only [normParts_eq, UrlG.record, hh]

/-- a documented irrelevant label in front of the host (`strip_irrelevant_subdomains`) -/
theorem partsG_irrelevant_label (puny : Str → Str) (hpl : PunyLaws puny) (o : Normalize.Opts)
    (hs : o.stripIrrelevantSubdomains = true) (g : UrlG) (lab : Str)
    (hne : g.host ≠ []) (hdot : '.' ∉ lab) (hlen : lab.length ≤ 6)
    (hx : lower (lab.take 4) ≠ "xn--".toList)
    (hlab : isIrrLabel o.normalizeAmp (lower lab) = true)
    (hpct : '%' ∉ g.host) (hpct' : '%' ∉ lab) :
    partsG puny o ({ g with host := lab ++ '.' :: g.host } : UrlG) = partsG puny o g := by
  refine partsG_congr puny o g _ rfl rfl ?_
  intro po
  have hh' : ({ g with host := lab ++ '.' :: g.host } : UrlG).hostname =
      some (lower lab ++ '.' :: lower g.host) := by
    rw [hostname_of_no_pct (g := { g with host := lab ++ '.' :: g.host }) (by simp) (by simp [hpct, hpct']),
      lower_append]
    rfl
  have hh := hostname_of_no_pct hne hpct
  have e1 : normParts puny o g.proto.hasProto (({ g with host := lab ++ '.' :: g.host } : UrlG).record po) =
      normParts puny o g.proto.hasProto
        { g.record po with hostname := some (lower lab ++ '.' :: lower g.host) } := by
    simp only [normParts_eq, UrlG.record, hh']
  have e2 : normParts puny o g.proto.hasProto (g.record po) =
      normParts puny o g.proto.hasProto { g.record po with hostname := some (lower g.host) } := by
    simp only [normParts_eq, UrlG.record, hh]
  rw [e1, e2]
  apply norm_irrelevant_label_front puny hpl o hs
  · rw [dot_mem_lower]; exact hdot
  · simpa [lower] using hlen
  · rw [← lower_take, lower_idem]; exact hx
  · rw [lower_idem]; exact hlab

/-- trailing slash (`strip_trailing_slash`), any `lowercase` -/
theorem partsG_trailing_slash (puny : Str → Str) (o : Normalize.Opts)
    (hts : o.stripTrailingSlash = true) (g : UrlG) (hw : g.wf = true) :
    partsG puny o ({ g with path := g.path ++ ['/'] } : UrlG) = partsG puny o g := by
  refine partsG_congr puny o g _ rfl rfl ?_
  intro po
  exact norm_trailing_slash_lc puny o hts _ (g.record po) ((wf_facts hw).pabs)

/-- trailing index file name (`strip_index`, `strip_trailing_slash`), any `lowercase` -/
theorem partsG_index (puny : Str → Str) (o : Normalize.Opts)
    (hts : o.stripTrailingSlash = true) (hi : o.stripIndex = true) (g : UrlG)
    (name : Str) (hn : '/' ∉ lcStr o (unquotePath name))
    (hroot : splitextRoot (lcStr o (unquotePath name)) = "index".toList ∨
      splitextRoot (lcStr o (unquotePath name)) = "default".toList)
    (hnamp : o.normalizeAmp = true →
      ampSuffixSubFrom (lcStr o (unquotePath name)) true 0 = lcStr o (unquotePath name))
    (hbamp : o.normalizeAmp = true →
      ampSuffixSub (resolveUnquoted true (lcStr o (unquotePath g.path))) =
        resolveUnquoted true (lcStr o (unquotePath g.path)))
    (hbidx : stripIndex (resolveUnquoted true (lcStr o (unquotePath g.path))) =
      resolveUnquoted true (lcStr o (unquotePath g.path))) (hw : g.wf = true) :
    partsG puny o ({ g with path := g.path ++ '/' :: name } : UrlG) = partsG puny o g := by
  refine partsG_congr puny o g _ rfl rfl ?_
  intro po
  exact norm_index_lc puny o hts hi _ (g.record po) name ((wf_facts hw).pabs) hn hroot hnamp hbamp hbidx

theorem frag_to_empty_lc (puny : Str → Str) (o : Normalize.Opts) (hp : Bool)
    (g : UrlG) (po : Option Nat) (hf : DroppedFragment o g.fragment) :
    normParts puny o hp (g.record po) = normParts puny o hp { g.record po with fragment := [] } := by
  cases hfr : g.fragment with
  | none =>
    have : (g.record po).fragment = [] := by simp [UrlG.record, hfr]
    simp only [normParts_eq, this]
  | some f =>
    rw [hfr] at hf
    have := norm_fragment_nonrouting_lc puny o hp (g.record po) f hf
    rw [← this]
    simp only [normParts_eq, UrlG.record, hfr, Option.getD_some]

/-- a non-routing fragment added, replaced, removed; any `lowercase` -/
theorem partsG_fragment (puny : Str → Str) (o : Normalize.Opts)
    (g : UrlG) (f' : Option Str) (hf : DroppedFragment o g.fragment) (hf' : DroppedFragment o f') :
    partsG puny o ({ g with fragment := f' } : UrlG) = partsG puny o g := by
  refine partsG_congr puny o g _ rfl rfl ?_
  intro po
  rw [frag_to_empty_lc puny o _ g po hf,
    frag_to_empty_lc puny o _ ({ g with fragment := f' } : UrlG) po hf']
  rfl

/-- a tracking item inserted at any position after the first; any `lowercase` -/
theorem partsG_tracking_item (puny : Str → Str) (o : Normalize.Opts)
    (hts : o.stripTrailingSlash = true) (g : UrlG) (r0 : Str) (R1 R2 : List Str) (t : Str)
    (hq : g.query = some (join ['&'] (r0 :: R1 ++ R2)))
    (hR : ∀ r ∈ r0 :: R1 ++ t :: R2, '&' ∉ r)
    (hx : keepItem o (hostKey puny g.hostname) (lcItem o (seenAt o (unqItem (cutFirst '=' t)))) = false) :
    partsG puny o ({ g with query := some (join ['&'] (r0 :: R1 ++ t :: R2)) } : UrlG) = partsG puny o g := by
  refine partsG_congr puny o g _ rfl rfl ?_
  intro po
  rw [record_query, record_query_self g _ po hq]
  exact norm_tracking_item_raw_lc puny o hts _ (g.record po) r0 R1 R2 t hR hx

/-- a tracking item inserted in front of the first item; any `lowercase` -/
theorem partsG_tracking_item_first (puny : Str → Str) (o : Normalize.Opts)
    (hts : o.stripTrailingSlash = true) (g : UrlG) (q q' : Str) (b : QItem) (L2 : List QItem) (x : QItem)
    (hqg : g.query = some q')
    (hq : decoded q = x :: b :: L2) (hq' : decoded q' = b :: L2)
    (hb : o.fixCommonMistakes = true → dropAmp (serializeItem b) = serializeItem b)
    (hx : keepItem o (hostKey puny g.hostname)
      (lcItem o (if o.fixCommonMistakes then seenHead x else x)) = false) :
    partsG puny o ({ g with query := some q } : UrlG) = partsG puny o g := by
  refine partsG_congr puny o g _ rfl rfl ?_
  intro po
  rw [record_query, record_query_self g _ po hqg]
  exact norm_tracking_item_first_lc puny o hts _ (g.record po) q q' b L2 x hq hq' hb hx

/-- a query made of one tracking item; any `lowercase` -/
theorem partsG_tracking_item_alone (puny : Str → Str) (o : Normalize.Opts)
    (hts : o.stripTrailingSlash = true) (g : UrlG) (q : Str) (x : QItem)
    (hqg : g.query.getD [] = [])
    (hq : decoded q = [x])
    (hx : keepItem o (hostKey puny g.hostname)
      (lcItem o (if o.fixCommonMistakes then seenHead x else x)) = false) :
    partsG puny o ({ g with query := some q } : UrlG) = partsG puny o g := by
  refine partsG_congr puny o g _ rfl rfl ?_
  intro po
  have e : g.record po = { g.record po with query := [] } := by simp [UrlG.record, hqg]
  rw [record_query, e]
  exact norm_tracking_item_alone_lc puny o hts _ (g.record po) q x hq hx

/-- order of the query items (`sort_query`); any `lowercase` -/
theorem partsG_query_permutation (puny : Str → Str) (o : Normalize.Opts)
    (hts : o.stripTrailingSlash = true) (hs : o.sortQuery = true) (g : UrlG)
    (q q' : Str) (hq : g.query = some q) (hperm : (decoded q').Perm (decoded q))
    (hamp : o.fixCommonMistakes = true →
      ∀ kv ∈ decoded q', dropAmp (serializeItem kv) = serializeItem kv) :
    partsG puny o ({ g with query := some q' } : UrlG) = partsG puny o g := by
  refine partsG_congr puny o g _ rfl rfl ?_
  intro po
  rw [record_query, record_query_self g _ po hq]
  exact norm_query_permutation_lc puny o hts hs _ (g.record po) q' q hperm hamp

/-- `&amp;` written for `&` (`fix_common_mistakes`); any `lowercase` -/
theorem partsG_amp_semicolon_partial (puny : Str → Str) (o : Normalize.Opts)
    (hts : o.stripTrailingSlash = true) (hf : o.fixCommonMistakes = true) (g : UrlG)
    (q q' : Str) (hq : g.query = some q) (a : QItem) (L1 L2 : List QItem) (x y : QItem)
    (hd' : decoded q' = a :: L1 ++ y :: L2) (hd : decoded q = a :: L1 ++ x :: L2)
    (hy : ampRest (serializeItem y) = some (serializeItem x))
    (hx : dropAmp (serializeItem x) = serializeItem x) :
    partsG puny o ({ g with query := some q' } : UrlG) = partsG puny o g := by
  refine partsG_congr puny o g _ rfl rfl ?_
  intro po
  rw [record_query, record_query_self g _ po hq]
  exact norm_amp_semicolon_lc_partial puny o hts hf _ (g.record po) q' q a L1 L2 x y hd' hd hy hx

/-- spelling of percent-escapes in path, query, fragment; any `lowercase` -/
theorem partsG_escape_spelling (puny : Str → Str) (o : Normalize.Opts)
    (hts : o.stripTrailingSlash = true) (g : UrlG) (path' : Str) (Q' F' : Option Str)
    (hpath : unquotePath path' = unquotePath g.path)
    (hq : decoded (Q'.getD []) = decoded (g.query.getD []))
    (hf : unquoteFragment (F'.getD []) = unquoteFragment (g.fragment.getD [])) :
    partsG puny o ({ g with path := path', query := Q', fragment := F' } : UrlG) = partsG puny o g := by
  refine partsG_congr puny o g _ rfl rfl ?_
  intro po
  exact norm_escape_spelling_lc puny o hts _ (g.record po) path' (Q'.getD []) (F'.getD []) hpath hq hf

/-- spelling **and case** of what the escapes hide, under `lowercase` (`norm_escape_fold_lc`) -/
theorem partsG_escape_fold (puny : Str → Str) (o : Normalize.Opts)
    (hts : o.stripTrailingSlash = true) (g : UrlG) (path' : Str) (Q' F' : Option Str)
    (hpath : lcStr o (unquotePath path') = lcStr o (unquotePath g.path))
    (hq : (seenItems o.fixCommonMistakes (decoded (Q'.getD []))).map (lcItem o) =
      (seenItems o.fixCommonMistakes (decoded (g.query.getD []))).map (lcItem o))
    (hf : lcStr o (unquoteFragment (F'.getD [])) = lcStr o (unquoteFragment (g.fragment.getD []))) :
    partsG puny o ({ g with path := path', query := Q', fragment := F' } : UrlG) = partsG puny o g := by
  refine partsG_congr puny o g _ rfl rfl ?_
  intro po
  exact norm_escape_fold_lc puny o hts _ (g.record po) path' (Q'.getD []) (F'.getD []) hpath hq hf

end Ural.Props.C04
