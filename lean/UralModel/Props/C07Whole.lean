import UralModel.Props.C07
import UralModel.Lemmas.C07Whole
import UralModel.Model.NormalizeUrl
import UralModel.Model.FingerprintUrl
import UralModel.Lemmas.Redirect
import UralModel.Lemmas.C07Infer
import UralModel.Lemmas.StrLit
import UralModel.Props.C07Class
import UralModel.Props.C01Whole
/-!
# C07 on STRINGS: the parser inside the model

`Props/C07.lean` states the URL-level agreements for an abstract parser and takes, per input, what
it needs from CPython as hypotheses (`hsame`, `hclean`, `hacc` / `hhost`, `ReparseOk`).  Here the
parser is the modelled one (`Py.urlsplit` + accessors, compared with CPython on every run) on
**both** sides — inside `normalize_url` / `fingerprint_url` (the whole-string models
`normalizeUrlString`, `fingerprintUrlString`), inside the hostname helpers, and in "the host the
standard parser finds in the result string after a scheme is ensured" / `lru_stems` of the result
string — and those hypotheses are discharged for an explicit decidable class of strings:

`InClassOf ir g u` (`Lemmas/NormBridge.lean`): the cleaned, resolved form of `u` is the string
`g.str` of the grammar `[letters:// | // | nothing] [userinfo@] host [:port] [/path] [?query]
[#fragment]`, with `g.br = false` (the host is no IP literal) and a port text that is a port
(`portVal g.port = some po`: else the parser refuses the string, `normalize_url` returns its
argument and `fingerprint_url` its lower-cased argument — `fingerprinted_hostname_unparseable_string`
below).  Nothing is asked of `u` itself: white space and control characters
around (control characters anywhere), lower-case escapes, a redirect that is followed.

* stems (`stems_agree_norm`, `stems_agree_fp`): that class, every option set of `normalize_url`,
  every suffix trie; the printed tuple must be one the printer writes unambiguously (`HasNet`:
  a netloc, or no scheme, or a scheme of `uses_netloc` — always true with the default
  `strip_protocol=True` and for `fingerprint_url`; `custom:///path` with `strip_protocol=False` is the
  witness outside); with `strip_suffix`, a host made of plain characters (`HostPlain`);
* hostname helpers (`normalized_hostname_string`, `fingerprinted_hostname_string`,
  `bare_hostname_string`): moreover no `%` in the host and no white space at its ends (the reading
  of `Props/C07.lean`, `edge_whitespace_witness`).

The idna decoder stays abstract: `PunyClean` (brings in no delimiter), and for the hostname
equations `PunyLower` (a lower-case label decodes to a lower-case label); both are evaluated on the
real decoder over the enumerated class of ACE labels on every run.
-/

namespace Ural.Props.C07
open Ural Ural.Py Ural.UrlParts Ural.Normalize Ural.Fingerprint Ural.LruVariants Ural.C07
open Ural.NormBridge Ural.NormReparse Ural.UrlRoundTrip Ural.CanonRoundTrip
open Ural.Lru (Parts lruStems)

/-- the strings of the hostname theorems: moreover no `%` in the host and no white space at its
ends -/
structure HostClass (ir : Bool) (g : UrlG) (po : Option Nat) (u : Str) : Prop where
  stem : StemClass ir g po u
  nopct : '%' ∉ g.host
  nows : strip g.host = g.host

instance (ir : Bool) (g : UrlG) (po : Option Nat) (u : Str) : Decidable (HostClass ir g po u) :=
  decidable_of_iff (StemClass ir g po u ∧ '%' ∉ g.host ∧ strip g.host = g.host)
    ⟨fun ⟨a, b, c⟩ => ⟨a, b, c⟩, fun h => ⟨h.stem, h.nopct, h.nows⟩⟩

/-- `normalize_url` on a string of the class: the printed tuple of the record of the pieces -/
theorem normalizeUrlString_class (puny : Str → Str) (o : Opts) {ir : Bool} {g : UrlG} {po : Option Nat}
    {u : Str} (h : StemClass ir g po u) :
    normalizeUrlString puny id o ir u =
      finalString o g.proto.hasProto (normParts puny o g.proto.hasProto (g.record po)) ∧
    normalizeUrlSplit puny parseUrl id o ir u =
      .inr (normParts puny o g.proto.hasProto (g.record po)) := by
  constructor
  · rw [normalizeUrlString_cleaned, h.cls.reaches, normCleaned_str puny o g h.cls.wf h.cls.noUnsafe]
    unfold normG UrlG.parsed
    rw [h.port]; rfl
  · rw [normalizeUrlSplit_grammar puny o ir g u h.cls]
    unfold UrlG.parsed
    rw [h.port]; rfl


/-- **`ReparseOk` discharged for `normalize_url`**: on every string of the class, for every option
set, the modelled parser reads back — after `ensure_protocol` — the tuple `normalize_url` printed -/
theorem norm_reparseOk (puny : Str → Str) (hpc : PunyClean puny) (o : Opts) {ir : Bool} {g : UrlG}
    {po : Option Nat} {u : Str} (h : StemClass ir g po u)
    (hnet : HasNet (normParts puny o g.proto.hasProto (g.record po))) :
    ReparseOk modelSplit5 (normalizeUrlString puny id o ir u)
      (normParts puny o g.proto.hasProto (g.record po)) := by
  rw [(normalizeUrlString_class puny o h).1]
  exact norm_reparse hpc o h.good hnet

/-- **`normalized_lru_stems(u)` = `lru_stems(normalize_url(u))` minus the scheme stem when the
scheme was stripped — no reparse hypothesis**: modelled parser on both sides, every option set of
`normalize_url`, both `suffix_aware`, every `split_suffix`, every string of the class whose result
is printed unambiguously (`HasNet`, see `hasNet_default`) -/
theorem stems_agree_norm (sp : Str → Option (Str × Str)) (puny : Str → Str) (hpc : PunyClean puny)
    (o : Opts) (sa : Bool) {ir : Bool} {g : UrlG} {po : Option Nat} {u : Str}
    (h : StemClass ir g po u)
    (hnet : HasNet (normParts puny o g.proto.hasProto (g.record po))) :
    (lruStemsOfUrl sp modelSplit5 sa (normalizeUrlString puny id o ir u)).map
        (minusScheme (normParts puny o g.proto.hasProto (g.record po)))
      = normalizedLruStems sp puny parseUrl id o ir sa u := by
  rw [normalizeUrlString_eq]
  exact stems_agree_norm_of_reparse sp modelSplit5 puny parseUrl id o ir sa u _
    (normalizeUrlString_class puny o h).2
    (by rw [← normalizeUrlString_eq]; exact norm_reparseOk puny hpc o h hnet)

/-- with `strip_protocol=True` (the default) every result is printed unambiguously -/
theorem hasNet_default (puny : Str → Str) (o : Opts) (hs : o.stripProtocol = true) (hp : Bool) (p : Parsed) :
    HasNet (normParts puny o hp p) := by
  right; left
  show (normComps puny o hp p).scheme = []
  simp [normComps, hs]

/-- why the stems theorems ask for `HasNet`, on the witness `custom:///path` with
`strip_protocol=False`: `normalize_url` prints the tuple `(custom, "", /path)` as `custom:/path`, in
which `ensure_protocol` + the parser read the netloc `custom:` — so `lru_stems` of the string has a
host stem the tuple's stems lack (three evaluations; the inequality of the stems is not stated) -/
theorem hasNet_needed :
    normalizeUrlString id id { stripProtocol := false } false "custom:///path".toList = "custom:/path".toList ∧
    modelSplit5 (ensureProtocol "custom:/path".toList httpStr) =
      some ⟨"http".toList, "custom:".toList, "/path".toList, [], []⟩ ∧
    normalizeUrlSplit id parseUrl id { stripProtocol := false } false "custom:///path".toList =
      .inr ⟨"custom".toList, [], "/path".toList, [], some []⟩ := by
  simp only [toList_lit]
  decide +kernel


open Ural.FpReparse in
/-- **`fingerprinted_lru_stems(u, strip_suffix)` = `lru_stems(fingerprint_url(u, strip_suffix))`
minus the scheme stem — no reparse hypothesis**: on every string of the class `fingerprint_url`
returns (`t`, `s`: tuple and string), the variant returns the stems of the tuple, and `lru_stems`
of the string — modelled parser — finds them again after the scheme stem.  Both `strip_suffix`,
both `suffix_aware`, every suffix trie; with `strip_suffix` the host is made of plain characters. -/
theorem stems_agree_fp (sp : Str → Option (Str × Str)) (puny : Str → Str) (hpc : PunyClean puny)
    (trie : SNode Str) (sa sfx : Bool) {g : UrlG} {po : Option Nat} {u : Str}
    (h : StemClass true g po (lower u)) (hplain : sfx = true → HostPlain g.host) :
    ∃ t s, fingerprintUrlStringSplit puny id trie sfx u = .ok (.inr t) ∧
      fingerprintUrlString puny id trie sfx u = .ok s ∧ t.scheme = [] ∧
      fingerprintedLruStems sp (stringEnv puny id trie) sa sfx u = .ok (some (stemsOfSplit sp sa t)) ∧
      (lruStemsOfUrl sp modelSplit5 sa s).map (minusScheme t) = some (stemsOfSplit sp sa t) := by
  obtain ⟨t, ht⟩ := fingerprint_class puny hpc trie sfx h hplain
  exact ⟨t, fpString t, ht.split, ht.string, ht.noScheme,
    stems_agree_fp_of_reparse sp modelSplit5 (stringEnv puny id trie) sa sfx u t _
      (by rw [← fingerprintUrlStringSplit_eq]; exact ht.split)
      (by rw [← fingerprintUrlString_eq]; exact ht.string) ht.reparse⟩


/-! ## the variants factor through the result STRING (what C11's variant tries need) -/

/-- the stems of a printed result, read off the string alone: `lru_stems`, minus the scheme stem
unless the string starts with letters and `://` (`schemeKept`) -/
def stemsOfPrinted (sp : Str → Option (Str × Str)) (sa : Bool) (X : Str) : Option (List Str) :=
  (lruStemsOfUrl sp modelSplit5 sa X).map fun st => if schemeKept X then st else dropSchemeStem st

/-- **`normalized_lru_stems(u)` depends on `u` only through the string `normalize_url(u)`**, on
the class: `hfac` of C11's variant theorems, proved -/
theorem normalized_stems_factor (sp : Str → Option (Str × Str)) (puny : Str → Str) (hpc : PunyClean puny)
    (o : Opts) (sa : Bool) {ir : Bool} {g : UrlG} {po : Option Nat} {u : Str}
    (h : StemClass ir g po u)
    (hnet : HasNet (normParts puny o g.proto.hasProto (g.record po))) :
    normalizedLruStems sp puny parseUrl id o ir sa u =
      stemsOfPrinted sp sa (normalizeUrlString puny id o ir u) := by
  rw [← stems_agree_norm sp puny hpc o sa h hnet]
  unfold stemsOfPrinted
  have hk : schemeKept (normalizeUrlString puny id o ir u) =
      !(normParts puny o g.proto.hasProto (g.record po)).scheme.isEmpty := by
    rw [(normalizeUrlString_class puny o h).1]
    exact norm_schemeKept hpc o h.good hnet
  have hfun : (fun st : List Str => if schemeKept (normalizeUrlString puny id o ir u) = true then st
      else dropSchemeStem st) = minusScheme (normParts puny o g.proto.hasProto (g.record po)) := by
    funext st
    unfold minusScheme
    rw [hk]
    generalize (normParts puny o g.proto.hasProto (g.record po)).scheme = sc
    cases sc with
    | nil => simp
    | cons a b => simp
  rw [hfun]

open Ural.FpReparse in
/-- **`fingerprinted_lru_stems(u)` depends on `u` only through the string `fingerprint_url(u)`**,
on the class (the fingerprint never has a scheme: the scheme stem is always dropped) -/
theorem fingerprinted_stems_factor (sp : Str → Option (Str × Str)) (puny : Str → Str)
    (hpc : PunyClean puny) (trie : SNode Str) (sa sfx : Bool) {g : UrlG} {po : Option Nat} {u : Str}
    (h : StemClass true g po (lower u)) (hplain : sfx = true → HostPlain g.host) :
    ∃ s st, fingerprintUrlString puny id trie sfx u = .ok s ∧
      fingerprintedLruStems sp (stringEnv puny id trie) sa sfx u = .ok (some st) ∧
      (lruStemsOfUrl sp modelSplit5 sa s).map dropSchemeStem = some st := by
  obtain ⟨t, s, _, hs, hsch, htok, hre⟩ := stems_agree_fp sp puny hpc trie sa sfx h hplain
  refine ⟨s, _, hs, htok, ?_⟩
  have hfun : (dropSchemeStem : List Str → List Str) = minusScheme t := by
    funext st
    simp [minusScheme, hsch]
  rw [hfun]; exact hre

/-- **`canonicalized_lru_stems(u)` depends on `u` only through the string `canonicalize_url(u)`**
(defaults of `canonicalize_url`), for every string the modelled parser accepts, whose netloc holds
no bracket and whose canonical netloc is not empty -/
theorem canonicalized_stems_factor (sp : Str → Option (Str × Str)) (puny : Str → Str)
    (hpc : PunyClean puny) (sa : Bool) (url : Str) (p : Parsed)
    (hp : parseUrl (Canonicalize.cleanUrl url httpsStr) = some p)
    (hb : '[' ∉ p.netloc ∧ ']' ∉ p.netloc)
    (hn : (Canonicalize.canonParts puny false false p).netloc ≠ []) :
    ∃ s, Canonicalize.canonicalizeUrl puny ⟨httpsStr, false, false⟩ url = some s ∧
      canonicalizedLruStems sp puny parseUrl sa url = lruStemsOfUrl sp modelSplit5 sa s := by
  refine ⟨_, (C01.canonicalize_accepts_iff puny _ url _).2 ⟨p, ⟨hp, (no_bracket_facts hb).1⟩, rfl⟩, ?_⟩
  rw [printSplit_of_netloc _ hn]
  exact (stems_agree_canon sp puny hpc sa url p hp hb hn).symm

section
variable {ir : Bool} {g : UrlG} {po : Option Nat} {u : Str}

/-- the host the parser returns for a string of the class is one `normalize_hostname`'s own
cleaning leaves alone -/
theorem HostClass.cleanHost (h : HostClass ir g po u) : CleanHost (lower g.host) := by
  unfold CleanHost
  rw [Ural.Py.strip_lower, h.nows, Ural.Py.lower_idem]
  apply stripControl_eq_self_iff.2
  exact (h.stem.good.noCtl_sub h.stem.good.host_sub).lower

theorem HostClass.hostname_eq (h : HostClass ir g po u) :
    g.hostname = if g.host = [] then none else some (lower g.host) := by
  unfold UrlG.hostname
  rw [lowerHost_of_no_pct h.nopct]

theorem HostClass.helper_host (h : HostClass ir g po u) :
    hostOfModel (helperString ir u) = g.hostname :=
  -- one string under two names: `helperString ir u` (`Props/C07.lean`) unfolds to
  -- `ensureProtocol (helperClean ir u) httpStr`, with `helperClean` of `Lemmas/C07Whole.lean`
  Ural.C07.helper_host h.stem.cls h.stem.nobr h.stem.port h.nopct

/-- the normalized host of a string of the class: lower-case, without `%` -/
theorem HostClass.lowerHost_normHost (puny : Str → Str) (hpc : PunyClean puny) (hpl : PunyLower puny)
    (o : Opts) (h : HostClass ir g po u) :
    lowerHost (normHost puny o (lower g.host)) = normHost puny o (lower g.host) := by
  have hp : '%' ∉ normHost puny o (lower g.host) := by
    intro hm
    have := normHost_bad puny hpc o _ (by decide) hm
    exact h.nopct (mem_of_mem_lower (by decide) this)
  rw [lowerHost_of_no_pct hp]
  exact normHost_lowerFixed hpl o _

theorem host_of_reparse {s : Str} {t : Split} (h : ReparseOk modelSplit5 s t) :
    hostAfterEnsure hostOfModel s = orNone (hostname t.netloc) := by
  unfold hostAfterEnsure
  rw [hostOfModel_of_split5 h]

theorem HostClass.strOf_hostname (h : HostClass ir g po u) : strOf g.hostname = lower g.host := by
  rw [h.hostname_eq]
  cases g.host <;> rfl

theorem HostClass.hostname_clean (h : HostClass ir g po u) : ∀ x, g.hostname = some x → CleanHost x := by
  intro x hx
  rw [← strOf_some x, ← hx, h.strOf_hostname]
  exact h.cleanHost

/-- **`get_normalized_hostname(u)` is the host of `normalize_url(u)` — on strings, the parser
inside the model.**  For every string of the class (`HostClass`), `normalize_amp` and
`infer_redirection` ∈ {True, False}: the helper (its own cleaning, `ensure_protocol`, modelled
`urlsplit`, `normalize_hostname`) returns the host the modelled parser finds in
`normalize_url(u)` after a scheme is ensured (`None` ≡ empty; a result without host included). -/
theorem normalized_hostname_string (puny : Str → Str) (hpc : PunyClean puny) (hpl : PunyLower puny)
    (amp : Bool) (h : HostClass ir g po u) :
    orNone (getNormalizedHostname puny hostOfModel amp ir u) =
      hostAfterEnsure hostOfModel (normalizeUrlString puny id (ampOpts amp) ir u) := by
  have G := h.stem.good
  have e : (normParts puny (ampOpts amp) g.proto.hasProto (g.record po)).netloc =
      unsplitNetloc none none (g.hostname.map (normHost puny (ampOpts amp))) (Normalize.normPort po) := by
    rw [Normalize.normParts_eq]; rfl
  -- the result string, its reparse, `.hostname` of the netloc `unsplit_netloc` assembled
  rw [host_of_reparse (norm_reparseOk puny hpc (ampOpts amp) h.stem (hasNet_default puny (ampOpts amp) rfl _ _)), e,
    hostname_assembled (g.hostname.map (normHost puny (ampOpts amp))) _ (FpReparse.hostSafe_normHost hpc G (ampOpts amp))
      (Fingerprint.portOk_normPort po (fun n hn => portVal_ok h.stem.port n hn))]
  -- both sides in text view: `normalize_hostname` of the host of the grammar; `.hostname` reads it back as it is
  apply orNone_of_text
  rw [getNormalizedHostname_text, h.helper_host, strOf_accHost,
    strOf_map_normHost puny (ampOpts amp) rfl g.hostname h.hostname_clean, h.strOf_hostname]
  show normalizeHostname puny amp _ = lowerHost (normalizeHostname puny amp _)
  rw [← normHost_ampOpts puny amp _ h.cleanHost, h.lowerHost_normHost puny hpc hpl (ampOpts amp)]


open Ural.FpReparse in
/-- **`get_fingerprinted_hostname(u, strip_suffix)` is the host of `fingerprint_url(u,
strip_suffix)` — on strings, the parser inside the model.**  For every string `u` such that
`u.lower()` is in the class (`HostClass true g po (lower u)`), `strip_suffix` ∈ {True, False} (with
it, a host of plain characters), every suffix trie: `fingerprint_url` raises nothing, and the
helper (lower-casing, redirection inference, its own cleaning, `ensure_protocol`, modelled
`urlsplit`, `fingerprint_hostname`) returns the host the modelled parser finds in the fingerprint
after a scheme is ensured (`None` ≡ empty; a fingerprint without host included). -/
theorem fingerprinted_hostname_string (puny : Str → Str) (hpc : PunyClean puny) (hpl : PunyLower puny)
    (trie : SNode Str) (sfx : Bool) {g : UrlG} {po : Option Nat} {u : Str}
    (h : HostClass true g po (lower u)) (hplain : sfx = true → HostPlain g.host) :
    (getFingerprintedHostname (stringEnv puny id trie) hostOfModel true sfx u).map orNone =
      (fingerprintUrlString puny id trie sfx u).map (hostAfterEnsure hostOfModel) := by
  have G := h.stem.good
  obtain ⟨t, ht⟩ := fingerprint_class puny hpc trie sfx h.stem hplain
  have hfp := ht.host
  have hfree : ∀ d, d ∈ ['/', '?', '#', '@', ':', '[', ']'] → d ∉ t.netloc :=
    fun d hd hm => G.host_free hd (ht.delims d (delim_bad hd) hm)
  have hnil := stringEnv_walkHost_nil puny id trie
  -- the text of the host `normalize_url` leaves is `normalize_hostname` of the host of the grammar, and
  -- `.hostname` reads it back as it is: the helper's answer is the netloc of the tuple
  have hN : normH puny g po = normHost puny fpOpts (lower g.host) := by
    show (g.hostname.map (normHost puny fpOpts)).getD [] = _
    rw [← strOf_eq_getD, strOf_map_normHost puny fpOpts rfl g.hostname h.hostname_clean, h.strOf_hostname]
    exact (normHost_fpOpts puny _ h.cleanHost).symm
  rw [hN, hostnameView_eq, h.lowerHost_normHost puny hpc hpl fpOpts] at hfp
  have hH : lowerHost t.netloc = t.netloc := by
    rw [lowerHost_of_no_pct fun hm => h.nopct (ht.delims '%' (by decide) hm)]
    exact fingerprintHost_lowerFixed _ sfx _ _ (normHost_lowerFixed hpl fpOpts _) hfp
  have hfh : fingerprintHostname (stringEnv puny id trie) sfx (lower g.host) = .ok t.netloc := by
    rw [normHost_fpOpts puny _ h.cleanHost] at hfp
    exact hfp
  rw [map_orNone_text, getFingerprintedHostname_text _ _ _ _ _ hnil, h.helper_host, h.strOf_hostname, hfh, ht.string]
  -- the URL side: the host read off the printed fingerprint is `.hostname` of the tuple's netloc
  show Except.ok (orNone (some t.netloc)) = Except.ok (hostAfterEnsure hostOfModel (fpString t))
  rw [host_of_reparse ht.reparse,
    (Netloc.Reads.bare (hfree '@' (by decide)) (hfree ':' (by decide)) (hfree '[' (by decide))).hostname, hH]
  cases t.netloc <;> rfl

/-- `fingerprinted_hostname_string` under the name of the component-level family: the `_model`
version of `fingerprinted_hostname_agrees` (`E := stringEnv`; `hp`, `hsame`, `hclean`, `hacc`,
`hhost`, `hw` all discharged on the class; compared with the host READ OFF THE RESULT STRING) -/
theorem fingerprinted_hostname_agrees_model (puny : Str → Str) (hpc : PunyClean puny) (hpl : PunyLower puny)
    (trie : SNode Str) (sfx : Bool) {g : UrlG} {po : Option Nat} {u : Str}
    (h : HostClass true g po (lower u)) (hplain : sfx = true → FpReparse.HostPlain g.host) :
    (getFingerprintedHostname (stringEnv puny id trie) hostOfModel true sfx u).map orNone =
      (fingerprintUrlString puny id trie sfx u).map (hostAfterEnsure hostOfModel) :=
  fingerprinted_hostname_string puny hpc hpl trie sfx h hplain

/-- the grammar of a bare hostname: nothing but the host -/
def bareG (h : Str) : UrlG :=
  { proto := .bare, ui := none, host := strip h, port := none, path := [], query := none, fragment := none }

/-- a bare hostname is a string of the class (both for `infer_redirection=False`) -/
theorem bare_hostClass (h : Str) (hb : BareHost h) : HostClass false (bareG h) none h := by
  have hfree : ∀ d, d ∈ ['/', '?', '#', '@', ':', '[', ']', '%'] → d ∉ strip h :=
    fun d hd hm => hb.1 d (strip_subset h hm) hd
  have hrest : (bareG h).rest = strip h := by
    simp [bareG, UrlG.rest, UrlG.netloc, UrlG.tail, UrlG.hostPart, uiPart,
      NormBridge.portPart, qPart, fPart]
  have hstr : (bareG h).str = strip h := hrest
  refine ⟨⟨⟨?_, ?_⟩, rfl, rfl⟩, hfree '%' (by decide), Ural.Py.strip_strip h⟩
  · apply wf_of_facts
    refine ⟨?_, rfl, ?_, rfl, rfl, rfl, rfl⟩
    · show (!hasProtocol (bareG h).rest) = true
      rw [hrest]
      unfold hasProtocol
      rw [protoLen_eq, protoLen_none_of_no_slash _ (hfree '/' (by decide))]
      rfl
    · show free ['/', '?', '#', '@', ':', '[', ']'] (strip h) = true
      rw [free_iff]
      exact fun c hc hbad => hfree c (List.mem_append_left ['%'] hbad) hc
  · rw [hstr]
    unfold resolvedClean preClean
    simp only [Bool.false_eq_true, if_false]
    rw [hb.2, Quote.upperQuoted_of_no_pct (hfree '%' (by decide))]

theorem bare_helper_host (h : Str) (hb : BareHost h) :
    hostOfModel (helperString false h) = if lower (strip h) = [] then none else some (lower (strip h)) := by
  have hc := bare_hostClass h hb
  rw [hc.helper_host, hc.hostname_eq]
  show (if strip h = [] then none else some (lower (strip h))) = _
  cases strip h <;> rfl

/-- **the parser on a bare hostname** (modelled parser): after the helper's cleaning and
`ensure_protocol`, the hostname of a bare hostname `h` is `lower (strip h)` -/
theorem bare_hostname_parser (h : Str) (hb : BareHost h) :
    hostOfModel (ensureProtocol (strip (stripControl h)) "http".toList) =
      if lower (strip h) = [] then none else some (lower (strip h)) := by
  simpa only [helperString, Bool.false_eq_true, if_false] using bare_helper_host h hb

/-- **`normalize_hostname(h)` gives the same answer as `get_normalized_hostname(h)`** on every
bare hostname `h` (no `/?#@:[]%`, no control character; surrounding whitespace allowed), with the
modelled parser, `None` ≡ empty, `normalize_amp` ∈ {True, False} — no hypothesis left. -/
theorem bare_hostname_agrees (puny : Str → Str) (amp : Bool) (h : Str) (hb : BareHost h) :
    orNone (getNormalizedHostname puny hostOfModel amp false h)
      = orNone (some (normalizeHostname puny amp h)) := by
  rw [getNormalizedHostname_eq, bare_helper_host h hb, ← normalizeHostname_lower_strip puny amp h]
  cases lower (strip h) with
  | nil => cases amp <;> rfl
  | cons a b => rfl

/-- the same for `fingerprint_hostname(h, strip_suffix)` / `get_fingerprinted_hostname(h,
infer_redirection=False, strip_suffix)`, on every bare hostname: the helper lower-cases the string
first, `fingerprint_hostname` inside `normalize_hostname`, and lower-casing keeps a bare hostname
bare -/
theorem bare_fingerprint_hostname_agrees (E : Env) (sfx : Bool) (h : Str) (hb : BareHost h)
    (hw : E.walkHost [] = .ok none) :
    (getFingerprintedHostname E hostOfModel false sfx h).map orNone
      = (fingerprintHostname E sfx h).map (fun x => orNone (some x)) := by
  have e : ∀ s : Str, strOf (if s = [] then none else some s) = s := fun s => by cases s <;> rfl
  rw [map_orNone_text, getFingerprintedHostname_text E hostOfModel false sfx h hw, bare_helper_host _ (bareHost_lower hb), e]
  unfold fingerprintHostname
  rw [normalizeHostname_lower_strip, normalizeHostname_lower]

/-- **bare hostname vs URL function**: for a bare hostname `h`, `normalize_hostname(h)` is the
hostname component of `normalize_url(h, infer_redirection=False)` — under the hypotheses of
`normalized_hostname_agrees` for the abstract parser, with `hostOf` the modelled one -/
theorem bare_hostname_agrees_url (puny : Str → Str) (parse : Str → Option Parsed)
    (platform : Str → Str) (amp : Bool) (h : Str) (p : Parsed) (hb : BareHost h)
    (hp : parse (prepared platform false h).1 = some p)
    (hsame : hostOfModel (helperString false h) = p.hostname)
    (hclean : ∀ x, p.hostname = some x → CleanHost x) :
    (normalizedHost puny parse platform (ampOpts amp) false h).map orNone
      = some (orNone (some (normalizeHostname puny amp h))) := by
  rw [normalized_hostname_agrees puny parse hostOfModel platform amp false h p hp hsame hclean,
    bare_hostname_agrees puny amp h hb]

/-- non-vacuity: a bare hostname with surrounding whitespace, upper case, irrelevant labels -/
example : BareHost " WWW.m.Example.co.uk\n ".toList = False ∧ BareHost " WWW.m.Example.co.uk ".toList := by
  simp only [toList_lit, eq_iff_iff, iff_false]
  decide +kernel

example : hostOfModel (ensureProtocol (strip (stripControl " WWW.m.Example.co.uk ".toList)) "http".toList)
    = some "www.m.example.co.uk".toList := by
  simp only [toList_lit]
  decide +kernel

/-- **bare hostnames: `normalize_hostname(h)` is the host of `normalize_url(h)`** (and of
`get_normalized_hostname(h)`: `bare_hostname_agrees`) — for every bare `h`, both `normalize_amp`,
the parser inside the model; no hypothesis about the parser left -/
theorem bare_hostname_string (puny : Str → Str) (hpc : PunyClean puny) (hpl : PunyLower puny)
    (amp : Bool) (h : Str) (hb : BareHost h) :
    orNone (some (normalizeHostname puny amp h)) =
      hostAfterEnsure hostOfModel (normalizeUrlString puny id (ampOpts amp) false h) := by
  rw [← bare_hostname_agrees puny amp h hb]
  exact normalized_hostname_string puny hpc hpl amp (bare_hostClass h hb)

end

/-- **`infer_redirection` leaves a bare hostname alone**: no `/`, `:` or `%` in it, so no
redirection domain and no hint that is followed -/
theorem infer_bare (h : Str) (hb : BareHost h) : infer h = h := by
  apply infer_eq_self_of_target
  have hsub : cleanedUrl h ⊆ h := by
    unfold cleanedUrl
    rw [hb.2]
    exact strip_subset h
  exact inferTarget_none _ (fun hm => hb.1 _ (hsub hm) (by simp)) (fun hm => hb.1 _ (hsub hm) (by simp))
    (fun hm => hb.1 _ (hsub hm) (by simp))

/-- … so the bare-hostname claims hold with the helper's default `infer_redirection=True` too -/
theorem bare_hostname_agrees_infer (puny : Str → Str) (amp ir : Bool) (h : Str) (hb : BareHost h) :
    orNone (getNormalizedHostname puny hostOfModel amp ir h)
      = orNone (some (normalizeHostname puny amp h)) := by
  rw [← bare_hostname_agrees puny amp h hb]
  cases ir with
  | false => rfl
  | true =>
    unfold getNormalizedHostname
    simp only [if_true, infer_bare h hb, Bool.false_eq_true, if_false]

theorem bare_hostname_string_infer (puny : Str → Str) (hpc : PunyClean puny) (hpl : PunyLower puny)
    (amp ir : Bool) (h : Str) (hb : BareHost h) :
    orNone (some (normalizeHostname puny amp h)) =
      hostAfterEnsure hostOfModel (normalizeUrlString puny id (ampOpts amp) ir h) := by
  rw [bare_hostname_string puny hpc hpl amp h hb]
  cases ir with
  | false => rfl
  | true =>
    unfold normalizeUrlString normalizeUrlStringSplit
    simp only [if_true, infer_bare h hb, Bool.false_eq_true, if_false]

/-- `" HTTP://WWW.Lemonde.fr:80/a%2fb/index.html?utm_source=x\0 "`: white space and a control
character around, upper case, a default port, a lower-case escape, an index page, a tracking item -/
def exU : Str := " HTTP://WWW.Lemonde.fr:80/a%2fb/index.html?utm_source=x\x00 ".toList

def exG : UrlG :=
  { proto := .scheme "HTTP".toList, ui := none, host := "WWW.Lemonde.fr".toList, port := some "80".toList,
    path := "/a%2Fb/index.html".toList, query := some "utm_source=x".toList, fragment := none }

/-- what `exU.lower()` is cleaned to -/
def exGl : UrlG :=
  { proto := .scheme "http".toList, ui := none, host := "www.lemonde.fr".toList, port := some "80".toList,
    path := "/a%2Fb/index.html".toList, query := some "utm_source=x".toList, fragment := none }

theorem inClassOf_of_no_redirect {g : UrlG} {u : Str} (hw : g.wf = true)
    (h1 : domainSplit (cleanedUrl u) = none) (h2 : redirectSearch (cleanedUrl u) = none)
    (h3 : preClean u = g.str) : InClassOf true g u := .of_no_redirect hw h1 h2 h3

example : HostClass true exG (some 80) exU ∧ HostClass false exG (some 80) exU ∧
    HostClass true exGl (some 80) (lower exU) ∧ FpReparse.HostPlain exGl.host ∧
    PunyClean id ∧ PunyLower id := by
  unfold exU exG exGl
  simp only [toList_lit, punyClean_id, punyLower_id, and_true]
  decide +kernel

/-- both sides of `normalized_hostname_string` on that input, and the stems of its result -/
example :
    getNormalizedHostname id hostOfModel true false exU = some "lemonde.fr".toList ∧
    normalizeUrlString id id (ampOpts true) false exU = "lemonde.fr/a%2Fb".toList ∧
    hostAfterEnsure hostOfModel "lemonde.fr/a%2Fb".toList = some "lemonde.fr".toList ∧
    normalizedLruStems (fun _ => none) id parseUrl id (ampOpts true) false false exU =
      some ["h:fr".toList, "h:lemonde".toList, "p:a%2Fb".toList] ∧
    lruStemsOfUrl (fun _ => none) modelSplit5 false "lemonde.fr/a%2Fb".toList =
      some ["s:http".toList, "h:fr".toList, "h:lemonde".toList, "p:a%2Fb".toList] := by
  unfold exU
  simp only [toList_lit]
  decide +kernel


/-- **the fingerprint pair on a string the modelled parser refuses** (`fingerprinted_hostname_unparseable`
with nothing shipped): `fingerprint_url(u)` is `u.lower()` under both `unsplit`, and — `u` needing no
cleaning and carrying no redirection — `get_fingerprinted_hostname(u)` is `None` exactly when the
parser reads no host in that result after a scheme is ensured -/
theorem fingerprinted_hostname_unparseable_string (puny : Str → Str) (trie : SNode Str) (sfx : Bool)
    (u : Str) (hp : parseUrl (prepared id true (lower u)).1 = none)
    (hclean : helperString true (lower u) = ensureProtocol (lower u) httpStr) :
    fingerprintUrlStringSplit puny id trie sfx u = .ok (.inl (lower u)) ∧
    fingerprintUrlString puny id trie sfx u = .ok (lower u) ∧
    (getFingerprintedHostname (stringEnv puny id trie) hostOfModel true sfx u = .ok none ↔
      hostAfterEnsure hostOfModel (lower u) = none) := by
  have e1 : (stringEnv puny id trie).parse = parseUrl := rfl
  have e2 : (stringEnv puny id trie).platform = id := rfl
  have hp' : (stringEnv puny id trie).parse
      (prepared (stringEnv puny id trie).platform true (lower u)).1 = none := by
    rw [e1, e2]; exact hp
  obtain ⟨h1, h2, _, h4⟩ := fingerprinted_hostname_unparseable (stringEnv puny id trie) hostOfModel sfx u hp' hclean
  exact ⟨by rw [fingerprintUrlStringSplit_eq]; exact h1, by rw [fingerprintUrlString_eq]; exact h2, h4⟩

/-- non-vacuity, both sides of the equivalence: an unbalanced bracket (the helper answers `None`, no
host in the result) … -/
example : parseUrl (prepared id true (lower "HTTP://[X/".toList)).1 = none := by
  simp only [toList_lit]
  decide +kernel
example : helperString true (lower "HTTP://[X/".toList) = ensureProtocol (lower "HTTP://[X/".toList) httpStr := by
  simp only [toList_lit]
  decide +kernel
example : hostAfterEnsure hostOfModel (lower "HTTP://[X/".toList) = none := by
  simp only [toList_lit]
  decide +kernel
/-- … and a refused port (a host on both sides) -/
example : parseUrl (prepared id true (lower "http://a.com:99999/".toList)).1 = none := by
  simp only [toList_lit]
  decide +kernel
example : helperString true (lower "http://a.com:99999/".toList) =
    ensureProtocol (lower "http://a.com:99999/".toList) httpStr := by
  simp only [toList_lit]
  decide +kernel
example : hostAfterEnsure hostOfModel (lower "http://a.com:99999/".toList) = some "a.com".toList := by
  simp only [toList_lit]
  decide +kernel

end Ural.Props.C07
