import UralModel.Props.C13
import UralModel.Props.C08
import UralModel.Lemmas.PslSubdomain
import UralModel.Lemmas.StrSplit
import UralModel.Model.LruPsl
import UralModel.Lemmas.StrLit
/-!
# C13, suffix-aware forward law — discharged from C08 instead of assumed

`Props/C13.lean` proves the forward law for `suffix_aware = True` with `split_suffix` a parameter
`sp` and the hypothesis `SameSuffixSplit sp` ("both hosts have the same public suffix").  Read off
the answers of the real `split_suffix`, that hypothesis makes the excluded region whatever the
implementation says: a `split_suffix` that stops applying the exception rule
`!city.kawasaki.jp` to `www.city.kawasaki.jp` puts that pair into the region (`seeded/C13-4`).

Here `sp` is the model of suffix_trie.py itself (`pslSplit lines`, `Model/LruPsl.lean`, the trie
walk of the C08 development on the trie built from the lines of the list) and the hypothesis is
replaced by what the Public Suffix *algorithm* says (`Psl.pslLen`, through `C08.walk_eq_psl`):

* `Psl.pslLen_subdomain` / `hostLen_subdomain`: the public suffix of a subdomain that does not
  swallow the parent domain is the parent's public suffix — every rule list, exception and
  wildcard rules included;
* `sameSuffixSplit_of_outside`: hence `SameSuffixSplit (pslSplit lines)` for DNS names when
  `u`'s host lies **outside `v`'s public suffix** (`outsideSuffixT`);
* `splitLaw_psl`: C08's re-join clause for `pslSplit lines` (no hypothesis left);
* `stems_prefix_of_under_psl`, `lru_prefix_of_under_psl`, `lru_prefix_of_under_psl_string`: the
  forward law with nothing assumed about the split.  The excluded region is "`u`'s host lies
  inside `v`'s public suffix and the two suffixes differ" — computed from the list, the same for
  every implementation; `kf_inside_suffix_psl` shows it really fails there (`uk` / `a.co.uk`).

The harness ties `pslSplit` to the real `split_suffix` on every host of the C13 stream (driver op
`lru_pairs_psl`: the model computes the stems with its own split from the regenerated list, no
answer of the real function is shipped).
-/
set_option linter.unusedSectionVars false
set_option linter.unusedSimpArgs false

namespace Ural.Props.C13
open Ural Ural.Py Ural.Lru Ural.Psl

/-! ## strings -/

/-- the labels of a subdomain: the labels of the prefix, then the labels of the parent -/
theorem hostParts_sub (pre hu : Str) (hne : hu ≠ []) (hdot : hu.getLast? ≠ some '.') :
    SuffixTrie.hostParts (pre ++ '.' :: hu) =
      splitOn (lower pre) '.' ++ SuffixTrie.hostParts hu := by
  have hl : lower hu ≠ [] := by simpa [lower] using hne
  have e := lower_dot pre hu
  have h1 : (lower pre ++ '.' :: lower hu).getLast? ≠ some '.' := by
    rw [getLast_append_cons _ _ _ hl]; exact getLast_lower hdot
  unfold SuffixTrie.hostParts
  rw [e, rstrip_dot_id h1, rstrip_dot_id (getLast_lower hdot), splitOn_append]

/-! ## `pslSplit` is the Public Suffix algorithm (C08) -/

/-- lines 60-121 of suffix_trie.py are `SuffixTrie.split` on a non-special hostname -/
theorem pslSplitT_eq_split (t : SNode Str) (hn : Str) (hs : Ural.isSpecialHost hn = false) :
    pslSplitT t hn = SuffixTrie.split t (some hn) := by
  simp only [pslSplitT, splitOfLen, hostLenT, SuffixTrie.split, SuffixTrie.walk, hs, Bool.false_eq_true, if_false]
  cases SNode.walkLen SuffixTrie.starStr t (SuffixTrie.hostParts hn).reverse <;> rfl

/-- **`pslSplit` follows the algorithm**: `None` exactly when no rule matches, otherwise the
label list is cut `n` labels from the right, `n = Psl.pslLen` of the rule list on the labels
(`C08.hostLen`) — every line list, every hostname -/
theorem pslSplit_spec (lines : List Str) (hn : Str) :
    pslSplit lines hn =
      (C08.hostLen lines hn).map (fun n =>
        (join SuffixTrie.dot ((SuffixTrie.hostParts hn).take ((SuffixTrie.hostParts hn).length - n)),
         join SuffixTrie.dot ((SuffixTrie.hostParts hn).drop ((SuffixTrie.hostParts hn).length - n)))) := by
  simp only [pslSplit, pslSplitT, hostLenT, C08.walkLen_str]
  cases hl : C08.hostLen lines hn with
  | none => rfl
  | some n => exact SuffixTrie.splitOf_offset (C08.hostLen_bounds hl).2

theorem join_ne_nil_of_two (a b : Str) (r : List Str) : join SuffixTrie.dot (a :: b :: r) ≠ [] := by
  simp [join, SuffixTrie.dot]

/-- **C08's re-join clause for `pslSplit`, every hostname**: the host is a bare suffix (first part
empty, second part the lower-cased hostname without its trailing dots), or `first + "." + second`
is that string (the first part is empty there for a lone leading dot: `.co.uk` → `("", "co.uk")`) -/
theorem pslSplit_rejoins (lines : List Str) (hn d s : Str)
    (h : pslSplit lines hn = some (d, s)) :
    (d = [] ∧ s = C08.hostStr hn) ∨ d ++ '.' :: s = C08.hostStr hn :=
  (C08.cut_hostLen_rejoin (pslSplit_spec lines hn ▸ h)).imp_left And.right

/-- **C08's clause is a theorem for the model of suffix_trie.py**: `SplitRejoins (pslSplit lines)`
at every netloc — hosts with trailing dots or a leading dot included -/
theorem splitRejoins_psl (lines : List Str) (n : Str) : SplitRejoins (pslSplit lines) n := by
  intro d s h
  exact pslSplit_rejoins lines _ d s h

/-- `dnsName` unpacked -/
theorem dnsName_iff {h : Str} : dnsName h = true ↔
    Plain h ∧ '%' ∉ h ∧ h.head? ≠ some '.' ∧ h.getLast? ≠ some '.' := by
  unfold dnsName
  simp only [Bool.and_eq_true, bne_iff_ne, ne_eq, noneOf_iff]
  constructor
  · rintro ⟨⟨h1, h2⟩, h3⟩
    refine ⟨fun c hc => ?_, fun hc => ?_, h2, h3⟩
    · have := h1 c hc; simp at this; exact ⟨this.1, this.2.1, this.2.2.1⟩
    · have := h1 _ hc; simp at this
  · rintro ⟨hp, hpc, h2, h3⟩
    refine ⟨⟨fun c hc => ?_, h2⟩, h3⟩
    have := hp c hc
    have hne : c ≠ '%' := fun e => hpc (e ▸ hc)
    simp [this.1, this.2.1, this.2.2, hne]

/-- **the hypothesis `SplitLaw` of the C12 / C13 theorems holds for the model of suffix_trie.py on
EVERY netloc of the grammar** — DNS names, hosts with `%`, with trailing dots, with a leading dot,
bracketed literals (never suffix-processed): the suffix-aware stems spell the lower-cased host,
empty labels included (stems.py emits them: FX-C12-ed8ae90, so `a.co.uk.` and `.co.uk` are
covered).  Nothing is assumed -/
theorem splitLaw_psl (lines : List Str) (n : Str) (hwf : wfNetloc n = true) :
    SplitLaw (pslSplit lines) n :=
  C12.splitRejoins_of_c08 (pslSplit lines) n hwf (splitRejoins_psl lines n)

/-! ## what else holds of `pslSplit` without any hypothesis -/

/-- **the two parts `pslSplit` returns are made of dots and of characters of the lower-cased
hostname** — every line list, every hostname -/
theorem mem_pslSplit (lines : List Str) (hn d s : Str) (h : pslSplit lines hn = some (d, s))
    {c : Char} (hc : c ∈ d ∨ c ∈ s) : c = '.' ∨ c ∈ lower hn := by
  refine Or.inr (mem_of_mem_rstripChars (cs := ['.']) ?_)
  show c ∈ C08.hostStr hn
  rcases pslSplit_rejoins lines hn d s h with ⟨rfl, rfl⟩ | e
  · exact hc.elim (fun h => nomatch h) id
  · rw [← e]
    exact hc.elim (List.mem_append_left _) fun h => List.mem_append_right _ (List.mem_cons_of_mem _ h)

/-- **no `|` in the netloc, no `|` in the two parts of the public-suffix split** — for the model
of suffix_trie.py nothing has to be assumed (any netloc, any suffix list; trailing dots, leading
dots, `%` included) -/
theorem split_nobar_psl (lines : List Str) {n : Str} (hb : '|' ∉ n) :
    ∀ d s, splitSuffixParsed (pslSplit lines) n = some (d, s) → '|' ∉ d ∧ '|' ∉ s :=
  C12.split_nobar_of_c08 (pslSplit lines) hb (splitRejoins_psl lines n)

/-- `pslSplit` looks at the lower-cased hostname only -/
theorem pslSplit_lower_congr (lines : List Str) {a b : Str} (e : lower a = lower b) :
    pslSplit lines a = pslSplit lines b := by
  simp only [pslSplit, pslSplitT, splitOfLen, hostLenT, SuffixTrie.hostParts_of_lower_eq e]

/-- **C08's case clause for the model of suffix_trie.py**: the hypothesis `SplitCaseInv` of the
C12 fixed-point theorem (plain hosts with `%`) holds for `pslSplit lines` on every netloc -/
theorem splitCaseInv_psl (lines : List Str) (n : Str) : SplitCaseInv (pslSplit lines) n := by
  intro h' e _ _
  exact pslSplit_lower_congr lines e

/-! ## the public suffix of a subdomain -/

/-- **the public suffix of a subdomain that does not swallow the parent domain is the parent's**
(hostnames; `hu` without trailing dot): exception and wildcard rules included -/
theorem hostLen_subdomain (lines : List Str) (pre hu : Str) (hne : hu ≠ [])
    (hdot : hu.getLast? ≠ some '.')
    (hout : ∀ m, C08.hostLen lines (pre ++ '.' :: hu) = some m →
      m < (SuffixTrie.hostParts hu).length) :
    C08.hostLen lines hu = C08.hostLen lines (pre ++ '.' :: hu) := by
  unfold C08.hostLen at hout ⊢
  rw [hostParts_sub pre hu hne hdot, List.reverse_append] at hout ⊢
  apply pslLen_subdomain
  · simp only [ne_eq, List.reverse_eq_nil_iff]
    exact splitOn_ne_nil _ _
  · simpa using hout

/-- `outsideSuffixT` in terms of the specification -/
theorem outsideSuffix_spec (lines : List Str) (nu nv : Str)
    (h : outsideSuffixT (SuffixTrie.build lines) nu nv = true) :
    Lru.isSpecialHost (pyHostname nu) = false ∧ Lru.isSpecialHost (pyHostname nv) = false ∧
      ∀ m, C08.hostLen lines (pyHostname nv) = some m →
        m < (SuffixTrie.hostParts (pyHostname nu)).length := by
  unfold outsideSuffixT outsideSuffixOf suffixLenT hostLenT at h
  rw [C08.walkLen_str] at h
  simp only [Bool.and_eq_true, Bool.not_eq_true'] at h
  refine ⟨h.1.1, h.1.2, ?_⟩
  intro m hm
  have := h.2
  rw [hm] at this
  simpa using this

/-- what `hostSplit` is on a DNS name that is not special -/
theorem hostSplit_dns (lines : List Str) (n : Str) (hwf : wfNetloc n = true)
    (hd : dnsName (specHost n) = true) (hne : specHost n ≠ [])
    (hs : Lru.isSpecialHost (pyHostname n) = false) :
    hostSplit (pslSplit lines) n = pslSplit lines (lower (specHost n)) := by
  obtain ⟨hp, hpc, _, _⟩ := dnsName_iff.1 hd
  rw [hostSplit_plain _ hp]
  unfold splitSuffixParsed
  simp only [hs, Bool.false_eq_true, if_false]
  rw [pyHostname_plain hwf hp hpc]
  have : lower (specHost n) ≠ [] := by simpa [lower] using hne
  simp [this]

/-- **same public suffix, from the list**: `v`'s host is a whole-label subdomain of `u`'s host,
both are DNS names, and `u`'s host lies outside `v`'s public suffix — then the two hosts have the
same public suffix (or none has one), by the Public Suffix algorithm -/
theorem sameSuffixSplit_of_outside (lines : List Str) (nu nv : Str)
    (hwu : wfNetloc nu = true) (hwv : wfNetloc nv = true)
    (hdu : dnsName (specHost nu) = true) (hdv : dnsName (specHost nv) = true)
    (hsub : strictSub (specHost nu) (specHost nv) = true)
    (hout : outsideSuffixT (SuffixTrie.build lines) nu nv = true) :
    SameSuffixSplit (pslSplit lines) nu nv := by
  obtain ⟨pre, hpre⟩ := strictSub_iff.mp hsub
  obtain ⟨hpu, hpcu, _, hlastu⟩ := dnsName_iff.1 hdu
  obtain ⟨hpv, hpcv, _, hlastv⟩ := dnsName_iff.1 hdv
  obtain ⟨hsu, hsv, ho⟩ := outsideSuffix_spec lines nu nv hout
  -- `u`'s host is not empty: `v`'s host would end with a dot
  have hune : specHost nu ≠ [] := by
    intro e
    apply hlastv
    rw [hpre, e]; simp
  have hvne : specHost nv ≠ [] := by rw [hpre]; simp
  have hlu : lower (specHost nu) ≠ [] := by simpa [lower] using hune
  have elv : lower (specHost nv) = lower pre ++ '.' :: lower (specHost nu) := by
    rw [hpre, lower_dot]
  rw [pyHostname_plain hwu hpu hpcu, pyHostname_plain hwv hpv hpcv, elv] at ho
  have hlen := hostLen_subdomain lines (lower pre) (lower (specHost nu)) hlu (getLast_lower hlastu) ho
  unfold SameSuffixSplit
  rw [hostSplit_dns lines nu hwu hdu hune hsu, hostSplit_dns lines nv hwv hdv hvne hsv, elv,
    pslSplit_spec, pslSplit_spec, ← hlen]
  cases hl : C08.hostLen lines (lower (specHost nu)) with
  | none => left; simp
  | some m =>
    right
    have hb := C08.hostLen_bounds hl
    simp only [Option.map_some]
    refine ⟨_, join SuffixTrie.dot
      ((SuffixTrie.hostParts (lower pre ++ '.' :: lower (specHost nu))).take
        ((SuffixTrie.hostParts (lower pre ++ '.' :: lower (specHost nu))).length - m)), _, rfl, ?_⟩
    simp only [Option.some.injEq, Prod.mk.injEq, true_and]
    rw [hostParts_sub (lower pre) (lower (specHost nu)) hlu (getLast_lower hlastu)]
    congr 1
    have : (splitOn (lower (lower pre)) '.' ++ SuffixTrie.hostParts (lower (specHost nu))).length - m
        = (splitOn (lower (lower pre)) '.').length +
            ((SuffixTrie.hostParts (lower (specHost nu))).length - m) := by
      simp only [List.length_append]; omega
    rw [this, List.drop_append, List.drop_eq_nil_of_le (by omega), Nat.add_sub_cancel_left]
    rfl

/-! ## the forward law -/

/-- the hosts of the suffix-aware forward law: DNS names, `u`'s host outside `v`'s public suffix
(by the list) — or the same public suffix anyway (`co.uk` / `a.co.uk`) -/
def PslNames (lines : List Str) (nu nv : Str) : Prop :=
  labelHost (specHost nu) = true ∧ labelHost (specHost nv) = true ∧
    dnsName (specHost nu) = true ∧ dnsName (specHost nv) = true ∧
    (outsideSuffixT (SuffixTrie.build lines) nu nv = true ∨
      SameSuffixSplit (pslSplit lines) nu nv)

/-- what `PslNames` gives when `v`'s host is a strict subdomain of `u`'s (equal hosts are not) -/
theorem sub_hyps_psl (lines : List Str) (u v : Parts)
    (hwu : wfNetloc u.netloc = true) (hwv : wfNetloc v.netloc = true)
    (hhosts : specHost u.netloc = specHost v.netloc ∨ PslNames lines u.netloc v.netloc) :
    strictSub (specHost u.netloc) (specHost v.netloc) = true →
      labelHost (specHost u.netloc) = true ∧ labelHost (specHost v.netloc) = true ∧
        SplitLaw (pslSplit lines) u.netloc ∧ SplitLaw (pslSplit lines) v.netloc ∧
        SameSuffixSplit (pslSplit lines) u.netloc v.netloc := by
  intro hs
  rcases hhosts with e | ⟨l1, l2, d1, d2, hreg⟩
  · exact absurd hs (not_strictSub_of_eq e)
  · refine ⟨l1, l2, splitLaw_psl lines _ hwu, splitLaw_psl lines _ hwv, ?_⟩
    rcases hreg with ho | hsame
    · exact sameSuffixSplit_of_outside lines _ _ hwu hwv d1 d2 hs ho
    · exact hsame

/-- **forward, `suffix_aware = True`, with suffix_trie.py inside** (every suffix list): if `v`
lies under `u` and — when `v`'s host is a strict subdomain of `u`'s — both are DNS names with
`u`'s host outside `v`'s public suffix (or with the same public suffix), the stems of `u` (empty
path stems aside) are a prefix of the stems of `v`.  Nothing is assumed about `split_suffix`. -/
theorem stems_prefix_of_under_psl (lines : List Str) (u v : Parts)
    (hwu : wfNetloc u.netloc = true) (hwv : wfNetloc v.netloc = true)
    (hnu : noUserinfo u.netloc = true)
    (hhosts : specHost u.netloc = specHost v.netloc ∨ PslNames lines u.netloc v.netloc)
    (h : Under u v) :
    cleanTrailingPath (lruStems (pslSplit lines) true u) <+:
      cleanTrailingPath (lruStems (pslSplit lines) true v) :=
  stems_prefix_of_under_sub (pslSplit lines) u v hwu hwv hnu
    (sub_hyps_psl lines u v hwu hwv hhosts) h

/-- **the RAW stems, `suffix_aware = True`, suffix_trie.py inside**: the same for `lru_stems(u)` as
it is returned (no `clean_trailing_path`), when `v` lies under `u` with the path segments read as
they are (`UnderRaw`) -/
theorem stems_prefix_of_under_raw_psl (lines : List Str) (u v : Parts)
    (hwu : wfNetloc u.netloc = true) (hwv : wfNetloc v.netloc = true)
    (hnu : noUserinfo u.netloc = true)
    (hhosts : specHost u.netloc = specHost v.netloc ∨ PslNames lines u.netloc v.netloc)
    (h : UnderRaw u v) :
    lruStems (pslSplit lines) true u <+: lruStems (pslSplit lines) true v := by
  rw [lruStems_eq_G, lruStems_eq_G]
  exact (keyG_prefix_of_under_sub (pslSplit lines) rawSegs u v hwu hwv hnu
    (sub_hyps_psl lines u v hwu hwv hhosts) h).map render

/-- the stems of every 5-tuple without `|` are well formed (non-empty, tagged, `|`-free), both
modes, with suffix_trie.py inside: nothing assumed about the split, any host -/
theorem stems_ok_psl (lines : List Str) (sa : Bool) (p : Parts) (hb : noBar p = true) :
    StemsOK (lruStems (pslSplit lines) sa p) := by
  apply C12.stems_wellformed_of_split (pslSplit lines) sa p hb
  intro _ _
  apply split_nobar_psl lines
  intro hm
  simp only [noBar, Bool.and_eq_true] at hb
  have := noneOf_iff.mp hb.1.1.1.2 _ hm
  simp at this

/-- … and the serialisation of the cleaned stems of `u` is a string prefix of that of `v`
(`|`-free URLs; equal hosts — bracketed literals, trailing dots, … — included: no hypothesis
about `split_suffix`) -/
theorem lru_prefix_of_under_psl (lines : List Str) (u v : Parts)
    (hwu : wfNetloc u.netloc = true) (hwv : wfNetloc v.netloc = true)
    (hnu : noUserinfo u.netloc = true)
    (hhosts : specHost u.netloc = specHost v.netloc ∨ PslNames lines u.netloc v.netloc)
    (hbu : noBar u = true) (hbv : noBar v = true) (h : Under u v) :
    serializeLru (cleanTrailingPath (lruStems (pslSplit lines) true u)) <+:
      serializeLru (cleanTrailingPath (lruStems (pslSplit lines) true v)) := by
  have cu := clean_stems_ok_of (pslSplit lines) true u (stems_ok_psl lines true u hbu)
  have cv := clean_stems_ok_of (pslSplit lines) true v (stems_ok_psl lines true v hbv)
  rw [serialize_prefix_iff _ _ cu.1 cv.1 cu.2 cv.2]
  exact stems_prefix_of_under_psl lines u v hwu hwv hnu hhosts h

/-- **`url_to_lru(u)` itself (empty path stems kept) is a string prefix of `url_to_lru(v)`**,
`suffix_aware = True`, suffix_trie.py inside, for `UnderRaw` -/
theorem lru_prefix_of_under_raw_psl (lines : List Str) (u v : Parts)
    (hwu : wfNetloc u.netloc = true) (hwv : wfNetloc v.netloc = true)
    (hnu : noUserinfo u.netloc = true)
    (hhosts : specHost u.netloc = specHost v.netloc ∨ PslNames lines u.netloc v.netloc)
    (hbu : noBar u = true) (hbv : noBar v = true) (h : UnderRaw u v) :
    serializeLru (lruStems (pslSplit lines) true u) <+:
      serializeLru (lruStems (pslSplit lines) true v) := by
  have ou := stems_ok_psl lines true u hbu
  have ov := stems_ok_psl lines true v hbv
  rw [serialize_prefix_iff _ _ ou.ne ov.ne ou.nobar ov.nobar]
  exact stems_prefix_of_under_raw_psl lines u v hwu hwv hnu hhosts h

/-- **on URL strings** (the parser inside the model): `lru_stems(u)` (empty path stems aside) is a
prefix of `lru_stems(v)` and the serialisation of the cleaned stems a string prefix —
`split_suffix` being suffix_trie.py on any suffix list; hosts equal (whatever they are), or
`PslNames` -/
theorem lru_prefix_of_under_psl_string (lines : List Str) (u v : Str) (hbu : '|' ∉ u) (hbv : '|' ∉ v)
    (pu pv : Parts) (hu : urlParts u = some pu) (hv : urlParts v = some pv)
    (hwu : wfNetloc pu.netloc = true) (hwv : wfNetloc pv.netloc = true)
    (hnu : noUserinfo pu.netloc = true)
    (hhosts : specHost pu.netloc = specHost pv.netloc ∨ PslNames lines pu.netloc pv.netloc)
    (h : Under pu pv) :
    ∃ su sv, lruStemsUrl (pslSplit lines) true u = some su ∧
      lruStemsUrl (pslSplit lines) true v = some sv ∧
      cleanTrailingPath su <+: cleanTrailingPath sv ∧
      serializeLru (cleanTrailingPath su) <+: serializeLru (cleanTrailingPath sv) :=
  ⟨_, _, stemsUrl_of_parts _ true hu, stemsUrl_of_parts _ true hv,
    stems_prefix_of_under_psl lines pu pv hwu hwv hnu hhosts h,
    lru_prefix_of_under_psl lines pu pv hwu hwv hnu hhosts (C12.noBar_of_url hu hbu)
      (C12.noBar_of_url hv hbv) h⟩

/-- **forward for the real `lru_stems` / `url_to_lru`, on URL strings, `suffix_aware = True`**,
suffix_trie.py inside: for `UnderRaw`, `lru_stems(u)` is a prefix of `lru_stems(v)` and the string
`url_to_lru(u)` a prefix of the string `url_to_lru(v)` -/
theorem url_to_lru_prefix_of_under_psl_string (lines : List Str) (u v : Str) (hbu : '|' ∉ u)
    (hbv : '|' ∉ v) (pu pv : Parts) (hu : urlParts u = some pu) (hv : urlParts v = some pv)
    (hwu : wfNetloc pu.netloc = true) (hwv : wfNetloc pv.netloc = true)
    (hnu : noUserinfo pu.netloc = true)
    (hhosts : specHost pu.netloc = specHost pv.netloc ∨ PslNames lines pu.netloc pv.netloc)
    (h : UnderRaw pu pv) :
    ∃ su sv lu lv, lruStemsUrl (pslSplit lines) true u = some su ∧
      lruStemsUrl (pslSplit lines) true v = some sv ∧
      urlToLru (pslSplit lines) true u = some lu ∧ urlToLru (pslSplit lines) true v = some lv ∧
      su <+: sv ∧ lu <+: lv :=
  ⟨_, _, _, _, stemsUrl_of_parts _ true hu, stemsUrl_of_parts _ true hv,
    urlToLru_of_parts _ true hu, urlToLru_of_parts _ true hv,
    stems_prefix_of_under_raw_psl lines pu pv hwu hwv hnu hhosts h,
    lru_prefix_of_under_raw_psl lines pu pv hwu hwv hnu hhosts (C12.noBar_of_url hu hbu)
      (C12.noBar_of_url hv hbv) h⟩

/-- **stem-list prefix ⇔ string prefix of `url_to_lru`, both modes**, for the LRUs of two `|`-free
URL strings — no grammar restriction, `split_suffix` being suffix_trie.py on any suffix list
(`url_to_lru_prefix_iff` is the statement for `suffix_aware = False` and any `split_suffix`) -/
theorem url_to_lru_prefix_iff_psl (lines : List Str) (sa : Bool) (u v : Str) (hbu : '|' ∉ u)
    (hbv : '|' ∉ v) (su sv : List Str)
    (hsu : lruStemsUrl (pslSplit lines) sa u = some su)
    (hsv : lruStemsUrl (pslSplit lines) sa v = some sv) :
    ∃ lu lv, urlToLru (pslSplit lines) sa u = some lu ∧ urlToLru (pslSplit lines) sa v = some lv ∧
      (lu <+: lv ↔ su <+: sv) := by
  obtain ⟨ou, eu, _⟩ := C12.serialization_string_of_split (pslSplit lines) sa u hbu
    (fun _ p hp => split_nobar_psl lines (C12.netloc_nobar_of_url hp hbu)) su hsu
  obtain ⟨ov, ev, _⟩ := C12.serialization_string_of_split (pslSplit lines) sa v hbv
    (fun _ p hp => split_nobar_psl lines (C12.netloc_nobar_of_url hp hbv)) sv hsv
  exact ⟨_, _, eu, ev, serialize_prefix_iff su sv ou.ne ov.ne ou.nobar ov.nobar⟩

/-! ## non-vacuity, and the region that is excluded -/

/-- a small suffix list with a wildcard rule and its exception, a multi-label suffix -/
def demoLines : List Str :=
  ["jp", "*.kawasaki.jp", "!city.kawasaki.jp", "uk", "co.uk", "*.ck", "!www.ck"].map String.toList

def urlOf (host : String) : Parts :=
  { scheme := "http".toList, netloc := host.toList, path := [], query := [], fragment := [] }

/-- the exception rule applies to the subdomains of the excepted host: `www.city.kawasaki.jp`
has the suffix `kawasaki.jp` like `city.kawasaki.jp` (the pair of `seeded/C13-4`) -/
example : pslSplit demoLines "city.kawasaki.jp".toList = some ("city".toList, "kawasaki.jp".toList) ∧
    pslSplit demoLines "www.city.kawasaki.jp".toList = some ("www.city".toList, "kawasaki.jp".toList) ∧
    pslSplit demoLines "x.kawasaki.jp".toList = some ([], "x.kawasaki.jp".toList) ∧
    pslSplit demoLines "kawasaki.jp".toList = some ("kawasaki".toList, "jp".toList) := by
  unfold demoLines
  simp only [List.map, toList_lit]
  decide +kernel

/-- the hypotheses of `stems_prefix_of_under_psl` hold on that pair, through `outsideSuffixT` -/
example : Under (urlOf "city.kawasaki.jp") (urlOf "www.city.kawasaki.jp") ∧
    outsideSuffixT (SuffixTrie.build demoLines) "city.kawasaki.jp".toList "www.city.kawasaki.jp".toList = true ∧
    dnsName "city.kawasaki.jp".toList = true ∧ labelHost "www.city.kawasaki.jp".toList = true := by
  unfold demoLines urlOf
  simp only [List.map, toList_lit]
  decide +kernel

example : cleanTrailingPath (lruStems (pslSplit demoLines) true (urlOf "www.city.kawasaki.jp")) =
    ["s:http", "h:kawasaki.jp", "h:city", "h:www"].map String.toList := by
  unfold demoLines urlOf
  simp only [List.map, toList_lit]
  decide +kernel

/-- `www.ck` / `shop.www.ck` (exception `!www.ck`), and a sibling under the wildcard -/
example : outsideSuffixT (SuffixTrie.build demoLines) "www.ck".toList "shop.www.ck".toList = true ∧
    outsideSuffixT (SuffixTrie.build demoLines) "a.ck".toList "b.a.ck".toList = false ∧
    outsideSuffixT (SuffixTrie.build demoLines) "kawasaki.jp".toList "city.kawasaki.jp".toList = false ∧
    outsideSuffixT (SuffixTrie.build demoLines) "uk".toList "a.co.uk".toList = false := by
  unfold demoLines
  simp only [List.map, toList_lit]
  decide +kernel

/-- **KF-C13-1 with suffix_trie.py inside**: `http://a.co.uk` lies under `http://uk`, `uk` lies
inside the public suffix `co.uk`, and the stems `[s:http, h:uk]` are not a prefix of
`[s:http, h:co.uk, h:a]` — the excluded region is not empty and the law fails there; likewise
`kawasaki.jp` (suffix `jp`) / `city.kawasaki.jp` (suffix `kawasaki.jp`, by the exception rule) -/
theorem kf_inside_suffix_psl :
    (Under (urlOf "uk") (urlOf "a.co.uk") ∧
      ¬ (cleanTrailingPath (lruStems (pslSplit demoLines) true (urlOf "uk")) <+:
          cleanTrailingPath (lruStems (pslSplit demoLines) true (urlOf "a.co.uk")))) ∧
    (Under (urlOf "kawasaki.jp") (urlOf "city.kawasaki.jp") ∧
      ¬ (cleanTrailingPath (lruStems (pslSplit demoLines) true (urlOf "kawasaki.jp")) <+:
          cleanTrailingPath (lruStems (pslSplit demoLines) true (urlOf "city.kawasaki.jp")))) := by
  unfold demoLines urlOf
  simp only [List.map, toList_lit]
  decide +kernel

/-- **converse, `suffix_aware = True`, suffix_trie.py inside — nothing assumed about the split**:
`under_of_stems_prefix_sa` with its two hypotheses `SplitLaw` discharged by `splitLaw_psl`, which
holds on every netloc of the grammar (hosts with trailing dots or a leading dot included: the
stems of `http://a.co.uk.` are not those of `http://a.co.uk`, FX-C12-ed8ae90).  Hosts compared lower-cased, as the mode lower-cases them -/
theorem under_of_stems_prefix_psl (lines : List Str) (u v : Parts)
    (hwu : wfNetloc u.netloc = true) (hwv : wfNetloc v.netloc = true)
    (hnu : noUserinfo u.netloc = true)
    (h : cleanTrailingPath (lruStems (pslSplit lines) true u) <+:
      cleanTrailingPath (lruStems (pslSplit lines) true v)) :
    UnderBy lower u v :=
  under_of_stems_prefix_sa (pslSplit lines) u v hwu hwv hnu (splitLaw_psl lines _ hwu)
    (splitLaw_psl lines _ hwv) h

/-- the same on URL strings (`under_of_stems_prefix_string` without its `SplitLaw` hypotheses) -/
theorem under_of_stems_prefix_psl_string (lines : List Str) (u v : Str) (su sv : List Str)
    (hsu : lruStemsUrl (pslSplit lines) true u = some su)
    (hsv : lruStemsUrl (pslSplit lines) true v = some sv)
    (hpre : cleanTrailingPath su <+: cleanTrailingPath sv) :
    ∃ pu pv, urlParts u = some pu ∧ urlParts v = some pv ∧
      (wfNetloc pu.netloc = true → wfNetloc pv.netloc = true → noUserinfo pu.netloc = true →
        UnderBy lower pu pv) := by
  obtain ⟨pu, pv, hu, hv, h⟩ := under_of_stems_prefix_string (pslSplit lines) true u v su sv hsu hsv hpre
  exact ⟨pu, pv, hu, hv, fun hwu hwv hnu =>
    h hwu hwv hnu (fun _ => ⟨splitLaw_psl lines _ hwu, splitLaw_psl lines _ hwv⟩)⟩

/-- **the host of known finding KF-C12-2 and the converse** (`KNOWN_FINDINGS.json`:
FX-C12-ed8ae90): the root label of `http://a.co.uk.` is a stem of its
own, so its suffix-aware stems are not those of `http://a.co.uk` — not a prefix of the stems
of `http://a.co.uk/x` (which does not lie under it), a prefix of those of `http://a.co.uk./x` and of
the subdomain `http://b.a.co.uk.` (which do); `SplitLaw` holds at `a.co.uk.` and at `.co.uk` -/
theorem converse_former_witness :
    cleanTrailingPath (lruStems (pslSplit demoLines) true (urlOf "a.co.uk.")) =
      ["s:http", "h:", "h:co.uk", "h:a"].map String.toList ∧
    ¬ (cleanTrailingPath (lruStems (pslSplit demoLines) true (urlOf "a.co.uk.")) <+:
      cleanTrailingPath (lruStems (pslSplit demoLines) true
        { urlOf "a.co.uk" with path := "/x".toList })) ∧
    ¬ UnderBy lower (urlOf "a.co.uk.") { urlOf "a.co.uk" with path := "/x".toList } ∧
    (cleanTrailingPath (lruStems (pslSplit demoLines) true (urlOf "a.co.uk.")) <+:
      cleanTrailingPath (lruStems (pslSplit demoLines) true
        { urlOf "a.co.uk." with path := "/x".toList })) ∧
    UnderBy lower (urlOf "a.co.uk.") { urlOf "a.co.uk." with path := "/x".toList } ∧
    (cleanTrailingPath (lruStems (pslSplit demoLines) true (urlOf "a.co.uk.")) <+:
      cleanTrailingPath (lruStems (pslSplit demoLines) true (urlOf "b.a.co.uk."))) ∧
    Under (urlOf "a.co.uk.") (urlOf "b.a.co.uk.") ∧
    SplitLaw (pslSplit demoLines) (urlOf "a.co.uk.").netloc ∧
    SplitLaw (pslSplit demoLines) (urlOf ".co.uk").netloc := by
  refine ⟨?_, ?_, ?_, ?_, ?_, ?_, ?_, splitLaw_psl demoLines _ ?_, splitLaw_psl demoLines _ ?_⟩
  all_goals
    simp only [urlOf, demoLines, List.map, toList_lit]
    decide +kernel

end Ural.Props.C13
