import UralModel.Props.C08
import UralModel.Lemmas.FingerprintLang
import UralModel.Lemmas.FingerprintSuffix
import UralModel.Lemmas.StrLit
import UralModel.Props.C04Tables
import UralModel.Lemmas.C04Lower
/-!
# C06 — fingerprint_url ignores case, port, language subdomain and optionally suffix

The property theorems on `Parsed` records and an abstract environment; on URL *strings*, with the
modelled parser inside, they are in `Props/C06Whole.lean` and `Props/C06Fp.lean`.

`fingerprint_url = second pass ∘ normalize_url(lang filter, lowercase) ∘ str.lower`.  All
theorems are about the model functions (`Model/Fingerprint.lean`, `Model/Normalize.lean`), for
**every** input, and parametric in

* `E.isCC`, the country-code test — hypothesis `CcLaws` (codes are ASCII letters, the test
  ignores case), proved for the regenerated ISO-3166 table (`ccLaws_isCountry`);
* the public-suffix rule list `lines` (`E.trie = SuffixTrie.build lines`), through C08's
  specification `hostLen` / `split_spec`;
* `E.puny`, arbitrary;
* `E.netlocAcc`, the CPython accessors read on the netloc `normalize_url` assembled —
  hypothesis `AccLaws`, proved for the hand model `pyNetlocAcc` (`accLaws_py`);
  `E.walkHost` — `WalkLaws`, proved for `pyWalkHost` (`walkLaws_py`).

A transformation of the URL *string* that is definable on the string (letter case) is stated on
the string; the others (port, host labels, query items, suffix) are stated on the `Parsed`
record the parser produces; how the parser maps `host:port`, `label.host`, `…&gl=x&…` to the
components is the business of those files.
-/
namespace Ural.Fingerprint
open Ural Ural.Py Ural.UrlParts Ural.Normalize Ural.SuffixTrie Ural.Props.C08

/-- **the suffix goes, the rest stays**: `split_suffix(g)[0]` is `D` when the labels of the host
are `D ++ S` and `S` is its public suffix under the rule list -/
theorem stripSuffix_of_parts (E : Env) (lines : List Str) (ht : E.trie = SuffixTrie.build lines)
    (g w : Str) (D S : List Str) (hwalk : E.walkHost g = .ok (some w))
    (hsp : isSpecialHost w = false) (hparts : hostParts w = D ++ S)
    (hlen : hostLen lines w = some S.length) :
    stripSuffix E g = .ok (join dot D) := by
  unfold stripSuffix
  rw [hwalk]
  simp only [ht, split_spec lines w hsp, hlen, Option.map_some, hparts, List.length_append,
    Nat.add_sub_cancel, List.take_left']

/-- no rule matches: the host is left alone -/
theorem stripSuffix_none (E : Env) (lines : List Str) (ht : E.trie = SuffixTrie.build lines)
    (g w : Str) (hwalk : E.walkHost g = .ok (some w)) (hsp : isSpecialHost w = false)
    (hlen : hostLen lines w = none) : stripSuffix E g = .ok g := by
  unfold stripSuffix
  rw [hwalk]
  simp only [ht, split_spec lines w hsp, hlen, Option.map_none]

end Ural.Fingerprint

namespace Ural.Props.C06
open Ural Ural.Py Ural.UrlParts Ural.Normalize Ural.Canonicalize Ural.Fingerprint Ural.SuffixTrie
open Ural.Props.C08 (hostLen)

/-- the two keys the property names are in `LANG_QUERY_KEYS` (regenerated) -/
theorem langQueryKeys_has : "gl" ∈ Gen.Normalize.langQueryKeys ∧ "hl" ∈ Gen.Normalize.langQueryKeys := by decide

/-- `gl` / `hl` are in no combo table of `normalize_url` (else `IRRELEVANT_QUERY_COMBOS[key]`
would decide on the *value* before the language filter is asked) — what `shouldStrip_lang` uses -/
theorem lang_keys_in_no_combo :
    ∀ k ∈ Gen.Normalize.langQueryKeys,
      (Gen.Normalize.queryCombosCallable.any fun x => x.toList == k.toList) = false ∧
      comboLookup Gen.Normalize.queryCombos k.toList = none ∧
      comboLookup Gen.Normalize.ampQueryCombos k.toList = none :=
  Fingerprint.lang_keys_in_no_combo

/-- every entry of the regenerated ISO-3166 table is made of `A`–`Z` (all that is asked of it) -/
theorem isoCountries_upper :
    Gen.Normalize.isoCountries.all (fun c => c.toList.all isUpperAlpha) = true :=
  Fingerprint.isoCountries_upper

/-- the regenerated table obeys `CcLaws` -/
theorem ccLaws_isCountry : CcLaws isCountry := Fingerprint.ccLaws_isCountry

/-- the hand models of the CPython pieces obey the laws the theorems assume -/
theorem accLaws_py : AccLaws pyNetlocAcc := Fingerprint.accLaws_py
theorem walkLaws_py : WalkLaws pyWalkHost := Fingerprint.walkLaws_py

/-- the second pass as a function of what `normalize_url(…, unsplit=False)` returned (`inl`: the
unparseable argument itself, returned as it is) -/
def fpOfNorm (E : Env) (s : Bool) : Str ⊕ Split → Except Err (Str ⊕ Split)
  | .inl x => .ok (.inl x)
  | .inr r => (fpParts E s r).map .inr

/-- **definitional factorisation** (a lemma: it unfolds the definition): `fingerprint_url` sees its
argument only through `normalize_url(url.lower(), query_item_filter=lang, lowercase=True,
unsplit=False)`.  The clause "ignores everything normalize_url ignores" is NOT carried by this and
the next two statements (their hypothesis is the equality of that very call) but by
`Props/C06Fp.lean`: `fingerprintUrlString (T u) = fingerprintUrlString u` for every `T` of C04's family. -/
theorem fp_factor (E : Env) (s : Bool) (url : Str) :
    fingerprintUrlSplit E s url =
      fpOfNorm E s (normalizeUrlSplit E.puny E.parse E.platform fpOpts true (lower url)) := by
  unfold fingerprintUrlSplit fpOfNorm
  cases normalizeUrlSplit E.puny E.parse E.platform fpOpts true (lower url) <;> rfl

/-- **two inputs that `normalize_url` (with the options `fingerprint_url` passes) maps to the
same tuple have the same fingerprint**, tuple and string -/
theorem fp_of_norm_eq (E : Env) (s : Bool) (u v : Str)
    (h : normalizeUrlSplit E.puny E.parse E.platform fpOpts true (lower u) =
         normalizeUrlSplit E.puny E.parse E.platform fpOpts true (lower v)) :
    fingerprintUrlSplit E s u = fingerprintUrlSplit E s v ∧ fingerprintUrl E s u = fingerprintUrl E s v := by
  have : fingerprintUrlSplit E s u = fingerprintUrlSplit E s v := by rw [fp_factor, fp_factor, h]
  exact ⟨this, by unfold fingerprintUrl; rw [this]⟩

/-- the same on parsed URLs: equal `normalize_url` tuples, equal fingerprints -/
theorem fp_of_normParts_eq (E : Env) (s hp hp' : Bool) (p p' : Parsed)
    (h : normParts E.puny fpOpts hp p = normParts E.puny fpOpts hp' p') :
    fpOfParsed E s hp p = fpOfParsed E s hp' p' := by
  unfold fpOfParsed; rw [h]

/-- the other case of an ASCII letter -/
def swapCaseChar (c : Char) : Char := if 'A' ≤ c ∧ c ≤ 'Z' then lowerChar c else upperChar c

/-- flip the ASCII case of the characters selected by `mask` (any component, any subset) -/
def flipCase : List Bool → Str → Str
  | _, [] => []
  | [], s => s
  | b :: bs, c :: cs => (if b then swapCaseChar c else c) :: flipCase bs cs

theorem lowerChar_swapCaseChar (c : Char) : lowerChar (swapCaseChar c) = lowerChar c := by
  unfold swapCaseChar
  split
  · exact lowerChar_idem c
  · exact lowerChar_upperChar c

/-- a case flip is invisible after `str.lower` -/
theorem lower_flipCase (mask : List Bool) (s : Str) : lower (flipCase mask s) = lower s := by
  induction s generalizing mask with
  | nil => cases mask <;> rfl
  | cons c cs ih =>
    cases mask with
    | nil => rfl
    | cons b bs =>
      have := ih bs
      simp only [lower] at this
      cases b <;> simp [flipCase, lower, lowerChar_swapCaseChar, this]

/-- **letter case of the whole URL is ignored**: two strings with the same `str.lower` have the
same fingerprint (tuple, string, and the same error if any), whatever the options.  `lower` is the
model's `str.lower`, which folds `A`–`Z` only: a congruence on `lower url` that covers every ASCII
case flip (`fp_case_flip`); what Python's `str.lower` does to other letters (`É`, the Kelvin sign)
is outside the model alphabet — oracle on the real code, and for hosts the HostCase laws of C03. -/
theorem fp_case_insensitive (E : Env) (s : Bool) (u v : Str) (h : lower u = lower v) :
    fingerprintUrlSplit E s u = fingerprintUrlSplit E s v ∧ fingerprintUrl E s u = fingerprintUrl E s v :=
  fp_of_norm_eq E s u v (by rw [h])

/-- … in particular an ASCII case flip of any set of characters (scheme, userinfo, host, path,
query, fragment, the hex digits of an escape) -/
theorem fp_case_flip (E : Env) (s : Bool) (mask : List Bool) (u : Str) :
    fingerprintUrl E s (flipCase mask u) = fingerprintUrl E s u :=
  (fp_case_insensitive E s _ _ (lower_flipCase mask u)).2

/-- **what normalization unescaped is lower-cased again** (D25): path, query and fragment of the
result are fixed points of `str.lower` -/
theorem fp_lower_closed (E : Env) (s : Bool) (r r' : Split) (h : fpParts E s r = .ok r') :
    lower r'.path = r'.path ∧ lower r'.query = r'.query ∧ r'.fragment.map lower = r'.fragment := by
  obtain ⟨a, host, e⟩ := fpParts_ok E s r r' h
  subst e
  refine ⟨lower_idem _, lower_idem _, ?_⟩
  cases r.fragment <;> simp [lower_idem]

/-- **any port is ignored** (none, default, any other): two parsed URLs that differ in the port
only have the same fingerprint -/
theorem fp_port_irrelevant (E : Env) (hacc : AccLaws E.netlocAcc) (s hp : Bool) (p : Parsed)
    (k : Option Nat) (hs : HostSafe (normHostOf E.puny p)) (h1 : PortOk p.port) (h2 : PortOk k) :
    fpOfParsed E s hp { p with port := k } = fpOfParsed E s hp p := by
  have hs' : HostSafe (normHostOf E.puny { p with port := k }) := hs
  rw [fpParts_normParts E hacc s hp _ hs' h2, fpParts_normParts E hacc s hp p hs h1]
  obtain ⟨e1, e2, e3, _⟩ := normParts_port E.puny fpOpts hp p k
  rw [e1, e2, e3]
  rfl

/-- **no scheme, and a netloc assembled without userinfo and without port** — on the tuple:
whatever `normalize_url` returned, the second pass sets the scheme to `""` and builds the netloc
with `port=None`; under `AccLaws` the userinfo it reads back is `None` too, so the netloc is
the bare (bracketed if IPv6) fingerprinted host -/
theorem fp_shape (E : Env) (hacc : AccLaws E.netlocAcc) (s hp : Bool) (p : Parsed) (r : Split)
    (hs : HostSafe (normHostOf E.puny p)) (hport : PortOk p.port) (h : fpOfParsed E s hp p = .ok r) :
    r.scheme = [] ∧ ∃ host : Option Str,
      fpHostOut E s (accHost (normHostOf E.puny p)) = .ok host ∧
      r.netloc = unsplitNetloc none none host none ∧ r.netloc = bracket (host.getD []) := by
  rw [fpParts_normParts E hacc s hp p hs hport] at h
  split at h
  · cases h
  · rename_i host hh
    injection h with h
    subst h
    refine ⟨rfl, host, hh, rfl, ?_⟩
    rw [unsplitNetloc_noauth]; simp [portSuffix]

/-- the scheme clause needs no hypothesis at all -/
theorem fp_no_scheme (E : Env) (s : Bool) (r r' : Split) (h : fpParts E s r = .ok r') : r'.scheme = [] := by
  obtain ⟨a, host, e⟩ := fpParts_ok E s r r' h
  subst e; rfl

/-- **on the string**: with an empty scheme and a non-empty netloc the result is the netloc,
then the path (a `/` put in front if it lacks one), `?query`, `#fragment` — the `//` that
`urlunsplit` writes in front of the netloc is dropped, nothing else is in front of the host -/
theorem fp_shape_string (r : Split) (hsch : r.scheme = []) (hn : r.netloc ≠ []) :
    fpString r =
      r.netloc ++ (if r.path ≠ [] ∧ r.path.take 1 ≠ ['/'] then '/' :: r.path else r.path) ++
        (if r.query ≠ [] then '?' :: r.query else []) ++
        (match r.fragment with
         | some f => if f ≠ [] then '#' :: f else []
         | none => []) := by
  have hne : r.netloc.isEmpty = false := by
    cases h : r.netloc with
    | nil => exact absurd h hn
    | cons a b => rfl
  unfold fpString urlunsplit
  simp only [hsch, hne, List.isEmpty_nil, Bool.not_true, Bool.false_eq_true, false_and, or_false,
    Bool.not_false, if_true, if_false]
  by_cases hq : r.query = [] <;> cases r.fragment with
  | none => simp [hq, startsWith, List.isPrefixOf]
  | some f => by_cases hfe : f = [] <;> simp [hq, hfe, startsWith, List.isPrefixOf]

/-- the full statement: a leading label `xx` / `xx-yy` (every half a code) is ignored whenever at
least two labels remain after it, whatever the rest of the host is -/
def FullLangLabel (E : Env) : Prop :=
  ∀ (s hp : Bool) (p : Parsed) (w h : Str), p.hostname = some h → LangShape E.isCC w →
    1 ≤ countDots (hostnameView (preAmp E.puny h)) →
    fpOfParsed E s hp { p with hostname := some (w ++ '.' :: h) } = fpOfParsed E s hp p

/-- **a leading language / country label is ignored** — `fp (label.host) = fp host` — when at
least two labels remain after it (counted on the host `normalize_url` leaves), for a label `xx` or
`xx-yy` whose halves pass the country-code test.  Side conditions (each excluded region really
differs, see the witnesses below):

* `hamp`: the rest does not begin with `amp-` (the label shields that prefix from
  `normalize_url`, which only looks at the very beginning of the host);
* `hsingle`: the rest does not itself begin with a strippable language label (one label is
  stripped, not a run);
* `hdf`: the per-domain query filter is chosen alike with and without the label (it is chosen
  by `endswith` on the decoded host; true for the bundled table, whose domains have a first
  label longer than any language label).

What the code does with `www`: irrelevant labels are removed by `normalize_url` wherever they
stand, *before* the second pass, so `fr.www.a.com`, `www.fr.a.com` and `fr.a.com` all reach the
second pass as `fr.a.com` (`preAmp` is `normalize_url`'s own hostname pipeline). -/
theorem fp_lang_label_partial (E : Env) (hacc : AccLaws E.netlocAcc) (hcc : CcLaws E.isCC)
    (s hp : Bool) (p : Parsed) (w h : Str) (hph : p.hostname = some h) (hw : LangShape E.isCC w)
    (hsafe : HostSafe (some (preAmp E.puny h))) (hport : PortOk p.port)
    (hlabels : 1 ≤ countDots (hostnameView (preAmp E.puny h)))
    (hamp : startsWith (preAmp E.puny h) ampDash = false)
    (hsingle : stripLangSubdomainsFromHostname E.isCC (hostnameView (preAmp E.puny h)) =
      hostnameView (preAmp E.puny h))
    (hdf : domainFilter (filterHost E.puny (some h)) =
      domainFilter (filterHost E.puny (some (w ++ '.' :: h)))) :
    fpOfParsed E s hp { p with hostname := some (w ++ '.' :: h) } = fpOfParsed E s hp p := by
  have hlw := langShape_lower hcc hw
  -- the two hosts `normalize_url` leaves
  have hn1 : normHostOf E.puny { p with hostname := some (w ++ '.' :: h) } =
      some (lower w ++ '.' :: preAmp E.puny h) := by
    simp only [normHostOf, Option.map_some, normHost_langLabel E.puny hcc hw h]
  have hn2 : normHostOf E.puny p = some (preAmp E.puny h) := by
    simp only [normHostOf, hph, Option.map_some, normHost_eq, stripAmpPrefix, hamp,
      Bool.false_eq_true, if_false]
  obtain ⟨ha, hl, hr⟩ := hsafe _ rfl
  have hs1 : HostSafe (normHostOf E.puny { p with hostname := some (w ++ '.' :: h) }) := by
    rw [hn1]
    intro x hx
    injection hx with hx
    subst hx
    simp only [List.mem_append, List.mem_cons, not_or]
    exact ⟨⟨shape_not_mem hcc hlw '@' (by decide), by decide, ha⟩,
      ⟨shape_not_mem hcc hlw '[' (by decide), by decide, hl⟩,
      ⟨shape_not_mem hcc hlw ']' (by decide), by decide, hr⟩⟩
  have hs2 : HostSafe (normHostOf E.puny p) := hn2 ▸ hsafe
  rw [fpParts_normParts E hacc s hp _ hs1 hport, fpParts_normParts E hacc s hp p hs2 hport]
  obtain ⟨e1, e2, e3, _⟩ := normParts_hostname E.puny fpOpts hp p (some (w ++ '.' :: h)) (by rw [hph]; exact hdf)
  rw [e1, e2, e3, hn1, hn2]
  -- the rest is not empty (it has a dot), so both hosts are read back and reach the language step
  have hR : hostnameView (preAmp E.puny h) ≠ [] := by
    intro e; rw [e] at hlabels; cases hlabels
  have hR0 : preAmp E.puny h ≠ [] := by
    intro e; rw [e] at hR; exact hR rfl
  have hL : lower w ++ '.' :: preAmp E.puny h ≠ [] :=
    List.append_ne_nil_of_right_ne_nil _ (List.cons_ne_nil _ _)
  rw [accHost_some hL, accHost_some hR0, fpHostOut_some E s (hostnameView_ne_nil _ hL),
    fpHostOut_some E s hR]
  unfold fingerprintHost
  rw [stripLang_seen hcc hw, if_pos hlabels, hsingle]

/-- the side conditions are necessary — witnesses on a concrete environment (identity `puny`,
the hand models of the CPython pieces, the regenerated ISO table) -/
def witnessEnv : Env := pyEnv id (fun _ => none) id SNode.empty isCountry

def hostParsed (h : String) : Parsed :=
  { scheme := "http".toList, netloc := h.toList, path := [], query := [], fragment := [],
    username := none, password := none, hostname := some h.toList, port := none }

def netlocOf (r : Except Err Split) : Option Str := r.toOption.map (·.netloc)

/-- `fr.amp-x.com` keeps `amp-x.com`, `amp-x.com` alone becomes `x.com` (excluded by `hamp`) -/
example : netlocOf (fpOfParsed witnessEnv false true (hostParsed "fr.amp-x.com")) = some "amp-x.com".toList ∧
    netlocOf (fpOfParsed witnessEnv false true (hostParsed "amp-x.com")) = some "x.com".toList := by
  unfold hostParsed
  simp only [toList_lit]
  decide +kernel

/-- `fr.fr.a.com` becomes `fr.a.com`, `fr.a.com` alone becomes `a.com` (excluded by `hsingle`) -/
example : netlocOf (fpOfParsed witnessEnv false true (hostParsed "fr.fr.a.com")) = some "fr.a.com".toList ∧
    netlocOf (fpOfParsed witnessEnv false true (hostParsed "fr.a.com")) = some "a.com".toList := by
  unfold hostParsed
  simp only [toList_lit]
  decide +kernel

/-- so the full statement fails (on the environment of the witnesses) -/
theorem fullLangLabel_fails : ¬ FullLangLabel witnessEnv := by
  intro hfull
  have h := hfull false true (hostParsed "amp-x.com") "fr".toList "amp-x.com".toList rfl
    (LangShape.two 'f' 'r' (by decide +kernel))
  unfold hostParsed at h
  simp only [toList_lit] at h
  revert h
  decide +kernel

/-- non-vacuity: the hypotheses of `fp_lang_label_partial` hold for `fr-fr` + `facebook.com`
(the statement's own example), and the two fingerprints are `facebook.com` -/
example : LangShape isCountry "fr-fr".toList ∧
    1 ≤ countDots (hostnameView (preAmp id "facebook.com".toList)) ∧
    startsWith (preAmp id "facebook.com".toList) ampDash = false ∧
    stripLangSubdomainsFromHostname isCountry (hostnameView (preAmp id "facebook.com".toList)) =
      hostnameView (preAmp id "facebook.com".toList) ∧
    domainFilter (filterHost id (some "facebook.com".toList)) =
      domainFilter (filterHost id (some ("fr-fr".toList ++ '.' :: "facebook.com".toList))) ∧
    netlocOf (fpOfParsed witnessEnv false true (hostParsed "fr-fr.facebook.com")) = some "facebook.com".toList := by
  unfold hostParsed
  simp only [toList_lit]
  refine And.imp_left shape_of_isLangLabel ?_
  decide +kernel

/-- `www` in either position -/
example : netlocOf (fpOfParsed witnessEnv false true (hostParsed "fr.www.a.com")) = some "a.com".toList ∧
    netlocOf (fpOfParsed witnessEnv false true (hostParsed "www.fr.a.com")) = some "a.com".toList := by
  unfold hostParsed
  simp only [toList_lit]
  decide +kernel

/-- **the negative half**: when the first label of the host the second pass reads does not pass the
code's test (not two letters / not `xx-yy` / a half that is not a code), or when only one more
label follows it, the label is **kept** — the netloc of the result is that whole host -/
theorem fp_lang_not_stripped (E : Env) (hacc : AccLaws E.netlocAcc) (hp : Bool) (p : Parsed)
    (w R : Str) (hs : HostSafe (normHostOf E.puny p)) (hport : PortOk p.port)
    (hseen : accHost (normHostOf E.puny p) = some (w ++ '.' :: R)) (hw : '.' ∉ w)
    (hneg : isLangLabel E.isCC w = false ∨ countDots R = 0) :
    ∃ r, fpOfParsed E false hp p = .ok r ∧ r.netloc = bracket (w ++ '.' :: R) := by
  rw [fpParts_normParts E hacc false hp p hs hport, hseen]
  have hne : (w ++ '.' :: R).isEmpty = false := by cases w <;> rfl
  have hkeep : stripLangSubdomainsFromHostname E.isCC (w ++ '.' :: R) = w ++ '.' :: R := by
    rw [stripLang_spec E.isCC w R hw]
    rcases hneg with h | h
    · simp [h]
    · have : ¬ (1 ≤ countDots R) := by omega
      simp [this]
  simp only [fpHostOut, hne, Bool.false_eq_true, if_false, fingerprintHost, hkeep, Except.map]
  refine ⟨_, rfl, ?_⟩
  rw [unsplitNetloc_noauth]; simp [portSuffix]

/-- the two halves as one statement about `strip_lang_subdomains_from_hostname`: the first label
goes **iff** at least two labels remain after it and it is `xx` / `xx-yy` with every half a code -/
theorem strip_lang_iff (isCC : Str → Bool) (hcc : CcLaws isCC) (w R : Str) (hw : '.' ∉ w) :
    (stripLangSubdomainsFromHostname isCC (w ++ '.' :: R) = R ∧ 1 ≤ countDots R ∧ LangShape isCC w) ∨
    (stripLangSubdomainsFromHostname isCC (w ++ '.' :: R) = w ++ '.' :: R ∧
      (countDots R = 0 ∨ ¬ LangShape isCC w)) := by
  rw [stripLang_spec isCC w R hw]
  by_cases hd : 1 ≤ countDots R
  · cases hl : isLangLabel isCC w
    · right
      refine ⟨by simp, Or.inr ?_⟩
      intro hsh
      rw [isLangLabel_of_shape hcc hsh] at hl
      cases hl
    · left
      exact ⟨by simp [hd], hd, shape_of_isLangLabel hl⟩
  · right
    have : ¬ (1 ≤ countDots R ∧ isLangLabel isCC w = true) := fun h => hd h.1
    exact ⟨by simp [this], Or.inl (by omega)⟩

/-- non-vacuity of the negative half: `xx` is no code, `fr.com` has only two labels; `uk` is no
ISO code either (`GB` is) -/
example : netlocOf (fpOfParsed witnessEnv false true (hostParsed "xx.a.com")) = some "xx.a.com".toList ∧
    netlocOf (fpOfParsed witnessEnv false true (hostParsed "fr.com")) = some "fr.com".toList ∧
    netlocOf (fpOfParsed witnessEnv false true (hostParsed "uk.a.com")) = some "uk.a.com".toList ∧
    netlocOf (fpOfParsed witnessEnv false true (hostParsed "fr-xx.a.com")) = some "fr-xx.a.com".toList ∧
    isLangLabel isCountry "xx".toList = false ∧ isLangLabel isCountry "fr-xx".toList = false ∧
    isLangLabel isCountry "gb".toList = true := by
  unfold hostParsed
  simp only [toList_lit]
  decide +kernel

/-- the language filter drops a raw item whose key, as the filter sees it, is `gl` or `hl`, whatever
the host key `hk` the per-domain filter is chosen from -/
theorem keepItem_lang (hk : Option Str) (it : Str)
    (hkey : itemKey it = "gl".toList ∨ itemKey it = "hl".toList) :
    keepItem fpOpts hk (lcItem fpOpts (unqItem (cutFirst '=' it))) = false := by
  have hs := shouldStrip_lang (domainFilter hk) (lower (unquoteQueryItem (cutFirst '=' it).1))
    ((Option.map unquoteQueryItem (cutFirst '=' it).2).map lower) (by rw [lower_idem]; exact hkey)
  simp only [keepItem, lcItem, fpOpts, if_true, hs, Bool.not_true]

/-- **inserting a `gl` / `hl` item at any position of the query changes nothing** — not even
`normalize_url`'s tuple (with the options `fingerprint_url` passes), on every host (a per-domain
filter — facebook.com, youtube.com — does not pre-empt the language filter),
whatever the item's value and the case / escaping of its key (`itemKey`: unescaped and
lower-cased as the filter sees it).  `xs` / `ys` are the raw items before / after the insertion
point, read off the query as `normalize_url` splits it (after its `&amp;` repair, `fixedQuery`);
the base query may be empty. -/
theorem fp_gl_hl (puny : Str → Str) (hp : Bool) (p : Parsed) (q' : Str) (xs ys : List Str) (it : Str)
    (h1 : fixedQuery fpOpts p = join ['&'] (xs ++ it :: ys))
    (h2 : fixedQuery fpOpts { p with query := q' } = join ['&'] (xs ++ ys))
    (hamp : ∀ x ∈ xs ++ it :: ys, '&' ∉ x)
    (hkey : itemKey it = "gl".toList ∨ itemKey it = "hl".toList) :
    normParts puny fpOpts hp p = normParts puny fpOpts hp { p with query := q' } :=
  C04.norm_stripped_item_fixed puny fpOpts rfl hp p p.query q' xs ys it h1 h2 hamp
    (keepItem_lang _ it hkey)

/-- … hence the same fingerprint, for every environment and both values of `strip_suffix` -/
theorem fp_gl_hl_fingerprint (E : Env) (s hp : Bool) (p : Parsed) (q' : Str) (xs ys : List Str) (it : Str)
    (h1 : fixedQuery fpOpts p = join ['&'] (xs ++ it :: ys))
    (h2 : fixedQuery fpOpts { p with query := q' } = join ['&'] (xs ++ ys))
    (hamp : ∀ x ∈ xs ++ it :: ys, '&' ∉ x)
    (hkey : itemKey it = "gl".toList ∨ itemKey it = "hl".toList) :
    fpOfParsed E s hp p = fpOfParsed E s hp { p with query := q' } :=
  fp_of_normParts_eq E s hp hp _ _ (fp_gl_hl E.puny hp p q' xs ys it h1 h2 hamp hkey)

def queryParsed (h q : String) : Parsed := { hostParsed h with path := "/watch".toList, query := q.toList }

/-- non-vacuity: `hl=fr` / `GL=US` / `%68l` in front, in the middle, at the end, alone; on a
youtube.com host (per-domain filter present) -/
example :
    fixedQuery fpOpts (queryParsed "youtube.com" "v=abc&hl=fr&t=1") = join ['&'] (["v=abc".toList] ++ "hl=fr".toList :: ["t=1".toList]) ∧
    fixedQuery fpOpts (queryParsed "youtube.com" "v=abc&t=1") = join ['&'] (["v=abc".toList] ++ ["t=1".toList]) ∧
    (itemKey "hl=fr".toList = "hl".toList) ∧ (itemKey "GL=US".toList = "gl".toList) ∧ (itemKey "%68L".toList = "hl".toList) ∧
    (normParts id fpOpts true (queryParsed "youtube.com" "v=abc&hl=fr&t=1")).query = "v=abc".toList ∧
    (normParts id fpOpts true (queryParsed "youtube.com" "GL=US&v=abc")).query = "v=abc".toList ∧
    (normParts id fpOpts true (queryParsed "youtube.com" "v=abc&%68L")).query = "v=abc".toList ∧
    (normParts id fpOpts true (queryParsed "a.com" "hl=fr")).query = [] ∧
    (normParts id fpOpts true (queryParsed "a.com" "hlx=fr")).query = "hlx=fr".toList := by
  unfold queryParsed hostParsed
  simp only [toList_lit]
  decide +kernel

/-- the full statement: two hosts whose labels are `D ++ S₁` and `D ++ S₂`, `Sᵢ` being the public
suffix of each under the rule list, get the same fingerprint -/
def FullSuffixSwap (E : Env) (lines : List Str) : Prop :=
  ∀ (hp : Bool) (p : Parsed) (h₂ : Option Str) (x₁ x₂ w₁ w₂ : Str) (D S₁ S₂ : List Str),
    accHost (normHostOf E.puny p) = some x₁ → accHost (normHostOf E.puny { p with hostname := h₂ }) = some x₂ →
    E.walkHost x₁ = .ok (some w₁) → E.walkHost x₂ = .ok (some w₂) →
    isSpecialHost w₁ = false → isSpecialHost w₂ = false →
    hostParts w₁ = D ++ S₁ → hostParts w₂ = D ++ S₂ →
    hostLen lines w₁ = some S₁.length → hostLen lines w₂ = some S₂.length →
    fpOfParsed E true hp { p with hostname := h₂ } = fpOfParsed E true hp p

/-- **with `strip_suffix=True` the public suffix is ignored**: two parsed URLs that differ in the
host only, whose hosts — as the second pass reads them, after the language label is gone
(`gᵢ`) — have the labels `D ++ S₁` and `D ++ S₂` with `Sᵢ` the public suffix of each
(C08's specification `hostLen` over the rule list `lines`, any list), have the same fingerprint.
Side conditions (each excluded region really differs, see the witnesses):

* the suffix is judged **after** the language label is stripped (`hg₁`, `hg₂`): when the whole
  domain name looks like a language label, `fr.co.uk` loses it (`co.uk` remains, two labels) and
  `fr.com` keeps it — the language clause and the suffix clause of the property contradict each
  other there (KF-C06-3);
* `hdf`: the per-domain query filter is chosen alike for both hosts (`youtube.com` has one,
  `youtube.co.uk` has none: KF-C06-2). -/
theorem fp_suffix_swap_partial (E : Env) (hacc : AccLaws E.netlocAcc) (lines : List Str)
    (ht : E.trie = SuffixTrie.build lines) (hp : Bool) (p : Parsed) (h₂ : Option Str)
    (hs₁ : HostSafe (normHostOf E.puny p)) (hs₂ : HostSafe (normHostOf E.puny { p with hostname := h₂ }))
    (hport : PortOk p.port)
    (hdf : domainFilter (filterHost E.puny p.hostname) = domainFilter (filterHost E.puny h₂))
    (x₁ x₂ g₁ g₂ w₁ w₂ : Str) (D S₁ S₂ : List Str)
    (hx₁ : accHost (normHostOf E.puny p) = some x₁)
    (hx₂ : accHost (normHostOf E.puny { p with hostname := h₂ }) = some x₂)
    (hg₁ : stripLangSubdomainsFromHostname E.isCC x₁ = g₁)
    (hg₂ : stripLangSubdomainsFromHostname E.isCC x₂ = g₂)
    (hw₁ : E.walkHost g₁ = .ok (some w₁)) (hw₂ : E.walkHost g₂ = .ok (some w₂))
    (hsp₁ : isSpecialHost w₁ = false) (hsp₂ : isSpecialHost w₂ = false)
    (hparts₁ : hostParts w₁ = D ++ S₁) (hparts₂ : hostParts w₂ = D ++ S₂)
    (hlen₁ : hostLen lines w₁ = some S₁.length) (hlen₂ : hostLen lines w₂ = some S₂.length) :
    fpOfParsed E true hp { p with hostname := h₂ } = fpOfParsed E true hp p := by
  rw [fpParts_normParts E hacc true hp _ hs₂ hport, fpParts_normParts E hacc true hp p hs₁ hport]
  obtain ⟨e1, e2, e3, _⟩ := normParts_hostname E.puny fpOpts hp p h₂ hdf
  rw [e1, e2, e3, hx₁, hx₂]
  have f1 : fingerprintHost E true x₁ = .ok (join dot D) := by
    simp only [fingerprintHost, if_true, hg₁]
    exact stripSuffix_of_parts E lines ht g₁ w₁ D S₁ hw₁ hsp₁ hparts₁ hlen₁
  have f2 : fingerprintHost E true x₂ = .ok (join dot D) := by
    simp only [fingerprintHost, if_true, hg₂]
    exact stripSuffix_of_parts E lines ht g₂ w₂ D S₂ hw₂ hsp₂ hparts₂ hlen₂
  simp only [fpHostOut, accHost_nonempty _ _ hx₁, accHost_nonempty _ _ hx₂, Bool.false_eq_true, if_false, f1, f2]

/-- the same under `WalkLaws`, for plain hosts: `safe_urlsplit` hands the lower-cased host to the trie -/
theorem fp_suffix_swap_plain (E : Env) (hacc : AccLaws E.netlocAcc) (hwalk : WalkLaws E.walkHost)
    (lines : List Str) (ht : E.trie = SuffixTrie.build lines) (hp : Bool) (p : Parsed) (h₂ : Option Str)
    (hs₁ : HostSafe (normHostOf E.puny p)) (hs₂ : HostSafe (normHostOf E.puny { p with hostname := h₂ }))
    (hport : PortOk p.port)
    (hdf : domainFilter (filterHost E.puny p.hostname) = domainFilter (filterHost E.puny h₂))
    (x₁ x₂ g₁ g₂ : Str) (D S₁ S₂ : List Str)
    (hx₁ : accHost (normHostOf E.puny p) = some x₁)
    (hx₂ : accHost (normHostOf E.puny { p with hostname := h₂ }) = some x₂)
    (hg₁ : stripLangSubdomainsFromHostname E.isCC x₁ = g₁)
    (hg₂ : stripLangSubdomainsFromHostname E.isCC x₂ = g₂)
    (hpl₁ : PlainHost g₁) (hpl₂ : PlainHost g₂)
    (hsp₁ : isSpecialHost (lower g₁) = false) (hsp₂ : isSpecialHost (lower g₂) = false)
    (hparts₁ : hostParts (lower g₁) = D ++ S₁) (hparts₂ : hostParts (lower g₂) = D ++ S₂)
    (hlen₁ : hostLen lines (lower g₁) = some S₁.length) (hlen₂ : hostLen lines (lower g₂) = some S₂.length) :
    fpOfParsed E true hp { p with hostname := h₂ } = fpOfParsed E true hp p :=
  fp_suffix_swap_partial E hacc lines ht hp p h₂ hs₁ hs₂ hport hdf x₁ x₂ g₁ g₂ _ _ D S₁ S₂ hx₁ hx₂ hg₁ hg₂
    (hwalk.plain g₁ hpl₁) (hwalk.plain g₂ hpl₂) hsp₁ hsp₂ hparts₁ hparts₂ hlen₁ hlen₂

def linesS : List Str := ["com".toList, "uk".toList, "co.uk".toList, "fr".toList, "*.ck".toList, "!www.ck".toList]

def swapEnv : Env := pyEnv id (fun _ => none) id (SuffixTrie.build linesS) isCountry

def strOf (r : Except Err Split) : Option Str := r.toOption.map fpString

/-- KF-C06-3: the domain name `fr` is a language label when two labels follow it, not when one does -/
example : strOf (fpOfParsed swapEnv true true (hostParsed "fr.com")) = some "fr".toList ∧
    strOf (fpOfParsed swapEnv true true (hostParsed "fr.co.uk")) = some [] ∧
    hostLen linesS "fr.com".toList = some 1 ∧ hostLen linesS "fr.co.uk".toList = some 2 ∧
    hostParts "fr.com".toList = ["fr".toList] ++ ["com".toList] ∧
    hostParts "fr.co.uk".toList = ["fr".toList] ++ ["co".toList, "uk".toList] := by
  unfold swapEnv linesS hostParsed
  simp only [toList_lit]
  decide +kernel

/-- KF-C06-2: `t` is a youtube.com tracking item, on youtube.co.uk it is an item like any other -/
example : strOf (fpOfParsed swapEnv true true (queryParsed "youtube.com" "v=abc&t=1")) = some "youtube/watch?v=abc".toList ∧
    strOf (fpOfParsed swapEnv true true (queryParsed "youtube.co.uk" "v=abc&t=1")) = some "youtube/watch?t=1&v=abc".toList ∧
    domainFilter (filterHost id (some "youtube.com".toList)) ≠ domainFilter (filterHost id (some "youtube.co.uk".toList)) := by
  unfold swapEnv linesS queryParsed hostParsed
  simp only [toList_lit]
  decide +kernel

/-- so the full statement fails on this environment (first witness) -/
theorem fullSuffixSwap_fails : ¬ FullSuffixSwap swapEnv linesS := by
  intro hfull
  have h := hfull true (hostParsed "fr.com") (some "fr.co.uk".toList) "fr.com".toList "fr.co.uk".toList
    "fr.com".toList "fr.co.uk".toList ["fr".toList] ["com".toList] ["co".toList, "uk".toList]
    (by decide +kernel) (by decide +kernel) (by decide +kernel) (by decide +kernel)
  -- what is left is a false implication between decidable statements
  unfold swapEnv linesS hostParsed at h
  simp only [toList_lit] at h
  revert h
  decide +kernel

/-- non-vacuity of `fp_suffix_swap_partial`: `www.example.com` / `www.example.co.uk` and the
exception rule `!www.ck` (`x.www.ck` has the suffix `ck`): the hypotheses hold, one fingerprint -/
example :
    accHost (normHostOf id (hostParsed "example.com")) = some "example.com".toList ∧
    accHost (normHostOf id { hostParsed "example.com" with hostname := some "example.co.uk".toList }) = some "example.co.uk".toList ∧
    stripLangSubdomainsFromHostname isCountry "example.co.uk".toList = "example.co.uk".toList ∧
    pyWalkHost "example.co.uk".toList = .ok (some "example.co.uk".toList) ∧
    isSpecialHost "example.co.uk".toList = false ∧
    hostParts "example.co.uk".toList = ["example".toList] ++ ["co".toList, "uk".toList] ∧
    hostLen linesS "example.co.uk".toList = some 2 ∧ hostLen linesS "example.com".toList = some 1 ∧
    domainFilter (filterHost id (some "example.com".toList)) = domainFilter (filterHost id (some "example.co.uk".toList)) ∧
    strOf (fpOfParsed swapEnv true true (hostParsed "www.example.com")) = some "example".toList ∧
    strOf (fpOfParsed swapEnv true true (hostParsed "www.example.co.uk")) = some "example".toList ∧
    strOf (fpOfParsed swapEnv true true (hostParsed "x.y.ck")) = some "x".toList ∧
    strOf (fpOfParsed swapEnv true true (hostParsed "x.y.fr")) = some "x.y".toList := by
  unfold swapEnv linesS hostParsed
  simp only [toList_lit]
  decide +kernel

def tripleParse (s : Str) : Option Parsed :=
  if s = "http://facebook.com/page".toList then some { hostParsed "facebook.com" with path := "/page".toList }
  else if s = "http://fr-fr.facebook.com:8080/page".toList then
    some { hostParsed "fr-fr.facebook.com" with netloc := "fr-fr.facebook.com:8080".toList, path := "/page".toList, port := some 8080 }
  else if s = "http://facebook.co.uk/page".toList then some { hostParsed "facebook.co.uk" with path := "/page".toList }
  else none

def tripleEnv : Env := pyEnv id tripleParse id (SuffixTrie.build linesS) isCountry

/-- "the same page on facebook.com, fr-FR.facebook.com:8080 and FACEBOOK.CO.UK gets one fingerprint" -/
example :
    (fingerprintUrl tripleEnv true "facebook.com/page".toList).toOption = some "facebook/page".toList ∧
    (fingerprintUrl tripleEnv true "fr-FR.facebook.com:8080/page".toList).toOption = some "facebook/page".toList ∧
    (fingerprintUrl tripleEnv true "FACEBOOK.CO.UK/Page".toList).toOption = some "facebook/page".toList ∧
    (fingerprintUrl tripleEnv false "fr-FR.facebook.com:8080/page".toList).toOption = some "facebook.com/page".toList ∧
    (fingerprintUrl tripleEnv false "FACEBOOK.CO.UK/Page".toList).toOption = some "facebook.co.uk/page".toList := by
  unfold tripleEnv tripleParse linesS hostParsed
  simp only [toList_lit]
  decide +kernel

/-- port: the hypotheses of `fp_port_irrelevant` hold on the second spelling -/
example : HostSafe (normHostOf id (hostParsed "fr-fr.facebook.com")) ∧ PortOk (some 8080) ∧
    accHost (normHostOf id (hostParsed "fr-fr.facebook.com")) = some "fr-fr.facebook.com".toList := by
  have e : normHostOf id (hostParsed "fr-fr.facebook.com") = some "fr-fr.facebook.com".toList := by
    unfold hostParsed
    simp only [toList_lit]
    decide +kernel
  rw [e]
  simp only [toList_lit]
  refine ⟨?_, ?_, by decide⟩
  · intro x hx
    injection hx with hx
    subst hx; decide
  · intro n hn; injection hn with hn; omega

/-- case: an escaped capital, an upper-case escape, a capital in every component -/
example : lower "HTTP://User@A.com/%C3%89?K=V#F".toList = lower "http://user@a.COM/%c3%89?k=v#f".toList := by
  simp only [toList_lit]
  decide +kernel

example : (fingerprintUrl tripleEnv false "HTTP://[::1".toList).toOption = some "http://[::1".toList := by
  unfold tripleEnv tripleParse linesS hostParsed
  simp only [toList_lit]
  decide +kernel

end Ural.Props.C06
