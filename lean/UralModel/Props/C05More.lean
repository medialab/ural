import UralModel.Props.C05Whole
import UralModel.Lemmas.QuoteSplit
import UralModel.Lemmas.Normpath
import UralModel.Lemmas.ReAlt
/-!
# C05 — the trailing slash kept exactly, the chain on strings, the documented key families

* `option_strip_trailing_slash_off_exact` / `trailing_slash_kept` — what "switching
  `strip_trailing_slash` off preserves the trailing slash exactly" means, and the one exception,
  the ROOT RULE (a declared reading: `ASSUMPTIONS` of `harness/props/C05.py`): the resolved path of
  the root is the empty path (`normpath("/") == ""`), and a path that the AMP / index steps leave
  as exactly `/` becomes empty when neither query nor fragment stands behind it (lines 390-392,
  "Always dropping trailing slash with empty query & fragment").  Everything else keeps its slash.
* `normalize_only_deletes_string_chain` — the deletion chains of `Props/C05.lean` for the
  whole-string model on a string of the grammar class.
* the documented families of irrelevant items: the hand-written lists are tied to the regenerated
  patterns by table obligations.
-/
set_option linter.unusedSimpArgs false
namespace Ural.Props.C05
open Ural Ural.Py Ural.UrlParts Ural.Quote Ural.Normalize Ural.Canonicalize Ural.NormBridge

/-! ## `strip_trailing_slash` off -/

theorem endsWith_slash_iff (s : Str) : endsWith s ['/'] = true ↔ ∃ a, s = a ++ ['/'] :=
  (endsWith_iff_suffix s ['/']).trans ⟨fun ⟨a, h⟩ => ⟨a, h.symm⟩, fun ⟨a, h⟩ => ⟨a, h.symm⟩⟩

/-- the final (un)quoting keeps a trailing slash -/
theorem finPath_append_slash (o : Normalize.Opts) (a : Str) : finPath o (a ++ ['/']) = finPath o a ++ ['/'] := by
  unfold finPath
  cases o.quoted with
  | true =>
    simp only [if_true]
    rw [safelyQuote_append_sep ⟨by decide, by decide⟩ (by decide) a []]
    simp [safelyQuote, tokens, quoteToks, render]
  | false =>
    simp only [Bool.false_eq_true, if_false]
    rw [Normpath.unquotePath_append_slash a []]
    simp [unquotePath, safelyUnquote_nil]

theorem normPath_keep (o : Normalize.Opts) (hs : o.stripTrailingSlash = false) (path f q : Str) :
    normPath o path f q =
      (if o.quoted then safelyQuote else unquotePath)
        (if pathSteps o path = ['/'] ∧ f.isEmpty ∧ q.isEmpty then [] else pathSteps o path) := by
  unfold normPath
  simp only [hs, Bool.false_and, Bool.false_eq_true, if_false]
  cases o.quoted <;> rfl

/-- **`strip_trailing_slash` off, the path exactly.**  `p3` = the path after the AMP and index
steps (`pathSteps`: the other options' business).  The result path is the final (un)quoting of
`p3` itself — nothing is removed — unless `p3` is exactly `/` (ROOT RULE: then `/` or the empty
path, depending on query and fragment); in particular a path `a/` with `a ≠ ""` keeps its slash. -/
theorem option_strip_trailing_slash_off_exact (puny : Str → Str) (o : Normalize.Opts) (hp : Bool) (p : Parsed) :
    let o' := { o with stripTrailingSlash := false }
    let A := normComps puny o' hp p
    let p3 := pathSteps o' p.path
    (p3 ≠ ['/'] → A.path = finPath o p3) ∧
    (p3 = ['/'] → A.path = finPath o ['/'] ∨ A.path = finPath o []) ∧
    (∀ a, a ≠ [] → p3 = a ++ ['/'] → A.path = finPath o a ++ ['/']) := by
  intro o' A p3
  obtain ⟨f, q, hA⟩ : ∃ f q, A.path = normPath o' p.path f q := ⟨_, _, rfl⟩
  rw [normPath_keep o' rfl] at hA
  have hfin : ∀ x, (if o'.quoted then safelyQuote else unquotePath) x = finPath o x := by
    intro x; unfold finPath; cases hq : o.quoted <;> simp [o', hq]
  rw [hfin] at hA
  have h1 : p3 ≠ ['/'] → A.path = finPath o p3 := by
    intro hne
    rw [hA, if_neg (fun h => hne h.1)]
  refine ⟨h1, ?_, ?_⟩
  · intro he
    rw [hA]
    split
    · right; rfl
    · left; exact congrArg (finPath o) he
  · intro a hne he
    have : p3 ≠ ['/'] := by
      rw [he]; intro h
      cases a with
      | nil => exact hne rfl
      | cons c r => simp at h
    rw [h1 this, he, finPath_append_slash]

/-- with `strip_trailing_slash` off the resolved path keeps the slash the (unescaped) input path
ended with: `normpath(path) + "/"` for a path longer than one character -/
theorem resolveUnquoted_trailing (u : Str) (h1 : endsWith u ['/'] = true) (h2 : u.length > 1) :
    resolveUnquoted false u = normpath u ++ ['/'] := by
  unfold resolveUnquoted
  have : u.isEmpty = false := by cases u <;> simp_all
  simp [this, h1, h2]

/-- **the trailing slash is kept**: `strip_trailing_slash` off, the AMP and index steps off or
not applicable to the resolved path (`ampSuffixSub R = R`, `stripIndex R = R`), an input path that
(once unescaped) ends with `/`, is longer than `/` and does not resolve to the root
(`normpath ≠ ""`): the path of the result is the final (un)quoting of the resolved path followed
by `/` — it ends with a slash.  (`http://a.com/x/` ↦ `a.com/x/`; the root `http://a.com/`,
`http://a.com//`, `http://a.com/a/../` ↦ `a.com`: ROOT RULE; `/x/index.html` ↦ `/x`, `/x/amp/` ↦
`/x/`: the index / AMP cut, the other options' business.) -/
theorem trailing_slash_kept (puny : Str → Str) (o : Normalize.Opts) (hp : Bool) (p : Parsed)
    (u : Str) (hu : u = if o.lowercase then lower (unquotePath p.path) else unquotePath p.path)
    (h1 : endsWith u ['/'] = true) (h2 : u.length > 1) (h3 : normpath u ≠ [])
    (hamp : o.normalizeAmp = false ∨ ampSuffixSub (normpath u ++ ['/']) = normpath u ++ ['/'])
    (hidx : o.stripIndex = false ∨ stripIndex (normpath u ++ ['/']) = normpath u ++ ['/']) :
    (normComps puny { o with stripTrailingSlash := false } hp p).path =
      finPath o (normpath u) ++ ['/'] := by
  have hp3 : pathSteps { o with stripTrailingSlash := false } p.path = normpath u ++ ['/'] := by
    unfold pathSteps
    simp only
    rw [← hu, resolveUnquoted_trailing u h1 h2]
    rcases hamp with ha | ha <;> rcases hidx with hi | hi <;> simp [ha, hi]
  exact (option_strip_trailing_slash_off_exact puny o hp p).2.2 (normpath u) h3 hp3

/-- non-vacuity, and the root rule at work (all with `strip_trailing_slash=False`) -/
example :
    let o : Normalize.Opts := { stripTrailingSlash := false }
    let P := fun (path : String) => ({ sample with path := path.toList, query := [], fragment := [] } : Parsed)
    (normComps id o true (P "/x/")).path = "/x/".toList ∧
    (normComps id o true (P "/x//")).path = "/x/".toList ∧
    (normComps id o true (P "/")).path = [] ∧
    (normComps id o true (P "//")).path = [] ∧
    (normComps id o true (P "/a/../")).path = [] ∧
    (normComps id o true (P "/index.html")).path = [] ∧
    (normComps id o true (P "/x/index.html")).path = "/x".toList ∧
    (normComps id o true (P "/x/amp/")).path = "/x/".toList ∧
    (normComps id o true (P "/amp/")).path = [] ∧
    (normComps id o true { P "/" with query := "a=1".toList }).path = [] ∧
    ampSuffixSub "/x/".toList = "/x/".toList ∧ stripIndex "/x/".toList = "/x/".toList := by
  unfold sample
  simp only [toList_lit]
  decide +kernel

/-! ## "only deletes" on strings, with the precise component chains -/

/-- **`normalize_url` only deletes — on strings, the precise chains** (sharpening of
`normalize_only_deletes_string`: no side condition on the host text, the path as the chain of
`normalize_path_once`, the query for every option setting as in `normalize_query_sublist`).  For
every string `u` whose cleaned, resolved form is the grammar string `g.str` with a port text
that is a port, the result tuple is glued from components `c` such that

* host: `HostDel` of the host text lower-cased the way `.hostname` does (`lowerHost`: everything
  before a `%zone`) — whole irrelevant labels / a leading `amp-` removed, IDNA-decoded; absent when
  the host text is empty;
* port: the value of the port text unless 80 / 443;
* path: the chain resolved path text –at most one AMP marker at its end→ –index page with its
  slash→ –root rule→ –trailing slashes (only under `strip_trailing_slash`)→ final (un)quoting,
  each step the identity when its option is off;
* query: the final (un)quoting of a permutation (identity when `sort_query` is off) of the
  unescaped items of the query text minus items `should_strip_query_item` strips; through the
  documented API the final unquoting is the identity on them. -/
theorem normalize_only_deletes_string_chain (puny : Str → Str) (o : Normalize.Opts) (ir : Bool)
    (g : UrlG) (u : Str) (po : Option Nat) (hg : InClassOf ir g u) (hpo : portVal g.port = some po) :
    ∃ c : Normalize.Comps,
      normalizeUrlStringSplit puny id o ir u =
        .inr { scheme := c.scheme, netloc := unsplitNetloc c.user c.pass c.host c.port,
               path := c.path, query := safeSerializeQsl c.qsl, fragment := some c.fragment } ∧
      (g.host ≠ [] → ∃ h', c.host = some h' ∧ HostDel puny o.normalizeAmp (lowerHost g.host) h') ∧
      (g.host = [] → c.host = none) ∧
      (∀ n, po = some n → n ≠ 80 → n ≠ 443 → c.port = some n) ∧
      (po = some 80 ∨ po = some 443 ∨ po = none → c.port = none) ∧
      (∃ p2 p3 p4 pre t,
        AmpCutOnce false (resolvedPath o g.path) p2 ∧
        (o.normalizeAmp = false → p2 = resolvedPath o g.path) ∧
        (p3 = p2 ∨ (o.stripIndex = true ∧ IndexCut p2 p3)) ∧
        (p4 = p3 ∨ (p3 = ['/'] ∧ p4 = [])) ∧
        (p4 = pre ++ t ∧ (∀ c ∈ t, c = '/') ∧ (o.stripTrailingSlash = false → t = [])) ∧
        c.path = finPath o pre) ∧
      (∃ kept ordered,
        DelSub (dropsItem puny o (g.record po)) (inputItems o (g.record po)) kept ∧
        ordered.Perm kept ∧ (o.sortQuery = false → ordered = kept) ∧
        c.qsl = finQsl o ordered ∧ (o.lowercase = false → unquoteQsl ordered = ordered)) ∧
      (g.record po).query = g.query.getD [] := by
  refine ⟨normComps puny o g.proto.hasProto (g.record po), ?_, ?_, ?_, ?_, ?_, ?_, ?_, rfl⟩
  · rw [(normalize_string_split puny o ir g u po hg hpo).1]; rfl
  · exact normComps_host_del puny o _ g po
  · intro he
    exact (normalize_host_absent puny o _ (g.record po)).1 (hostname_of_nil he)
  · exact (normalize_port puny o _ (g.record po)).1
  · exact (normalize_port puny o _ (g.record po)).2
  · exact normalize_path_once puny o _ (g.record po)
  · exact normalize_query_sublist puny o _ (g.record po)

/-! ## "irrelevant item": the documented families, independently of `should_strip_query_item`

`dropsItem` is `shouldStripQueryItem … = true`: the query clause says "what is dropped is what the
filter drops".  The lists below are HAND-WRITTEN (the families the documentation and the tests
name: marketing-campaign parameters, click ids, session ids, AMP parameters; and a few keys that
carry content on common sites); the table obligations tie them to the REGENERATED patterns, the
theorems state what the filter does with every key of a family. -/

open Ural.Py.Re Ural.Gen.Normalize

/-- campaign parameters: the prefix followed by at least one character (none a newline) -/
def campaignPrefixes : List String := ["utm_", "mtm_", "at_"]
/-- click / tracking ids and session ids -/
def trackingKeys : List String :=
  ["fbclid", "gclid", "dclid", "twclid", "igshid", "mc_cid", "mc_eid", "_ga", "mkt_tok",
   "sessionid", "phpsessionid", "aspsessionid", "jsessionid", "sid", "cfid", "cftoken"]
/-- AMP parameters (only under `normalize_amp`) -/
def ampPrefixes : List String := ["amp_"]
def ampKeys : List String := ["amp"]
/-- keys that carry content and must survive whatever the options (no pattern, no combo) -/
def contentKeys : List String :=
  ["id", "q", "p", "page", "v", "t", "lang", "search", "query", "article", "tag", "title", "name", "date"]

/-- the body of a pattern `^ body $` -/
def bodyOf (r : Re) : Re :=
  match spine r with
  | [_, b, _] => b
  | _ => .empty

/-- table obligation: both patterns are `^(?:…)$`, in the fragment where the matcher is complete -/
theorem irrelevant_query_frames :
    FramedAlt IRRELEVANT_QUERY_RE (bodyOf IRRELEVANT_QUERY_RE) ∧
    FramedAlt IRRELEVANT_QUERY_AMP_RE (bodyOf IRRELEVANT_QUERY_AMP_RE) ∧
    noNullRep IRRELEVANT_QUERY_RE = true ∧ noNullRep IRRELEVANT_QUERY_AMP_RE = true := by
  decide +kernel

/-- table obligation: every campaign prefix is an alternative `prefix.+` of both patterns, the AMP
prefix of the AMP pattern -/
theorem irrelevant_families_in_pattern :
    (∀ pre ∈ campaignPrefixes,
      (alts (bodyOf IRRELEVANT_QUERY_RE)).any (isPrefixFamily pre.toList) = true ∧
      (alts (bodyOf IRRELEVANT_QUERY_AMP_RE)).any (isPrefixFamily pre.toList) = true) ∧
    (∀ pre ∈ ampPrefixes,
      (alts (bodyOf IRRELEVANT_QUERY_AMP_RE)).any (isPrefixFamily pre.toList) = true) := by
  decide +kernel

/-- table obligation: the listed tracking / session keys match both patterns; the AMP key matches
the AMP pattern and not the plain one -/
theorem irrelevant_keys_in_pattern :
    (∀ k ∈ trackingKeys, Re.pyMatch IRRELEVANT_QUERY_RE k.toList = true ∧
      Re.pyMatch IRRELEVANT_QUERY_AMP_RE k.toList = true) ∧
    (∀ k ∈ ampKeys, Re.pyMatch IRRELEVANT_QUERY_AMP_RE k.toList = true ∧
      Re.pyMatch IRRELEVANT_QUERY_RE k.toList = false) := by
  unfold trackingKeys ampKeys
  simp only [List.forall_mem_cons, List.not_mem_nil, false_imp_iff, implies_true, and_true,
    toList_lit]
  decide +kernel

/-- a key that is in no pattern and in no combo table is not stripped by the documented API -/
theorem keeps_of_not_in_tables (amp : Bool) (it : QItem)
    (h1 : Re.pyMatch (if amp then IRRELEVANT_QUERY_AMP_RE else IRRELEVANT_QUERY_RE) (lower it.1) = false)
    (h3 : queryCombosCallable.any (fun c => c.toList == lower it.1) = false)
    (h4 : comboLookup queryCombos (lower it.1) = none)
    (h5 : amp = true → comboLookup ampQueryCombos (lower it.1) = none) :
    shouldStripQueryItem amp .none none it = false := by
  unfold shouldStripQueryItem
  simp only [h1, h3, h4, Bool.false_eq_true, if_false]
  cases amp with
  | false => rfl
  | true => simp only [if_true, h5 rfl]

/-- table obligation: a content key is in no pattern and in no combo table -/
theorem content_keys_not_in_tables :
    ∀ k ∈ contentKeys,
      Re.pyMatch IRRELEVANT_QUERY_RE k.toList = false ∧
      Re.pyMatch IRRELEVANT_QUERY_AMP_RE k.toList = false ∧
      queryCombosCallable.any (fun c => c.toList == k.toList) = false ∧
      comboLookup queryCombos k.toList = none ∧
      comboLookup ampQueryCombos k.toList = none ∧ lower k.toList = k.toList := by
  decide +kernel

/-- table obligation: every alternative of the plain pattern is an alternative of the AMP one -/
theorem irrelevant_query_alts_subset :
    altsSubset (bodyOf IRRELEVANT_QUERY_RE) (bodyOf IRRELEVANT_QUERY_AMP_RE) = true := by
  decide +kernel

/-- a key the pattern matches is stripped, whatever the value and the other filters -/
theorem strips_of_pattern (amp : Bool) (qf : QueryItemFilter) (df : Option (List String)) (it : QItem)
    (h : Re.pyMatch (if amp then IRRELEVANT_QUERY_AMP_RE else IRRELEVANT_QUERY_RE) (lower it.1) = true) :
    shouldStripQueryItem amp qf df it = true := by
  unfold shouldStripQueryItem
  simp only [h, if_true]

/-- **campaign parameters are irrelevant**: EVERY item whose key, lower-cased, is `utm_` / `mtm_` /
`at_` followed by at least one character (none a newline) is stripped — whatever the value,
`normalize_amp`, the per-domain filter, the item filter -/
theorem strips_campaign_key (amp : Bool) (qf : QueryItemFilter) (df : Option (List String))
    (it : QItem) (pre : String) (hpre : pre ∈ campaignPrefixes) (rest : Str)
    (hk : lower it.1 = pre.toList ++ rest) (hne : rest ≠ []) (hnl : '\n' ∉ rest) :
    shouldStripQueryItem amp qf df it = true := by
  apply strips_of_pattern
  obtain ⟨f1, f2, n1, n2⟩ := irrelevant_query_frames
  obtain ⟨h1, h2⟩ := irrelevant_families_in_pattern.1 pre hpre
  rw [hk]
  cases amp with
  | true => exact pyMatch_prefixFamily f2.spine_eq n2 h2 rest hne hnl
  | false => exact pyMatch_prefixFamily f1.spine_eq n1 h1 rest hne hnl

/-- **AMP parameters are irrelevant under `normalize_amp`**: `amp` and `amp_` + at least one character -/
theorem strips_amp_key (qf : QueryItemFilter) (df : Option (List String)) (it : QItem)
    (h : lower it.1 = "amp".toList ∨
      ∃ rest, lower it.1 = "amp_".toList ++ rest ∧ rest ≠ [] ∧ '\n' ∉ rest) :
    shouldStripQueryItem true qf df it = true := by
  apply strips_of_pattern
  obtain ⟨_, f2, _, n2⟩ := irrelevant_query_frames
  rcases h with h | ⟨rest, hk, hne, hnl⟩
  · rw [h]; exact (irrelevant_keys_in_pattern.2 "amp" (by decide)).1
  · rw [hk]
    exact pyMatch_prefixFamily f2.spine_eq n2 (irrelevant_families_in_pattern.2 "amp_" (by decide)) rest hne hnl

/-- … and with `normalize_amp` off the key `amp` is not in the pattern (no combo, no filter: kept) -/
theorem keeps_amp_key_off (v : Option Str) :
    shouldStripQueryItem false .none none ("amp".toList, v) = false := by
  have e : lower ("amp".toList, v).1 = "amp".toList := by
    show lower "amp".toList = "amp".toList
    decide
  apply keeps_of_not_in_tables
  · rw [e]; exact (irrelevant_keys_in_pattern.2 "amp" (by decide)).2
  · rw [e]; decide +kernel
  · rw [e]; decide +kernel
  · intro h; cases h

/-- **click ids and session ids are irrelevant**: every item whose lower-cased key is one of
`trackingKeys` is stripped, whatever the value and the options -/
theorem strips_tracking_key (amp : Bool) (qf : QueryItemFilter) (df : Option (List String))
    (it : QItem) (k : String) (hk : k ∈ trackingKeys) (h : lower it.1 = k.toList) :
    shouldStripQueryItem amp qf df it = true := by
  apply strips_of_pattern
  obtain ⟨h1, h2⟩ := irrelevant_keys_in_pattern.1 k hk
  rw [h]
  cases amp with
  | true => exact h2
  | false => exact h1

/-- **a content key is never dropped** by the documented API (no per-domain filter for the host,
no item filter): `id`, `q`, `p`, `page`, `v`, `t`, … in any letter case, whatever the value and
`normalize_amp` -/
theorem keeps_content_key (amp : Bool) (it : QItem) (k : String) (hk : k ∈ contentKeys)
    (h : lower it.1 = k.toList) :
    shouldStripQueryItem amp .none none it = false := by
  obtain ⟨h1, h2, h3, h4, h5, _⟩ := content_keys_not_in_tables k hk
  apply keeps_of_not_in_tables
  · rw [h]; cases amp with
    | true => exact h2
    | false => exact h1
  · rw [h]; exact h3
  · rw [h]; exact h4
  · intro _; rw [h]; exact h5

/-- **`normalize_amp` off strips less**: an item stripped with `normalize_amp=False` is stripped
with `normalize_amp=True` too — for every key that is not a key of `AMP_QUERY_COMBOS` (for such a
key — `outputtype` — the code answers `value in AMP_QUERY_COMBOS[key]` under `normalize_amp`
BEFORE the per-domain and item filters are consulted, so the two settings are not comparable) -/
theorem amp_off_strips_less (qf : QueryItemFilter) (df : Option (List String)) (it : QItem)
    (hk : comboLookup ampQueryCombos (lower it.1) = none)
    (h : shouldStripQueryItem false qf df it = true) : shouldStripQueryItem true qf df it = true := by
  obtain ⟨f1, f2, n1, n2⟩ := irrelevant_query_frames
  unfold shouldStripQueryItem at h ⊢
  simp only [Bool.false_eq_true, if_false, if_true, hk] at h ⊢
  by_cases hm : Re.pyMatch IRRELEVANT_QUERY_RE (lower it.1) = true
  · have : Re.pyMatch IRRELEVANT_QUERY_AMP_RE (lower it.1) = true := by
      rw [pyMatch_iff n2]
      exact accepts_of_altsSubset f1 f2 irrelevant_query_alts_subset ((pyMatch_iff n1 _).1 hm)
    simp [this]
  · simp only [hm, Bool.false_eq_true, if_false] at h
    split
    · rfl
    · exact h

/-- non-vacuity of the family theorems, and the region `amp_off_strips_less` excludes really
fails (a per-domain filter naming `outputtype`: stripped with `normalize_amp` off, kept with it on
because `AMP_QUERY_COMBOS` answers first) -/
example :
    shouldStripQueryItem false .none none ("UTM_Campaign".toList, some "x".toList) = true ∧
    shouldStripQueryItem false .none none ("at_medium".toList, none) = true ∧
    shouldStripQueryItem false .none none ("utm_".toList, some "x".toList) = false ∧
    shouldStripQueryItem true .none none ("amp_x".toList, none) = true ∧
    shouldStripQueryItem false .none none ("amp_x".toList, none) = false ∧
    shouldStripQueryItem false .none none ("JSESSIONID".toList, some "1".toList) = true ∧
    shouldStripQueryItem true .none none ("Page".toList, some "2".toList) = false ∧
    shouldStripQueryItem false .none (some ["outputtype"]) ("outputtype".toList, some "x".toList) = true ∧
    shouldStripQueryItem true .none (some ["outputtype"]) ("outputtype".toList, some "x".toList) = false := by
  simp only [toList_lit]
  decide +kernel

end Ural.Props.C05
