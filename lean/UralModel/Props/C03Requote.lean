import UralModel.Lemmas.C03Requote
import UralModel.Props.C03
import UralModel.Gen.C03Classes
/-!
# C03 — quoted mode: the exclusion of (a)/(c1) does not depend on the regenerated tables

`Props/C03.lean` proves (a)/(c1) in quoted mode under `QuotedClean p`, a predicate that READS the
regenerated unsafe sets: every raw character must come back raw from `safely_quote` followed by
the safe unquoter.  When a byte is added to `UNSAFE_FOR_QUERY_ITEM` that `quote` escapes (seeded
change C03-4: `+`), the theorem still checks — its excluded region has silently grown by every URL
with a raw `+` in a query item, and `normalize_url` really breaks there (`?tag=rock+roll&tag=rock'n'roll`:
the items are sorted unquoted, where `+` and `%2B` are now two strings).

The invariant quoted mode rests on is an **inclusion between two tables** consulted by two steps:

> every byte the safe unquoter of a component keeps escaped (`UNSAFE_FOR_*`) is left alone by
> `safely_quote` (urllib's always-safe set + `/`), or is the space / `%` (normalised by the
> unquoter itself), or is a delimiter of that component — which the parser never returns raw
> (`?` `#` in a path, `&` `#` in a query item, `=` in a key) or which is the declared known
> finding KF-C03-4 (`=` in a value).

Here it is a table obligation (`unsafe_sets_requote_safe`, with `quote`'s safe set itself
regenerated by probing the real `safely_quote`: `quote_safe_set_model`), and it is used: (a)/(c1)
in quoted mode hold under `QuotedDelimFree`, an exclusion that no table can widen.
-/
namespace Ural.Props.C03
open Ural Ural.Py Ural.UrlParts Ural.Quote Ural.Normalize Ural.C03
open Ural.Canonicalize hiding Opts

/-! ## table obligations (regenerated on every run) -/

/-- **table obligation** (the model describes the code): the model's `quoteSafe` is the set of
ASCII characters the real `safely_quote` leaves alone (probed on the function, every ASCII code
point), a stray `%` is escaped, and every probed non-ASCII code point comes back as the escapes
of its UTF-8 bytes -/
theorem quote_safe_set_model :
    (∀ c : Char, c.toNat < 0x80 → c ≠ '%' → quoteSafe c = Gen.C03.quoteSafeAscii.contains c.toNat) ∧
    quoteSafe '%' = false ∧ Gen.C03.quoteEscapesStrayPercent = true ∧
    Gen.C03.quoteEscapesNonAscii = true := by
  refine ⟨ascii_ne_percent (P := fun c n => quoteSafe c = Gen.C03.quoteSafeAscii.contains n) ?_,
    by decide +kernel, by decide +kernel, by decide +kernel⟩
  decide +kernel

/-- the regenerated safe set of `safely_quote`, as bytes -/
def quoteSafeByte (b : UInt8) : Bool := Gen.C03.quoteSafeAscii.contains b.toNat

/-- **table obligation** (the model describes the code): the model's `quoteSafeQ` — what
`safely_quote(item, safe="/+")` leaves alone — is the set of ASCII characters the real
`safely_quote_qsl` leaves alone in a key and in a value (probed on the function, every ASCII code
point), a stray `%` is escaped, existing escapes are kept, a missing value stays missing, and every
probed non-ASCII code point comes back as the escapes of its UTF-8 bytes.  (`+` is in it: in a
query a raw `+` is a space and `%2B` a plus sign, FX-C01-6e09416.) -/
theorem qsl_quote_safe_set_model :
    (∀ c : Char, c.toNat < 0x80 → c ≠ '%' →
      quoteSafeQ c = Gen.Quote.qslQuoteSafeKey.contains c.toNat ∧
      quoteSafeQ c = Gen.Quote.qslQuoteSafeValue.contains c.toNat) ∧
    quoteSafeQ '%' = false ∧ Gen.Quote.qslQuoteShape = true ∧
    Gen.Quote.qslQuoteEscapesNonAscii = true := by
  refine ⟨ascii_ne_percent (P := fun c n => quoteSafeQ c = Gen.Quote.qslQuoteSafeKey.contains n ∧
    quoteSafeQ c = Gen.Quote.qslQuoteSafeValue.contains n) ?_,
    by decide +kernel, by decide +kernel, by decide +kernel⟩
  decide +kernel

/-- the regenerated safe set of `safely_quote_qsl` (key and value), as bytes -/
def qslSafeByte (b : UInt8) : Bool :=
  Gen.Quote.qslQuoteSafeKey.contains b.toNat && Gen.Quote.qslQuoteSafeValue.contains b.toNat

/-- **table obligation — the inclusion quoted mode rests on**: every byte of the three unsafe sets
`normalize_url` unquotes with is in the REGENERATED safe set of the quoting step of its component
(`safely_quote` for the path and the fragment, `safely_quote_qsl` for a query item), or is the
space / `%`, or is a delimiter of its component: `?` `#` for the path, `&` `=` `#` for a query
item, nothing for the fragment.  (A byte added to an unsafe set that the quoting step escapes —
`!`, `'`, `(`, `*`, `,`, `;`, `:`, `@`, `$` …, or `+` without `safe="/+"` on the quoting side: seeded
change C03-4 — breaks this: `canonicalize_url(quoted=True)` merges the raw and the escaped
spelling, `normalize_url` sorts / filters / compares the unquoted strings, where they now
differ.  `+` IS in `UNSAFE_FOR_QUERY_ITEM` since FX-C01-6e09416, and is left alone by
`safely_quote_qsl`: the first disjunct.) -/
theorem unsafe_sets_requote_safe :
    (∀ b ∈ Gen.Quote.unsafeForPath, quoteSafeByte b = true ∨ b = 0x20 ∨ b = 0x25 ∨ b ∈ pathDelims) ∧
    (∀ b ∈ Gen.Quote.unsafeForQueryItem, qslSafeByte b = true ∨ b = 0x20 ∨ b = 0x25 ∨ b ∈ queryDelims) ∧
    (∀ b ∈ Gen.Quote.unsafeForFragment, quoteSafeByte b = true ∨ b = 0x20 ∨ b = 0x25 ∨ b ∈ fragmentDelims) := by
  decide +kernel

/-- **table obligation (FX-C01-6e09416)**: the safe unquoter of query items keeps `%2B` escaped and
the quoting step of query items leaves a raw `+` alone — neither spelling is rewritten into the
other -/
theorem plus_is_not_percent_2b :
    (0x2B : UInt8) ∈ Gen.Quote.unsafeForQueryItem ∧ qslSafeByte 0x2B = true := by decide +kernel

theorem requoteSafe_of_tables {U D : List UInt8} (hA : AsciiSet U)
    (h : ∀ b ∈ U, quoteSafeByte b = true ∨ b = 0x20 ∨ b = 0x25 ∨ b ∈ D) : RequoteSafe U D :=
  requoteSafeBy_of_tables hA quote_safe_set_model.1 h

theorem requoteSafe_path : RequoteSafe Gen.Quote.unsafeForPath pathDelims :=
  requoteSafe_of_tables unsafeForPath_ok.2 unsafe_sets_requote_safe.1
/-- the inclusion of a query item against the model's `quoteSafeQ` (through
`qsl_quote_safe_set_model`) -/
theorem requoteSafe_queryItem : RequoteSafeBy quoteSafeQ Gen.Quote.unsafeForQueryItem queryDelims :=
  requoteSafeBy_of_tables unsafeForQueryItem_ok.2
    (fun c h1 h2 => (qsl_quote_safe_set_model.1 c h1 h2).1)
    (fun b hb => (unsafe_sets_requote_safe.2.1 b hb).imp_left fun h => by
      simp only [qslSafeByte, Bool.and_eq_true] at h
      exact h.1)

theorem requoteSafe_fragment : RequoteSafe Gen.Quote.unsafeForFragment fragmentDelims :=
  requoteSafe_of_tables unsafeForFragment_ok.2 unsafe_sets_requote_safe.2.2

/-! ## use: the quoted-mode theorems under a fixed exclusion -/

/-- **`safely_unquote ∘ safely_quote` is the identity on what the safe unquoter emits** — for a
query key or value without control character and without raw `&` `=` `#`, a fragment without
control character, a path segment string without control character and raw `?` `#` -/
theorem requote_round_trip_components (s : Str) :
    (delimFree queryDelims s = true →
      unquoteQueryItem (quoteQueryItem (unquoteQueryItem s)) = unquoteQueryItem s) ∧
    (delimFree fragmentDelims s = true →
      unquoteFragment (safelyQuote (unquoteFragment s)) = unquoteFragment s) ∧
    (delimFree pathDelims s = true →
      unquotePath (safelyQuote (unquotePath s)) = unquotePath s) :=
  ⟨requoteBy_round_trip safeSet_quoteSafeQ unsafeForQueryItem_ok.1 unsafeForQueryItem_ok.2 requoteSafe_queryItem s,
   requote_round_trip unsafeForFragment_ok.1 unsafeForFragment_ok.2 requoteSafe_fragment s,
   requote_round_trip unsafeForPath_ok.1 unsafeForPath_ok.2 requoteSafe_path s⟩

/-- the table-reading exclusion of `Props/C03.lean` follows from the fixed one -/
theorem quotedClean_of_quotedDelimFree {p : Parsed} (h : QuotedDelimFree p) : QuotedClean p :=
  quotedClean_of_delimFree requoteSafe_queryItem requoteSafe_fragment h

/-- **(c1), quoted mode included, under an exclusion no table can widen**: what `normalize_url`
computes from ANY re-parse of the canonical components of `p` is what it computes from `p` — in
quoted mode for every `p` without a raw `=` inside a query value (KF-C03-4) and with components
as the parser returns them after the cleaning pass (`QuotedDelimFree`). -/
theorem normalize_canonicalize_quoted_partial (puny : Str → Str) (hp : PunyLaws puny)
    (o : Opts) (hsp : o.stripProtocol = true) (hsa : o.stripAuthentication = true)
    (hsts : o.stripTrailingSlash = true) (hlc : o.lowercase = false)
    (p p' : Parsed) (hAbs : absP p.path = true) (hcl : o.quoted = true → QuotedDelimFree p) (s0 : Str)
    (hR : Reparses (canonComps puny o.quoted false { p with scheme := s0 }) p') (b b' : Bool) :
    normParts puny o b' p' = normParts puny o b p :=
  normalize_canonicalize_partial puny hp o hsp hsa hsts hlc p p' hAbs
    (fun e => quotedClean_of_quotedDelimFree (hcl e)) s0 hR b b'

/-- **(a), quoted mode included, under the same fixed exclusion** -/
theorem normalize_of_canon_eq_quoted_partial (puny : Str → Str) (hp : PunyLaws puny)
    (o : Opts) (hsp : o.stripProtocol = true) (hsa : o.stripAuthentication = true)
    (hsts : o.stripTrailingSlash = true) (hlc : o.lowercase = false)
    (p₁ p₂ : Parsed) (hAbs₁ : absP p₁.path = true) (hAbs₂ : absP p₂.path = true)
    (hcl₁ : o.quoted = true → QuotedDelimFree p₁) (hcl₂ : o.quoted = true → QuotedDelimFree p₂)
    (hc : canonComps puny o.quoted false p₁ = canonComps puny o.quoted false p₂) (b₁ b₂ : Bool) :
    normParts puny o b₁ p₁ = normParts puny o b₂ p₂ :=
  normalize_of_canon_eq_partial puny hp o hsp hsa hsts hlc p₁ p₂ hAbs₁ hAbs₂
    (fun e => quotedClean_of_quotedDelimFree (hcl₁ e)) (fun e => quotedClean_of_quotedDelimFree (hcl₂ e)) hc b₁ b₂

/-! ### the fixed exclusion really fails outside, and is not vacuous inside -/

def qp (query : String) : Parsed :=
  { scheme := "http".toList, netloc := "a.com".toList, path := "/s".toList, query := query.toList,
    fragment := [], username := none, password := none, hostname := some "a.com".toList, port := none }

/-- KF-C03-4's witness is outside `QuotedDelimFree` (and (c1) fails on it: `Props/C03.lean`) -/
example : ¬ QuotedDelimFree (qp "k=a=b&k=a5") := by decide +kernel

/-- non-vacuity: the fixed exclusion admits every raw punctuation character other than the
delimiters in keys, values (sub-delimiters, `:` `@` `/` `?`, an `=`-free value) and fragment — stated
on the predicate only, which reads no table; what the functions compute there is the theorems' business -/
example :
    QuotedDelimFree (qp "a!$'()*+,;:@/?[]b=c!$'()*+,;:@/?[]d&k&k=~%41 %") ∧
    QuotedDelimFree { qp "x=1" with fragment := "!$&'()*+,;=:@/?#".toList } ∧
    ¬ QuotedDelimFree (qp "a=b#c") ∧ ¬ QuotedDelimFree { qp "x=1" with path := "/a?b".toList } := by
  unfold qp
  simp only [toList_lit]
  decide +kernel

end Ural.Props.C03
