import UralModel.Lemmas.Canonicalize
import UralModel.Lemmas.Normpath
import UralModel.Lemmas.CanonRoundTrip
import UralModel.Lemmas.StrLit
/-!
# C01 — canonicalize_url never changes where the URL leads

The model (`Model/Canonicalize.lean`) takes what `urlsplit` returns for the cleaned
input (`Parsed`) and produces the components of the result (`canonComps`), which
`unsplit_netloc` + `urlunsplit` then print.  The theorems below say, component by component
and for EVERY parsed input and option setting, that the result denotes the same resource
(`view`-equality of DESIGN §6 C01; the path clause: `canon_path`).  That re-parsing the printed
result gives back these components is `Props/C01Whole.lean` (`canonicalize_reparse`, with the
parser inside the model); `canon_no_new_delimiter` here says that no component acquires a raw
delimiter that would move a component boundary.
-/
namespace Ural.Props.C01
open Ural Ural.Py Ural.UrlParts Ural.Quote Ural.Canonicalize Ural.Normpath

/-- decoded bytes of an optional component; absent and empty are identified -/
def optPct (o : Option Str) : List UInt8 := pctStr (o.getD [])

/-- the port that will be used: an explicit default port is no port -/
def effPort (scheme : Str) (port : Option Nat) : Option Nat :=
  match port with
  | some n => if defaultPort scheme = some n then none else some n
  | none => none

/-! ## table obligations -/

/-- `%` is in every regenerated unsafe set (nothing is decoded twice) -/
theorem tables_percent :
    (0x25 : UInt8) ∈ Gen.Quote.unsafeForAuthItem ∧ (0x25 : UInt8) ∈ Gen.Quote.unsafeForPath ∧
    (0x25 : UInt8) ∈ Gen.Quote.unsafeForQueryItem ∧ (0x25 : UInt8) ∈ Gen.Quote.unsafeForFragment :=
  ⟨unsafeForAuthItem_ok.1, unsafeForPath_ok.1, unsafeForQueryItem_ok.1, unsafeForFragment_ok.1⟩

/-- each component's delimiters are in its unsafe set -/
theorem tables_delims :
    (∀ b ∈ ([0x40, 0x3A, 0x2F, 0x3F, 0x23] : List UInt8), b ∈ Gen.Quote.unsafeForAuthItem) ∧
    (∀ b ∈ ([0x2F, 0x3F, 0x23] : List UInt8), b ∈ Gen.Quote.unsafeForPath) ∧
    (∀ b ∈ ([0x26, 0x3D, 0x23] : List UInt8), b ∈ Gen.Quote.unsafeForQueryItem) := by
  decide

/-- **table obligation (FX-C01-6e09416)**: in a query a raw `+` is a space and `%2B` a plus sign.
`+` is in the regenerated `UNSAFE_FOR_QUERY_ITEM` (so `%2B` stays escaped), and the quoting step
of query items leaves a raw `+` alone — in the model (`quoteSafeQ`) and in the regenerated safe
sets of the real `safely_quote_qsl` (probed on the function, key and value) -/
theorem tables_plus :
    (0x2B : UInt8) ∈ Gen.Quote.unsafeForQueryItem ∧ quoteSafeQ '+' = true ∧
    Gen.Quote.qslQuoteSafeKey.contains 0x2B = true ∧ Gen.Quote.qslQuoteSafeValue.contains 0x2B = true := by
  decide

/-! ## same resource, component by component -/

/-- scheme: untouched -/
theorem canon_scheme (puny : Str → Str) (quoted sf : Bool) (p : Parsed) :
    (canonComps puny quoted sf p).scheme = p.scheme := rfl

theorem optPct_canonOpt (q : Bool) {unq : Str → Str} (h0 : unq [] = [])
    (h : ∀ s, pctStr (requote q unq s) = pctStr s) (o : Option Str) :
    optPct (canonOpt q unq o) = optPct o := by
  unfold optPct
  rw [getD_canonOpt q h0, h]

/-- userinfo: same decoded user and password (absent ≡ empty), in both modes -/
theorem canon_userinfo (puny : Str → Str) (quoted sf : Bool) (p : Parsed) :
    optPct (canonComps puny quoted sf p).user = optPct p.username ∧
    optPct (canonComps puny quoted sf p).pass = optPct p.password := by
  exact ⟨optPct_canonOpt quoted unquoteAuthItem_nil (pct_requote_auth quoted) _,
    optPct_canonOpt quoted unquoteAuthItem_nil (pct_requote_auth quoted) _⟩

theorem map_hostRule {α : Type} (puny : Str → Str) (f : Str → α) (o : Option Str)
    (hf : ∀ h, o = some h → f (canonHost puny h) = f h) : (hostRule puny o).map f = o.map f := by
  rw [hostRule_eq_map, Option.map_map]
  cases o with
  | none => rfl
  | some h => exact congrArg some (hf h rfl)

/-- host: the canonical host is the host "up to letter case and IDNA spelling": it is
`canonHost` of the input host, and `canonHost` of itself (so input and output have the same
host key) — for every decoder satisfying `PunyLaws` -/
theorem canon_host (puny : Str → Str) (hp : PunyLaws puny) (quoted sf : Bool) (p : Parsed) :
    ((canonComps puny quoted sf p).host.map (canonHost puny)) = p.hostname.map (canonHost puny) :=
  map_hostRule puny (canonHost puny) p.hostname (fun h _ => canonHost_idem puny hp h)

/-- **host, "same host up to letter case and IDNA spelling"**: label by label, the host of
the result has the same ASCII-compatible (ACE) spelling as the host of the input (`hostKey`:
`ace` = ToASCII + lower-casing of one label, the reference encoder).  Holds for every decoder
that produces no dot and **keeps the name of every `xn--` label of this host**
(`SameNameOn`: the decoded label re-encodes to the label it was given) — the obligation that
the oracle evaluates on the real `decode_punycode_hostname` for every label of every case and
for an enumerated class of ACE labels on every run.  `canon_host` above only says that the
result is a fixed point of the host rule, which holds of ANY idempotent decoder, also of one
that rewrites the host to another name. -/
theorem canon_host_name (ace puny : Str → Str) (hp : PunyLaws puny)
    (hl : ∀ l, ace (lower l) = ace l) (quoted sf : Bool) (p : Parsed)
    (hs : ∀ h, p.hostname = some h → SameNameOn ace puny h) :
    ((canonComps puny quoted sf p).host.map (hostKey ace)) = p.hostname.map (hostKey ace) :=
  map_hostRule puny (hostKey ace) p.hostname (fun h hh => hostKey_canonHost ace puny hp hl h (hs h hh))

/-- the same under the law stated of all labels (`IdnaLaws`) -/
theorem canon_host_key (ace puny : Str → Str) (hp : PunyLaws puny) (hi : IdnaLaws ace puny)
    (quoted sf : Bool) (p : Parsed) :
    ((canonComps puny quoted sf p).host.map (hostKey ace)) = p.hostname.map (hostKey ace) :=
  canon_host_name ace puny hp hi.ace_lower quoted sf p (fun h _ => sameNameOn_of_laws hi h)

/-- a toy codec pair for the examples: `xn--9ca` is `é` -/
def punyDemo (x : Str) : Str := if x = "xn--9ca".toList then "é".toList else x
def aceDemo (l : Str) : Str :=
  if l = "é".toList then "xn--9ca".toList
  else if l = "cafÉ".toList ∨ l = "café".toList then "xn--caf-dma".toList else lower l

/-- non-vacuity: a host with a punycode label (upper-case header) between two ASCII labels satisfies the
hypothesis, is rewritten, and keeps its key -/
example :
    SameNameOn aceDemo punyDemo "WWW.XN--9ca.Fr".toList ∧
    canonHost punyDemo "WWW.XN--9ca.Fr".toList = "www.é.fr".toList ∧
    hostKey aceDemo (canonHost punyDemo "WWW.XN--9ca.Fr".toList) = "www.xn--9ca.fr".toList ∧
    hostKey aceDemo "WWW.XN--9ca.Fr".toList = "www.xn--9ca.fr".toList := by
  simp only [toList_lit]
  decide +kernel

/-- the hypothesis is needed: a decoder without the round-trip check (the bare punycode codec:
`xn--caf-pia` is `cafÉ`, whose ACE spelling is `xn--caf-dma`) is idempotent on this host —
`canon_host`'s conclusion holds — and leads to another name -/
example :
    let bare : Str → Str := fun x => if x = "xn--caf-pia".toList then "cafÉ".toList else x
    ¬ SameNameOn aceDemo bare "xn--caf-pia.fr".toList ∧
    canonHost bare (canonHost bare "xn--caf-pia.fr".toList) = canonHost bare "xn--caf-pia.fr".toList ∧
    hostKey aceDemo (canonHost bare "xn--caf-pia.fr".toList) ≠ hostKey aceDemo "xn--caf-pia.fr".toList := by
  simp only [toList_lit]
  decide +kernel

/-! ### a decoder that really decodes, satisfying every law the theorems assume — together

`PunyLaws`, `PunyClean` (`Lemmas/CanonRoundTrip.lean`) and `IdnaLaws` are the hypotheses the
whole-function theorems (`Props/C01Whole.lean`) take of the label decoder.  Besides the identity
decoder, `punyOne` below decodes the label `xn--9ca` — whatever the case it is written in — to
`é`, and satisfies the three structures at once with the encoder `aceOne` (`punyDemo` above does
not: it is case-sensitive, so `PunyLaws.stable` fails on `XN--9CA`). -/

/-- decodes the ACE label of `é`, case-insensitively; every other label is left alone -/
def punyOne (x : Str) : Str := if lower x = "xn--9ca".toList then "é".toList else x

/-- the matching encoder (ToASCII + lower-casing of one label) -/
def aceOne (l : Str) : Str := if l = "é".toList then "xn--9ca".toList else lower l

theorem lower_eq_eacute {l : Str} (h : lower l = "é".toList) : l = "é".toList := by
  match l, h with
  | [c], h =>
    have e : "é".toList = ['é'] := by decide
    rw [e] at h ⊢
    simp only [lower, List.map_cons, List.map_nil, List.cons.injEq, and_true] at h
    rw [lowerChar_eq_of_not_lower (by decide) h]
  | [], h => simp [lower] at h
  | _ :: _ :: _, h => simp [lower] at h

theorem punyLaws_punyOne : PunyLaws punyOne :=
  punyLaws_one _ _ (by decide) (by decide)

theorem punyClean_punyOne : Ural.CanonRoundTrip.PunyClean punyOne where
  clean := by
    intro x c hc hb
    unfold punyOne at hc
    split at hc
    · exfalso
      have e : "é".toList = ['é'] := by decide
      rw [e, List.mem_singleton] at hc
      subst hc; revert hb; decide
    · exact hc
  nonempty := by
    intro x hx
    unfold punyOne
    split
    · decide
    · exact hx

theorem idnaLaws_punyOne : IdnaLaws aceOne punyOne where
  ace_lower := by
    intro l
    unfold aceOne
    by_cases h : l = "é".toList
    · subst h; decide
    · rw [if_neg h, if_neg (fun e => h (lower_eq_eacute e)), lower_idem]
  same_name := by
    intro x
    unfold punyOne aceOne
    by_cases h : lower x = "xn--9ca".toList
    · rw [if_pos h, if_pos rfl]
      have hne : x ≠ "é".toList := by rintro rfl; revert h; decide
      rw [if_neg hne, h]
    · rw [if_neg h]

/-- **the conjunction of the hypotheses of the whole-function theorems is satisfiable by a
decoder that decodes** -/
theorem decoder_laws_together :
    PunyLaws punyOne ∧ Ural.CanonRoundTrip.PunyClean punyOne ∧ IdnaLaws aceOne punyOne ∧
    punyOne "XN--9ca".toList = "é".toList ∧
    canonHost punyOne "WWW.XN--9CA.Fr".toList = "www.é.fr".toList ∧
    hostKey aceOne "www.é.fr".toList = hostKey aceOne "WWW.XN--9CA.Fr".toList :=
  ⟨punyLaws_punyOne, punyClean_punyOne, idnaLaws_punyOne, by simp only [toList_lit]; decide +kernel⟩

/-- `punyDemo` is not such a decoder -/
example : ¬ (lower (punyDemo (lower (punyDemo "XN--9CA".toList))) = lower (punyDemo "XN--9CA".toList)) := by
  simp only [toList_lit]
  decide +kernel

/-- port: same effective port (only the scheme's own default port is dropped) -/
theorem canon_port (puny : Str → Str) (quoted sf : Bool) (p : Parsed) :
    effPort p.scheme (canonComps puny quoted sf p).port = effPort p.scheme p.port := by
  simp only [canonComps, effPort]
  cases p.port with
  | none => rfl
  | some n => by_cases h : defaultPort p.scheme = some n <;> simp [h]

/-- query: same ordered list of decoded keys and values -/
theorem canon_query (puny : Str → Str) (quoted sf : Bool) (p : Parsed) :
    (safeQslIter (canonComps puny quoted sf p).query).map pctItem
      = (safeQslIter p.query).map pctItem :=
  canonQuery_items quoted p.query

/-- query, **form reading**: same ordered list of form-decoded keys and values (`formStr`: a
raw `+` is a space, `%2B` a plus sign — what a server makes of a query).  `canon_query` reads
`+` as a plus sign and cannot see `%2B` ↔ `+` (FX-C01-6e09416: `?a=%2B` became `?a=+`, `?b=+` became
`?b=%2B` in quoted mode); this clause can, and rests on `tables_plus`. -/
theorem canon_query_form (puny : Str → Str) (quoted sf : Bool) (p : Parsed) :
    (safeQslIter (canonComps puny quoted sf p).query).map formItem
      = (safeQslIter p.query).map formItem :=
  canonQuery_items_form tables_plus.1 quoted p.query

/-- non-vacuity, on the witness of FX-C01-6e09416: both spellings come back as they are, in both
modes, and their form readings differ -/
example :
    canonQuery false "a=%2B&b=+".toList = "a=%2B&b=+".toList ∧
    canonQuery true "a=%2B&b=+ %2b".toList = "a=%2B&b=+%20%2b".toList ∧
    formItem ("a".toList, some "%2B".toList) ≠ formItem ("a".toList, some "+".toList) ∧
    pctItem ("a".toList, some "%2B".toList) = pctItem ("a".toList, some "+".toList) := by
  simp only [toList_lit]
  decide +kernel

/-- fragment: same decoded fragment unless `strip_fragment` was requested -/
theorem canon_fragment (puny : Str → Str) (quoted : Bool) (p : Parsed) :
    optPct (canonComps puny quoted false p).fragment = pctStr p.fragment ∧
    (canonComps puny quoted true p).fragment = none := by
  have hU := tables_percent.2.2.2
  constructor
  · exact optPct_canonOpt quoted (safelyUnquote_nil _) (fun s => pct_requote quoted _ hU s) (some p.fragment)
  · simp [canonComps, canonOpt]

/-! ## path

`pathView` is the meaning of a path in C01's statement: split on raw `/`, percent-decode
each segment, resolve `.` / `..` (however their dots are spelled: detection is on the DECODED
segment, RFC 3986 §6.2.2) and empty segments; the flag says whether the path ends with a
slash (an empty, `.` or `..` last segment), and is dropped at the root (`""` ≡ `"/"`). -/

def resolveStep (acc : List (List UInt8)) (s : List UInt8) : List (List UInt8) :=
  if s = [] ∨ s = [0x2E] then acc else if s = [0x2E, 0x2E] then acc.dropLast else acc ++ [s]

def pathView (path : Str) : List (List UInt8) × Bool :=
  let ds := (splitOn path '/').map pctStr
  let r := ds.foldl resolveStep []
  (r, !r.isEmpty && (ds.getLast? = some [] || ds.getLast? = some [0x2E] || ds.getLast? = some [0x2E, 0x2E]))

theorem pathView_of_segments (f : Str → Str) (path : Str)
    (hs : splitOn (f path) '/' = (splitOn path '/').map f) (hp : ∀ s, pctStr (f s) = pctStr s) :
    pathView (f path) = pathView path := by
  unfold pathView
  rw [map_pctStr_splitOn f '/' path hs hp]

/-- unescaping a path never changes its segments: no `/` is created or removed, every segment
keeps its decoded bytes (so `%2E%2E` resolves like `..`, `%2F` stays inside its segment) -/
theorem path_unquote_view (path : Str) : pathView (unquotePath path) = pathView path :=
  pathView_of_segments unquotePath path
    (splitOn_safelyUnquote _ sep_slash (by decide) (by decide) (by decide) path)
    (pctStr_safelyUnquote _ tables_percent.2.1)

/-- quoting a path never changes its segments either -/
theorem path_quote_view (path : Str) : pathView (safelyQuote path) = pathView path :=
  pathView_of_segments safelyQuote path (splitOn_safelyQuote sep_slash (by decide) path)
    pctStr_safelyQuote

/-- **path clause, the escaping half**: with `cp` the resolved path that the function computes
from the unescaped input path (`canonPath`), the path of the result has the view of `cp`, and
the unescaped input path has the view of the input path.  What remains between the two —
that `normpath` + the trailing-slash and empty-path rules compute `pathView` of their
argument — is the plain-string resolution: `normpath_view` below; `canon_path` puts the two
halves together. -/
theorem canon_path_escaping (puny : Str → Str) (quoted sf : Bool) (p : Parsed) :
    ∃ cp, pathView (canonComps puny quoted sf p).path = pathView cp ∧
      cp = canonPath p.path (hasMore puny sf p) ∧
      pathView (unquotePath p.path) = pathView p.path := by
  refine ⟨_, ?_, rfl, path_unquote_view _⟩
  simp only [canonComps]
  cases quoted with
  | false => simp [path_unquote_view]
  | true => simp [path_quote_view]


/-! ## path: the resolution half, and the full clause

`Lemmas/Normpath.lean`: on an absolute path (`absPath`: empty, or starting with `/` — what
`urlsplit` returns for a URL with an authority, and `ensure_protocol` guarantees one; checked
on every parsed case by the `path_hyp` line of the correspondence stream) the path rule
(`endswith(("/", "/.", "/.."))`, `normpath`, empty-path rule, re-appended slash) is
`renderSegs ∘ segView`: it computes the resolved segments (`..` never pops the root) and the
trailing-slash flag, and the view of the result is the view of the input. -/

/-- `pathView` is the decoded view of `Lemmas/Normpath.lean` -/
theorem pathView_eq_byteView (path : Str) : pathView path = byteView path := rfl

/-- **plain-string level**: the path rule keeps the resolved segments and the trailing-slash
flag of every absolute path (`segView`: split on `/`, resolve `.`, `..`, empty segments) -/
theorem resolve_view (q : Str) (hasMore : Bool) (h : absPath q = true) :
    segView (resolvePath q hasMore) = segView q :=
  segView_resolvePath q hasMore h

/-- **`normpath` computes the view**: on an absolute path, `normpath` returns the resolved
segments, each preceded by a slash (the empty string at the root) -/
theorem normpath_segments (q : Str) :
    normpath ('/' :: q) =
      if (segView ('/' :: q)).1 = [] then [] else '/' :: join ['/'] (segView ('/' :: q)).1 :=
  normpath_abs q

/-- **decoded level (`normpath_view`)**: for every absolute input path, the path that
`canonPath` computes (unescape, trailing-slash test, `normpath`, empty-path rule) has the
same percent-decoded resolved segments and the same trailing-slash flag as the input path.
The root identification `""` ≡ `"/"` is built into `pathView` (`pathView_root`). -/
theorem normpath_view (path : Str) (hasMore : Bool) (h : absPath path = true) :
    pathView (canonPath path hasMore) = pathView path := by
  rw [canonPath_eq, pathView_eq_byteView,
    byteView_resolvePath _ hasMore (absPath_unquotePath path h) (unquotePath_idem path),
    ← pathView_eq_byteView, path_unquote_view]

/-- the two spellings of the root have the same view: no segments, no flag -/
theorem pathView_root : pathView [] = ([], false) ∧ pathView ['/'] = ([], false) := by decide

/-- **the path clause of C01**: for every parsed input whose path is absolute, every option
setting: the path of the result has the same sequence of percent-decoded segments after `.`,
`..` and empty-segment resolution, and the same trailing-slash flag, as the input path -/
theorem canon_path (puny : Str → Str) (quoted sf : Bool) (p : Parsed) (h : absPath p.path = true) :
    pathView (canonComps puny quoted sf p).path = pathView p.path := by
  obtain ⟨cp, h1, h2, _⟩ := canon_path_escaping puny quoted sf p
  rw [h1, h2]
  exact normpath_view _ _ h

/-- the root case, explicitly: a path that resolves to the root becomes `"/"` when a query or
a fragment follows — or when the host ends with a white-space character and nothing else
would follow it (`hasMore`, FX-C02-16f182c) — and `""` otherwise, in both modes -/
theorem canon_path_root (puny : Str → Str) (quoted sf : Bool) (p : Parsed)
    (h : absPath p.path = true) (hroot : (pathView p.path).1 = []) :
    (canonComps puny quoted sf p).path = if hasMore puny sf p then ['/'] else [] := by
  have hv : (segView (unquotePath p.path)).1 = [] := by
    have e := byteView_eq _ (dotHonest_segments (unquotePath_idem p.path))
    rw [← path_unquote_view, pathView_eq_byteView, e] at hroot
    simpa using hroot
  simp only [canonComps]
  rw [canonPath_render _ _ h]
  simp only [renderSegs, hv, List.isEmpty_nil, if_true]
  generalize hasMore puny sf p = m
  cases quoted <;> cases m <;> decide

/-- non-vacuity of the third way to `"/"` (FX-C02-16f182c): a host ending with a no-break
space and neither query nor fragment keeps the slash; the same host with a port does not
need it; a bracketed host ends with `]` -/
example :
    let nbsp : Str := "a.com".toList ++ [Char.ofNat 0xa0]
    let p : Parsed :=
      { scheme := "http".toList, netloc := nbsp, path := "/".toList, query := [], fragment := [],
        username := none, password := none, hostname := some nbsp, port := none }
    hasMore id false p = true ∧ (canonComps id false false p).path = ['/'] ∧
    hasMore id false { p with netloc := nbsp ++ ":8080".toList, port := some 8080 } = false ∧
    hasMore id false { p with netloc := nbsp ++ ":80".toList, port := some 80 } = true ∧
    hasMore id false { p with netloc := '[' :: nbsp ++ [']'] } = false := by
  simp only [toList_lit]
  decide +kernel

/-- the hypothesis is needed: on a relative path `normpath` cannot pop the first segment -/
example : pathView (canonPath "a/..".toList false) ≠ pathView "a/..".toList := by
  simp only [toList_lit]
  decide +kernel

/-- non-vacuity: dot segments (one spelled `%2E%2E`), an empty segment, an escaped slash, an
undecodable byte and a trailing `/.`; root cases -/
example :
    canonPath "/a//b/%2E%2E/./c%2Fd/%E9/x/../.".toList false = "/a/c%2Fd/%E9/".toList ∧
    pathView "/a//b/%2E%2E/./c%2Fd/%E9/x/../.".toList =
      ([[0x61], [0x63, 0x2F, 0x64], [0xE9]], true) ∧
    pathView "/a/c%2Fd/%E9/".toList = ([[0x61], [0x63, 0x2F, 0x64], [0xE9]], true) ∧
    canonPath "/a/../..".toList true = "/".toList ∧ canonPath "/a/../..".toList false = [] ∧
    canonPath "/../a".toList false = "/a".toList := by
  simp only [toList_lit]
  decide +kernel

/-! ## no delimiter is created -/

/-- an unquoted-mode text component never acquires a raw delimiter of its component (the
printed URL is split where the input was) -/
theorem canon_no_new_delimiter :
    (∀ (d : Char) (s : Str), d ∈ ['@', ':', '/', '?', '#'] → d ∉ s → d ∉ unquoteAuthItem s) ∧
    (∀ (d : Char) (s : Str), d ∈ ['?', '#'] → d ∉ s → d ∉ unquotePath s) ∧
    (∀ (d : Char) (s : Str), d ∈ ['&', '=', '#'] → d ∉ s → d ∉ unquoteQueryItem s) := by
  refine ⟨?_, ?_, ?_⟩ <;> intro d s hd hs <;> simp only [List.mem_cons, List.not_mem_nil, or_false] at hd
  · exact not_mem_authItem (by
      rcases hd with rfl | rfl | rfl | rfl | rfl <;> simp) s hs
  · rcases hd with rfl | rfl <;>
      exact not_mem_safelyUnquote _ ⟨by decide, by decide⟩ (by decide) (by decide) s hs
  · rcases hd with rfl | rfl | rfl <;>
      exact not_mem_safelyUnquote _ ⟨by decide, by decide⟩ (by decide) (by decide) s hs

/-- **the userinfo of the canonical form passes the NFKC check of `urlsplit`** (FX-C01-194b1c7):
no character of the canonical user name / password, in either mode, is one the running `urlsplit`
refuses in a netloc because its compatibility form holds one of `/ ? # @ :` (the regenerated table
`Gen.nfkcDelimCodes`; `_checknetloc` itself is outside the parser model `Py.parseUrl` — with this
lemma `canonicalize_reparse` is about outputs whose userinfo passes it; the host is never decoded) -/
theorem canon_userinfo_no_nfkc_delim (puny : Str → Str) (quoted sf : Bool) (p : Parsed) :
    (∀ c ∈ (canonComps puny quoted sf p).user.getD [], c.toNat ∉ Gen.nfkcDelimCodes) ∧
    (∀ c ∈ (canonComps puny quoted sf p).pass.getD [], c.toNat ∉ Gen.nfkcDelimCodes) := by
  have key : ∀ o : Option Str, ∀ c ∈ (canonOpt quoted unquoteAuthItem o).getD [],
      c.toNat ∉ Gen.nfkcDelimCodes := by
    intro o c hc hm
    rw [getD_canonOpt quoted unquoteAuthItem_nil] at hc
    have := requote_auth_no_nfkc quoted _ c hc
    simp [nfkcDelimChar, hm] at this
  exact ⟨key _, key _⟩

/-- the witness of FX-C01-194b1c7 (`http://%EF%BC%A0x@a.com/p`): U+FF20 stays escaped in the
user name, an ordinary non-ASCII character is decoded as before -/
example :
    unquoteAuthItem "%EF%BC%A0x".toList = "%EF%BC%A0x".toList ∧
    unquoteAuthItem "%ef%bc%9a%C3%A9".toList = "%EF%BC%9Aé".toList ∧
    requote true unquoteAuthItem "%EF%BC%A0x".toList = "%EF%BC%A0x".toList := by
  simp only [toList_lit]
  decide +kernel

/-- in quoted mode no reserved character other than `/` is left raw at all — in a query key or
value (`safely_quote(…, safe="/+")`) none other than `/` and `+` -/
theorem canon_quoted_no_delimiter (d : Char) (hd : d ∈ ['@', ':', '?', '#', '&', '=', ' '])
    (s : Str) : d ∉ safelyQuote s ∧ d ∉ quoteQueryItem s := by
  simp only [List.mem_cons, List.not_mem_nil, or_false] at hd
  rcases hd with rfl | rfl | rfl | rfl | rfl | rfl | rfl <;>
    exact ⟨not_mem_safelyQuote ⟨by decide, by decide⟩ (by decide) s,
      not_mem_quoteQueryItem ⟨by decide, by decide⟩ (by decide) s⟩

/-! ## non-vacuity: a URL with userinfo, punycode host, default port, escaped reserved and
unreserved bytes, an undecodable byte, a query and a fragment -/

example :
    let p : Parsed :=
      { scheme := "http".toList, netloc := "%41:p%40@XN--A.com:80".toList,
        path := "/a/%2E%2E/b%2Fc/%E9/".toList, query := "k=%26&x".toList, fragment := "f%20".toList,
        username := some "%41".toList, password := some "p%40".toList,
        hostname := some "xn--a.com".toList, port := some 80 }
    canonParts id false false p =
      { scheme := "http".toList, netloc := "A:p%40@xn--a.com".toList, path := "/b%2Fc/%E9/".toList,
        query := "k=%26&x".toList, fragment := some "f%20".toList } := by
  simp only [toList_lit]
  decide +kernel

end Ural.Props.C01
