import UralModel.Props.C02Whole
import UralModel.Props.C04
import UralModel.Lemmas.NormBridge
import UralModel.Lemmas.C07Bridge
import UralModel.Lemmas.C02String
import UralModel.Lemmas.StrLit
/-!
# C02 (ii) — spelling-insensitivity of `canonicalize_url` as a function of the URL STRING

`Props/C02.lean` states the spelling clauses on intermediate values (the stripped string, the
scan, the `Parsed` record the parser returned).  Here the function is the whole-string model
`canonicalizeUrl` (`Model/CanonicalizeUrl.lean`: cleaning → `Py.parseUrl` → component rules →
`printSplit`; compared with the real `canonicalize_url` on every run) and every theorem reads
`canonicalizeUrl puny o u' = canonicalizeUrl puny o u` for two STRINGS.

**Every string** (no class, no hypothesis on the URL; `none = none` when both are rejected):

* `canon_surrounding` — white space / control characters around the URL;
* `canon_control_inserted` — control characters inserted anywhere;
* `canon_hex_case_step`, `canon_hex_case` — the letter case of the hex digits of any escape
  (`x ++ %h1h2 ++ y`, plain string decomposition; `HexCaseEq` = its reflexive-transitive closure).

**Every string of the grammar class** `NormBridge.UrlG` (`Lemmas/NormBridge.lean`, the class of
C04's string-level theorems, re-used):

    [ letters{1,64} "://" | "//" | nothing ]  [ userinfo "@" ]  ( host | "[" ip-literal "]" )
        [ ":" port ]  [ "/" path ]  [ "?" query ]  [ "#" fragment ]

`CleansTo g u`: `g.wf` (decidable: which delimiters each piece may hold) and the cleaning pass
sends `u` to `g.str` (so `u` itself may carry white space / control characters around and
lower-case escapes).  `canonicalize_str`: on such a `u` the function is `canonG puny o g`, computed
from the pieces (bridge: `ensure_protocol` = `withProto`, a string `letters://authority tail`, on
which `NormBridge.parseUrl_scheme` and `parseAuthority_rest` say what the modelled parser
returns).  Then, for `u`, `u'` cleaning to `g`, `g'`:

* `canon_scheme_string` — `g' = { g with proto := P }` with the same lower-cased effective scheme
  (`HTTP://` vs `http://`; also `//x` and bare `x` vs `dp://x`);
* `canon_host_case_string` — `g' = { g with host := h' }`, `lower h' = lower g.host`, decoder law
  `PunyCase` (tested on the real codec, `harness/punylaws.py`);
* `canon_default_port_string` — `g' = { g with port := some p }`, `p` reads `n`, `n` the default
  port of the effective scheme, `g` without port value (`a.com` or `a.com:`): the two NETLOCS differ;
* `canon_empty_query_string`, `canon_empty_fragment_string` — a bare `?` / `#`;
* `canon_path_string` — any two paths with the same canonical path; corollaries
  `canon_dot_segments_string` (same resolved view `pathKey`), `canon_insert_segment_string`
  (`.`, `%2E`, empty, `x/..` inserted), `canon_path_escaped_ascii_string` (`%41` vs `A`),
  `canon_path_escaped_space_string` (`%20` vs raw space), `canon_path_escaped_utf8_string`
  (`é` vs `%C3%A9` / `%c3%a9`);
* `canon_fragment_escaped_ascii_string`, `canon_fragment_escaped_space_string`,
  `canon_fragment_escaped_utf8_string` — the same three in the fragment;
* `canon_query_escaped_*_string`, `canon_userinfo_escaped_*_string` — the same three inside the
  query (any key or value) and inside the user info (user name or password); general forms
  `canon_query_subst_string`, `canon_userinfo_subst_string`;
* `canon_punycode_label_string` — a host label written `xn--…` or as the decoder reads it
  (`PunyLaws`, `PunyCase`).

Compositions: every theorem is an equation between the results on two arbitrary strings of the
class, so a chain `u₀, u₁ = T₁ u₀, u₂ = T₂ u₁ …` composes by transitivity as long as the
intermediate strings are in the class.  Not here (see `UNPROVED` of `harness/props/C02.py`): the
mode round trips and quoted-mode idempotence of the whole function; strings outside the class.
-/
set_option linter.unusedSimpArgs false
namespace Ural.Props.C02
open Ural Ural.Py Ural.UrlParts Ural.Quote Ural.Canonicalize Ural.Normpath Ural.NormBridge Ural.C02String
  Ural.UrlRoundTrip

/-! ## every string: the cleaning pass -/

/-- **white space and control characters around the URL never change the result** — every
string `s`, every option, accepted or rejected -/
theorem canon_surrounding (puny : Str → Str) (o : Opts) (w1 w2 s : Str)
    (h1 : w1.all C04.isSurrounding = true) (h2 : w2.all C04.isSurrounding = true) :
    canonicalizeUrl puny o (w1 ++ s ++ w2) = canonicalizeUrl puny o s :=
  canonicalize_of_preClean puny o _ _ (C04.preClean_surrounding w1 w2 s h1 h2)

/-- **control characters inserted anywhere never change the result** -/
theorem canon_control_inserted (puny : Str → Str) (o : Opts) (a w b : Str)
    (hw : w.all isControlChar = true) :
    canonicalizeUrl puny o (a ++ w ++ b) = canonicalizeUrl puny o (a ++ b) := by
  apply canonicalize_of_preClean
  unfold Normalize.preClean
  rw [stripControl_insert_all a w b hw]

/-- **the letter case of the hex digits of an escape never changes the result**: any string
`x ++ %h1h2 ++ y` (`h1`, `h2` hex digits) against the same string with the two digits in another
letter case -/
theorem canon_hex_case_step (puny : Str → Str) (o : Opts) (x y : Str) (h1 h2 k1 k2 : Char)
    (hh1 : isHexDigit h1 = true) (hh2 : isHexDigit h2 = true)
    (e1 : upperChar k1 = upperChar h1) (e2 : upperChar k2 = upperChar h2) :
    canonicalizeUrl puny o (x ++ '%' :: k1 :: k2 :: y) = canonicalizeUrl puny o (x ++ '%' :: h1 :: h2 :: y) :=
  canonicalize_of_preClean puny o _ _ (preClean_hex_step x y h1 h2 k1 k2 hh1 hh2 e1 e2)

/-- … and any number of escapes (`HexCaseEq`: closure of the step) -/
theorem canon_hex_case (puny : Str → Str) (o : Opts) {a b : Str} (h : HexCaseEq a b) :
    canonicalizeUrl puny o a = canonicalizeUrl puny o b :=
  canonicalize_of_preClean puny o _ _ (preClean_hexCaseEq h)

/-- non-vacuity: the three on one URL (`id` decoder) -/
example :
    (" \x00\t".toList).all C04.isSurrounding = true ∧ ("\x7f\x01".toList).all isControlChar = true ∧
    HexCaseEq "http://a.com/%c3%a9?%3d".toList "http://a.com/%C3%A9?%3D".toList ∧
    canonicalizeUrl id ⟨"https".toList, false, false⟩ " \x00\thttp://a.c\x7f\x01om/%c3%a9?%3d \n".toList =
      some "http://a.com/é?%3D".toList := by
  simp only [toList_lit]
  refine ⟨by decide, by decide, ?_, by decide +kernel⟩
  exact .trans
    (.step_eq "http://a.com/".toList "%a9?%3d".toList 'C' '3' 'c' '3' (by decide) (by decide) (by decide)
      (by decide) (by simp only [toList_lit]; rfl) rfl)
    (.trans
      (.step_eq "http://a.com/%C3".toList "?%3d".toList 'A' '9' 'a' '9' (by decide) (by decide) (by decide)
        (by decide) (by simp only [toList_lit]; rfl) rfl)
      (.step_eq "http://a.com/%C3%A9?".toList [] '3' 'D' '3' 'd' (by decide) (by decide) (by decide)
        (by decide) (by simp only [toList_lit]; rfl) (by simp only [toList_lit]; rfl)))

/-! ## the grammar class: `ensure_protocol`, the parser, `canonG` -/

/-- the class: the cleaning pass sends `u` to the string of the well-formed grammar term `g` -/
structure CleansTo (g : UrlG) (u : Str) : Prop where
  wf : g.wf = true
  reaches : Normalize.preClean u = g.str

instance (g : UrlG) (u : Str) : Decidable (CleansTo g u) :=
  decidable_of_iff (g.wf = true ∧ Normalize.preClean u = g.str)
    ⟨fun ⟨a, b⟩ => ⟨a, b⟩, fun h => ⟨h.wf, h.reaches⟩⟩

theorem CleansTo.noUnsafe {g : UrlG} {u : Str} (h : CleansTo g u) : NoUnsafe g.rest :=
  (InClassOf.noUnsafe (ir := false) (g := g) (u := u) ⟨h.wf, h.reaches⟩)

/-- `protocol.rstrip(":/")` -/
def protoOf (dp : Str) : Str := rstripChars dp [':', '/']

/-- what `ensure_protocol` makes of the scheme prefix -/
def withProto (dp : Str) (g : UrlG) : UrlG :=
  match g.proto with
  | .scheme _ => g
  | _ => { g with proto := .scheme (protoOf dp) }

/-- the scheme the parser reports after `ensure_protocol` -/
def schemeOf (dp : Str) : Proto → Str
  | .scheme sc => lower sc
  | _ => lower (protoOf dp)

/-- the `Parsed` record `canonicalize_url` reads on a string of the class, for a `.port` value -/
def recordC (dp : Str) (g : UrlG) (po : Option Nat) : Parsed :=
  { g.record po with scheme := schemeOf dp g.proto }

/-- **`canonicalize_url` on a string of the class, from its pieces** -/
def canonG (puny : Str → Str) (o : Opts) (g : UrlG) : Option Str :=
  (((portVal g.port).map (recordC o.defaultProtocol g)).bind
    (canonSplit puny o.quoted o.stripFragment)).map printSplit

/-- **`ensure_protocol` on a string of the class** -/
theorem ensureProtocol_str {dp : Str} {g : UrlG} (h : g.wf = true) :
    ensureProtocol g.str dp = (withProto dp g).str := by
  have hp := (wf_facts h).proto
  unfold withProto UrlG.str
  cases hpr : g.proto with
  | scheme sc =>
    rw [hpr] at hp
    obtain ⟨h1, h2, h3⟩ := Proto.ok_scheme hp
    have e : (Proto.scheme sc).str ++ g.rest = sc ++ ':' :: '/' :: '/' :: g.rest := by simp [Proto.str]
    simp only [hpr]
    rw [e]
    exact ensureProtocol_letters ⟨h1, List.all_eq_true.1 h3, h2⟩ g.rest dp
  | slashes =>
    rw [show Proto.slashes.str ++ g.rest = '/' :: '/' :: g.rest from rfl, ensureProtocol_slashes]
    simp [Proto.str, UrlG.rest, UrlG.netloc, UrlG.tail, UrlG.hostPart, protoOf]
  | bare =>
    rw [hpr] at hp
    simp only [Proto.ok, Bool.not_eq_true', Normalize.hasProtocol, C07.protoLen_eq] at hp
    rw [show Proto.bare.str ++ g.rest = g.rest from rfl,
      ensureProtocol_none (Option.not_isSome_iff_eq_none.1 (by simpa using hp))]
    simp [Proto.str, UrlG.rest, UrlG.netloc, UrlG.tail, UrlG.hostPart, protoOf]

theorem withProto_str {dp : Str} (hdp : SchemeShaped (protoOf dp)) {g : UrlG} (h : g.wf = true) :
    ∃ sc, SchemeShaped sc ∧ lower sc = schemeOf dp g.proto ∧
      (withProto dp g).str = sc ++ ':' :: '/' :: '/' :: g.rest := by
  have hp := (wf_facts h).proto
  unfold withProto schemeOf UrlG.str
  cases hpr : g.proto with
  | scheme sc =>
    rw [hpr] at hp
    obtain ⟨h1, _, h3⟩ := Proto.ok_scheme hp
    exact ⟨sc, schemeShaped_of_letters h1 h3, rfl, by simp [hpr, Proto.str]⟩
  | slashes => exact ⟨_, hdp, rfl, by simp [Proto.str, UrlG.rest, UrlG.netloc, UrlG.tail, UrlG.hostPart]⟩
  | bare => exact ⟨_, hdp, rfl, by simp [Proto.str, UrlG.rest, UrlG.netloc, UrlG.tail, UrlG.hostPart]⟩

/-- **the modelled parser on what `ensure_protocol` returns** -/
theorem parseUrl_ensured {dp : Str} (hdp : SchemeShaped (protoOf dp)) {g : UrlG} (h : g.wf = true)
    (hc : NoUnsafe g.rest) :
    parseUrl (ensureProtocol g.str dp) = (portVal g.port).map (recordC dp g) := by
  obtain ⟨sc, hs, hl, e⟩ := withProto_str hdp h
  rw [ensureProtocol_str h, e, parseUrl_scheme sc g.rest hs hc, hl, parseAuthority_rest g (wf_facts h)]
  rfl

/-- **the bridge**: on every string `u` of the class, `canonicalize_url` is `canonG` of the
pieces (default protocol of 1–64 letters) -/
theorem canonicalize_str (puny : Str → Str) (o : Opts) (hdp : ProtoLetters o.defaultProtocol)
    (g : UrlG) (u : Str) (hg : CleansTo g u) :
    canonicalizeUrl puny o u = canonG puny o g := by
  unfold canonicalizeUrl canonicalizeSplit canonG
  rw [cleanUrl_preClean, hg.reaches, parseUrl_ensured (letters_shaped hdp.1 hdp.2.1) hg.wf hg.noUnsafe]

/-- two strings of the class whose pieces give the same result -/
theorem string_of_canonG (puny : Str → Str) (o : Opts) (hdp : ProtoLetters o.defaultProtocol)
    (g g' : UrlG) (u u' : Str) (hg : CleansTo g u) (hg' : CleansTo g' u')
    (h : canonG puny o g' = canonG puny o g) :
    canonicalizeUrl puny o u' = canonicalizeUrl puny o u := by
  rw [canonicalize_str puny o hdp g u hg, canonicalize_str puny o hdp g' u' hg', h]

/-! ## what the component rules read from the authority of the class -/

theorem userinfoBrackets_netloc {g : UrlG} (h : WFacts g) : userinfoBrackets g.netloc = false := by
  unfold userinfoBrackets
  rw [(reads_netloc h).splitLast]
  cases hu : g.ui with
  | none => rfl
  | some u =>
    have hui := hu ▸ h.ui
    simp [free_not_mem (freeOpt_some hui) (c := '['), free_not_mem (freeOpt_some hui) (c := ']')]

theorem bracketedHost_netloc {g : UrlG} (h : WFacts g) : bracketedHost g.netloc = g.br :=
  (reads_netloc h).contains_lbr

/-- the component rules read the record through these values only -/
theorem canonSplit_congr (puny : Str → Str) (q sf : Bool) (p p' : Parsed)
    (hs : p'.scheme = p.scheme)
    (hui : userinfoBrackets p'.netloc = userinfoBrackets p.netloc)
    (hbr : bracketedHost p'.netloc = bracketedHost p.netloc)
    (hu : canonOpt q unquoteAuthItem p'.username = canonOpt q unquoteAuthItem p.username)
    (hpw : canonOpt q unquoteAuthItem p'.password = canonOpt q unquoteAuthItem p.password)
    (hh : hostRule puny p'.hostname = hostRule puny p.hostname)
    (hpo : portRule p.scheme p'.port = portRule p.scheme p.port)
    (hpa : ∀ m, canonPath p'.path m = canonPath p.path m)
    (hq : canonQuery q p'.query = canonQuery q p.query) (hqe : p'.query.isEmpty = p.query.isEmpty)
    (hf : canonOpt q unquoteFragment (some p'.fragment) = canonOpt q unquoteFragment (some p.fragment))
    (hfe : p'.fragment.isEmpty = p.fragment.isEmpty) :
    canonSplit puny q sf p' = canonSplit puny q sf p := by
  have hbh : ∀ x, bracketHost p'.netloc x = bracketHost p.netloc x := by
    intro x; unfold bracketHost; rw [hbr]
  have hm : hasMore puny sf p' = hasMore puny sf p := by
    unfold hasMore hostEndsUrl
    rw [hqe, hs, hpo, hh, hbh]
    cases sf <;> simp [truthy, hfe]
  have hc : canonComps puny q sf p' = canonComps puny q sf p := by
    have e : ∀ r : Parsed, canonComps puny q sf r =
        { scheme := r.scheme, user := canonOpt q unquoteAuthItem r.username,
          pass := canonOpt q unquoteAuthItem r.password, host := hostRule puny r.hostname,
          port := portRule r.scheme r.port,
          path := if q then safelyQuote (canonPath r.path (hasMore puny sf r))
            else unquotePath (canonPath r.path (hasMore puny sf r)),
          query := canonQuery q r.query,
          fragment := canonOpt q unquoteFragment (if sf then none else some r.fragment) } := by
      intro r; rfl
    rw [e, e, hs, hu, hpw, hh, hpo, hm, hpa, hq]
    cases sf
    · simp only [Bool.false_eq_true, if_false, hf]
    · rfl
  simp only [canonSplit, canonParts, hui, hc, hbh]

/-- the congruence behind every clause of the class.  Each hypothesis holds by `rfl` when `g'` is
`g` with other pieces changed, so a caller names the ones its clause is about. -/
theorem string_congr (puny : Str → Str) (o : Opts) (hdp : ProtoLetters o.defaultProtocol) {g g' : UrlG}
    {u u' : Str} (hg : CleansTo g u) (hg' : CleansTo g' u')
    (hproto : schemeOf o.defaultProtocol g'.proto = schemeOf o.defaultProtocol g.proto := by rfl)
    (huser : canonOpt o.quoted unquoteAuthItem (g'.ui.map fun u => (splitFirst u ':').1) =
      canonOpt o.quoted unquoteAuthItem (g.ui.map fun u => (splitFirst u ':').1) := by rfl)
    (hpass : canonOpt o.quoted unquoteAuthItem (g'.ui.bind fun u => (splitFirst u ':').2) =
      canonOpt o.quoted unquoteAuthItem (g.ui.bind fun u => (splitFirst u ':').2) := by rfl)
    (hbr : g'.br = g.br := by rfl)
    (hpath : ∀ m, canonPath g'.path m = canonPath g.path m := by exact fun _ => rfl)
    (hquery : canonQuery o.quoted (g'.query.getD []) = canonQuery o.quoted (g.query.getD []) := by rfl)
    (hqe : (g'.query.getD []).isEmpty = (g.query.getD []).isEmpty := by rfl)
    (hfrag : canonOpt o.quoted unquoteFragment (some (g'.fragment.getD [])) =
      canonOpt o.quoted unquoteFragment (some (g.fragment.getD [])) := by rfl)
    (hfe : (g'.fragment.getD []).isEmpty = (g.fragment.getD []).isEmpty := by rfl)
    (hhost : hostRule puny g'.hostname = hostRule puny g.hostname := by rfl)
    (hport : (portVal g'.port).map (portRule (schemeOf o.defaultProtocol g.proto)) =
      (portVal g.port).map (portRule (schemeOf o.defaultProtocol g.proto)) := by rfl)
    (hsome : portVal g'.port = none ↔ portVal g.port = none := by exact Iff.rfl) :
    canonicalizeUrl puny o u' = canonicalizeUrl puny o u := by
  refine string_of_canonG puny o hdp g g' u u' hg hg' ?_
  unfold canonG
  have key : ∀ po po', portRule (schemeOf o.defaultProtocol g.proto) po' =
      portRule (schemeOf o.defaultProtocol g.proto) po →
      canonSplit puny o.quoted o.stripFragment (recordC o.defaultProtocol g' po') =
        canonSplit puny o.quoted o.stripFragment (recordC o.defaultProtocol g po) := by
    intro po po' hpp
    refine canonSplit_congr puny _ _ _ _ hproto ?_ ?_ huser hpass hhost hpp hpath hquery hqe hfrag hfe
    · show userinfoBrackets g'.netloc = userinfoBrackets g.netloc
      rw [userinfoBrackets_netloc (wf_facts hg.wf), userinfoBrackets_netloc (wf_facts hg'.wf)]
    · show bracketedHost g'.netloc = bracketedHost g.netloc
      rw [bracketedHost_netloc (wf_facts hg.wf), bracketedHost_netloc (wf_facts hg'.wf), hbr]
  cases h1 : portVal g.port with
  | none => rw [hsome.2 h1]; rfl
  | some po =>
    cases h2 : portVal g'.port with
    | none => rw [hsome.1 h2] at h1; cases h1
    | some po' =>
      rw [h1, h2] at hport
      simp only [Option.map_some, Option.some.injEq] at hport
      simp only [Option.map_some, Option.bind_some, key po po' hport]

/-! ## letter case of the scheme (and the implied default protocol) -/

/-- **the letter case of the scheme never changes the result** (`HTTP://x` vs `http://x`:
`P = .scheme sc'`, `g.proto = .scheme sc`, `lower sc' = lower sc`); in general any two scheme
prefixes with the same effective scheme — `//x` and bare `x` are `dp://x` — for every `u`, `u'`
that clean to the two strings of the class -/
theorem canon_scheme_string (puny : Str → Str) (o : Opts) (hdp : ProtoLetters o.defaultProtocol)
    (g : UrlG) (P : Proto) (h : schemeOf o.defaultProtocol P = schemeOf o.defaultProtocol g.proto)
    (u u' : Str) (hg : CleansTo g u) (hg' : CleansTo { g with proto := P } u') :
    canonicalizeUrl puny o u' = canonicalizeUrl puny o u :=
  string_congr puny o hdp hg hg' (hproto := h)

/-- the named case -/
theorem schemeOf_case (dp sc sc' : Str) (h : lower sc' = lower sc) :
    schemeOf dp (.scheme sc') = schemeOf dp (.scheme sc) := h

/-! ## letter case of the host -/

/-- the host rule on the `.hostname` of two non-empty host texts with the same canonical host -/
theorem hostRule_hostname_of_canonHost (puny : Str → Str) (hc : C04.PunyCase puny) (g : UrlG) (h' : Str)
    (he : g.host ≠ []) (he' : h' ≠ []) (heq : canonHost puny h' = canonHost puny g.host) :
    hostRule puny ({ g with host := h' } : UrlG).hostname = hostRule puny g.hostname := by
  unfold UrlG.hostname
  have n1 : (lowerHost g.host).isEmpty = false :=
    List.isEmpty_eq_false_iff.2 (BracketHost.lowerHost_ne_nil he)
  have n2 : (lowerHost h').isEmpty = false :=
    List.isEmpty_eq_false_iff.2 (BracketHost.lowerHost_ne_nil he')
  simp only [he, he', if_false, hostRule, n1, n2, Bool.false_eq_true]
  congr 1
  rw [← C04.canonHost_lower puny hc (lowerHost h'), ← C04.canonHost_lower puny hc (lowerHost g.host),
    Netloc.lower_lowerHost, Netloc.lower_lowerHost, C04.canonHost_lower puny hc, C04.canonHost_lower puny hc, heq]

theorem hostRule_hostname_case (puny : Str → Str) (hc : C04.PunyCase puny) (g : UrlG) (h' : Str)
    (hl : lower h' = lower g.host) :
    hostRule puny ({ g with host := h' } : UrlG).hostname = hostRule puny g.hostname := by
  have hnil : h' = [] ↔ g.host = [] := by
    rw [← BracketHost.lower_eq_nil_iff, hl, BracketHost.lower_eq_nil_iff]
  by_cases he : g.host = []
  · unfold UrlG.hostname; simp [he, hnil.2 he]
  · have he' : h' ≠ [] := fun e => he (hnil.1 e)
    apply hostRule_hostname_of_canonHost puny hc g h' he he'
    rw [← C04.canonHost_lower puny hc h', hl, C04.canonHost_lower puny hc]

/-- **the letter case of the host never changes the result**: `h'` and the host of `g` have the
same `str.lower` (escapes and IPv6 zone ids included: no `%` condition), for every `u`, `u'` that
clean to the two strings; decoder law `PunyCase` (the idna decoder ignores the ASCII letter case
of a label, up to the case of its result) -/
theorem canon_host_case_string (puny : Str → Str) (hc : C04.PunyCase puny) (o : Opts)
    (hdp : ProtoLetters o.defaultProtocol) (g : UrlG) (h' : Str) (hl : lower h' = lower g.host)
    (u u' : Str) (hg : CleansTo g u) (hg' : CleansTo { g with host := h' } u') :
    canonicalizeUrl puny o u' = canonicalizeUrl puny o u :=
  string_congr puny o hdp hg hg' (hhost := hostRule_hostname_case puny hc g h' hl)

/-! ## a host label in punycode or in Unicode -/

/-- **writing a host label in punycode or in Unicode never changes the result**: the host of `g`
is `A.L.B` (dot-free labels), the other spelling has `canonLabel puny L` in place of `L` — the
decoded, lower-cased label; both hosts non-empty; decoder laws `PunyLaws` (no dot from a dot-free
label, a decoded label that still starts with `xn--` is stable) and `PunyCase`, both evaluated on
the real codec on every run.  (The modelled parser lower-cases ASCII only: a Unicode label with a
non-ASCII character that `str.lower` changes is outside the parser model, `Py/UrlAccessors.lean`.) -/
theorem canon_punycode_label_string (puny : Str → Str) (hp : PunyLaws puny) (hc : C04.PunyCase puny)
    (o : Opts) (hdp : ProtoLetters o.defaultProtocol)
    (g : UrlG) (A B : List Str) (L : Str) (hhost : g.host = join ['.'] (A ++ L :: B))
    (hA : ∀ x ∈ A, '.' ∉ x) (hB : ∀ x ∈ B, '.' ∉ x) (hL : '.' ∉ L)
    (he : g.host ≠ []) (he' : join ['.'] (A ++ canonLabel puny L :: B) ≠ [])
    (u u' : Str) (hg : CleansTo g u)
    (hg' : CleansTo { g with host := join ['.'] (A ++ canonLabel puny L :: B) } u') :
    canonicalizeUrl puny o u' = canonicalizeUrl puny o u :=
  string_congr puny o hdp hg hg' (hhost := hostRule_hostname_of_canonHost puny hc g _ he he'
    (by rw [hhost]; exact Normalize.canonHost_label puny hp A B L hA hB hL))

/-! ## explicit default port -/

/-- **an explicitly written default port never changes the result**: the port text `p` reads
`n` (`80`, `0080`, `443`), `n` is the default port of the effective scheme (`http` → 80, `https` →
443; the scheme as lower-cased by the parser, or the default protocol for `//x` and bare `x`), the
base has no port value (`a.com`, or `a.com:`) — the two strings have different authorities -/
theorem canon_default_port_string (puny : Str → Str) (o : Opts) (hdp : ProtoLetters o.defaultProtocol)
    (g : UrlG) (p : Str) (n : Nat) (hp : portVal (some p) = some (some n))
    (hdef : defaultPort (schemeOf o.defaultProtocol g.proto) = some n)
    (hbase : portVal g.port = some none)
    (u u' : Str) (hg : CleansTo g u) (hg' : CleansTo { g with port := some p } u') :
    canonicalizeUrl puny o u' = canonicalizeUrl puny o u :=
  string_congr puny o hdp hg hg'
    (hport := by simp only [hp, hbase, Option.map_some, portRule, hdef, if_true])
    (hsome := by simp [hp, hbase])

/-! ## an empty `?` or `#` -/

/-- **a bare `?` never changes the result**: `g` has no `?`, `g'` has `?` followed by nothing
(in front of the fragment or at the end) -/
theorem canon_empty_query_string (puny : Str → Str) (o : Opts) (hdp : ProtoLetters o.defaultProtocol)
    (g : UrlG) (hq : g.query = none) (u u' : Str) (hg : CleansTo g u)
    (hg' : CleansTo { g with query := some [] } u') :
    canonicalizeUrl puny o u' = canonicalizeUrl puny o u :=
  string_congr puny o hdp hg hg' (hquery := by rw [hq]; rfl) (hqe := by rw [hq]; rfl)

/-- **a bare `#` at the end never changes the result** -/
theorem canon_empty_fragment_string (puny : Str → Str) (o : Opts) (hdp : ProtoLetters o.defaultProtocol)
    (g : UrlG) (hf : g.fragment = none) (u u' : Str) (hg : CleansTo g u)
    (hg' : CleansTo { g with fragment := some [] } u') :
    canonicalizeUrl puny o u' = canonicalizeUrl puny o u :=
  string_congr puny o hdp hg hg' (hfrag := by rw [hf]; rfl) (hfe := by rw [hf]; rfl)

/-! ## the path: dot segments, escape spelling -/

/-- **two paths with the same canonical path** give the same result, on strings -/
theorem canon_path_string (puny : Str → Str) (o : Opts) (hdp : ProtoLetters o.defaultProtocol)
    (g : UrlG) (p' : Str) (h : ∀ m, canonPath p' m = canonPath g.path m)
    (u u' : Str) (hg : CleansTo g u) (hg' : CleansTo { g with path := p' } u') :
    canonicalizeUrl puny o u' = canonicalizeUrl puny o u :=
  string_congr puny o hdp hg hg' (hpath := h)

theorem absPath_of_wf {g : UrlG} (h : g.wf = true) : absPath g.path = true := (wf_facts h).pabs

/-- **`.` / `..` / empty segments that resolve to the same path never change the result**: the
two paths have the same resolved view (`pathKey`: unescaped segments after dot / empty-segment
resolution + trailing-slash flag) -/
theorem canon_dot_segments_string (puny : Str → Str) (o : Opts) (hdp : ProtoLetters o.defaultProtocol)
    (g : UrlG) (p' : Str) (hk : pathKey p' = pathKey g.path)
    (u u' : Str) (hg : CleansTo g u) (hg' : CleansTo { g with path := p' } u') :
    canonicalizeUrl puny o u' = canonicalizeUrl puny o u :=
  canon_path_string puny o hdp g p'
    (fun m => canonPath_congr p' g.path m (absPath_of_wf hg'.wf) (absPath_of_wf hg.wf) hk) u u' hg hg'

/-- **a segment inserted anywhere that resolves to nothing** (`mid` = `.`, `%2E`, empty, `x/..`:
the hypothesis is discharged for these four by `insert_dot_ok`, `insert_empty_ok`,
`insert_updir_ok` as in `insert_dot_segment` …) never changes the result -/
theorem canon_insert_segment_string (puny : Str → Str) (o : Opts) (hdp : ProtoLetters o.defaultProtocol)
    (g : UrlG) (a mid b : Str) (hpath : g.path = a ++ '/' :: b) (ha : absPath a = true)
    (hmid : ∀ st, (splitOn (unquotePath mid) '/').foldl segStep st = st)
    (u u' : Str) (hg : CleansTo g u) (hg' : CleansTo { g with path := a ++ '/' :: (mid ++ '/' :: b) } u') :
    canonicalizeUrl puny o u' = canonicalizeUrl puny o u :=
  canon_path_string puny o hdp g _
    (fun m => by rw [hpath]; exact canonPath_insert a mid b m ha hmid) u u' hg hg'

/-- the named instance: a `.` segment -/
theorem canon_insert_dot_string (puny : Str → Str) (o : Opts) (hdp : ProtoLetters o.defaultProtocol)
    (g : UrlG) (a b : Str) (hpath : g.path = a ++ '/' :: b) (ha : absPath a = true)
    (u u' : Str) (hg : CleansTo g u) (hg' : CleansTo { g with path := a ++ '/' :: (['.'] ++ '/' :: b) } u') :
    canonicalizeUrl puny o u' = canonicalizeUrl puny o u :=
  canon_insert_segment_string puny o hdp g a ['.'] b hpath ha (by
    have : unquotePath ['.'] = ['.'] := by decide
    rw [this]; exact insert_dot_ok) u u' hg hg'

/-- **escaping or not a character that may appear raw in the path never changes the result**
(`%41` vs `A`, `%7E` vs `~`): the escape stands for an ASCII byte the path table does not keep
escaped; when the character is a hex digit, `x` must not end inside an unfinished escape -/
theorem canon_path_escaped_ascii_string (puny : Str → Str) (o : Opts) (hdp : ProtoLetters o.defaultProtocol)
    (g : UrlG) (x y : Str) (h1 h2 : Char) (hpath : g.path = x ++ '%' :: h1 :: h2 :: y)
    (hh1 : isHexDigit h1 = true) (hh2 : isHexDigit h2 = true)
    (hk : keepEsc Gen.Quote.unsafeForPath (byteOf h1 h2) = false) (hlt : (byteOf h1 h2).toNat < 0x80)
    (hctx : isHexDigit (Char.ofNat (byteOf h1 h2).toNat) = true → openPct x = false)
    (u u' : Str) (hg : CleansTo g u)
    (hg' : CleansTo { g with path := x ++ Char.ofNat (byteOf h1 h2).toNat :: y } u') :
    canonicalizeUrl puny o u' = canonicalizeUrl puny o u :=
  canon_path_string puny o hdp g _
    (canonPath_of_unquote (by
      rw [hpath]
      exact (safelyUnquote_escaped_ascii _ unsafeForPath_ok.1 x y h1 h2 hh1 hh2 hk hlt hctx).symm)) u u' hg hg'

/-- **a raw space vs `%20` in the path** -/
theorem canon_path_escaped_space_string (puny : Str → Str) (o : Opts) (hdp : ProtoLetters o.defaultProtocol)
    (g : UrlG) (x y : Str) (hpath : g.path = x ++ '%' :: '2' :: '0' :: y)
    (u u' : Str) (hg : CleansTo g u) (hg' : CleansTo { g with path := x ++ ' ' :: y } u') :
    canonicalizeUrl puny o u' = canonicalizeUrl puny o u :=
  canon_path_string puny o hdp g _
    (canonPath_of_unquote (by rw [hpath]; exact (safelyUnquote_escaped_space _ x y).symm)) u u' hg hg'

/-- **a non-ASCII character vs its escaped UTF-8 bytes in the path** (`hs`: hex-digit pairs, in
any letter case, whose bytes are the encoding of `c`) -/
theorem canon_path_escaped_utf8_string (puny : Str → Str) (o : Opts) (hdp : ProtoLetters o.defaultProtocol)
    (g : UrlG) (x y : Str) (c : Char) (hc : 0x80 ≤ c.toNat) (hs : List (Char × Char))
    (hhex : ∀ p ∈ hs, isHexDigit p.1 = true ∧ isHexDigit p.2 = true)
    (hb : hs.map (fun p => byteOf p.1 p.2) = utf8 c)
    (hpath : g.path = x ++ (escStr hs ++ y))
    (u u' : Str) (hg : CleansTo g u) (hg' : CleansTo { g with path := x ++ c :: y } u') :
    canonicalizeUrl puny o u' = canonicalizeUrl puny o u :=
  canon_path_string puny o hdp g _
    (canonPath_of_unquote (by
      rw [hpath]; exact (safelyUnquote_escaped_utf8 _ unsafeForPath_ok.2 x y c hc hs hhex hb).symm)) u u' hg hg'

/-! ## the fragment: escape spelling -/

theorem canon_fragment_string (puny : Str → Str) (o : Opts) (hdp : ProtoLetters o.defaultProtocol)
    (g : UrlG) (f f' : Str) (hf : g.fragment = some f) (hne : f ≠ []) (hne' : f' ≠ [])
    (h : unquoteFragment f' = unquoteFragment f)
    (u u' : Str) (hg : CleansTo g u) (hg' : CleansTo { g with fragment := some f' } u') :
    canonicalizeUrl puny o u' = canonicalizeUrl puny o u := by
  have e1 : f.isEmpty = false := List.isEmpty_eq_false_iff.2 hne
  have e2 : f'.isEmpty = false := List.isEmpty_eq_false_iff.2 hne'
  refine string_congr puny o hdp hg hg' (hfrag := ?_) (hfe := ?_)
  · simp only [hf, Option.getD_some, canonOpt, e1, e2, Bool.false_eq_true, if_false, requote, h]
  · simp only [hf, Option.getD_some, e1, e2]

/-- **`%41` vs `A` in the fragment** -/
theorem canon_fragment_escaped_ascii_string (puny : Str → Str) (o : Opts) (hdp : ProtoLetters o.defaultProtocol)
    (g : UrlG) (x y : Str) (h1 h2 : Char) (hf : g.fragment = some (x ++ '%' :: h1 :: h2 :: y))
    (hh1 : isHexDigit h1 = true) (hh2 : isHexDigit h2 = true)
    (hk : keepEsc Gen.Quote.unsafeForFragment (byteOf h1 h2) = false) (hlt : (byteOf h1 h2).toNat < 0x80)
    (hctx : isHexDigit (Char.ofNat (byteOf h1 h2).toNat) = true → openPct x = false)
    (u u' : Str) (hg : CleansTo g u)
    (hg' : CleansTo { g with fragment := some (x ++ Char.ofNat (byteOf h1 h2).toNat :: y) } u') :
    canonicalizeUrl puny o u' = canonicalizeUrl puny o u :=
  canon_fragment_string puny o hdp g _ _ hf (by simp) (by simp)
    (safelyUnquote_escaped_ascii _ unsafeForFragment_ok.1 x y h1 h2 hh1 hh2 hk hlt hctx).symm u u' hg hg'

/-- **a raw space vs `%20` in the fragment** -/
theorem canon_fragment_escaped_space_string (puny : Str → Str) (o : Opts) (hdp : ProtoLetters o.defaultProtocol)
    (g : UrlG) (x y : Str) (hf : g.fragment = some (x ++ '%' :: '2' :: '0' :: y))
    (u u' : Str) (hg : CleansTo g u) (hg' : CleansTo { g with fragment := some (x ++ ' ' :: y) } u') :
    canonicalizeUrl puny o u' = canonicalizeUrl puny o u :=
  canon_fragment_string puny o hdp g _ _ hf (by simp) (by simp)
    (safelyUnquote_escaped_space _ x y).symm u u' hg hg'

/-- **a non-ASCII character vs its escaped UTF-8 bytes in the fragment** -/
theorem canon_fragment_escaped_utf8_string (puny : Str → Str) (o : Opts) (hdp : ProtoLetters o.defaultProtocol)
    (g : UrlG) (x y : Str) (c : Char) (hc : 0x80 ≤ c.toNat) (hs : List (Char × Char))
    (hhex : ∀ p ∈ hs, isHexDigit p.1 = true ∧ isHexDigit p.2 = true)
    (hb : hs.map (fun p => byteOf p.1 p.2) = utf8 c)
    (hf : g.fragment = some (x ++ (escStr hs ++ y)))
    (u u' : Str) (hg : CleansTo g u) (hg' : CleansTo { g with fragment := some (x ++ c :: y) } u') :
    canonicalizeUrl puny o u' = canonicalizeUrl puny o u :=
  canon_fragment_string puny o hdp g _ _ hf
    (by simp [escStr_ne_nil hb])
    (by simp)
    (safelyUnquote_escaped_utf8 _ unsafeForFragment_ok.2 x y c hc hs hhex hb).symm u u' hg hg'

/-! ## escape spelling inside the query and the user info

The query is split at `&` and `=`, the user info at `:`, before anything is unquoted: a
substitution `m1 ↦ m2` of pieces that hold none of these separators stays inside one key, value,
user name or password (`splitOn_subst_shape`, `splitFirst_subst_shape`), where the safe unquoter
does not see it (`Interch`: discharged by `interch_ascii` — `%41` vs `A` —, `interch_space` — `%20`
vs a raw space —, `interch_utf8` — `é` vs `%C3%A9` / `%c3%a9`). -/

/-- **interchangeable pieces inside the query never change the result** (general form; the
three named laws follow) -/
theorem canon_query_subst_string (puny : Str → Str) (o : Opts) (hdp : ProtoLetters o.defaultProtocol)
    (g : UrlG) (x y m1 m2 : Str) (hq : g.query = some (x ++ (m1 ++ y))) (hn1 : m1 ≠ []) (hn2 : m2 ≠ [])
    (h1 : '&' ∉ m1 ∧ '=' ∉ m1) (h2 : '&' ∉ m2 ∧ '=' ∉ m2)
    (H : Interch Gen.Quote.unsafeForQueryItem x m1 m2)
    (u u' : Str) (hg : CleansTo g u) (hg' : CleansTo { g with query := some (x ++ (m2 ++ y)) } u') :
    canonicalizeUrl puny o u' = canonicalizeUrl puny o u := by
  refine string_congr puny o hdp hg hg' (hquery := ?_) (hqe := ?_)
  · simp only [hq, Option.getD_some, canonQuery, unquoteQsl_subst x y m1 m2 h1 h2 H]
  · simp only [hq, Option.getD_some, isEmpty_mid _ _ _ hn1, isEmpty_mid _ _ _ hn2]

/-- **`%41` vs `A` inside the query** (in a key or in a value, anywhere): the escape stands for
an ASCII byte the query-item table does not keep escaped (so neither `&` nor `=`) -/
theorem canon_query_escaped_ascii_string (puny : Str → Str) (o : Opts) (hdp : ProtoLetters o.defaultProtocol)
    (g : UrlG) (x y : Str) (h1 h2 : Char) (hq : g.query = some (x ++ '%' :: h1 :: h2 :: y))
    (hh1 : isHexDigit h1 = true) (hh2 : isHexDigit h2 = true)
    (hk : keepEsc Gen.Quote.unsafeForQueryItem (byteOf h1 h2) = false) (hlt : (byteOf h1 h2).toNat < 0x80)
    (hctx : isHexDigit (Char.ofNat (byteOf h1 h2).toNat) = true → openPct x = false)
    (u u' : Str) (hg : CleansTo g u)
    (hg' : CleansTo { g with query := some (x ++ Char.ofNat (byteOf h1 h2).toNat :: y) } u') :
    canonicalizeUrl puny o u' = canonicalizeUrl puny o u :=
  canon_query_subst_string puny o hdp g x y ['%', h1, h2] [Char.ofNat (byteOf h1 h2).toNat] hq
    (by simp) (by simp)
    ⟨not_mem_esc3 (by decide) (by decide) hh1 hh2, not_mem_esc3 (by decide) (by decide) hh1 hh2⟩
    ⟨by simpa using (decoded_ne_of_mem hk hlt (d := '&') (by decide) (by decide)).symm,
     by simpa using (decoded_ne_of_mem hk hlt (d := '=') (by decide) (by decide)).symm⟩
    (interch_ascii _ unsafeForQueryItem_ok.1 x h1 h2 hh1 hh2 hk hlt hctx) u u' hg hg'

/-- **a raw space vs `%20` inside the query** -/
theorem canon_query_escaped_space_string (puny : Str → Str) (o : Opts) (hdp : ProtoLetters o.defaultProtocol)
    (g : UrlG) (x y : Str) (hq : g.query = some (x ++ '%' :: '2' :: '0' :: y))
    (u u' : Str) (hg : CleansTo g u) (hg' : CleansTo { g with query := some (x ++ ' ' :: y) } u') :
    canonicalizeUrl puny o u' = canonicalizeUrl puny o u :=
  canon_query_subst_string puny o hdp g x y ['%', '2', '0'] [' '] hq (by simp) (by simp)
    (by decide) (by decide) (interch_space _ x) u u' hg hg'

/-- **a non-ASCII character vs its escaped UTF-8 bytes inside the query** -/
theorem canon_query_escaped_utf8_string (puny : Str → Str) (o : Opts) (hdp : ProtoLetters o.defaultProtocol)
    (g : UrlG) (x y : Str) (c : Char) (hc : 0x80 ≤ c.toNat) (hs : List (Char × Char))
    (hhex : ∀ p ∈ hs, isHexDigit p.1 = true ∧ isHexDigit p.2 = true)
    (hb : hs.map (fun p => byteOf p.1 p.2) = utf8 c)
    (hq : g.query = some (x ++ (escStr hs ++ y)))
    (u u' : Str) (hg : CleansTo g u) (hg' : CleansTo { g with query := some (x ++ c :: y) } u') :
    canonicalizeUrl puny o u' = canonicalizeUrl puny o u := by
  have hne := escStr_ne_nil hb
  have ha : c ≠ '&' := char_ne_of_toNat (by have : ('&' : Char).toNat = 38 := rfl; omega)
  have he : c ≠ '=' := char_ne_of_toNat (by have : ('=' : Char).toNat = 61 := rfl; omega)
  exact canon_query_subst_string puny o hdp g x y (escStr hs) [c] hq hne (by simp)
    ⟨not_mem_escStr ⟨by decide, by decide⟩ hs hhex, not_mem_escStr ⟨by decide, by decide⟩ hs hhex⟩
    ⟨by simpa using ha.symm, by simpa using he.symm⟩
    (interch_utf8 _ unsafeForQueryItem_ok.2 x c hc hs hhex hb) u u' hg hg'

/-- **interchangeable pieces inside the user info never change the result** (general form) -/
theorem canon_userinfo_subst_string (puny : Str → Str) (o : Opts) (hdp : ProtoLetters o.defaultProtocol)
    (g : UrlG) (x y m1 m2 : Str) (hu : g.ui = some (x ++ (m1 ++ y))) (hn1 : m1 ≠ []) (hn2 : m2 ≠ [])
    (h1 : ':' ∉ m1) (h2 : ':' ∉ m2) (H : Interch Gen.Quote.unsafeForAuthItem x m1 m2)
    (u u' : Str) (hg : CleansTo g u) (hg' : CleansTo { g with ui := some (x ++ (m2 ++ y)) } u') :
    canonicalizeUrl puny o u' = canonicalizeUrl puny o u := by
  have key : canonOpt o.quoted unquoteAuthItem (some (splitFirst (x ++ (m2 ++ y)) ':').1) =
        canonOpt o.quoted unquoteAuthItem (some (splitFirst (x ++ (m1 ++ y)) ':').1) ∧
      canonOpt o.quoted unquoteAuthItem (splitFirst (x ++ (m2 ++ y)) ':').2 =
        canonOpt o.quoted unquoteAuthItem (splitFirst (x ++ (m1 ++ y)) ':').2 := by
    -- behind a suffix of `x`, the two pieces give the same user name / password
    have hI : ∀ p s, p <:+ x → canonOpt o.quoted unquoteAuthItem (some (p ++ (m2 ++ s))) =
        canonOpt o.quoted unquoteAuthItem (some (p ++ (m1 ++ s))) := by
      intro p s hp
      have := H p s hp
      simp only [canonOpt, isEmpty_mid _ _ _ hn1, isEmpty_mid _ _ _ hn2, Bool.false_eq_true, if_false,
        requote, unquoteAuthItem, safelyUnquoteAuthItem] at this ⊢
      rw [this]
    rcases splitFirst_subst_shape ':' x y m1 m2 h1 h2 with ⟨k, v, hv, f1, f2⟩ | ⟨t, r, f1, f2⟩
    · rw [f1, f2]; exact ⟨rfl, hI v y hv⟩
    · rw [f1, f2]; exact ⟨hI x t (List.suffix_refl _), rfl⟩
  refine string_congr puny o hdp hg hg' (huser := ?_) (hpass := ?_)
  · simp only [hu, Option.map_some]; exact key.1
  · simp only [hu, Option.bind_some]; exact key.2

/-- **`%41` vs `A` inside the user name or the password** -/
theorem canon_userinfo_escaped_ascii_string (puny : Str → Str) (o : Opts) (hdp : ProtoLetters o.defaultProtocol)
    (g : UrlG) (x y : Str) (h1 h2 : Char) (hu : g.ui = some (x ++ '%' :: h1 :: h2 :: y))
    (hh1 : isHexDigit h1 = true) (hh2 : isHexDigit h2 = true)
    (hk : keepEsc Gen.Quote.unsafeForAuthItem (byteOf h1 h2) = false) (hlt : (byteOf h1 h2).toNat < 0x80)
    (hctx : isHexDigit (Char.ofNat (byteOf h1 h2).toNat) = true → openPct x = false)
    (u u' : Str) (hg : CleansTo g u)
    (hg' : CleansTo { g with ui := some (x ++ Char.ofNat (byteOf h1 h2).toNat :: y) } u') :
    canonicalizeUrl puny o u' = canonicalizeUrl puny o u :=
  canon_userinfo_subst_string puny o hdp g x y ['%', h1, h2] [Char.ofNat (byteOf h1 h2).toNat] hu
    (by simp) (by simp) (not_mem_esc3 (by decide) (by decide) hh1 hh2)
    (by simpa using (decoded_ne_of_mem hk hlt (d := ':') (by decide) (by decide)).symm)
    (interch_ascii _ unsafeForAuthItem_ok.1 x h1 h2 hh1 hh2 hk hlt hctx) u u' hg hg'

/-- **a non-ASCII character vs its escaped UTF-8 bytes inside the user info** -/
theorem canon_userinfo_escaped_utf8_string (puny : Str → Str) (o : Opts) (hdp : ProtoLetters o.defaultProtocol)
    (g : UrlG) (x y : Str) (c : Char) (hc : 0x80 ≤ c.toNat) (hs : List (Char × Char))
    (hhex : ∀ p ∈ hs, isHexDigit p.1 = true ∧ isHexDigit p.2 = true)
    (hb : hs.map (fun p => byteOf p.1 p.2) = utf8 c)
    (hu : g.ui = some (x ++ (escStr hs ++ y)))
    (u u' : Str) (hg : CleansTo g u) (hg' : CleansTo { g with ui := some (x ++ c :: y) } u') :
    canonicalizeUrl puny o u' = canonicalizeUrl puny o u := by
  have hne := escStr_ne_nil hb
  have ha : c ≠ ':' := char_ne_of_toNat (by have : (':' : Char).toNat = 58 := rfl; omega)
  exact canon_userinfo_subst_string puny o hdp g x y (escStr hs) [c] hu hne (by simp)
    (not_mem_escStr ⟨by decide, by decide⟩ hs hhex) (by simpa using ha.symm)
    (interch_utf8 _ unsafeForAuthItem_ok.2 x c hc hs hhex hb) u u' hg hg'

/-- **a raw space vs `%20` inside the user info** -/
theorem canon_userinfo_escaped_space_string (puny : Str → Str) (o : Opts) (hdp : ProtoLetters o.defaultProtocol)
    (g : UrlG) (x y : Str) (hu : g.ui = some (x ++ '%' :: '2' :: '0' :: y))
    (u u' : Str) (hg : CleansTo g u) (hg' : CleansTo { g with ui := some (x ++ ' ' :: y) } u') :
    canonicalizeUrl puny o u' = canonicalizeUrl puny o u :=
  canon_userinfo_subst_string puny o hdp g x y ['%', '2', '0'] [' '] hu (by simp) (by simp)
    (by decide) (by decide) (interch_space _ x) u u' hg hg'

/-! ## non-vacuity -/

/-- `http://u:p@a.com/p%20q/r` -/
def exG : UrlG :=
  { proto := .scheme "http".toList, ui := some "u:p".toList, host := "a.com".toList, port := none,
    path := "/p%20q/r".toList, query := none, fragment := none }

def exO : Opts := ⟨"https".toList, false, false⟩

/-- the class is inhabited by the base and by each transformed spelling (white space around, a
control character inside and lower-case escapes in the raw argument); the base is accepted -/
theorem exG_spellings :
    CleansTo exG "http://u:p@a.com/p%20q/r".toList ∧
    CleansTo { exG with proto := .scheme "HtTp".toList } " HtTp://u:p@a.c\x00om/p%20q/r\n".toList ∧
    CleansTo { exG with host := "A.cOm".toList } "http://u:p@A.cOm/p%20q/r".toList ∧
    CleansTo { exG with port := some "0080".toList } "http://u:p@a.com:0080/p%20q/r".toList ∧
    CleansTo { exG with query := some [] } "http://u:p@a.com/p%20q/r?".toList ∧
    CleansTo { exG with fragment := some [] } "http://u:p@a.com/p%20q/r#".toList ∧
    CleansTo { exG with path := "/x/..//p%20q/./r".toList } "http://u:p@a.com/x/..//p%20q/./r".toList ∧
    CleansTo { exG with path := "/p q/r".toList } "http://u:p@a.com/p q/r".toList ∧
    canonicalizeUrl id exO "http://u:p@a.com/p%20q/r".toList = some "http://u:p@a.com/p%20q/r".toList := by
  unfold exG exO
  simp only [toList_lit]
  decide +kernel

example :
    CleansTo exG "http://u:p@a.com/p%20q/r".toList ∧
    CleansTo { exG with proto := .scheme "HtTp".toList } " HtTp://u:p@a.c\x00om/p%20q/r\n".toList ∧
    CleansTo { exG with host := "A.cOm".toList } "http://u:p@A.cOm/p%20q/r".toList ∧
    CleansTo { exG with port := some "0080".toList } "http://u:p@a.com:0080/p%20q/r".toList ∧
    CleansTo { exG with query := some [] } "http://u:p@a.com/p%20q/r?".toList ∧
    CleansTo { exG with fragment := some [] } "http://u:p@a.com/p%20q/r#".toList ∧
    CleansTo { exG with path := "/x/..//p%20q/./r".toList } "http://u:p@a.com/x/..//p%20q/./r".toList ∧
    CleansTo { exG with path := "/p q/r".toList } "http://u:p@a.com/p q/r".toList ∧
    canonicalizeUrl id exO "http://u:p@a.com/p%20q/r".toList = some "http://u:p@a.com/p%20q/r".toList :=
  exG_spellings

/-- the theorems applied: each spelling has the canonical form of the base -/
example :
    canonicalizeUrl id exO " HtTp://u:p@a.c\x00om/p%20q/r\n".toList =
      canonicalizeUrl id exO "http://u:p@a.com/p%20q/r".toList ∧
    canonicalizeUrl id exO "http://u:p@A.cOm/p%20q/r".toList =
      canonicalizeUrl id exO "http://u:p@a.com/p%20q/r".toList ∧
    canonicalizeUrl id exO "http://u:p@a.com:0080/p%20q/r".toList =
      canonicalizeUrl id exO "http://u:p@a.com/p%20q/r".toList ∧
    canonicalizeUrl id exO "http://u:p@a.com/p%20q/r?".toList =
      canonicalizeUrl id exO "http://u:p@a.com/p%20q/r".toList ∧
    canonicalizeUrl id exO "http://u:p@a.com/p%20q/r#".toList =
      canonicalizeUrl id exO "http://u:p@a.com/p%20q/r".toList ∧
    canonicalizeUrl id exO "http://u:p@a.com/x/..//p%20q/./r".toList =
      canonicalizeUrl id exO "http://u:p@a.com/p%20q/r".toList ∧
    canonicalizeUrl id exO "http://u:p@a.com/p q/r".toList =
      canonicalizeUrl id exO "http://u:p@a.com/p%20q/r".toList :=
  have ⟨h0, hs, hh, hp, hq, hf, hd, he, _⟩ := exG_spellings
  ⟨canon_scheme_string id exO protoLetters_https exG (.scheme "HtTp".toList) (by decide) _ _ h0 hs,
   canon_host_case_string id C04.punyCase_id exO protoLetters_https exG "A.cOm".toList (by decide) _ _ h0 hh,
   canon_default_port_string id exO protoLetters_https exG "0080".toList 80 (by decide) (by decide) (by decide)
      _ _ h0 hp,
   canon_empty_query_string id exO protoLetters_https exG rfl _ _ h0 hq,
   canon_empty_fragment_string id exO protoLetters_https exG rfl _ _ h0 hf,
   canon_dot_segments_string id exO protoLetters_https exG "/x/..//p%20q/./r".toList (by decide +kernel) _ _
      h0 hd,
   canon_path_escaped_space_string id exO protoLetters_https exG "/p".toList "q/r".toList rfl _ _ h0 he⟩

/-- escape spelling inside a query value and inside the user name -/
example :
    canonicalizeUrl id exO "http://u:p@a.com/p%20q/r?k=A&x".toList =
      canonicalizeUrl id exO "http://u:p@a.com/p%20q/r?k=%41&x".toList ∧
    canonicalizeUrl id exO "http://u:p@a.com/p%20q/r".toList =
      canonicalizeUrl id exO "http://%75:p@a.com/p%20q/r".toList ∧
    canonicalizeUrl id exO "http://%75:p@a.com/p%20q/r?k=%41&x".toList =
      some "http://u:p@a.com/p%20q/r?k=A&x".toList := by
  have h : CleansTo { exG with query := some ("k=".toList ++ '%' :: '4' :: '1' :: "&x".toList) }
        "http://u:p@a.com/p%20q/r?k=%41&x".toList ∧
      CleansTo { exG with query := some ("k=".toList ++ Char.ofNat (byteOf '4' '1').toNat :: "&x".toList) }
        "http://u:p@a.com/p%20q/r?k=A&x".toList ∧
      CleansTo { exG with ui := some ([] ++ '%' :: '7' :: '5' :: ":p".toList) }
        "http://%75:p@a.com/p%20q/r".toList ∧
      CleansTo { exG with ui := some ([] ++ Char.ofNat (byteOf '7' '5').toNat :: ":p".toList) }
        "http://u:p@a.com/p%20q/r".toList ∧
      keepEsc Gen.Quote.unsafeForQueryItem (byteOf '4' '1') = false ∧
      keepEsc Gen.Quote.unsafeForAuthItem (byteOf '7' '5') = false ∧
      canonicalizeUrl id exO "http://%75:p@a.com/p%20q/r?k=%41&x".toList =
        some "http://u:p@a.com/p%20q/r?k=A&x".toList := by
    unfold exG exO
    simp only [toList_lit]
    decide +kernel
  exact ⟨canon_query_escaped_ascii_string id exO protoLetters_https { exG with query := some _ }
      "k=".toList "&x".toList '4' '1' rfl (by decide) (by decide) h.2.2.2.2.1 (by decide +kernel)
      (fun _ => by decide) _ _ h.1 h.2.1,
    canon_userinfo_escaped_ascii_string id exO protoLetters_https { exG with ui := some _ }
      [] ":p".toList '7' '5' rfl (by decide) (by decide) h.2.2.2.2.2.1 (by decide +kernel)
      (fun _ => by decide) _ _ h.2.2.1 h.2.2.2.1,
    h.2.2.2.2.2.2⟩

/-- a decoder that knows one label (`xn--caf-dma` ↦ `café`, any letter case), to exercise the
punycode clause on something else than the identity -/
def toyPuny (x : Str) : Str := if lower x = "xn--caf-dma".toList then "café".toList else x

theorem toyPuny_laws : PunyLaws toyPuny ∧ C04.PunyCase toyPuny := by
  refine ⟨punyLaws_one _ _ (by decide) (by decide), ?_⟩
  · intro x
    unfold toyPuny
    by_cases h : lower x = "xn--caf-dma".toList
    · rw [if_pos h, if_pos (by rw [Py.lower_idem]; exact h)]
    · rw [if_neg h, if_neg (by rw [Py.lower_idem]; exact h), Py.lower_idem]

/-- `http://XN--caf-dma.fr/` -/
def exP : UrlG :=
  { proto := .scheme "http".toList, ui := none, host := "XN--caf-dma.fr".toList, port := none,
    path := "/".toList, query := none, fragment := none }

/-- `http://xn--caf-dma.fr/` and `http://café.fr/` -/
example :
    canonLabel toyPuny "XN--caf-dma".toList = "café".toList ∧
    canonicalizeUrl toyPuny exO "http://café.fr/".toList = canonicalizeUrl toyPuny exO "http://XN--caf-dma.fr/".toList ∧
    canonicalizeUrl toyPuny exO "http://XN--caf-dma.fr/".toList = some "http://café.fr".toList := by
  have h : canonLabel toyPuny "XN--caf-dma".toList = "café".toList ∧
      exP.host = join ['.'] ([] ++ "XN--caf-dma".toList :: ["fr".toList]) ∧
      join ['.'] ([] ++ canonLabel toyPuny "XN--caf-dma".toList :: ["fr".toList]) ≠ [] ∧
      CleansTo exP "http://XN--caf-dma.fr/".toList ∧
      CleansTo { exP with host := join ['.'] ([] ++ canonLabel toyPuny "XN--caf-dma".toList :: ["fr".toList]) }
        "http://café.fr/".toList ∧
      canonicalizeUrl toyPuny exO "http://XN--caf-dma.fr/".toList = some "http://café.fr".toList := by
    unfold exP exO
    simp only [toList_lit]
    decide +kernel
  exact ⟨h.1, canon_punycode_label_string toyPuny toyPuny_laws.1 toyPuny_laws.2 exO protoLetters_https
    exP [] ["fr".toList] "XN--caf-dma".toList h.2.1 (by simp) (by decide) (by decide)
    (by decide) h.2.2.1 _ _ h.2.2.2.1 h.2.2.2.2.1, h.2.2.2.2.2⟩

end Ural.Props.C02
