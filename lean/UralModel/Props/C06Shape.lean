import UralModel.Props.C06Fp
import UralModel.Lemmas.FpReparse
/-!
# C06 — "the result never carries a scheme, userinfo or port", on the PRINTED string

`fp_shape` / `fp_shape_whole` say that the tuple has the empty scheme and a netloc assembled from
the fingerprinted host alone (`unsplit_netloc(None, None, host, None)`).  Here the same clause is
read off the string `fingerprint_url` prints:

* `fpString_host_then_tail` — with a host: the string is the netloc immediately followed by the end
  of the string, `/`, `?` or `#` (`tailOf`): nothing stands in front of the host, nothing between
  the host and the path;
* `bracket_safe` — a netloc `bracket H` with `H` free of `@ [ ]` holds no `@`, and either is `H`
  itself without any `:` or is `[H]` (an IP literal): no `user@`, no `:port`;
* `fingerprinted_host_safe` — language-label and suffix stripping only remove labels: the host the
  second pass writes is free of `@ [ ]` as soon as the host `normalize_url` left is (`HostSafe`);
* `fp_printed_whole` — the three together on every string of the grammar class
  (both `strip_suffix`; under `strip_suffix=True` for plain hosts, `hpl`);
* `fpString_hostless` — the hostless result (`http:///abc`, `http://?x=1`): the string is
  `path?query#fragment`, empty or starting with `/`, `?`, `#` — an empty authority — when the path is
  empty or starts with exactly one slash (hypothesis on the result's path, decidable).
-/
namespace Ural.Props.C06
open Ural Ural.Py Ural.UrlParts Ural.Normalize Ural.Canonicalize Ural.Fingerprint Ural.NormBridge Ural.SuffixTrie

/-- what follows the host in the printed string: the path (a `/` put in front if it lacks one),
`?query`, `#fragment` -/
def tailOf (r : Split) : Str :=
  (if r.path ≠ [] ∧ r.path.take 1 ≠ ['/'] then '/' :: r.path else r.path) ++
    (if r.query ≠ [] then '?' :: r.query else []) ++
    (match r.fragment with
     | some f => if f ≠ [] then '#' :: f else []
     | none => [])

/-- empty, or starting with a character that ends an authority -/
def StartsDelim (t : Str) : Prop := t = [] ∨ ∃ c rest, t = c :: rest ∧ (c = '/' ∨ c = '?' ∨ c = '#')

theorem tailOf_eq (r : Split) :
    tailOf r = (if r.path ≠ [] ∧ r.path.take 1 ≠ ['/'] then '/' :: r.path else r.path) ++
      (UrlRoundTrip.queryPart r.query ++ UrlRoundTrip.fragPart (r.fragment.getD [])) := by
  unfold tailOf UrlRoundTrip.queryPart UrlRoundTrip.fragPart
  rw [List.append_assoc]
  cases r.fragment <;> simp

theorem tailOf_delim (r : Split) : StartsDelim (tailOf r) := by
  rw [tailOf_eq]
  generalize hP : (if r.path ≠ [] ∧ r.path.take 1 ≠ ['/'] then '/' :: r.path else r.path) = P
  cases P with
  | nil =>
    cases ht : UrlRoundTrip.queryPart r.query ++ UrlRoundTrip.fragPart (r.fragment.getD []) with
    | nil => exact Or.inl rfl
    | cons c cs => exact Or.inr ⟨c, cs, rfl, Or.inr (UrlRoundTrip.tail_head _ _ c (by rw [ht]; rfl))⟩
  | cons a as =>
    refine Or.inr ⟨a, as ++ _, rfl, Or.inl ?_⟩
    split at hP
    · injection hP with h1 _
      exact h1.symm
    · rename_i hc
      rw [hP] at hc
      simpa using hc

/-- **with a host, the printed string is the netloc, then at once the end, `/`, `?` or `#`** -/
theorem fpString_host_then_tail (r : Split) (hsch : r.scheme = []) (hn : r.netloc ≠ []) :
    fpString r = r.netloc ++ tailOf r ∧ StartsDelim (tailOf r) := by
  refine ⟨?_, tailOf_delim r⟩
  rw [fp_shape_string r hsch hn]
  unfold tailOf
  simp only [List.append_assoc]
  rfl

/-- **the hostless result**: scheme and netloc empty, path empty or starting with exactly one
slash — the printed string is `path?query#fragment`: empty, or starting with `/`, `?` or `#`
(an empty authority: no userinfo, no port) -/
theorem fpString_hostless (r : Split) (hsch : r.scheme = []) (hn : r.netloc = [])
    (hpath : r.path = [] ∨ (r.path.take 1 = ['/'] ∧ r.path.take 2 ≠ ['/', '/'])) :
    fpString r = tailOf r ∧ StartsDelim (tailOf r) := by
  refine ⟨?_, tailOf_delim r⟩
  have hpp : (if r.path ≠ [] ∧ r.path.take 1 ≠ ['/'] then '/' :: r.path else r.path) = r.path := by
    rcases hpath with h | ⟨h, _⟩ <;> simp [h]
  have hhead : NormReparse.Head1 r.path := by
    rcases hpath with h | ⟨h1, h2⟩
    · exact Or.inl h
    · cases hx : r.path with
      | nil => exact Or.inl rfl
      | cons a as =>
        rw [hx] at h1 h2
        simp only [List.take_succ_cons, List.take_zero, List.cons.injEq, and_true] at h1
        subst h1
        cases as with
        | nil => exact Or.inr (Or.inl rfl)
        | cons b bs => exact Or.inr (Or.inr ⟨b, bs, rfl, fun e => h2 (by rw [e]; rfl)⟩)
  -- without scheme and netloc `urlunsplit` prints the tail, which does not start with `//`
  rw [FpReparse.fpString_eq, tailOf_eq, hpp, hsch, hn, NormReparse.printed_hostless _ _ _ _ hhead]

set_option linter.unusedVariables false in
/-- a netloc `bracket H` with `H` free of `@ [ ]`: no `@` (no userinfo), and either `H` itself
without any `:`, or the IP literal `[H]` — nothing that reads as `:port` -/
theorem bracket_safe (H : Str) (h1 : '@' ∉ H) (h2 : '[' ∉ H) (h3 : ']' ∉ H) :
    '@' ∉ bracket H ∧ ((bracket H = H ∧ ':' ∉ H) ∨ bracket H = '[' :: (H ++ [']'])) := by
  by_cases hc : ':' ∈ H
  · rw [bracket_of_colon hc h2]
    refine ⟨?_, Or.inr rfl⟩
    simp only [List.mem_cons, List.mem_append, List.not_mem_nil, or_false, not_or]
    exact ⟨by decide, h1, by decide⟩
  · rw [bracket_of_no_colon hc]
    exact ⟨h1, Or.inl ⟨rfl, hc⟩⟩

/-- **language-label and suffix stripping only remove labels**: the host the second pass writes
holds none of `@ [ ]` when the host it read does not (`strip_suffix=False`: any host;
`strip_suffix=True`: when the language-stripped host is plain, so that `safe_urlsplit` hands its
lower-cased form to the trie) -/
theorem fingerprinted_host_safe (puny : Str → Str) (trie : SNode Str) (s : Bool) (seen : Option Str)
    (host : Option Str) (hsafe : HostSafe seen)
    (hpl : s = true → ∀ x, seen = some x → x ≠ [] → PlainHost (stripLangSubdomainsFromHostname isCountry x))
    (h : fpHostOut (stringEnv puny id trie) s seen = .ok host) :
    '@' ∉ host.getD [] ∧ '[' ∉ host.getD [] ∧ ']' ∉ host.getD [] := by
  -- in text view (`None` ≡ `""`) the step is `fingerprintHost` of the text it read
  have hnil := stringEnv_walkHost_nil puny id trie
  have hf : fingerprintHost (stringEnv puny id trie) s (UrlRoundTrip.strOf seen) = .ok (host.getD []) := by
    rw [← fpHostOut_text _ _ hnil, h, ← UrlRoundTrip.strOf_eq_getD]; rfl
  have key : ∀ c, CanonRoundTrip.isPunyBad c = true → c ∈ host.getD [] → c ∈ UrlRoundTrip.strOf seen := by
    intro c hb hm
    by_cases hx : UrlRoundTrip.strOf seen = []
    · rw [hx, fingerprintHost_nil _ _ hnil] at hf
      rw [← Except.ok.inj hf] at hm; cases hm
    · refine FpReparse.fingerprintHost_bad_mem _ (stringEnv_walk puny id trie) s _ _ (fun hs => ?_) hf c hb hm
      rw [stringEnv_isCC]
      cases seen with
      | none => exact absurd rfl hx
      | some x => rw [UrlRoundTrip.strOf_some] at hx ⊢; exact hpl hs x rfl hx
  obtain ⟨a1, a2, a3⟩ := hostSafe_strOf hsafe
  exact ⟨fun m => a1 (key _ (by decide) m), fun m => a2 (key _ (by decide) m), fun m => a3 (key _ (by decide) m)⟩

/-- the host `normalize_url` leaves, as the second pass reads it back, is free of `@ [ ]` -/
theorem accHost_safe (h : Option Str) (hs : HostSafe h) : HostSafe (accHost h) := by
  intro y hy
  obtain ⟨hne, rfl⟩ := accHost_eq_some hy
  cases h with
  | none => exact absurd rfl hne
  | some x =>
    obtain ⟨a1, a2, a3⟩ := hs x rfl
    exact ⟨fun m => a1 (NormReparse.lowerHost_bad x (by decide) m),
      fun m => a2 (NormReparse.lowerHost_bad x (by decide) m),
      fun m => a3 (NormReparse.lowerHost_bad x (by decide) m)⟩

/-- **no scheme, no userinfo, no port — on the printed string, for every string of the class**:
the tuple has the empty scheme and a netloc `bracket H` with `H` free of `@ [ ]` — hence (by
`bracket_safe`) no `@` in it, and either no `:` at all or the IP literal `[H]` —; the printed string
is that netloc immediately followed by the end, `/`, `?` or `#`.  `hpl`: under `strip_suffix=True`
the language-stripped host is plain (no `:`, `%`, brackets). -/
theorem fp_printed_whole (puny : Str → Str) (trie : SNode Str) (s : Bool) (g : UrlG) (u : Str)
    (po : Option Nat) (hpo : portVal g.port = some po)
    (hs : HostSafe (g.hostname.map (normHost puny fpOpts)))
    (hpl : s = true → ∀ x, accHost (g.hostname.map (normHost puny fpOpts)) = some x → x ≠ [] →
      PlainHost (stripLangSubdomainsFromHostname isCountry x))
    (hg : InClassOf true g (lower u)) (r : Split)
    (h : fingerprintUrlStringSplit puny id trie s u = .ok (.inr r)) :
    fingerprintUrlString puny id trie s u = .ok (fpString r) ∧ r.scheme = [] ∧
    ∃ H : Str, r.netloc = bracket H ∧ '@' ∉ H ∧ '[' ∉ H ∧ ']' ∉ H ∧ '@' ∉ r.netloc ∧
      ((r.netloc = H ∧ ':' ∉ H) ∨ r.netloc = '[' :: (H ++ [']'])) ∧
      (H ≠ [] → fpString r = r.netloc ++ tailOf r) ∧ StartsDelim (tailOf r) := by
  have hstr : fingerprintUrlString puny id trie s u = .ok (fpString r) := by
    unfold fingerprintUrlString
    rw [h]
    exact congrArg Except.ok (fpUnsplit_inr r)
  have h' := h
  rw [fp_split_grammar puny trie s g u po hg hpo] at h'
  replace h' := map_inr_ok h'
  obtain ⟨h1, host, hho, _, h2⟩ := fp_shape (stringEnv puny id trie) (stringEnv_acc puny trie) s _
    (g.record po) r hs (portVal_ok hpo) h'
  have hsafe := fingerprinted_host_safe puny trie s _ host (accHost_safe _ hs) hpl hho
  obtain ⟨b1, b2⟩ := bracket_safe (host.getD []) hsafe.1 hsafe.2.1 hsafe.2.2
  refine ⟨hstr, h1, host.getD [], h2, hsafe.1, hsafe.2.1, hsafe.2.2, by rw [h2]; exact b1,
    by rw [h2]; exact b2, ?_, tailOf_delim r⟩
  intro hne
  have hn : r.netloc ≠ [] := by
    rw [h2]
    rcases b2 with ⟨e, _⟩ | e
    · rw [e]; exact hne
    · rw [e]; simp
  exact (fpString_host_then_tail r h1 hn).1

example : (fingerprintUrlStringSplit id id SNode.empty false "HTTP://User:Pw@Shop.A.com:8080/P?x=1#Top".toList).toOption =
      some (.inr
        { scheme := [], netloc := "shop.a.com".toList, path := "/p".toList, query := "x=1".toList,
          fragment := some [] }) ∧
    tailOf { scheme := [], netloc := "shop.a.com".toList, path := "/p".toList, query := "x=1".toList,
             fragment := some [] } = "/p?x=1".toList ∧
    bracket "shop.a.com".toList = "shop.a.com".toList ∧ bracket "::1".toList = "[::1]".toList := by
  simp only [toList_lit]
  decide +kernel

/-- hostless results: `http:///abc` ↦ `/abc`, `http://?x=1` ↦ `?x=1` -/
example :
    fpString { scheme := [], netloc := [], path := "/abc".toList, query := [], fragment := some [] } = "/abc".toList ∧
    fpString { scheme := [], netloc := [], path := [], query := "x=1".toList, fragment := some [] } = "?x=1".toList ∧
    -- the hypothesis on the path is needed: a path starting with two slashes would lose them
    fpString { scheme := [], netloc := [], path := "//abc".toList, query := [], fragment := none } = "abc".toList := by
  simp only [toList_lit]
  decide

end Ural.Props.C06
