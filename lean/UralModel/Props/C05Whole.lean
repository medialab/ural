import UralModel.Props.C05
import UralModel.Lemmas.NormBridge
/-!
# C05 on STRINGS: "only deletes" with the parser inside the model

`Props/C05.lean` states what `normalize_url` does to each component of the `Parsed` record the real
parser returned.  Here the function is the whole-string model `normalizeUrlStringSplit` /
`normalizeUrlString` (`Model/NormalizeUrl.lean`, modelled `urlsplit` + accessors): for every string
`u` of the class `NormBridge.InClassOf ir g u` (its cleaned, resolved form is the string `g.str`
of the grammar of `Lemmas/NormBridge.lean`) the result tuple is `normParts` of the record
`g.record po` **whose fields are the pieces of the string** (`normalize_string_split`), so every
theorem of `Props/C05.lean` speaks about the pieces: the host of the result is the host text of
the string lower-cased, decoded, minus whole irrelevant labels / a leading `amp-`; the port is
the port text's value unless 80 / 443; the path is a subsequence of the resolved path text; the
query items are a subsequence of the unescaped items of the query text
(`normalize_only_deletes_string`).  An unparseable string is returned as it is
(`normalize_unparseable_string`, every string; `normalize_bad_port_string`, the class); that no
exception escapes: `Props/C05Total.lean`.
-/
set_option linter.unusedSimpArgs false
namespace Ural.Props.C05
open Ural Ural.Py Ural.UrlParts Ural.Quote Ural.Normalize Ural.NormBridge

/-- **`normalize_url(u, unsplit=False)` on a string of the class is `normParts` of the pieces** -/
theorem normalize_string_split (puny : Str → Str) (o : Normalize.Opts) (ir : Bool) (g : UrlG) (u : Str)
    (po : Option Nat) (hg : InClassOf ir g u) (hpo : portVal g.port = some po) :
    normalizeUrlStringSplit puny id o ir u = .inr (normParts puny o g.proto.hasProto (g.record po)) ∧
    normalizeUrlString puny id o ir u =
      finalString o g.proto.hasProto (normParts puny o g.proto.hasProto (g.record po)) := by
  constructor
  · rw [normalizeUrlStringSplit_eq, normalizeUrlSplit_grammar puny o ir g u hg]
    unfold UrlG.parsed
    rw [hpo]; rfl
  · rw [normalizeUrlString_cleaned, hg.reaches, normCleaned_str puny o g hg.wf hg.noUnsafe]
    unfold normG UrlG.parsed
    rw [hpo]; rfl

/-- **an unparseable string is returned unchanged** (every string, every option): when the
modelled parser rejects what the cleaning pass hands to it -/
theorem normalize_unparseable_string (puny : Str → Str) (platform : Str → Str) (o : Normalize.Opts)
    (ir : Bool) (u : Str) (h : parseUrl (prepared platform ir u).1 = none) :
    normalizeUrlString puny platform o ir u = u ∧
    normalizeUrlStringSplit puny platform o ir u = .inl u := by
  rw [normalizeUrlString_eq, normalizeUrlStringSplit_eq]
  exact normalize_unparseable_identity puny parseUrl platform o ir u h

/-- … in the class: the port text is not a port (`a.com:x`, `a.com:99999`) -/
theorem normalize_bad_port_string (puny : Str → Str) (o : Normalize.Opts) (ir : Bool) (g : UrlG) (u : Str)
    (hg : InClassOf ir g u) (hpo : portVal g.port = none) :
    normalizeUrlString puny id o ir u = u := by
  rw [normalizeUrlString_cleaned, hg.reaches, normCleaned_str puny o g hg.wf hg.noUnsafe]
  unfold normG UrlG.parsed
  rw [hpo]; rfl

theorem normComps_host_del (puny : Str → Str) (o : Normalize.Opts) (b : Bool) (g : UrlG) (po : Option Nat)
    (hne : g.host ≠ []) :
    ∃ h', (normComps puny o b (g.record po)).host = some h' ∧
      HostDel puny o.normalizeAmp (lowerHost g.host) h' := by
  have hh : (g.record po).hostname = some (lowerHost g.host) := by
    simp only [UrlG.record, UrlG.hostname, hne, if_false]
  exact normalize_host_deletion_only puny o b (g.record po) (lowerHost g.host) hh
    (mt Netloc.lowerHost_eq_nil.1 hne)

theorem normComps_only_deletes (puny : Str → Str) (o : Normalize.Opts) (b : Bool) (g : UrlG)
    (po : Option Nat) :
    (g.host ≠ [] → '%' ∉ g.host →
      ∃ h', (normComps puny o b (g.record po)).host = some h' ∧
        HostDel puny o.normalizeAmp (lower g.host) h') ∧
    (g.host = [] → (normComps puny o b (g.record po)).host = none) ∧
    (∀ n, po = some n → n ≠ 80 → n ≠ 443 → (normComps puny o b (g.record po)).port = some n) ∧
    (po = some 80 ∨ po = some 443 ∨ po = none → (normComps puny o b (g.record po)).port = none) ∧
    (∃ pre, pre.Sublist (resolvedPath o g.path) ∧
      (normComps puny o b (g.record po)).path = finPath o pre) ∧
    (o.lowercase = false → o.quoted = false → o.sortQuery = false →
      (normComps puny o b (g.record po)).qsl.Sublist (inputItems o (g.record po))) := by
  refine ⟨?_, ?_, (normalize_port puny o b (g.record po)).1, (normalize_port puny o b (g.record po)).2,
    normalize_path_sublist puny o b (g.record po), normalize_query_subsequence puny o b (g.record po)⟩
  · intro hne hpct
    rw [← lowerHost_of_no_pct hpct]
    exact normComps_host_del puny o b g po hne
  · intro he
    exact (normalize_host_absent puny o b (g.record po)).1 (hostname_of_nil he)

/-- **`normalize_url` only deletes — on strings**: for every string of the class the result
tuple is glued from components `c` such that

* host: the host text of the string, lower-cased and IDNA-decoded, minus whole irrelevant labels /
  a leading `amp-` (`HostDel`); absent when the host text is empty;
* port: the value of the port text, unless it is 80 or 443;
* path: the final (un)quoting of a subsequence of the resolved path text;
* query (documented API, unquoted mode, `sort_query` off): a subsequence of the unescaped items of
  the query text. -/
theorem normalize_only_deletes_string (puny : Str → Str) (o : Normalize.Opts) (ir : Bool) (g : UrlG) (u : Str)
    (po : Option Nat) (hg : InClassOf ir g u) (hpo : portVal g.port = some po) :
    ∃ c : Comps,
      normalizeUrlStringSplit puny id o ir u =
        .inr { scheme := c.scheme, netloc := unsplitNetloc c.user c.pass c.host c.port,
               path := c.path, query := safeSerializeQsl c.qsl, fragment := some c.fragment } ∧
      (g.host ≠ [] → '%' ∉ g.host →
        ∃ h', c.host = some h' ∧ HostDel puny o.normalizeAmp (lower g.host) h') ∧
      (g.host = [] → c.host = none) ∧
      (∀ n, po = some n → n ≠ 80 → n ≠ 443 → c.port = some n) ∧
      (po = some 80 ∨ po = some 443 ∨ po = none → c.port = none) ∧
      (∃ pre, pre.Sublist (resolvedPath o g.path) ∧ c.path = finPath o pre) ∧
      (o.lowercase = false → o.quoted = false → o.sortQuery = false →
        c.qsl.Sublist (inputItems o (g.record po))) := by
  refine ⟨normComps puny o g.proto.hasProto (g.record po), ?_, normComps_only_deletes puny o _ g po⟩
  rw [(normalize_string_split puny o ir g u po hg hpo).1]
  rfl

/-- non-vacuity: `HTTP://User:Pw@WWW.M.Example.com:8080/A/b/index.html?utm_source=x&b=2&a=1#top`
is in the class (through the cleaning pass), and the whole-string model evaluates to the
documented result -/
def exG : UrlG :=
  { proto := .scheme "HTTP".toList, ui := some "User:Pw".toList, host := "WWW.M.Example.com".toList,
    port := some "8080".toList, path := "/A/b/index.html".toList,
    query := some "utm_source=x&b=2&a=1".toList, fragment := some "top".toList }

example : InClassOf false exG " HTTP://User:Pw@WWW.M.Example.com:8080/A/b/index.html?utm_source=x&b=2&a=1#top\n".toList ∧
    portVal exG.port = some (some 8080) ∧
    normalizeUrlString id id {} false
      " HTTP://User:Pw@WWW.M.Example.com:8080/A/b/index.html?utm_source=x&b=2&a=1#top\n".toList =
      "example.com:8080/A/b?a=1&b=2".toList ∧
    normalizeUrlString id id {} false "http://a.com:99999/x".toList = "http://a.com:99999/x".toList := by
  unfold exG
  simp only [toList_lit]
  decide +kernel

end Ural.Props.C05
