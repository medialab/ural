import UralModel.Props.C19.Facebook
import UralModel.Props.C19.Google
import UralModel.Props.C19.Small
import UralModel.Props.C19.Youtube
import UralModel.Props.C19.YoutubeVectors
/-! Property C19: aggregator of its parts (GENERATED by tools/mkmain.py). -/
