import UralModel.Props.C03
import UralModel.Props.C03Control
import UralModel.Props.C01Whole
import UralModel.Lemmas.NormBridge
import UralModel.Lemmas.C07Bridge
import UralModel.Lemmas.Redirect
import UralModel.Props.C15
import UralModel.Props.C06Whole
import UralModel.Props.C02Spelling
import UralModel.Model.FingerprintUrl
/-!
# C03 on STRINGS: (c1), (a), (c2), (b) with the parser inside the model

`Props/C03.lean` proves the hierarchy on `Parsed` records under the hypothesis `Reparses`
("the printed canonical URL parses back into its components").  Here the three functions are
the whole-string models (`canonicalizeUrl`, `normalizeUrlString`, modelled `urlsplit` +
accessors `Py.parseUrl`) and that hypothesis is DISCHARGED:

* `reparses_reparsedOf` — `Reparses (canonComps …) (reparsedOf …)` (what C01's
  `canonicalize_reparse` says the printed string parses to);
* `parse_cleanUrl_grammar` — what `canonicalize_url` parses (its own cleaning + `ensure_protocol`)
  on a string whose cleaned form is the grammar string `g.str` is the record of the pieces
  `g.record po`, up to the scheme;
* `prepared_canonical` — what `normalize_url` hands to the parser on the string `canonicalize_url`
  printed is that string (cleaning pass = identity: `normalize_cleaning_canonical_partial`;
  `PROTOCOL_RE` matches), so (`normalize_canonical_string`) the result is `normParts` of
  `reparsedOf` (the parser gives `reparsedOf`: `canonicalize_reparse`);
* **`normalize_canonicalize_string_partial`** (c1) and **`normalize_of_canon_eq_string_partial`**
  (a) on strings.
* **`fingerprint_of_normalize_eq_string_partial`** (b) and
  **`fingerprint_canonicalize_string_partial`** (c2) on strings, on the class of lower-case
  strings where (b) is proved; (c2) is (b) applied to (c1).

Class (every hypothesis explicit and decidable but the decoder laws):
`InClassOf false g u` — the cleaned form of `u` is the string `g.str` of the grammar of
`Lemmas/NormBridge.lean` (so the path is empty or absolute) —, no `%` in the host text, the
default protocol 1–64 letters, unquoted mode, `strip_protocol` / `strip_authentication` /
`strip_trailing_slash` on (defaults), `lowercase` off, every other option free; the decoder
satisfies `PunyLaws` and `PunyClean`; and — the class of KF-C03-1 — with `infer_redirection` on,
neither `u` nor the canonical form carries a redirect hint (`infer u = u`, `infer r = r`).
-/
set_option linter.unusedSimpArgs false
namespace Ural.Props.C03
open Ural Ural.Py Ural.UrlParts Ural.Quote Ural.Canonicalize Ural.Normalize Ural.C03
open Ural.NormBridge Ural.CanonRoundTrip Ural.UrlRoundTrip Ural.Fingerprint

/-- the parse of the printed canonical form (`reparsedOf`, C01's `canonicalize_reparse`) is a
re-parse of the canonical components in the sense of `Reparses`: the hypothesis of the
component theorems holds of the modelled parser -/
theorem reparses_reparsedOf (puny : Str → Str) (quoted sf : Bool) (p : Parsed) :
    Reparses (canonComps puny quoted sf p) (reparsedOf puny quoted sf p) := by
  refine ⟨rfl, rfl, rfl, ?_, rfl⟩
  simp only [reparsedOf, reparsed]
  cases h : (canonComps puny quoted sf p).host with
  | none => simp [strOf]
  | some x =>
    by_cases hx : x = []
    · subst hx; simp [strOf, truthy]
    · simp [strOf, truthy, hx]

/-! ## what `canonicalize_url` parses on a string of the class -/

/-- **the parse inside `canonicalize_url`** (cleaning, `ensure_protocol(url, default_protocol)`,
modelled `urlsplit` + accessors) of a string whose cleaned form is the grammar string `g.str`:
the record of the pieces, with the scheme of the string or — scheme-less — the default protocol -/
theorem parse_cleanUrl_grammar (g : UrlG) (hwf : g.wf = true) (hc : NoUnsafe g.rest) (u dp : Str)
    (hdp : SchemeShaped (rstripChars dp [':', '/'])) (hu : preClean u = g.str) :
    ∃ s0, parseUrl (Canonicalize.cleanUrl u dp) =
      (portVal g.port).map fun po => { g.record po with scheme := s0 } :=
  ⟨Props.C02.schemeOf dp g.proto, by
    rw [C02String.cleanUrl_preClean, hu, Props.C02.parseUrl_ensured hdp hwf hc]; rfl⟩

/-! ## `normalize_url` on the printed canonical form -/

theorem letterProtocol_https : LetterProtocol "https".toList := by
  simp only [toList_lit]
  decide +kernel

theorem normalizeUrlStringSplit_parse (puny : Str → Str) (o : Normalize.Opts) (ir : Bool) (u : Str) :
    normalizeUrlStringSplit puny id o ir u =
      match parseUrl (ensureHttp (resolvedClean ir u)) with
      | none => .inl u
      | some p => .inr (normParts puny o (hasProtocol (resolvedClean ir u)) p) := by
  rw [normalizeUrlStringSplit_eq]
  unfold normalizeUrlSplit prepared resolvedClean
  simp only [id]
  generalize parseUrl _ = x
  cases x <;> rfl

/-- `p` is the parse inside `canonicalize_url` -/
theorem prepared_canonical (puny : Str → Str) (hpc : PunyClean puny) (dp : Str)
    (hdp : LetterProtocol dp) (ir : Bool) (u r : Str) (p : Parsed)
    (hp : parseUrl (Canonicalize.cleanUrl u dp) = some p)
    (hr : canonicalizeUrl puny ⟨dp, false, false⟩ u = some r)
    (hpct : ∀ h0, p.hostname = some h0 → '%' ∉ h0)
    (hir : ir = true → infer r = r) :
    ensureHttp (resolvedClean ir r) = r ∧ hasProtocol (resolvedClean ir r) = true := by
  have hsch := hdp.shaped
  have hclean : preClean r = r :=
    normalize_cleaning_canonical_partial puny hpc dp false hdp u r hr
      (fun p' hp' => by rw [hp] at hp'; cases hp'; exact hpct)
  obtain ⟨p', ⟨hp', hui⟩, hr'⟩ := (Props.C01.canonicalize_accepts_iff puny ⟨dp, false, false⟩ u r).1 hr
  simp only at hp' hr'
  rw [hp] at hp'; cases hp'
  obtain ⟨S, rest, hcl, hletters⟩ := cleanUrl_cleaned u dp hsch
  have hS := hletters hdp.2.1 hdp.2.2
  have hf := fromParse hcl hp
  have heq := printed_eq hpc false false hf
  have hproto : hasProtocol r = true := by
    rw [hr', heq]
    obtain ⟨h1, h2, h3⟩ := letters_lower ⟨by obtain ⟨⟨c, t, e, _⟩, _⟩ := hf.shaped; rw [e]; simp, hS⟩
    exact hasProtocol_scheme _ _ h1 h3 (List.all_eq_true.2 h2)
  have hres : (if ir then infer r else r) = r := by
    cases ir with
    | false => rfl
    | true => simpa using hir rfl
  unfold resolvedClean
  rw [hres, hclean]
  exact ⟨if_pos hproto, hproto⟩

/-- **`normalize_url` on the string `canonicalize_url` printed**: it parses that very string
(`prepared_canonical`), for which the modelled parser returns `reparsedOf` (C01
`canonicalize_reparse`) — so the result is `normParts` of the canonical components read back.
`p` is the parse inside `canonicalize_url`. -/
theorem normalize_canonical_string (puny : Str → Str) (hpc : PunyClean puny) (dp : Str)
    (hdp : LetterProtocol dp) (o : Normalize.Opts) (ir : Bool) (u r : Str) (p : Parsed)
    (hp : parseUrl (Canonicalize.cleanUrl u dp) = some p)
    (hr : canonicalizeUrl puny ⟨dp, false, false⟩ u = some r)
    (hpct : ∀ h0, p.hostname = some h0 → '%' ∉ h0)
    (hir : ir = true → infer r = r) :
    normalizeUrlStringSplit puny id o ir r =
      .inr (normParts puny o true (reparsedOf puny false false p)) ∧
    normalizeUrlString puny id o ir r =
      finalString o true (normParts puny o true (reparsedOf puny false false p)) := by
  obtain ⟨h1, h2⟩ := prepared_canonical puny hpc dp hdp ir u r p hp hr hpct hir
  obtain ⟨p', ⟨hp', hui⟩, _⟩ := (Props.C01.canonicalize_accepts_iff puny ⟨dp, false, false⟩ u r).1 hr
  simp only at hp'
  rw [hp] at hp'; cases hp'
  obtain ⟨s, hs, hparse⟩ := Props.C01.canonicalize_reparse puny hpc ⟨dp, false, false⟩ hdp.shaped u p ⟨hp, hui⟩
  rw [hr] at hs; cases hs
  simp only at hparse
  constructor
  · rw [normalizeUrlStringSplit_parse, h1, h2, hparse]
  · rw [normalizeUrlString_cleaned]
    unfold normCleaned
    rw [h1, h2, hparse]
    rfl

/-! ## (c1) and (a) on strings -/

theorem accepted_grammar (puny : Str → Str) (dp : Str) (hdp : LetterProtocol dp) (g : UrlG)
    (u r : Str) (hg : InClassOf false g u) (hpct : '%' ∉ g.host)
    (hr : canonicalizeUrl puny ⟨dp, false, false⟩ u = some r) :
    ∃ s0 po, portVal g.port = some po ∧ Props.C01.Accepted u dp { g.record po with scheme := s0 } ∧
      ∀ h0, ({ g.record po with scheme := s0 } : Parsed).hostname = some h0 → '%' ∉ h0 := by
  obtain ⟨s0, hs0⟩ := parse_cleanUrl_grammar g hg.wf hg.noUnsafe u dp hdp.shaped hg.reaches
  obtain ⟨p, ha, _⟩ := (Props.C01.canonicalize_accepts_iff puny ⟨dp, false, false⟩ u r).1 hr
  have hpp := ha.1
  simp only at hpp
  rw [hs0] at hpp
  cases hpo : portVal g.port with
  | none => rw [hpo] at hpp; cases hpp
  | some po =>
    rw [hpo] at hpp
    simp only [Option.map_some, Option.some.injEq] at hpp
    subst hpp
    refine ⟨s0, po, rfl, ha, ?_⟩
    intro h0 hh
    simp only [UrlG.record, UrlG.hostname] at hh
    split at hh
    · cases hh
    · cases hh
      exact (Netloc.lowerOf_lowerHost g.host g.host (fun _ h => h)).not_mem hpct (by decide)

theorem accepted_parse (puny : Str → Str) (dp : Str) (hdp : LetterProtocol dp) (u r : Str)
    (hr : canonicalizeUrl puny ⟨dp, false, false⟩ u = some r) :
    ∃ p0 s0, parseUrl (ensureHttp (preClean u)) = some p0 ∧
      Props.C01.Accepted u dp { p0 with scheme := s0 } ∧ absP p0.path = true := by
  obtain ⟨p, ha, _⟩ := (Props.C01.canonicalize_accepts_iff puny ⟨dp, false, false⟩ u r).1 hr
  have hpp : parseUrl (Canonicalize.cleanUrl u dp) = some p := ha.1
  obtain ⟨S, rest, hcl, _⟩ := cleanUrl_cleaned u dp hdp.shaped
  have hpa := (fromParse hcl hpp).split.path_abs
  simp only at hpa
  obtain ⟨s0, h0⟩ := parse_defaults (preClean u) dp hdp.shaped
  have hcu : Canonicalize.cleanUrl u dp = ensureProtocol (preClean u) dp := rfl
  rw [hcu, h0] at hpp
  cases hp0 : parseUrl (ensureHttp (preClean u)) with
  | none => rw [hp0] at hpp; cases hpp
  | some p0 =>
    rw [hp0] at hpp
    simp only [Option.map_some, Option.some.injEq] at hpp
    subst hpp
    exact ⟨p0, s0, rfl, ha, by rcases hpa with h | ⟨q, h⟩ <;> rw [h] <;> rfl⟩

/-- **(c1) on strings, without a grammar**: every string `u` that `canonicalize_url` accepts
(no `%` in the parsed host; with `infer_redirection`, no redirect followed on `u` or on its
canonical form).  The grammar class of `normalize_canonicalize_string_partial` serves only to say
what the two parsers return; `parse_defaults` says that for every string. -/
theorem normalize_canonicalize_string (puny : Str → Str) (hp : PunyLaws puny)
    (hpc : PunyClean puny) (dp : Str) (hdp : LetterProtocol dp)
    (o : Normalize.Opts) (hq : o.quoted = false) (hsp : o.stripProtocol = true)
    (hsa : o.stripAuthentication = true) (hsts : o.stripTrailingSlash = true)
    (hlc : o.lowercase = false) (ir : Bool) (u r : Str)
    (hr : canonicalizeUrl puny ⟨dp, false, false⟩ u = some r)
    (hpct : ∀ p h0, parseUrl (Canonicalize.cleanUrl u dp) = some p → p.hostname = some h0 → '%' ∉ h0)
    (hiu : ir = true → infer u = u) (hir : ir = true → infer r = r) :
    normalizeUrlStringSplit puny id o ir r = normalizeUrlStringSplit puny id o ir u ∧
    normalizeUrlString puny id o ir r = normalizeUrlString puny id o ir u := by
  obtain ⟨p0, s0, hp0, ha, habs⟩ := accepted_parse puny dp hdp u r hr
  obtain ⟨c1, c2⟩ := normalize_canonical_string puny hpc dp hdp o ir u r _ ha.1 hr
    (fun h0 => hpct _ h0 ha.1) hir
  have hN := normalize_canonicalize_partial puny hp o hsp hsa hsts hlc p0
    (reparsedOf puny false false { p0 with scheme := s0 }) habs
    (fun e => by rw [hq] at e; cases e) s0
    (by rw [hq]; exact reparses_reparsedOf puny false false _) (hasProtocol (preClean u)) true
  have hu : resolvedClean ir u = preClean u := by
    unfold resolvedClean
    cases ir with
    | false => rfl
    | true => rw [if_pos rfl, hiu rfl]
  constructor
  · rw [c1, normalizeUrlStringSplit_parse, hu, hp0, hN]
  · rw [c2, normalizeUrlString_cleaned, hu]
    unfold normCleaned
    rw [hp0, hN]
    exact finalString_stripProtocol o hsp _ _ _

/-- **(c1) on STRINGS** `normalize_url(canonicalize_url(u)) == normalize_url(u)`, both result
forms, for the whole-string models with the modelled parser.  PARTIAL — explicit hypotheses:
the cleaned form of `u` is a string of the grammar of `Lemmas/NormBridge.lean` (`InClassOf false g u`:
scheme prefix of letters / `//` / nothing, userinfo, host name or bracketed literal, port text,
path empty or absolute, query, fragment), no `%` in the host text; default protocol of 1–64
letters; unquoted mode; `strip_protocol`, `strip_authentication`, `strip_trailing_slash` on (the
defaults) and `lowercase` off, every other option free; decoder laws `PunyLaws`, `PunyClean`;
with `infer_redirection` on, no redirect hint fires on `u` or on its canonical form (outside:
KF-C03-1).  `platform_aware` off (`platform = id`). -/
theorem normalize_canonicalize_string_partial (puny : Str → Str) (hp : PunyLaws puny)
    (hpc : PunyClean puny) (dp : Str) (hdp : LetterProtocol dp)
    (o : Normalize.Opts) (hq : o.quoted = false) (hsp : o.stripProtocol = true)
    (hsa : o.stripAuthentication = true) (hsts : o.stripTrailingSlash = true)
    (hlc : o.lowercase = false) (ir : Bool) (g : UrlG) (u r : Str)
    (hg : InClassOf false g u) (hpct : '%' ∉ g.host)
    (hr : canonicalizeUrl puny ⟨dp, false, false⟩ u = some r)
    (hiu : ir = true → infer u = u) (hir : ir = true → infer r = r) :
    normalizeUrlStringSplit puny id o ir r = normalizeUrlStringSplit puny id o ir u ∧
    normalizeUrlString puny id o ir r = normalizeUrlString puny id o ir u := by
  obtain ⟨s0, po, _, ha, hhost⟩ := accepted_grammar puny dp hdp g u r hg hpct hr
  refine normalize_canonicalize_string puny hp hpc dp hdp o hq hsp hsa hsts hlc ir u r hr ?_ hiu hir
  intro p h0 hpp hh
  rw [ha.1] at hpp
  cases hpp
  exact hhost h0 hh

/-- **(a) on STRINGS**: two strings of the class with the same canonical form have the same
normalized form (both result forms) — (c1) on either side -/
theorem normalize_of_canon_eq_string_partial (puny : Str → Str) (hp : PunyLaws puny)
    (hpc : PunyClean puny) (dp : Str) (hdp : LetterProtocol dp)
    (o : Normalize.Opts) (hq : o.quoted = false) (hsp : o.stripProtocol = true)
    (hsa : o.stripAuthentication = true) (hsts : o.stripTrailingSlash = true)
    (hlc : o.lowercase = false) (ir : Bool) (g₁ g₂ : UrlG) (u v r : Str)
    (hg₁ : InClassOf false g₁ u) (hg₂ : InClassOf false g₂ v)
    (hpct₁ : '%' ∉ g₁.host) (hpct₂ : '%' ∉ g₂.host)
    (hru : canonicalizeUrl puny ⟨dp, false, false⟩ u = some r)
    (hrv : canonicalizeUrl puny ⟨dp, false, false⟩ v = some r)
    (hiu : ir = true → infer u = u) (hiv : ir = true → infer v = v)
    (hir : ir = true → infer r = r) :
    normalizeUrlStringSplit puny id o ir u = normalizeUrlStringSplit puny id o ir v ∧
    normalizeUrlString puny id o ir u = normalizeUrlString puny id o ir v := by
  obtain ⟨a1, a2⟩ := normalize_canonicalize_string_partial puny hp hpc dp hdp o hq hsp hsa hsts hlc ir
    g₁ u r hg₁ hpct₁ hru hiu hir
  obtain ⟨b1, b2⟩ := normalize_canonicalize_string_partial puny hp hpc dp hdp o hq hsp hsa hsts hlc ir
    g₂ v r hg₂ hpct₂ hrv hiv hir
  exact ⟨a1.symm.trans b1, a2.symm.trans b2⟩

/-! ### non-vacuity and the witness of the redirect side condition -/

/-- the grammar pieces of `HTTP://U:P@WWW.A.com:80/x/%2E%2E/%41/index.html?utm_source=1&b=%42&amp;a=1#top` -/
def exString : UrlG :=
  { proto := .scheme "HTTP".toList, ui := some "U:P".toList, host := "WWW.A.com".toList,
    port := some "80".toList, path := "/x/%2E%2E/%41/index.html".toList,
    query := some "utm_source=1&b=%42&amp;a=1".toList, fragment := some "top".toList }

def exU : Str := " HTTP://U:P@WWW.A.com:80/x/%2e%2E/%41/index.html?utm_source=1&b=%42&amp;a=1#top\n".toList
def exR : Str := "http://U:P@www.a.com/A/index.html?utm_source=1&b=B&amp;a=1#top".toList

theorem exU_facts :
    InClassOf false exString exU ∧ '%' ∉ exString.host ∧
    canonicalizeUrl id ⟨"https".toList, false, false⟩ exU = some exR ∧
    domainSplit (cleanedUrl exU) = none ∧ redirectSearch (cleanedUrl exU) = none ∧
    domainSplit (cleanedUrl exR) = none ∧ redirectSearch (cleanedUrl exR) = none ∧
    normalizeUrlString id id {} false exU = "a.com/A?a=1&b=B".toList := by
  unfold exU exR exString
  simp only [toList_lit]
  decide +kernel

theorem infer_exU : infer exU = exU := by
  obtain ⟨-, -, -, du, ru, -, -, -⟩ := exU_facts
  exact infer_eq_self_of_clean _ du ru

theorem infer_exR : infer exR = exR := by
  obtain ⟨-, -, -, -, -, dr, rr, -⟩ := exU_facts
  exact infer_eq_self_of_clean _ dr rr

theorem c1_exU (ir : Bool) :
    normalizeUrlStringSplit id id {} ir exR = normalizeUrlStringSplit id id {} ir exU ∧
    normalizeUrlString id id {} ir exR = normalizeUrlString id id {} ir exU := by
  obtain ⟨hclass, hpct, hcanon, -⟩ := exU_facts
  exact normalize_canonicalize_string_partial id Canonicalize.punyLaws_id punyClean_id
    "https".toList letterProtocol_https {} rfl rfl rfl rfl rfl ir exString exU exR hclass hpct
    hcanon (fun _ => infer_exU) (fun _ => infer_exR)

/-- non-vacuity of (c1) on strings: a URL with surrounding white space, a lower-case escape,
userinfo, capitals and `www.` in the host, a default port, dot segments, an index file, escaped
letters, a tracking item, `&amp;`, unsorted items and a fragment satisfies every hypothesis (with
`infer_redirection` on), and both sides evaluate to `a.com/A?a=1&b=B` -/
example :
    InClassOf false exString exU ∧ '%' ∉ exString.host ∧ LetterProtocol "https".toList ∧
    canonicalizeUrl id ⟨"https".toList, false, false⟩ exU = some exR ∧
    infer exU = exU ∧ infer exR = exR ∧
    normalizeUrlString id id {} false exR = "a.com/A?a=1&b=B".toList ∧
    normalizeUrlString id id {} false exU = "a.com/A?a=1&b=B".toList := by
  obtain ⟨hclass, hpct, hcanon, -, -, -, -, hU⟩ := exU_facts
  refine ⟨hclass, hpct, letterProtocol_https, hcanon, infer_exU, infer_exR, ?_, hU⟩
  exact (c1_exU false).2.trans hU

example :
    normalizeUrlString id id {} true exR = normalizeUrlString id id {} true exU :=
  (c1_exU true).2

/-- **the redirect side condition is needed** (KF-C03-1 on the model): `a.com?ur%6C=http://b.com`
carries no hint (`infer u = u`), its canonical form `https://a.com/?url=http://b.com` does
(`infer r = http://b.com`), and with `infer_redirection` on the two normalized forms differ -/
example :
    let u := "a.com?ur%6C=http://b.com".toList
    let r := "https://a.com/?url=http://b.com".toList
    canonicalizeUrl id ⟨"https".toList, false, false⟩ u = some r ∧
    infer u = u ∧ infer r = "http://b.com".toList ∧
    normalizeUrlString id id {} true u = "a.com?url=http://b.com".toList ∧
    normalizeUrlString id id {} true r = "b.com".toList := by
  intro u r
  have eu : u = _ := toList_lit _
  have er : r = _ := toList_lit _
  have H : canonicalizeUrl id ⟨"https".toList, false, false⟩ u = some r ∧
      domainSplit (cleanedUrl u) = none ∧ redirectSearch (cleanedUrl u) = none ∧
      inferFuel inferTarget r.length r = "http://b.com".toList ∧
      (normCleaned id {} (preClean u)).getD u = "a.com?url=http://b.com".toList ∧
      (normCleaned id {} (preClean "http://b.com".toList)).getD r = "b.com".toList := by
    rw [eu, er]
    simp only [toList_lit]
    decide +kernel
  obtain ⟨hc, du, ru, hr, nu, nr⟩ := H
  have hu : infer u = u := infer_eq_self_of_clean _ du ru
  rw [(Props.C15.infer_total r).2] at hr
  refine ⟨hc, hu, hr, ?_, ?_⟩
  · rw [normalizeUrlString_cleaned]
    unfold resolvedClean
    rw [if_pos rfl, hu]
    exact nu
  · rw [normalizeUrlString_cleaned]
    unfold resolvedClean
    rw [if_pos rfl, hr]
    exact nr

/-! ## (b) and (c2) on strings, on the lower-case class -/

/-- `fingerprint_url` (tuple) of a lower-case string from `normalize_url`'s tuple -/
theorem fp_split_of_norm (puny : Str → Str) (trie : SNode Str) (ss : Bool) (x : Str) (X : Split)
    (hl : lower x = x)
    (h : normalizeUrlStringSplit puny id fpOpts true x = .inr X) :
    fingerprintUrlStringSplit puny id trie ss x = (fpParts (stringEnv puny id trie) ss X).map .inr := by
  rw [Props.C06.fingerprintUrlStringSplit_norm, hl, h]
  rfl

theorem parsed_of_class {ir : Bool} {g : UrlG} {u : Str} (hg : InClassOf ir g u) {P : Parsed → Prop}
    (hL : ∀ po, portVal g.port = some po → P (g.record po)) :
    ∀ p, parseUrl (ensureHttp (resolvedClean ir u)) = some p → P p := by
  intro p hpp
  rw [hg.reaches, (parse_str g hg.wf hg.noUnsafe).1] at hpp
  unfold UrlG.parsed at hpp
  cases hpo : portVal g.port with
  | none => rw [hpo] at hpp; cases hpp
  | some po =>
    rw [hpo] at hpp
    cases hpp
    exact hL po hpo

/-- **(b) on strings, without a grammar**: two lower-case strings with the same normalized tuple have
the same fingerprint, on the class where (b) is proved (`LowerInput` of what is parsed) -/
theorem fingerprint_of_normalize_eq_string (puny : Str → Str) (trie : SNode Str) (ss : Bool)
    (u v : Str) (hlu : lower u = u) (hlv : lower v = v)
    (hL₁ : ∀ p, parseUrl (ensureHttp (resolvedClean true u)) = some p → LowerInput p)
    (hL₂ : ∀ p, parseUrl (ensureHttp (resolvedClean true v)) = some p → LowerInput p)
    (h : normalizeUrlStringSplit puny id {} true u = normalizeUrlStringSplit puny id {} true v) :
    fingerprintUrlStringSplit puny id trie ss u = fingerprintUrlStringSplit puny id trie ss v ∧
    fingerprintUrlString puny id trie ss u = fingerprintUrlString puny id trie ss v := by
  have key : fingerprintUrlStringSplit puny id trie ss u = fingerprintUrlStringSplit puny id trie ss v := by
    have a₁ := normalizeUrlStringSplit_parse puny fpOpts true u
    have a₂ := normalizeUrlStringSplit_parse puny fpOpts true v
    rw [normalizeUrlStringSplit_parse, normalizeUrlStringSplit_parse] at h
    cases hp₁ : parseUrl (ensureHttp (resolvedClean true u)) with
    | none =>
      cases hp₂ : parseUrl (ensureHttp (resolvedClean true v)) with
      | none => rw [hp₁, hp₂] at h; cases h; rfl
      | some p₂ => rw [hp₁, hp₂] at h; cases h
    | some p₁ =>
      cases hp₂ : parseUrl (ensureHttp (resolvedClean true v)) with
      | none => rw [hp₁, hp₂] at h; cases h
      | some p₂ =>
        rw [hp₁, hp₂] at h
        rw [hp₁] at a₁
        rw [hp₂] at a₂
        simp only [Sum.inr.injEq] at h
        rw [fp_split_of_norm puny trie ss u _ hlu a₁, fp_split_of_norm puny trie ss v _ hlv a₂]
        have k := fingerprint_of_normalize_eq_partial (stringEnv puny id trie) ss p₁ p₂ (hL₁ p₁ hp₁)
          (hL₂ p₂ hp₂) _ _ (hasProtocol (resolvedClean true u)) (hasProtocol (resolvedClean true v)) h
        rw [(hL₁ p₁ hp₁).1, (hL₂ p₂ hp₂).1] at k
        exact congrArg (Except.map Sum.inr) k
  exact ⟨key, Props.C06.fp_string_of_split puny trie ss u v key⟩

/-- **(b) on STRINGS**: two lower-case strings of the class with the same normalized tuple
(`normalize_url(…, unsplit=False)`, default options) have the same fingerprint, both result forms.
PARTIAL: `u`, `v` lower-case strings (`str.lower` leaves them alone) whose cleaned, resolved forms
are grammar strings with `LowerInput` records; outside: KF-C03-3 / `not_fullFingerprintOfNormalizeEq`. -/
theorem fingerprint_of_normalize_eq_string_partial (puny : Str → Str) (trie : SNode Str) (ss : Bool)
    (g₁ g₂ : UrlG) (u v : Str) (hg₁ : InClassOf true g₁ u) (hg₂ : InClassOf true g₂ v)
    (hlu : lower u = u) (hlv : lower v = v)
    (hL₁ : ∀ po, portVal g₁.port = some po → LowerInput (g₁.record po))
    (hL₂ : ∀ po, portVal g₂.port = some po → LowerInput (g₂.record po))
    (h : normalizeUrlStringSplit puny id {} true u = normalizeUrlStringSplit puny id {} true v) :
    fingerprintUrlStringSplit puny id trie ss u = fingerprintUrlStringSplit puny id trie ss v ∧
    fingerprintUrlString puny id trie ss u = fingerprintUrlString puny id trie ss v :=
  fingerprint_of_normalize_eq_string puny trie ss u v hlu hlv (parsed_of_class hg₁ hL₁)
    (parsed_of_class hg₂ hL₂) h

/-- **(c2) on strings, without a grammar** = (c1) + (b): every lower-case string `u` that
`canonicalize_url` accepts, on the class where (b) is proved (`LowerInput` of what `normalize_url`
parses of `u` and of the canonical form, which is the string it parses: `prepared_canonical`) -/
theorem fingerprint_canonicalize_string (puny : Str → Str) (hp : PunyLaws puny)
    (hpc : PunyClean puny) (dp : Str) (hdp : LetterProtocol dp) (trie : SNode Str) (ss : Bool)
    (u r : Str) (hr : canonicalizeUrl puny ⟨dp, false, false⟩ u = some r)
    (hpct : ∀ p h0, parseUrl (Canonicalize.cleanUrl u dp) = some p → p.hostname = some h0 → '%' ∉ h0)
    (hiu : infer u = u) (hir : infer r = r) (hlu : lower u = u) (hlr : lower r = r)
    (hLu : ∀ p, parseUrl (ensureHttp (preClean u)) = some p → LowerInput p)
    (hLr : ∀ p', parseUrl r = some p' → LowerInput p') :
    fingerprintUrlStringSplit puny id trie ss r = fingerprintUrlStringSplit puny id trie ss u ∧
    fingerprintUrlString puny id trie ss r = fingerprintUrlString puny id trie ss u := by
  obtain ⟨p0, s0, _, ha, _⟩ := accepted_parse puny dp hdp u r hr
  obtain ⟨hr1, _⟩ := prepared_canonical puny hpc dp hdp true u r _ ha.1 hr (fun h0 => hpct _ h0 ha.1)
    (fun _ => hir)
  have hu1 : resolvedClean true u = preClean u := by unfold resolvedClean; rw [if_pos rfl, hiu]
  refine fingerprint_of_normalize_eq_string puny trie ss r u hlr hlu ?_ ?_
    (normalize_canonicalize_string puny hp hpc dp hdp {} rfl rfl rfl rfl rfl true u r hr hpct
      (fun _ => hiu) (fun _ => hir)).1
  · rw [hr1]; exact hLr
  · rw [hu1]; exact hLu

/-- **(c2) on STRINGS** `fingerprint_url(canonicalize_url(u)) == fingerprint_url(u)`, both result
forms, `strip_suffix` free, any suffix trie.  PARTIAL: the class of (c1) on strings with
`infer_redirection` on (no hint on `u` or on the canonical form `r`), restricted to the class
where (b) is proved — `u` and `r` are lower-case strings (`str.lower` leaves them alone: no
capital, no escape with a hex letter in `r`) whose parses are `LowerInput` (what their escapes
decode to is lower-case too). -/
theorem fingerprint_canonicalize_string_partial (puny : Str → Str) (hp : PunyLaws puny)
    (hpc : PunyClean puny) (dp : Str) (hdp : LetterProtocol dp) (trie : SNode Str) (ss : Bool)
    (g : UrlG) (u r : Str) (hg : InClassOf false g u) (hpct : '%' ∉ g.host)
    (hr : canonicalizeUrl puny ⟨dp, false, false⟩ u = some r)
    (hiu : infer u = u) (hir : infer r = r) (hlu : lower u = u) (hlr : lower r = r)
    (hLu : ∀ po, portVal g.port = some po → LowerInput (g.record po))
    (hLr : ∀ p', parseUrl r = some p' → LowerInput p') :
    fingerprintUrlStringSplit puny id trie ss r = fingerprintUrlStringSplit puny id trie ss u ∧
    fingerprintUrlString puny id trie ss r = fingerprintUrlString puny id trie ss u := by
  obtain ⟨s0, po, _, ha, hhost⟩ := accepted_grammar puny dp hdp g u r hg hpct hr
  refine fingerprint_canonicalize_string puny hp hpc dp hdp trie ss u r hr ?_ hiu hir hlu hlr ?_ hLr
  · intro p h0 hpp hh
    rw [ha.1] at hpp
    cases hpp
    exact hhost h0 hh
  · exact parsed_of_class hg hLu

/-- non-vacuity of (c2) / (b) on strings: a lower-case URL with `www.`, an index file, a `gl`
item, a tracking item and an escaped lower-case letter satisfies every hypothesis -/
def exLower : UrlG :=
  { proto := .scheme "http".toList, ui := none, host := "www.a.com".toList, port := none,
    path := "/x/index.html".toList, query := some "gl=fr&b=2&utm_source=1&a=%61".toList,
    fragment := none }

example (trie : SNode Str) (ss : Bool) :
    let u := "http://www.a.com/x/index.html?gl=fr&b=2&utm_source=1&a=%61".toList
    let r := "http://www.a.com/x/index.html?gl=fr&b=2&utm_source=1&a=a".toList
    fingerprintUrlString id id trie ss r = fingerprintUrlString id id trie ss u := by
  intro u r
  have eu : u = _ := toList_lit _
  have er : r = _ := toList_lit _
  have H : portVal exLower.port = some none ∧ InClassOf false exLower u ∧ '%' ∉ exLower.host ∧
      canonicalizeUrl id ⟨"https".toList, false, false⟩ u = some r ∧
      domainSplit (cleanedUrl u) = none ∧ redirectSearch (cleanedUrl u) = none ∧
      domainSplit (cleanedUrl r) = none ∧ redirectSearch (cleanedUrl r) = none ∧
      lower u = u ∧ lower r = r ∧ LowerInput (exLower.record none) ∧
      parseUrl r = some (reparsedOf id false false (exLower.record none)) ∧
      LowerInput (reparsedOf id false false (exLower.record none)) := by
    rw [eu, er]
    unfold exLower
    simp only [toList_lit]
    decide +kernel
  obtain ⟨hpo, hcl, hpct, hcanon, du, ru, dr, rr, lu, lr, hLu, hpr, hLr⟩ := H
  refine (fingerprint_canonicalize_string_partial id Canonicalize.punyLaws_id punyClean_id
    "https".toList letterProtocol_https trie ss exLower u r hcl hpct hcanon
    (infer_eq_self_of_clean _ du ru) (infer_eq_self_of_clean _ dr rr) lu lr ?_ ?_).2
  · intro po h
    rw [hpo] at h
    cases h
    exact hLu
  · intro p' h
    rw [hpr] at h
    cases h
    exact hLr

end Ural.Props.C03
