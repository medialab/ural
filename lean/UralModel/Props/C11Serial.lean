import UralModel.Lemmas.LruTrieSerial
import UralModel.Props.C11
import UralModel.Props.C12Psl
import UralModel.Lemmas.StrLit
/-!
# C11, "match_lru and set_lru accept serialized LRUs and stem lists interchangeably" — for the
# stems of real URLs

`Props/C11.lean` proves the clause for stem lists satisfying `LruTrie.WellTagged`; C12 proves `Lru.StemsOK` of the stems of every `|`-free URL, but for a second,
independent model of the same Python functions (`Model/Lru.lean`).  `Lemmas/LruTrieSerial.lean`
proves the two models equal (`unserializeLru_eq`, `serializeLru_eq`, `cleanTrailingPath_eq`) and
`StemsOK → WellTagged`; here is the corollary the property states: for every URL without `|`,
`set_lru` / `match_lru` behave identically on `url_to_lru(u)` (a string) and on `lru_stems(u)` (a
list) — at component level, on URL strings with the parser inside the model, and with
suffix_trie.py inside (no hypothesis about `split_suffix` at all).
-/
set_option linter.unusedSectionVars false

namespace Ural.Props.C11
open Ural Ural.TNode Ural.LruTrie Ural.Py

/-- **the C11 and the C12 / C13 models of `serialize_lru`, `unserialize_lru`,
`clean_trailing_path` are the same functions** (`tags_same_set` — the regenerated tag class is
the hand-written one — is the only table fact used) -/
theorem serialization_models_agree :
    (∀ s, LruTrie.unserializeLru s = Lru.unserializeLru s) ∧
    (∀ st, LruTrie.serializeLru st = Lru.serializeLru st) ∧
    (∀ st, LruTrie.cleanTrailingPath st = Lru.cleanTrailingPath st) :=
  ⟨unserializeLru_eq, serializeLru_eq, cleanTrailingPath_eq⟩

/-- the hypothesis of `set_lru_str_list_interchangeable` is C12's `StemsOK` -/
theorem wellTagged_iff_stemsOK (stems : List Str) : WellTagged stems ↔ Lru.StemsOK stems :=
  ⟨stemsOK_of_wellTagged, wellTagged_of_stemsOK⟩

/-- `set_lru` / `match_lru` on a serialised LRU `lru` (as the C12 model prints it) and on the
stem list it was printed from, when the list is `StemsOK` -/
theorem interchangeable_of_stemsOK {α : Type} {stems : List Str} (h : Lru.StemsOK stems)
    (t : TNode Str α) (v : α) :
    ensureLruStems (.str (Lru.serializeLru stems)) = stems ∧
    LruTrie.setLru t (.str (Lru.serializeLru stems)) v = LruTrie.setLru t (.list stems) v ∧
    LruTrie.matchLru t (.str (Lru.serializeLru stems)) = LruTrie.matchLru t (.list stems) := by
  rw [← serializeLru_eq]
  exact set_lru_str_list_interchangeable stems (wellTagged_of_stemsOK h) t v

variable (sp : Str → Option (Str × Str))

/-- **component level**: for every 5-tuple `p` without `|` (suffix-aware: given `SplitLaw`,
which follows from C08's re-join clause `SplitRejoins`), the stems `lru_stems(p)` are `WellTagged`, and `set_lru` / `match_lru`
behave identically on their serialisation and on the list -/
theorem set_lru_interchangeable_stems {α : Type} (sa : Bool) (p : Lru.Parts)
    (hb : Lru.noBar p = true) (hs : sa = true → Lru.SplitLaw sp p.netloc)
    (t : TNode Str α) (v : α) :
    WellTagged (Lru.lruStems sp sa p) ∧
    LruTrie.setLru t (.str (LruTrie.serializeLru (Lru.lruStems sp sa p))) v =
      LruTrie.setLru t (.list (Lru.lruStems sp sa p)) v ∧
    LruTrie.matchLru t (.str (LruTrie.serializeLru (Lru.lruStems sp sa p))) =
      LruTrie.matchLru t (.list (Lru.lruStems sp sa p)) := by
  have hw := wellTagged_of_stemsOK (C12.stems_wellformed sp sa p hb hs)
  exact ⟨hw, (set_lru_str_list_interchangeable _ hw t v).2⟩

/-- **on URL strings** (the parser inside the model): for every URL string `u` without `|` that
the parser accepts, `set_lru(url_to_lru(u), v)` and `set_lru(lru_stems(u), v)` are the same call,
and so are `match_lru(url_to_lru(u))` and `match_lru(lru_stems(u))` — for an arbitrary
`split_suffix`, suffix-aware mode given C08's clause at `u` -/
theorem set_lru_interchangeable_url {α : Type} (sa : Bool) (u : Str) (hbar : '|' ∉ u)
    (hs : sa = true → C12.SplitRejoinsUrl sp u) (stems : List Str) (lru : Str)
    (hst : Lru.lruStemsUrl sp sa u = some stems) (hlru : Lru.urlToLru sp sa u = some lru)
    (t : TNode Str α) (v : α) :
    ensureLruStems (.str lru) = stems ∧
    LruTrie.setLru t (.str lru) v = LruTrie.setLru t (.list stems) v ∧
    LruTrie.matchLru t (.str lru) = LruTrie.matchLru t (.list stems) := by
  obtain ⟨ok, e, _⟩ := C12.serialization_string sp sa u hbar hs stems hst
  rw [hlru] at e
  cases e
  exact interchangeable_of_stemsOK ok t v

/-- **the same with suffix_trie.py inside: no hypothesis about `split_suffix`** — for EVERY URL
string without `|` that the parser accepts, both modes, any suffix list -/
theorem set_lru_interchangeable_url_psl {α : Type} (lines : List Str) (sa : Bool) (u : Str)
    (hbar : '|' ∉ u) (stems : List Str) (lru : Str)
    (hst : Lru.lruStemsUrl (Lru.pslSplit lines) sa u = some stems)
    (hlru : Lru.urlToLru (Lru.pslSplit lines) sa u = some lru)
    (t : TNode Str α) (v : α) :
    ensureLruStems (.str lru) = stems ∧
    LruTrie.setLru t (.str lru) v = LruTrie.setLru t (.list stems) v ∧
    LruTrie.matchLru t (.str lru) = LruTrie.matchLru t (.list stems) := by
  obtain ⟨ok, e, _⟩ := C12.serialization_string_psl lines sa u hbar stems hst
  rw [hlru] at e
  cases e
  exact interchangeable_of_stemsOK ok t v

/-- … hence in a whole history: for a tokeniser that returns `lru_stems(u)` on `u` (the plain
`LRUTrie`), the call `set_lru(url_to_lru(u), v)` stores the very entry `set(u, v)` stores -/
theorem entry_setLru_url {α : Type} (tokenize : Str → List Str) (lines : List Str) (sa : Bool)
    (u : Str) (hbar : '|' ∉ u) (stems : List Str) (lru : Str) (htok : tokenize u = stems)
    (hst : Lru.lruStemsUrl (Lru.pslSplit lines) sa u = some stems)
    (hlru : Lru.urlToLru (Lru.pslSplit lines) sa u = some lru) (v : α) :
    Op.entry tokenize (.setLru (.str lru) v) = Op.entry tokenize (.set u v) := by
  have := (set_lru_interchangeable_url_psl (α := α) lines sa u hbar stems lru hst hlru
    TNode.empty v).1
  simp only [Op.entry, this, htok]

/-! ## non-vacuity -/

example :
    Lru.urlToLru (Lru.pslSplit C13.demoLines) true "http://u@www.a.co.uk:80/x//y?q".toList =
      some "s:http|t:80|h:co.uk|h:a|h:www|p:x|p:|p:y|q:q|u:u|".toList ∧
    Lru.lruStemsUrl (Lru.pslSplit C13.demoLines) true "http://u@www.a.co.uk:80/x//y?q".toList =
      some (["s:http", "t:80", "h:co.uk", "h:a", "h:www", "p:x", "p:", "p:y", "q:q", "u:u"].map
        String.toList) ∧
    ensureLruStems (.str "s:http|t:80|h:co.uk|h:a|h:www|p:x|p:|p:y|q:q|u:u|".toList) =
      ["s:http", "t:80", "h:co.uk", "h:a", "h:www", "p:x", "p:", "p:y", "q:q", "u:u"].map
        String.toList := by
  simp only [toList_lit]
  decide +kernel

/-- outside the hypothesis (a `|` in the URL) the two forms really differ -/
example : ensureLruStems (.str (LruTrie.serializeLru (["s:http", "h:a", "p:x|p:y"].map String.toList))) ≠
    ["s:http", "h:a", "p:x|p:y"].map String.toList := by
  simp only [List.map, toList_lit]
  decide +kernel

end Ural.Props.C11
