import UralModel.Lemmas.LinksFromHtml
import UralModel.Model.UrlsFromHtml
import UralModel.Lemmas.UrlsFromHtml
import UralModel.Lemmas.HtmlDoc
import UralModel.Gen.HtmlPatterns
import UralModel.Gen.HtmlRe
import UralModel.Lemmas.StrLit
/-!
# C17 — HTML extraction is str/bytes-independent; links are followable and distinct

Part A: the post-conditions of `links_from_html`
(`Model/LinksFromHtml.lean`), for **all** href lists, all base URLs, both options and **all**
parameter functions `E : Env` (`urljoin`, `is_url`, `canonicalize_url`, the two regex tests).
`(links E cfg base hrefs).1` is the list of links the generator yields (up to the exception
that ends it, if `urljoin` / `canonicalize_url` raise), `.2` that exception.

**What Part A certifies.**  Since `E` is abstract, the per-link theorems `links_followable`,
`links_not_base`, `links_canonical`, `links_plain`, `links_relative_resolved`,
`links_are_urls` are the filter chain of the model *read back* (one loop iteration unfolded,
`links_chain`): they hold by construction of `step` and say that a yielded link went through
every test of the chain, in the order of links_from_html.py:22-55.  Their content for the
*code* is the model-vs-code correspondence (differential execution on every run, streams
`links_from_html` / `links_concrete`), not the Lean proof.  The facts that are not a reading
of one iteration — they need the loop invariant over the whole href list and the
`already_seen` state — are `links_unique` (no duplicate), `links_order` (sub-sequence image,
document order) and `links_complete` (nothing else is dropped).

Part B: `urls_from_html` (`Model/UrlsFromHtml.lean`) yields the same URLs for a `str` document and
for its UTF-8 bytes, and on a well-formed structured document (`Model/HtmlDoc.lean`) exactly the
hrefs of its anchors outside scripts; then the table obligations on the regenerated regexes that
make the hand-written scanners a reading of them.
-/
namespace Ural.Props.C17
open Ural.Html Ural.Py

variable (E : Env) (cfg : Cfg)

/-! ## Part A — links_from_html -/

/-- nothing is yielded when canonicalizing the base URL raises; otherwise `links` is the loop
run with the effective base -/
theorem links_eq_loop (base : Str) (hrefs : List Str) :
    (∀ e, effectiveBase E cfg base = .error e → links E cfg base hrefs = ([], some e)) ∧
    (∀ b, effectiveBase E cfg base = .ok b → links E cfg base hrefs = linksLoop E cfg b hrefs []) := by
  constructor <;> intro x hx <;> simp [links, hx]

/-- the effective base: the base URL itself, or its canonical form when `canonicalize` -/
theorem effectiveBase_spec (base b : Str) (h : effectiveBase E cfg base = .ok b) :
    (cfg.canonicalize = false → b = base) ∧ (cfg.canonicalize = true → E.canon base = .ok b) := by
  unfold effectiveBase at h
  cases hc : cfg.canonicalize <;> simp_all

/-- auxiliary: every yielded link went through the whole chain, with the effective base -/
theorem links_chain (base : Str) (hrefs : List Str) (l : Str)
    (hl : l ∈ (links E cfg base hrefs).1) :
    ∃ b h u, effectiveBase E cfg base = .ok b ∧ h ∈ hrefs ∧ FilterChain E cfg b h u l := by
  cases hb : effectiveBase E cfg base with
  | error e => rw [(links_eq_loop E cfg base hrefs).1 e hb] at hl; cases hl
  | ok b =>
    rw [(links_eq_loop E cfg base hrefs).2 b hb] at hl
    obtain ⟨h, hh, hy⟩ := linksLoop_mem E cfg b hrefs [] l hl
    obtain ⟨u, c⟩ := (step_yield_iff E cfg b h l).mp hy
    exact ⟨b, h, u, rfl, hh, c⟩

/-- **followable.** Every yielded link comes from a non-empty href of the document that
`should_follow_href` accepts and whose resolved URL (the href itself when it has a protocol,
`urljoin(base, href)` otherwise) is accepted by `is_url(…, tld_aware=True, …)`. -/
theorem links_followable (base : Str) (hrefs : List Str) :
    ∀ l ∈ (links E cfg base hrefs).1,
      ∃ b h u, effectiveBase E cfg base = .ok b ∧ h ∈ hrefs ∧ h ≠ [] ∧
        shouldFollowHref E h = true ∧ resolve E b h = .ok u ∧ E.isUrl u = true ∧
        finish E cfg u = .ok l := by
  intro l hl
  obtain ⟨b, h, u, hb, hh, c⟩ := links_chain E cfg base hrefs l hl
  exact ⟨b, h, u, hb, hh, c.nonempty, c.follow, c.resolved, c.isUrl, c.finished⟩

/-- what `should_follow_href` accepts: after stripping, not empty, not starting with `#`, and
if it contains a colon it starts with `http://` or `https://` (whatever the test
`HTTP_PROTOCOL_RE.match` is) -/
theorem shouldFollowHref_spec (h : Str) :
    shouldFollowHref E h = true ↔
      strip h ≠ [] ∧ (strip h).head? ≠ some '#' ∧
        ((strip h).contains ':' = true → E.httpMatch (strip h) = true) := by
  unfold shouldFollowHref
  cases hs : strip h with
  | nil => simp
  | cons c cs =>
    by_cases hc : c = '#'
    · simp [hc]
    · by_cases h1 : c = ':'
      · subst h1; simp
      · have h1' : ¬ ':' = c := fun e => h1 e.symm
        by_cases h2 : ':' ∈ cs <;> simp [hc, h1', h2]

/-- **never the base.** No yielded link equals the base URL — the canonicalized base URL when
`canonicalize=True` (the comparison of links_from_html.py:49 is made after both sides were
canonicalized), the base URL as given otherwise. -/
theorem links_not_base (base : Str) (hrefs : List Str) :
    ∀ l ∈ (links E cfg base hrefs).1,
      (cfg.canonicalize = false → l ≠ base) ∧
      (cfg.canonicalize = true → ∃ b, E.canon base = .ok b ∧ l ≠ b) := by
  intro l hl
  obtain ⟨b, h, u, hb, _, c⟩ := links_chain E cfg base hrefs l hl
  obtain ⟨e1, e2⟩ := effectiveBase_spec E cfg base b hb
  exact ⟨fun hc => by rw [← e1 hc]; exact c.notBase, fun hc => ⟨b, e2 hc, c.notBase⟩⟩

/-- **canonical.** With `canonicalize=True` every yielded link is exactly
`canonicalize_url(resolved href)`, the href being resolved against the canonicalized base. -/
theorem links_canonical (hc : cfg.canonicalize = true) (base : Str) (hrefs : List Str) :
    ∀ l ∈ (links E cfg base hrefs).1,
      ∃ b h u, E.canon base = .ok b ∧ h ∈ hrefs ∧ resolve E b h = .ok u ∧ E.canon u = .ok l := by
  intro l hl
  obtain ⟨b, h, u, hb, hh, c⟩ := links_chain E cfg base hrefs l hl
  refine ⟨b, h, u, (effectiveBase_spec E cfg base b hb).2 hc, hh, c.resolved, ?_⟩
  simpa [finish, hc] using c.finished

/-- without `canonicalize` the yielded link is the resolved href itself -/
theorem links_plain (hc : cfg.canonicalize = false) (base : Str) (hrefs : List Str) :
    ∀ l ∈ (links E cfg base hrefs).1, ∃ h ∈ hrefs, resolve E base h = .ok l := by
  intro l hl
  obtain ⟨b, h, u, hb, hh, c⟩ := links_chain E cfg base hrefs l hl
  obtain rfl := (effectiveBase_spec E cfg base b hb).1 hc
  have : u = l := by simpa [finish, hc] using c.finished
  subst this
  exact ⟨h, hh, c.resolved⟩

/-- **once.** With `unique=True` no link is yielded twice. -/
theorem links_unique (hu : cfg.unique = true) (base : Str) (hrefs : List Str) :
    (links E cfg base hrefs).1.Nodup := by
  cases hb : effectiveBase E cfg base with
  | error e => rw [(links_eq_loop E cfg base hrefs).1 e hb]; simp
  | ok b =>
    rw [(links_eq_loop E cfg base hrefs).2 b hb]
    exact (linksLoop_unique E cfg hu b hrefs []).2

/-- **relative hrefs are resolved against the base.** The URL tested by `is_url` and then
yielded / canonicalized is `urljoin(base, href)` whenever the href has no protocol
(`PROTOCOL_RE` does not match), and the href itself otherwise; `base` is the effective
(canonicalized when requested) base URL. -/
theorem links_relative_resolved (base : Str) (hrefs : List Str) :
    ∀ l ∈ (links E cfg base hrefs).1,
      ∃ b h u, effectiveBase E cfg base = .ok b ∧ h ∈ hrefs ∧ finish E cfg u = .ok l ∧
        (E.protocolMatch h = false → E.urljoin b h = .ok u) ∧
        (E.protocolMatch h = true → u = h) := by
  intro l hl
  obtain ⟨b, h, u, hb, hh, c⟩ := links_chain E cfg base hrefs l hl
  refine ⟨b, h, u, hb, hh, c.finished, ?_, ?_⟩
  · intro hp; simpa [resolve, hp] using c.resolved
  · intro hp
    have : h = u := by simpa [resolve, hp] using c.resolved
    exact this.symm

/-- **document order.** The yielded links are the images of a sub-sequence of the hrefs, in
the order of the document: there is a list of (href, link) pairs whose hrefs form a sublist
of `hrefs`, whose links are exactly the output, and each link is what one loop iteration
yields for its href. -/
theorem links_order (base b : Str) (hb : effectiveBase E cfg base = .ok b) (hrefs : List Str) :
    ∃ ps : List (Str × Str), (ps.map (·.1)).Sublist hrefs ∧
      ps.map (·.2) = (links E cfg base hrefs).1 ∧
      ∀ p ∈ ps, step E cfg b p.1 = .yield p.2 := by
  rw [(links_eq_loop E cfg base hrefs).2 b hb]
  exact linksLoop_sublist E cfg b hrefs []

/-- **nothing else is dropped.** When the generator ends normally, every href that passes the
chain has its link in the output (so the filter is exactly the chain; with `unique` later
duplicates are the only other thing removed). -/
theorem links_complete (base b : Str) (hb : effectiveBase E cfg base = .ok b) (hrefs : List Str)
    (hok : (links E cfg base hrefs).2 = none) (h l : Str) (hh : h ∈ hrefs)
    (hy : step E cfg b h = .yield l) : l ∈ (links E cfg base hrefs).1 := by
  rw [(links_eq_loop E cfg base hrefs).2 b hb] at hok ⊢
  rcases linksLoop_complete E cfg b hrefs [] hok h l hh hy with h1 | h1
  · exact h1
  · cases h1

/-- the clause "every yielded link is accepted by `is_url`", full strength -/
def FullLinksAreUrls : Prop :=
  ∀ (E : Env) (cfg : Cfg) (base : Str) (hrefs : List Str),
    ∀ l ∈ (links E cfg base hrefs).1, E.isUrl l = true

/-- **accepted by is_url** (full, for arbitrary parameters): `links_from_html` tests `is_url`
on the resolved href and, with `canonicalize=True`, again on its canonical form
(links_from_html.py:48-56). -/
theorem links_are_urls : FullLinksAreUrls := by
  intro E cfg base hrefs l hl
  obtain ⟨b, h, u, _, _, c⟩ := links_chain E cfg base hrefs l hl
  cases hc : cfg.canonicalize with
  | false =>
    have : u = l := by simpa [finish, hc] using c.finished
    exact this ▸ c.isUrl
  | true => exact c.recheck hc

/-- the abstract statement "`canonicalize_url` preserves `is_url`" about the parameters; no
theorem of this file assumes it (the chain tests `is_url` again on the canonical form);
`Props/C17Concrete.lean` proves it for the concrete models on a stated class and refutes it
outside -/
def CanonPreservesIsUrl (E : Env) : Prop :=
  ∀ u c, E.isUrl u = true → E.canon u = .ok c → E.isUrl c = true

/-- what ural's `is_url(…, only_http_https=True)` guarantees by its first lines (it strips its
argument and refuses it unless `HTTP_PROTOCOL_RE` matches): an accepted URL, stripped, is not
empty and starts with `http://` / `https://` -/
def IsUrlImpliesHttp (E : Env) : Prop :=
  ∀ u, E.isUrl u = true → strip u ≠ [] ∧ E.httpMatch (strip u) = true

/-- **the yielded link itself is followable**: `should_follow_href(link)` holds for every
yielded link, for all parameter functions such that (1) `is_url` only accepts strings that,
stripped, are non-empty and matched by `HTTP_PROTOCOL_RE` (`IsUrlImpliesHttp`: what
`only_http_https=True` gives) and (2) a string matched by `HTTP_PROTOCOL_RE` does not start
with `#`.  Both hypotheses are about the parameters only, and both are PROVED for the concrete
models (`isUrlC_implies_http`, `httpMatch_not_hash` in `Props/C17Concrete.lean`, whence the
hypothesis-free `links_should_follow_concrete`).  No hypothesis on `canonicalize_url`. -/
theorem links_should_follow
    (hhttp : IsUrlImpliesHttp E) (hhash : ∀ u, E.httpMatch u = true → u.head? ≠ some '#')
    (base : Str) (hrefs : List Str) :
    ∀ l ∈ (links E cfg base hrefs).1, shouldFollowHref E l = true := by
  intro l hl
  have hu := links_are_urls E cfg base hrefs l hl
  obtain ⟨h1, h2⟩ := hhttp l hu
  exact (shouldFollowHref_spec E l).mpr ⟨h1, hhash _ h2, fun _ => h2⟩

/-- the first hypothesis of `links_should_follow` is needed: with an `is_url` that accepts
`mailto:` strings, such a link is yielded and `should_follow_href` refuses it -/
example :
    let E : Env := { httpMatch := httpProtocolMatch, protocolMatch := fun _ => true,
                     urljoin := fun _ u => .ok u, isUrl := fun _ => true, canon := .ok }
    ¬ IsUrlImpliesHttp E ∧
      (links E ⟨false, false⟩ "b".toList ["http://a".toList]).1 = ["http://a".toList] := by
  refine ⟨?_, by decide +kernel⟩
  intro h
  exact absurd (h "mailto:x".toList rfl).2 (by decide)

/-! ### witnesses and non-vacuity (closed examples, evaluated by the kernel) -/

section Examples

private def s (x : String) : Str := x.toList

/-- a toy environment: `urljoin` concatenates, URLs are the strings starting with `h`,
canonicalization upper-cases `x` to `X` -/
private def toy : Env where
  httpMatch := httpProtocolMatch
  protocolMatch := fun u => u.head? == some 'h'
  urljoin := fun b u => .ok (b ++ u)
  isUrl := fun u => u.head? == some 'h'
  canon := fun u => .ok (u.map fun c => if c == 'x' then 'X' else c)

/-- non-vacuity: duplicates up to canonicalization are removed, the base (up to
canonicalization) is dropped, `#…`, `mailto:` and empty hrefs are dropped, a relative href is
joined -/
example :
    links toy ⟨true, true⟩ (s "hx/") [s "hx/", s "hX/", s "#a", s "", s "mailto:a", s "r", s "hy", s "hy", s " hy"]
      = ([s "hX/r", s "hy", s "hX/ hy"], none) := by
  unfold s
  simp only [toList_lit]
  decide +kernel

example :
    links toy ⟨false, false⟩ (s "hx/") [s "hx/", s "hX/", s "r", s "hy", s "hy"]
      = ([s "hX/", s "hx/r", s "hy", s "hy"], none) := by
  unfold s
  simp only [toList_lit]
  decide +kernel

/-- an exception of `urljoin` ends the generator after what was already yielded -/
example :
    links { toy with urljoin := fun _ _ => .error .valueError } ⟨false, false⟩ (s "hx/")
        [s "hy", s "r", s "hz"] = ([s "hy"], some .valueError) := by
  unfold s
  simp only [toList_lit]
  decide +kernel

example : shouldFollowHref toy (s " HTTPS://a.com") = true ∧ shouldFollowHref toy (s "http\u017f://a") = true ∧
    shouldFollowHref toy (s "javascript:void(0)") = false ∧ shouldFollowHref toy (s "  #top") = false ∧
    shouldFollowHref toy (s "/a/b") = true ∧ shouldFollowHref toy (s "\u00a0") = false := by
  unfold s
  simp only [toList_lit]
  decide +kernel

end Examples

/-! ## Part B — urls_from_html: the scanners on `str` and on `bytes` -/

/-- **str / bytes independence of the scan.** For every string `d`, scanning its UTF-8
encoding with the byte scanner yields exactly the UTF-8 encodings of what the `str` scanner
yields on `d`, in the same order (script blocks removed, anchors found, groups selected the
same way).  Holds because the scanner is one polymorphic function that only tests symbol
*codes*, and UTF-8 encoding replaces each code point by a block of bytes with the same code
(`utf8_expansion`). -/
theorem scan_bytes_eq_str (d : Str) :
    scan (utf8 d) = (scan d).map utf8 :=
  scan_expand utf8_expansion d

/-- the concrete strict decoder inverts `utf8` (Lean core's round trip) -/
theorem utf8Decode_utf8 (s : Str) : utf8Decode (utf8 s) = .ok s := by
  have : (utf8 s).toByteArray = s.utf8Encode := by simp [utf8, List.utf8Encode]
  simp [utf8Decode, this]

/-- **`urls_from_html` yields the same URLs for a str document and for its UTF-8 bytes**:
for every document `d`, every `unescape` and every decoder that inverts UTF-8 encoding
(`bytes.decode("utf-8", errors)` on valid UTF-8, whatever `errors`), the bytes path does not
raise and returns the list of the str path. -/
theorem urls_from_html_bytes_eq_str (decode : List UInt8 → Except PyErr Str)
    (hdec : ∀ s, decode (utf8 s) = .ok s) (unescape : Str → Str) (d : Str) :
    urlsFromHtmlBytes decode unescape (utf8 d) = .ok (urlsFromHtmlStr unescape d) := by
  unfold urlsFromHtmlBytes urlsFromHtmlStr
  rw [scan_bytes_eq_str]
  generalize scan d = us
  induction us with
  | nil => rfl
  | cons u us ih =>
    simp only [List.map_cons, List.mapM_cons, hdec, ih]
    rfl

/-- non-vacuity of the decoder hypothesis: Lean core's strict UTF-8 decoder satisfies it -/
example (unescape : Str → Str) (d : Str) :
    urlsFromHtmlBytes utf8Decode unescape (utf8 d) = .ok (urlsFromHtmlStr unescape d) :=
  urls_from_html_bytes_eq_str utf8Decode utf8Decode_utf8 unescape d

/-- **one URL per anchor, outside scripts, in document order, stripped and unescaped.** For
every well-formed structured document (anchors with the three quoting styles, extra
attributes before and after the href, upper-case names, closed or not; script blocks whose
body may contain anchors; text; other tags — `Model/HtmlDoc.lean`), `urls_from_html` of the
rendered document is the list of the hrefs of its anchor pieces, each whitespace-stripped and
passed through `html.unescape` (any function). -/
theorem urls_from_html_render (unescape : Str → Str) (doc : Doc) (h : WF doc = true) :
    urlsFromHtmlStr unescape (render doc) =
      (hrefsOutsideScripts doc).map fun href => unescape (strip href) := by
  unfold urlsFromHtmlStr
  rw [scan_render doc h]

/-- the same for the UTF-8 bytes of the document -/
theorem urls_from_html_render_bytes (decode : List UInt8 → Except PyErr Str)
    (hdec : ∀ s, decode (utf8 s) = .ok s) (unescape : Str → Str) (doc : Doc) (h : WF doc = true) :
    urlsFromHtmlBytes decode unescape (utf8 (render doc)) =
      .ok ((hrefsOutsideScripts doc).map fun href => unescape (strip href)) := by
  rw [urls_from_html_bytes_eq_str decode hdec, urls_from_html_render unescape doc h]

section DocExamples

private def t (x : String) : Str := x.toList

/-- a document exercising every piece kind and every quoting style -/
private def sample : Doc :=
  [ .text (t "caf\u00e9 \u00a0 > "),
    .anchor ⟨.dq, t " http://a.com/?a=1&amp;b=2 ", t " class=\"k\"", ' ', t " id=z", false, true, t "x"⟩,
    .script (t " type=\"text/javascript\"") (t "document.write('<a href=\"http://in.script/\">y</a>');") false,
    .anchor ⟨.sq, t "/rel\u017f", [], '\n', [], true, false, []⟩,
    .otherTag (t "br/"),
    .script [] (t "<a href=/s>") true,
    .anchor ⟨.un, t "//c.com/\u212a", t " data-x=1", '\t', t " rel=nofollow", false, true, t "\u2028"⟩ ]

/-- non-vacuity: the sample is well-formed (decided by the kernel), so the theorem applies to
it: three URLs, the anchors inside the two script blocks are not reported -/
private theorem sample_wf : WF sample = true := by
  unfold sample t
  simp only [toList_lit]
  decide +kernel

example : WF sample = true := sample_wf

example : urlsFromHtmlStr id (render sample) =
    [t "http://a.com/?a=1&amp;b=2", t "/rel\u017f", t "//c.com/\u212a"] := by
  rw [urls_from_html_render id sample sample_wf]
  unfold sample t
  simp only [toList_lit]
  decide +kernel

/-- well-formedness is needed: a `"`-quoted href containing a `"` renders to the same text as
a shorter href followed by another attribute, which is what the scanner (and `re`) reports -/
example : ∃ d : Doc, WF d = false ∧ scan (render d) ≠ hrefsOutsideScripts d := by
  refine ⟨[.anchor ⟨.dq, t "x\" y=\"z", [], ' ', [], false, false, []⟩], by decide +kernel, ?_⟩
  have e : render [.anchor ⟨.dq, t "x\" y=\"z", [], ' ', [], false, false, []⟩] =
      render [.anchor ⟨.dq, t "x", [], ' ', t " y=\"z\"", false, false, []⟩] := by decide +kernel
  rw [e, scan_render _ (by decide +kernel)]
  decide +kernel

end DocExamples

/-! ## Table obligations on the regenerated regexes (re-checked after every regeneration) -/

section Tables
open Ural.Gen.Html

/-- every character / position test of the four regexes of urls_from_html.py is
ASCII-determined: literals and set members are ASCII, `\s` and `\b` are the ASCII ones
because the `str` regexes are compiled with `re.ASCII` (and none with `re.LOCALE`); this is
what makes a non-ASCII character and each of its UTF-8 bytes indistinguishable for them -/
theorem html_patterns_ascii_determined :
    urlInHtml.asciiDetermined reASCII reLOCALE reUNICODE = true ∧
    urlInHtmlBinary.asciiDetermined reASCII reLOCALE reUNICODE = true ∧
    scriptTag.asciiDetermined reASCII reLOCALE reUNICODE = true ∧
    scriptTagBinary.asciiDetermined reASCII reLOCALE reUNICODE = true := by decide +kernel

/-- the same fact, exact: the translator of the shared regex framework DID translate
`URL_IN_HTML_RE` (`urlInHtmlRe = some r`: the obligation fails, it does not pass silently, when
a later edit makes the pattern untranslatable), and for every leaf of the term the translator
asked the running `re` engine which of the 0x110000 code points it matches (flags and case
folding included); each answer is a set of ASCII code points or the complement of one. -/
theorem url_in_html_exact_classes_ascii :
    ∃ r, Ural.Gen.HtmlRe.urlInHtmlRe = some r ∧
      Ural.Py.Re.allCls (fun C => C.ranges.all fun r => r.1 ≤ r.2 && r.2 < 128) r = true := by
  have hs : Ural.Gen.HtmlRe.urlInHtmlRe.isSome = true := by decide +kernel
  obtain ⟨r, h⟩ := Option.isSome_iff_exists.mp hs
  refine ⟨r, h, ?_⟩
  have : (Ural.Gen.HtmlRe.urlInHtmlRe.map
    (Ural.Py.Re.allCls fun C => C.ranges.all fun r => r.1 ≤ r.2 && r.2 < 128)).getD false = true := by
    decide +kernel
  simpa [h] using this

/-- the four regexes are case-insensitive, the `str` ones are `re.I | re.ASCII`, and they are
the regexes for `str` (resp. `bytes`) documents -/
theorem html_patterns_flags :
    hasFlag urlInHtml.flags reIGNORECASE = true ∧ hasFlag urlInHtml.flags reASCII = true ∧
    hasFlag scriptTag.flags reIGNORECASE = true ∧ hasFlag scriptTag.flags reASCII = true ∧
    hasFlag urlInHtmlBinary.flags reIGNORECASE = true ∧
    hasFlag scriptTagBinary.flags reIGNORECASE = true ∧
    urlInHtml.isBytes = false ∧ scriptTag.isBytes = false ∧
    urlInHtmlBinary.isBytes = true ∧ scriptTagBinary.isBytes = true := by decide +kernel

/-- the `bytes` regexes are the `str` regexes encoded: same pattern, same tests -/
theorem html_patterns_twins :
    urlInHtmlBinary.pattern = urlInHtml.pattern ∧ urlInHtmlBinary.classes = urlInHtml.classes ∧
    urlInHtmlBinary.ats = urlInHtml.ats ∧ urlInHtmlBinary.groups = urlInHtml.groups ∧
    scriptTagBinary.pattern = scriptTag.pattern ∧ scriptTagBinary.classes = scriptTag.classes ∧
    scriptTagBinary.ats = scriptTag.ats := by decide +kernel

/-- the tests of the patterns are the ones the hand-written scanners make, in the same order:
`<a`, `[^>]`, `\s`, `href=`, the two quoted alternatives, `[^\s>]`, `[^>]`, `>`; and
`<script`, `\b`, `[^<]`, `</script>`, `<`, `[^<]`, `</script>` -/
theorem html_patterns_shape :
    urlInHtml.classes =
      litA.map .lit ++ [.notLit 62, .set false [.cat "CATEGORY_SPACE"]] ++ litHref.map .lit ++
        [.lit 34, .notLit 34, .lit 34, .lit 39, .notLit 39, .lit 39,
         .set true [.cat "CATEGORY_SPACE", .ch 62], .notLit 62, .lit 62] ∧
    urlInHtml.ats = [] ∧ urlInHtml.groups = 3 ∧
    scriptTag.classes =
      litScriptOpen.map .lit ++ [.notLit 60] ++ litScriptClose.map .lit ++ [.lit 60, .notLit 60] ++
        litScriptClose.map .lit ∧
    scriptTag.ats = ["AT_BOUNDARY"] := by decide +kernel

/-- the tests of `HTTP_PROTOCOL_RE` of should_follow_href.py are `^`, then the literals
`h t t p s : / /` in this order (that the `s` is optional is `UrlPattern.http_shape`, on the
`Re` translation), compiled case-insensitive and Unicode-aware (which is why
`httpProtocolMatch` lets U+017F stand for `s`) -/
theorem http_protocol_shape :
    httpProtocol.classes = [104, 116, 116, 112, 115, 58, 47, 47].map .lit ∧
    httpProtocol.ats = ["AT_BEGINNING"] ∧ httpProtocol.isBytes = false ∧
    hasFlag httpProtocol.flags reIGNORECASE = true ∧ hasFlag httpProtocol.flags reUNICODE = true ∧
    hasFlag httpProtocol.flags reASCII = false := by decide +kernel

end Tables

end Ural.Props.C17
