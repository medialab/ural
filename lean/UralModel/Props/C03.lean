import UralModel.Lemmas.C03Fp
import UralModel.Lemmas.StrLit
/-!
# C03 — canonicalize_url ⊑ normalize_url ⊑ fingerprint_url

Reading (DESIGN §6 C03): for equal options on both sides (`platform_aware`, `strip_suffix`,
`quoted`; everything else default)
(a) `canon u = canon v → norm u = norm v`; (b) `norm u = norm v → fp u = fp v`;
(c1) `norm (canon u) = norm u`; (c2) `fp (canon u) = fp u`.

The theorems of THIS file are about what the functions compute from a `Parsed` record, for ALL
records, under the hypothesis `Reparses` ("the printed canonical URL is parsed back into its
components").  `Props/C03String.lean` discharges that hypothesis for the modelled parser
(`Py.parseUrl`: `reparses_reparsedOf`, from C01's `canonicalize_reparse`) and assembles the
STRING-level statements `normalize_canonicalize_string_partial` (c1),
`normalize_of_canon_eq_string_partial` (a), `fingerprint_canonicalize_string_partial` (c2),
`fingerprint_of_normalize_eq_string_partial` (b) about `canonicalizeUrl` / `normalizeUrlString` /
`fingerprintUrlString`.  What stays outside the proofs: that the hand model of `urlsplit` +
accessors is CPython's (compared on every case; the driver lines `c03_bridge`, `c03_lower`
evaluate the two bridging facts on what the REAL parser returned), and that the parse of
`u.lower()` is `lowerParsed` of the parse of `u` (the string-level (b)/(c2) are stated for
strings `str.lower` leaves alone).

`fingerprint_second_pass` and `normalize_port_scheme_blind` are congruence / unfolding LEMMAS used
by the proofs; no clause of the property rests on them alone.
-/
namespace Ural.Props.C03
open Ural Ural.Py Ural.UrlParts Ural.Quote Ural.Normalize Ural.Fingerprint Ural.C03
open Ural.Canonicalize hiding Opts

/-! ## table obligations -/

/-- `%` is in, and only ASCII bytes are in, the unsafe sets of the three text components
`normalize_url` unquotes (unquoting is idempotent) -/
theorem tables_unsafe_sets :
    ((0x25 : UInt8) ∈ Gen.Quote.unsafeForPath ∧ AsciiSet Gen.Quote.unsafeForPath) ∧
    ((0x25 : UInt8) ∈ Gen.Quote.unsafeForQueryItem ∧ AsciiSet Gen.Quote.unsafeForQueryItem) ∧
    ((0x25 : UInt8) ∈ Gen.Quote.unsafeForFragment ∧ AsciiSet Gen.Quote.unsafeForFragment) :=
  ⟨unsafeForPath_ok, unsafeForQueryItem_ok, unsafeForFragment_ok⟩

/-! ## (c1), (a): the factorisation -/

/-- the full statement of (c1) on components: every option setting, every parsed input -/
def FullNormalizeCanonicalize (puny : Str → Str) : Prop :=
  ∀ (o : Opts) (p p' : Parsed) (s0 : Str) (b b' : Bool),
    Reparses (canonComps puny o.quoted false { p with scheme := s0 }) p' →
    normParts puny o b' p' = normParts puny o b p

/-- **factorisation**: `normalize_url` reads a parsed URL only through its canonical components:
`normParts = N ∘ canonComps` with `N := normParts ∘ reparse` (the re-parse of the printed
canonical URL).  `strip_protocol`, `strip_authentication`, `strip_trailing_slash` on (the
defaults), every other documented option free, the same `quoted` on both sides; whatever scheme
canonicalisation assumed for a scheme-less input.  In quoted mode for `QuotedClean` inputs (the
exclusion of the KF-C02-1 family; it really fails outside: next witness). -/
theorem normalize_factors (puny : Str → Str) (hp : PunyLaws puny)
    (o : Opts) (hsp : o.stripProtocol = true) (hsa : o.stripAuthentication = true)
    (hsts : o.stripTrailingSlash = true) (hlc : o.lowercase = false)
    (p : Parsed) (hAbs : absP p.path = true) (hcl : o.quoted = true → QuotedClean p)
    (s0 : Str) (b b' : Bool) :
    normParts puny o b p =
      normParts puny o b' (reparse (canonComps puny o.quoted false { p with scheme := s0 })) :=
  (normParts_reparse_canon puny hp o hsp hsa hsts hlc p _ hAbs hcl s0 (reparses_reparse _) b b').symm

/-- **(c1)** `normalize_url(canonicalize_url(u)) == normalize_url(u)`, on components: what
`normalize_url` computes from ANY re-parse `p'` of the canonical components of `p` is what it
computes from `p`.  (`_partial`: a path that is empty or starts with `/` — every URL with an
authority —; in quoted mode `QuotedClean p`; `platform_aware` and the redirect step act on the
string before parsing and are outside this statement.) -/
theorem normalize_canonicalize_partial (puny : Str → Str) (hp : PunyLaws puny)
    (o : Opts) (hsp : o.stripProtocol = true) (hsa : o.stripAuthentication = true)
    (hsts : o.stripTrailingSlash = true) (hlc : o.lowercase = false)
    (p p' : Parsed) (hAbs : absP p.path = true) (hcl : o.quoted = true → QuotedClean p) (s0 : Str)
    (hR : Reparses (canonComps puny o.quoted false { p with scheme := s0 }) p') (b b' : Bool) :
    normParts puny o b' p' = normParts puny o b p :=
  normParts_reparse_canon puny hp o hsp hsa hsts hlc p p' hAbs hcl s0 hR b b'

/-- **(a)** two parsed URLs with the same canonical components have the same normalized form -/
theorem normalize_of_canon_eq_partial (puny : Str → Str) (hp : PunyLaws puny)
    (o : Opts) (hsp : o.stripProtocol = true) (hsa : o.stripAuthentication = true)
    (hsts : o.stripTrailingSlash = true) (hlc : o.lowercase = false)
    (p₁ p₂ : Parsed) (hAbs₁ : absP p₁.path = true) (hAbs₂ : absP p₂.path = true)
    (hcl₁ : o.quoted = true → QuotedClean p₁) (hcl₂ : o.quoted = true → QuotedClean p₂)
    (hc : canonComps puny o.quoted false p₁ = canonComps puny o.quoted false p₂) (b₁ b₂ : Bool) :
    normParts puny o b₁ p₁ = normParts puny o b₂ p₂ := by
  have h1 := normalize_factors puny hp o hsp hsa hsts hlc p₁ hAbs₁ hcl₁ p₁.scheme b₁ true
  have h2 := normalize_factors puny hp o hsp hsa hsts hlc p₂ hAbs₂ hcl₂ p₂.scheme b₂ true
  rw [h1, h2]
  have e1 : ({ p₁ with scheme := p₁.scheme } : Parsed) = p₁ := rfl
  have e2 : ({ p₂ with scheme := p₂.scheme } : Parsed) = p₂ := rfl
  rw [e1, e2, hc]

/-- the quoted-mode exclusion really fails (replayed on the implementation: KF-C03-4):
`?k=a=b&k=a5` — `canonicalize_url(quoted=True)` escapes the raw `=` of the value, the unquoter
keeps `%3D`, and `%` sorts before `5` where `=` sorted after it -/
example :
    let p : Parsed :=
      { scheme := "http".toList, netloc := "a.com".toList, path := [], query := "k=a=b&k=a5".toList,
        fragment := [], username := none, password := none, hostname := some "a.com".toList, port := none }
    let o : Opts := { quoted := true }
    ¬ QuotedClean p ∧
    (normParts id o true p).query = "k=a5&k=a%3Db".toList ∧
    (normParts id o true (reparse (canonComps id true false p))).query = "k=a%3Db&k=a5".toList := by
  simp only [toList_lit]
  refine ⟨?_, by decide +kernel⟩
  intro h
  have := h.2.1 (['k'], some ['a', '=', 'b']) (by decide +kernel)
  revert this
  decide +kernel

/-- so the full statement of (c1) — every option setting, every parsed input — does not hold of
the model: the quoted-mode exclusion is needed -/
theorem not_fullNormalizeCanonicalize : ¬ FullNormalizeCanonicalize id := by
  intro h
  let p : Parsed :=
    { scheme := "http".toList, netloc := "a.com".toList, path := [], query := "k=a=b&k=a5".toList,
      fragment := [], username := none, password := none, hostname := some "a.com".toList, port := none }
  have h1 := h { quoted := true } p (reparse (canonComps id true false p)) p.scheme true true
    (reparses_reparse _)
  have h2 := congrArg Split.query h1
  revert h2
  simp only [p, toList_lit]
  decide +kernel

/-- LEMMA (the port step of `normalize_canonicalize_partial`, whose statement is what says that
(c1) holds whatever scheme `s0` canonicalisation assumed): `canonicalize_url` drops 80 only
for http and 443 only for https — and assumes https for a scheme-less URL where
`normalize_url` assumes http — but whatever port it dropped, `normalize_url` drops too -/
theorem normalize_port_scheme_blind (s0 : Str) (port : Option Nat) :
    normPort (match port with
      | some n => if defaultPort s0 = some n then none else some n
      | none => none) = normPort port :=
  normPort_canon s0 port

/-- path clause: the path `canonicalize_url` prints resolves, in `normalize_url`, to what the
input path resolves to (`normpath` reads the resolved segments, which the path rule keeps:
`Normpath.normpath_pathOut`) — and with `strip_trailing_slash` the path of the result depends on
nothing else -/
theorem normalize_path_factors (o : Opts) (hsts : o.stripTrailingSlash = true)
    (hlc : o.lowercase = false) (path : Str) (hAbs : absP path = true)
    (hcl : o.quoted = true → Normpath.pathClean path = true) (hm : Bool) (f q f' q' : Str) :
    normPath o (Normpath.pathOut o.quoted path hm) f' q' = normPath o path f q :=
  normPath_canon o hsts hlc path hAbs hcl hm f q f' q'

/-- host clause: `normalize_url`'s hostname is a function of the canonical hostname -/
theorem normalize_host_factors (puny : Str → Str) (hp : PunyLaws puny) (o : Opts) (h : Str) :
    normHost puny o (if h.isEmpty then h else canonHost puny h) = normHost puny o h :=
  normHost_canon puny hp o h

/-- query clause: the items that are filtered and sorted are the items of the canonical query,
and the canonical query is its own canonical query (so `&amp;` is repaired in the same string) -/
theorem normalize_query_factors (Q : Bool) (q : Str) (hcl : Q = true → QslClean q) :
    unquoteQsl (safeQslIter (canonQuery Q q)) = unquoteQsl (safeQslIter q) ∧
    (canonQuery Q q).isEmpty = q.isEmpty ∧
    canonQuery false (canonQuery Q q) = canonQuery false q :=
  ⟨items_canonQuery Q q hcl, canonQuery_isEmpty Q q, canonQuery_modes Q false q hcl⟩

/-! ### witnesses of /repo 5606787 and 2bbc628 -/

/-- `?x=1&a%6Dp;y=2`: the `&amp;` hidden behind an escape is repaired like the plain one -/
example :
    filterQuery {} none (fixQ {} "x=1&a%6Dp;y=2".toList) = filterQuery {} none (fixQ {} "x=1&amp;y=2".toList) ∧
    filterQuery {} none (fixQ {} "x=1&a%6Dp;y=2".toList) = [("x".toList, some "1".toList), ("y".toList, some "2".toList)] := by
  simp only [toList_lit]
  decide +kernel

/-- a decoder sending `xn--bbfacebook` to a non-ASCII label (as the idna codec does): the filter
of `facebook.com` is not chosen for the encoded spelling -/
example :
    let puny : Str → Str := fun l => if l = "xn--bbfacebook".toList then "ᢑᢖ".toList else l
    domainFilter (filterHost puny (some "xn--bbfacebook.com".toList)) = none ∧
    (domainFilter (filterHost puny (some "www.facebook.com".toList))).isSome = true := by
  simp only [toList_lit]
  decide +kernel

/-! ### non-vacuity: a URL with userinfo, `www.`, a default port, dot segments, an index file,
escaped letters, a tracking item, `&amp;`, unsorted items and a fragment -/

example :
    let p : Parsed :=
      { scheme := "http".toList, netloc := "U:P@WWW.A.com:80".toList,
        path := "/x/%2E%2E/%41/index.html".toList, query := "utm_source=1&b=%42&amp;a=1".toList,
        fragment := "top".toList, username := some "U".toList, password := some "P".toList,
        hostname := some "www.a.com".toList, port := some 80 }
    normParts id {} true p =
      { scheme := [], netloc := "a.com".toList, path := "/A".toList, query := "a=1&b=B".toList,
        fragment := some [] } ∧
    normParts id {} true (reparse (canonComps id false false p)) = normParts id {} true p := by
  simp only [toList_lit]
  decide +kernel

/-! ## (b), (c2): `fingerprint_url` from `normalize_url` -/

/-- LEMMA (a congruence, used by (b); not the support of a clause): the second pass of
`fingerprint_url` reads of `normalize_url`'s result: the netloc, and path,
query and fragment up to letter case — nothing else -/
theorem fingerprint_second_pass (E : Env) (ss : Bool) (r₁ r₂ : Split)
    (h : r₁.netloc = r₂.netloc ∧ lower r₁.path = lower r₂.path ∧ lower r₁.query = lower r₂.query ∧
      r₁.fragment.map lower = r₂.fragment.map lower) :
    fpParts E ss r₁ = fpParts E ss r₂ :=
  fpParts_congr E ss r₁ r₂ h.1 h.2.1 h.2.2.1 h.2.2.2

/-- every item `normalize_url`'s filter strips, `fingerprint_url`'s filter strips; and for an
item that passed the former, the latter does not look at the per-domain filter any more (only
`gl` / `hl` are left to strip) -/
theorem fingerprint_filter_absorbs (amp : Bool) (df : Option (List String)) (it : QItem) :
    (shouldStripQueryItem amp .none df it = true → shouldStripQueryItem amp .lang df it = true) ∧
    (shouldStripQueryItem amp .none df it = false →
      shouldStripQueryItem amp .lang df it = shouldStripQueryItem amp .lang none it) :=
  ⟨fun h => by rw [strip_lang_eq, h, Bool.true_or], fun h => by rw [strip_lang_eq, h, Bool.false_or]⟩

/-- the full statement of (b) on components: the parse of the lower-cased string is
`lowerParsed` of the parse (CPython; driver line `c03_lower`) -/
def FullFingerprintOfNormalizeEq : Prop :=
  ∀ (E : Env) (ss : Bool) (p q : Parsed) (b₁ b₂ b₃ b₄ : Bool),
    normParts E.puny {} b₁ p = normParts E.puny {} b₂ q →
    fpParts E ss (normParts E.puny fpOpts b₃ (lowerParsed p)) =
      fpParts E ss (normParts E.puny fpOpts b₄ (lowerParsed q))

/-- **(b)** two parsed URLs with the same normalized form have the same fingerprint — PARTIAL:
for inputs on which lower-casing has nothing to do (`LowerInput`: the URL as parsed, and what
its escapes decode to, are lower-case).  (The query sort depends only on the multiset of items:
C04's `sortQsl_eq_of_perm`.)  Outside that class the statement is FALSE (next example) or explored
by the oracle only. -/
theorem fingerprint_of_normalize_eq_partial (E : Env) (ss : Bool)
    (p q : Parsed) (hLp : LowerInput p) (hLq : LowerInput q) (b₁ b₂ b₃ b₄ : Bool)
    (h : normParts E.puny {} b₁ p = normParts E.puny {} b₂ q) :
    fpParts E ss (normParts E.puny fpOpts b₃ (lowerParsed p)) =
      fpParts E ss (normParts E.puny fpOpts b₄ (lowerParsed q)) :=
  fp_of_norm_eq_lower E ss p q hLp hLq b₁ b₂ b₃ b₄ h

/-- on a lower-case input the inner call of `fingerprint_url` is `normalize_url`'s result with
the query passed through the `gl` / `hl` filter: same netloc, path, fragment -/
theorem fingerprint_inner_call (puny : Str → Str) (p : Parsed)
    (hL : LowerInput p) (b b' : Bool) :
    (normParts puny fpOpts b' (lowerParsed p)).netloc = (normParts puny {} b p).netloc ∧
    (normParts puny fpOpts b' (lowerParsed p)).path = (normParts puny {} b p).path ∧
    (normParts puny fpOpts b' (lowerParsed p)).fragment = (normParts puny {} b p).fragment ∧
    ∃ Q, (normParts puny {} b p).query = safeSerializeQsl Q ∧
      (normParts puny fpOpts b' (lowerParsed p)).query = safeSerializeQsl (fpItems true Q) := by
  obtain ⟨h1, h2, h3, Q, h4, _, h5⟩ :=
    normParts_fp_of_lower puny {} rfl rfl rfl rfl rfl rfl rfl rfl p hL b b'
  exact ⟨h1, h2, h3, Q, h4, h5⟩

/-- **(c2)** `fingerprint_url(canonicalize_url(u)) == fingerprint_url(u)`, on components —
PARTIAL: `p` and the re-parse `p'` of its canonical components both in the lower-case class -/
theorem fingerprint_canonicalize_partial (E : Env)
    (hp : PunyLaws E.puny) (ss : Bool) (p p' : Parsed) (hAbs : absP p.path = true) (s0 : Str)
    (hR : Reparses (canonComps E.puny false false { p with scheme := s0 }) p')
    (hLp : LowerInput p) (hLp' : LowerInput p') (b b' : Bool) :
    fpParts E ss (normParts E.puny fpOpts b' (lowerParsed p')) =
      fpParts E ss (normParts E.puny fpOpts b (lowerParsed p)) :=
  fp_of_norm_eq_lower E ss p' p hLp' hLp true true b' b
    (normParts_reparse_canon E.puny hp {} rfl rfl rfl rfl p p' hAbs (fun e => absurd e (by decide)) s0 hR true true)

/-! ### the excluded region of (b) really fails (replayed on the implementation: KF-C03-3)

`/Index.html` and `/Index.html/index.html` have the same normalized form (the index test is
case-sensitive, and strips one segment), but once lower-cased the first loses its only segment
and the second keeps `/index.html`. -/

def witnessP (path : String) : Parsed :=
  { scheme := "http".toList, netloc := "a.com".toList, path := path.toList, query := [], fragment := [],
    username := none, password := none, hostname := some "a.com".toList, port := none }

example :
    normParts id {} true (witnessP "/Index.html") = normParts id {} true (witnessP "/Index.html/index.html") ∧
    lower (normParts id fpOpts true (lowerParsed (witnessP "/Index.html"))).path = [] ∧
    lower (normParts id fpOpts true (lowerParsed (witnessP "/Index.html/index.html"))).path
      = "/index.html".toList ∧
    ¬ LowerInput (witnessP "/Index.html") := by
  unfold witnessP
  simp only [toList_lit]
  decide +kernel

/-- so the full statement does not hold of the model -/
theorem not_fullFingerprintOfNormalizeEq : ¬ FullFingerprintOfNormalizeEq := by
  intro h
  let E : Env :=
    { puny := id, parse := fun _ => none, platform := id,
      netlocAcc := fun nl => .ok { username := none, password := none, hostname := some nl, port := none },
      walkHost := fun h => .ok (some h), trie := SNode.empty, isCC := fun _ => false }
  have h1 := h E false (witnessP "/Index.html") (witnessP "/Index.html/index.html") true true true true
    (by
      unfold witnessP
      simp only [toList_lit]
      decide +kernel)
  have h2 := congrArg (fun r => match r with | .ok s => s.path | .error _ => []) h1
  revert h2
  unfold witnessP
  simp only [toList_lit]
  decide +kernel

/-! ### non-vacuity of (b): a lower-case URL with a tracking item and a `gl` item -/

example :
    let p : Parsed :=
      { scheme := "http".toList, netloc := "www.a.com".toList, path := "/x/index.html".toList,
        query := "gl=fr&b=2&utm_source=1&a=%61".toList, fragment := [], username := none,
        password := none, hostname := some "www.a.com".toList, port := none }
    LowerInput p ∧
    (normParts id {} true p).query = "a=a&b=2&gl=fr".toList ∧
    (normParts id fpOpts true (lowerParsed p)).query = "a=a&b=2".toList := by
  simp only [toList_lit]
  decide +kernel

end Ural.Props.C03
