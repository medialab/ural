import UralModel.Lemmas.SuffixTrie
import UralModel.Lemmas.SuffixCut
import UralModel.Lemmas.StrSplit
import UralModel.Model.Tld
import UralModel.Gen.SpecialHostsRe
import UralModel.Gen.ProtocolRe
import UralModel.Lemmas.TldUrl
import UralModel.Lemmas.StrLit
/-!
# C08 — suffix and domain extraction follow the Public Suffix List algorithm

The property theorems, and the bounds on the specification they need (helper lemmas:
`Lemmas/SuffixTrie.lean`, `Lemmas/PslSubdomain.lean`, `Lemmas/SuffixCut.lean`, `Lemmas/TldUrl.lean`).

The specification is `Psl.pslLen` (`Model/PslSpec.lean`): the publicsuffix.org algorithm as
a few lines over the *rule list* — longest matching rule, a wildcard label matches exactly
one label, a matching exception rule prevails and yields its parent, no implicit `*` rule.
It never mentions the trie.  Every theorem below is for **every** rule list and **every**
host: nothing is bounded, nothing depends on the bundled data.

Hostnames are what `safe_urlsplit(url).hostname` returns (`none` = Python `None`); labels
travel right-to-left inside the trie and the specification.  The last part of the file
("the hostname given inside a URL") states the same theorems for the functions as they are
called — on a URL *string* — on top of the modelled CPython parser (`Model/TldUrl.lean`).
-/
set_option linter.unusedSectionVars false

namespace Ural.Props.C08
open Ural Ural.Py Ural.Psl Ural.SNode Ural.SuffixTrie Ural.Tld

/-! ## The trie walk is the Public Suffix algorithm (any label type) -/

/-- **Central theorem.**  For every list of rule lines `raws` (each a right-to-left label
list, read as a rule by `parseRule`: normal / wildcard / exception, malformed lines
included) and every host `h`, the suffix length computed by the model of `__walk` on the
trie built by the model of `add` equals the Public Suffix algorithm run over the rule list.
Covers: both children (`part` and `*`) followed, the maximum over the whole frontier, the
early `break` on an empty frontier, exceptions recorded on the parent node and prevailing,
`suffix_length == 0 → None`. -/
theorem walk_eq_psl {κ : Type} [DecidableEq κ] (star : κ) (exc : κ → Option κ)
    (raws : List (List κ)) (h : List κ) :
    walkLen star (SNode.build exc raws) h = pslLen star (raws.map (parseRule exc)) h :=
  walkLen_build star exc raws h

/-- the specification never returns 0 and never more labels than the host has -/
theorem pslLen_bounds {κ : Type} [DecidableEq κ] (star : κ) (R : List (Rule κ)) (h : List κ)
    (n : Nat) (hn : pslLen star R h = some n) : 1 ≤ n ∧ n ≤ h.length := by
  obtain ⟨e, m, he, hm, eq⟩ := pslLen_cases star R h
  have := isBest_le_length he
  have := isBest_le_length hm
  obtain ⟨h0, rfl⟩ := lenOf_eq_some.1 (eq ▸ hn)
  by_cases hpos : e > 0 <;> simp only [hpos, if_true, if_false] at h0 ⊢ <;> omega

/-! ### The clauses of the property, read off the central theorem

The three statements below spell the wording of the property out on the trie side; each is
`walk_eq_psl` followed by a computation on the rule list. -/

/-- **A host matched by no rule has no valid suffix** (there is no implicit `*` rule). -/
theorem no_matching_rule_none {κ : Type} [DecidableEq κ] (star : κ) (exc : κ → Option κ)
    (raws : List (List κ)) (h : List κ)
    (hno : ∀ r ∈ raws.map (parseRule exc), r.matches star h = false) :
    walkLen star (SNode.build exc raws) h = none := by
  rw [walk_eq_psl]
  have hb : ∀ q, IsBest (MatchLen star (raws.map (parseRule exc)) q h) 0 := fun q =>
    ⟨Or.inl rfl, by rintro k ⟨r, hr, _, hx, _⟩; rw [hno r hr] at hx; cases hx⟩
  exact pslLen_of_isBest (hb _) (hb _)

/-- **The suffix is the longest matching rule**: when no exception rule matches the host, and
`ls` is a matching (normal or wildcard) rule that no matching rule exceeds in length, the
suffix has exactly `ls.length` labels — whatever other, shorter, rules and whatever trie
branches (explicit or `*`) the labels of the host also run into. -/
theorem longest_rule_wins {κ : Type} [DecidableEq κ] (star : κ) (exc : κ → Option κ)
    (raws : List (List κ)) (h ls : List κ)
    (hin : Rule.normal ls ∈ raws.map (parseRule exc)) (hm : pmatch star ls h = true)
    (hne : ls ≠ [])
    (hnoexc : ∀ r ∈ raws.map (parseRule exc), r.isException = true → r.matches star h = false)
    (hmax : ∀ r ∈ raws.map (parseRule exc), r.matches star h = true → r.length ≤ ls.length) :
    walkLen star (SNode.build exc raws) h = some ls.length := by
  have hpos : ls.length ≠ 0 := fun e => hne (List.eq_nil_of_length_eq_zero e)
  rw [walk_eq_psl, pslLen_of_isBest (e := 0) (m := ls.length)
    ⟨Or.inl rfl, by rintro k ⟨r, hr, hq, hx, _⟩; rw [hnoexc r hr hq] at hx; cases hx⟩
    ⟨Or.inr (matchLen_normal.2 ⟨ls, hin, hm, rfl⟩),
      by rintro k ⟨r, hr, _, hx, rfl⟩; exact hmax r hr hx⟩]
  simp [lenOf, hpos]

/-- **An exception rule wins and yields its parent as suffix**: when the exception `!l.par`
matches the host and no longer exception does, the suffix is `par` (`par.length` labels) —
even if longer normal or wildcard rules match too. -/
theorem exception_yields_parent {κ : Type} [DecidableEq κ] (star : κ) (exc : κ → Option κ)
    (raws : List (List κ)) (h par : List κ) (l : κ)
    (hin : Rule.exception par l ∈ raws.map (parseRule exc))
    (hm : (Rule.exception par l).matches star h = true) (hne : par ≠ [])
    (hmax : ∀ r ∈ raws.map (parseRule exc), r.isException = true → r.matches star h = true →
      r.length ≤ par.length + 1) :
    walkLen star (SNode.build exc raws) h = some par.length := by
  have hpos : par.length ≠ 0 := fun e => hne (List.eq_nil_of_length_eq_zero e)
  obtain ⟨_, m, _, hm', _⟩ := pslLen_cases star (raws.map (parseRule exc)) h
  rw [walk_eq_psl, pslLen_of_isBest (e := par.length + 1)
    ⟨Or.inr (matchLen_exception.2 ⟨par, l, hin, hm, rfl⟩),
      by rintro k ⟨r, hr, hq, hx, rfl⟩; exact hmax r hr hq hx⟩ hm']
  simp [lenOf, hpos]

/-! Non-vacuity (labels are numbers here: `0` is `*`, `100 + e` is `!e`).  Rule lines, right-to-left:
`*.ck`, `!www.ck` (ck = 1, www = 2) and `*.firenet`, `*.svc.firenet` (firenet = 5, svc = 6):
a wildcard whose label also starts a longer rule. -/
section NonVacuity
def exN (l : Nat) : Option Nat := if l ≥ 100 then some (l - 100) else none
def rawsN : List (List Nat) := [[1, 0], [1, 102], [5, 0], [5, 6, 0]]

example : (rawsN.map (parseRule exN)) =
    [.normal [1, 0], .exception [1] 2, .normal [5, 0], .normal [5, 6, 0]] := by decide +kernel
-- `ck` alone: matched by no rule (the exception does not turn its parent into a suffix)
example : walkLen 0 (SNode.build exN rawsN) [1] = none ∧ pslLen 0 (rawsN.map (parseRule exN)) [1] = none := by decide +kernel
-- `www.ck`: the exception prevails, the suffix is `ck`
example : walkLen 0 (SNode.build exN rawsN) [1, 2] = some 1 ∧ pslLen 0 (rawsN.map (parseRule exN)) [1, 2] = some 1 := by decide +kernel
-- `a.foo.ck`: wildcard, two labels
example : walkLen 0 (SNode.build exN rawsN) [1, 7, 8] = some 2 := by decide +kernel
-- `svc.firenet`: explicit child `svc` next to the wildcard — still a suffix of two labels
example : walkLen 0 (SNode.build exN rawsN) [5, 6] = some 2 ∧ pslLen 0 (rawsN.map (parseRule exN)) [5, 6] = some 2 := by decide +kernel
-- `a.svc.firenet`: the longer wildcard rule wins
example : walkLen 0 (SNode.build exN rawsN) [5, 6, 9] = some 3 := by decide +kernel
-- a malformed line `9.!4.3` (right-to-left: 3, 104, 9) is read as the exception `!4.3`: what is left of `!4` is dropped
example : parseRule exN [3, 104, 9] = .exception [3] 4 := by decide +kernel
-- the hypotheses of `longest_rule_wins` hold for `*.firenet` on host `svc.firenet` (explicit child `svc` exists too)
example : Rule.normal [5, 0] ∈ rawsN.map (parseRule exN) ∧ pmatch 0 [5, 0] [5, 6] = true ∧
    (∀ r ∈ rawsN.map (parseRule exN), r.isException = true → r.matches 0 [5, 6] = false) ∧
    (∀ r ∈ rawsN.map (parseRule exN), r.matches 0 [5, 6] = true → r.length ≤ 2) := by decide +kernel
-- the hypotheses of `exception_yields_parent` hold for `!www.ck` on host `a.www.ck`, where `*.ck` matches too
example : Rule.exception [1] 2 ∈ rawsN.map (parseRule exN) ∧
    (Rule.exception [1] 2).matches 0 [1, 2, 9] = true ∧ (Rule.normal [1, 0]).matches 0 [1, 2, 9] = true := by decide +kernel
-- the hypothesis of `no_matching_rule_none` holds for `ck` alone
example : ∀ r ∈ rawsN.map (parseRule exN), r.matches 0 [1] = false := by decide +kernel
end NonVacuity

/-! ## The class on strings -/

/-- the rule list read off the lines of the suffix list (`reversed(line.split("."))`, a
label starting with `!` makes an exception rule) -/
def rulesOf (lines : List Str) : List (Rule Str) :=
  lines.map (fun l => parseRule strExc (ruleLabels l))

/-- the Public Suffix algorithm on a hostname: number of labels of its public suffix -/
def hostLen (lines : List Str) (hn : Str) : Option Nat :=
  pslLen starStr (rulesOf lines) (hostParts hn).reverse

theorem hostLen_bounds {lines : List Str} {hn : Str} {n : Nat} (h : hostLen lines hn = some n) :
    1 ≤ n ∧ n ≤ (hostParts hn).length := by
  have hb := pslLen_bounds _ _ _ _ h
  rwa [List.length_reverse] at hb

theorem build_eq (lines : List Str) :
    SuffixTrie.build lines = SNode.build strExc (lines.map ruleLabels) := by
  simp only [SuffixTrie.build, SNode.build, List.foldl_map]
  rfl

theorem walkLen_str (lines : List Str) (hn : Str) :
    walkLen starStr (SuffixTrie.build lines) (hostParts hn).reverse = hostLen lines hn := by
  rw [build_eq, walk_eq_psl]
  simp [hostLen, rulesOf, List.map_map, Function.comp_def]

/-- `__walk` in terms of the specification -/
theorem walk_hostLen (lines : List Str) (hn : Str) (hs : isSpecialHost hn = false) :
    walk (SuffixTrie.build lines) (some hn) =
      (hostLen lines hn).map fun n => (hostParts hn, offset (hostParts hn) n) := by
  rw [walk_some _ _ hs, walkLen_str]

/-- **`split` follows the algorithm**: for a non-special host, `split` is `None` exactly when
no rule matches, and otherwise cuts the label list `n` labels from the right, `n` being the
Public Suffix length. -/
theorem split_spec (lines : List Str) (hn : Str) (hs : isSpecialHost hn = false) :
    split (SuffixTrie.build lines) (some hn) =
      (hostLen lines hn).map (fun n =>
        (join dot ((hostParts hn).take ((hostParts hn).length - n)),
         join dot ((hostParts hn).drop ((hostParts hn).length - n)))) := by
  rw [split, walk_hostLen lines hn hs]
  cases hl : hostLen lines hn with
  | none => rfl
  | some n => exact splitOf_offset (hostLen_bounds hl).2

/-- `extract_suffix` returns the last `n` labels -/
theorem extract_suffix_spec (lines : List Str) (hn : Str) (hs : isSpecialHost hn = false) :
    extractSuffix (SuffixTrie.build lines) (some hn) =
      (hostLen lines hn).map (fun n =>
        join dot ((hostParts hn).drop ((hostParts hn).length - n))) := by
  rw [extractSuffix, walk_hostLen lines hn hs]
  cases hl : hostLen lines hn with
  | none => rfl
  | some n => exact suffixOf_offset (hostLen_bounds hl).2

/-- `extract_domain_name` returns the last `n + 1` labels — the suffix plus one label — and
the whole host when the host is itself a suffix -/
theorem extract_domain_name_spec (lines : List Str) (hn : Str) (hs : isSpecialHost hn = false) :
    extractDomainName (SuffixTrie.build lines) (some hn) =
      (hostLen lines hn).map (fun n =>
        join dot ((hostParts hn).drop ((hostParts hn).length - n - 1))) := by
  rw [extractDomainName, walk_hostLen lines hn hs]
  cases hl : hostLen lines hn with
  | none => rfl
  | some n => exact domainOf_offset (hostLen_bounds hl).2

/-- `has_valid_domain_name` ⇔ some rule matches (the algorithm yields a suffix) -/
theorem has_valid_spec (lines : List Str) (hn : Str) (hs : isSpecialHost hn = false) :
    hasValidDomainName (SuffixTrie.build lines) (some hn) = (hostLen lines hn).isSome := by
  rw [hasValidDomainName, walk_hostLen lines hn hs]
  cases hostLen lines hn <;> rfl

/-- a special host (`localhost`, IPv4, IPv6 — whatever `is_special_host` says) or a missing
hostname has no suffix, no domain name, nothing -/
theorem special_or_none_is_none (t : SNode Str) (h : Option Str)
    (hs : h = none ∨ ∃ hn, h = some hn ∧ isSpecialHost hn = true) :
    split t h = none ∧ extractDomainName t h = none ∧ extractSuffix t h = none ∧
      hasValidDomainName t h = false := by
  rcases hs with hs | ⟨hn, hs, hsp⟩ <;> subst hs <;>
    simp [split, extractDomainName, extractSuffix, hasValidDomainName, walk, splitOf, domainOf,
      suffixOf, *]

/-- the lower-cased hostname without trailing dots, `parsed.hostname.lower().rstrip(".")` -/
def hostStr (hn : Str) : Str := rstripChars (lower hn) ['.']

theorem join_hostParts (hn : Str) : join dot (hostParts hn) = hostStr hn := by
  simp [hostParts, hostStr, dot, join_splitOn]

theorem cut_hostLen_rejoin {lines : List Str} {hn d s : Str}
    (h : (hostLen lines hn).map (cut (hostParts hn)) = some (d, s)) :
    (hostLen lines hn = some (hostParts hn).length ∧ d = [] ∧ s = hostStr hn) ∨
      d ++ '.' :: s = hostStr hn := by
  obtain ⟨n, hl, hcut⟩ := Option.map_eq_some_iff.1 h
  obtain ⟨rfl, rfl⟩ : (cut (hostParts hn) n).1 = d ∧ (cut (hostParts hn) n).2 = s := by
    rw [hcut]; exact ⟨rfl, rfl⟩
  rw [← join_hostParts, hl]
  exact (cut_rejoin (hostLen_bounds hl).1 (hostLen_bounds hl).2).imp_left
    fun ⟨e, h1, h2⟩ => ⟨by rw [e], h1, h2⟩

/-- **The two parts of `split` re-join to the lower-cased hostname**: either the host is a
bare suffix (first part empty, second part the whole host), or `first + "." + second` is
the host. -/
theorem split_rejoin (lines : List Str) (hn d s : Str) (hs : isSpecialHost hn = false)
    (h : split (SuffixTrie.build lines) (some hn) = some (d, s)) :
    (hostLen lines hn = some (hostParts hn).length ∧ d = [] ∧ s = hostStr hn) ∨
      d ++ '.' :: s = hostStr hn :=
  cut_hostLen_rejoin (split_spec lines hn hs ▸ h)

/-- **The domain name is the suffix plus exactly one more label** — the label just left of
the suffix — and the host itself when the host is a bare suffix. -/
theorem domain_is_suffix_plus_one (lines : List Str) (hn d s dom : Str)
    (hs : isSpecialHost hn = false)
    (h1 : split (SuffixTrie.build lines) (some hn) = some (d, s))
    (h2 : extractDomainName (SuffixTrie.build lines) (some hn) = some dom) :
    ∃ n, hostLen lines hn = some n ∧
      ((n = (hostParts hn).length ∧ dom = s ∧ dom = hostStr hn) ∨
       (n < (hostParts hn).length ∧
          ∃ lab, (hostParts hn)[(hostParts hn).length - n - 1]? = some lab ∧
            dom = lab ++ '.' :: s)) := by
  rw [split_spec lines hn hs] at h1
  rw [extract_domain_name_spec lines hn hs] at h2
  cases hl : hostLen lines hn with
  | none => simp [hl] at h1
  | some n =>
    have hb := hostLen_bounds hl
    simp only [hl, Option.map_some, Option.some.injEq, Prod.mk.injEq] at h1 h2
    refine ⟨n, rfl, ?_⟩
    by_cases he : n = (hostParts hn).length
    · left
      refine ⟨he, ?_, ?_⟩
      · rw [← h2, ← h1.2]; simp [he]
      · rw [← h2]; simp [he, join_hostParts]
    · right
      have hlt : n < (hostParts hn).length := by omega
      refine ⟨hlt, ?_⟩
      have hi : (hostParts hn).length - n - 1 < (hostParts hn).length := by omega
      refine ⟨(hostParts hn)[(hostParts hn).length - n - 1], by simp [hi], ?_⟩
      rw [← h2, ← h1.2, List.drop_eq_getElem_cons hi]
      have hk : (hostParts hn).length - n - 1 + 1 = (hostParts hn).length - n := by omega
      rw [hk]
      have hB : (hostParts hn).drop ((hostParts hn).length - n) ≠ [] := by
        intro e
        have := congrArg List.length e
        simp only [List.length_drop, List.length_nil] at this
        omega
      rw [join_cons_of_ne_nil _ _ _ hB]; simp [dot]

/-- **Letter case does not matter**: two spellings of a (non-special) hostname that differ
in ASCII letter case only get the same `split`, domain name, suffix and validity. -/
theorem split_case_insensitive (t : SNode Str) (a b : Str) (h : lower a = lower b)
    (ha : isSpecialHost a = false) (hb : isSpecialHost b = false) :
    split t (some a) = split t (some b) ∧
    extractDomainName t (some a) = extractDomainName t (some b) ∧
    extractSuffix t (some a) = extractSuffix t (some b) ∧
    hasValidDomainName t (some a) = hasValidDomainName t (some b) :=
  answers_congr t (walk_congr t (ha.trans hb.symm) (hostParts_of_lower_eq h))

/-- **A trailing dot does not matter** (for non-special hosts) -/
theorem split_trailing_dot (t : SNode Str) (a : Str)
    (ha : isSpecialHost a = false) (hb : isSpecialHost (a ++ ['.']) = false) :
    split t (some (a ++ ['.'])) = split t (some a) ∧
    extractDomainName t (some (a ++ ['.'])) = extractDomainName t (some a) ∧
    extractSuffix t (some (a ++ ['.'])) = extractSuffix t (some a) ∧
    hasValidDomainName t (some (a ++ ['.'])) = hasValidDomainName t (some a) :=
  answers_congr t (walk_congr t (hb.trans ha.symm) (hostParts_append_dot a))

/-! Non-vacuity on strings: `*.ck`, `!www.ck`, `co.uk`, `*.firenet.ch`, `*.svc.firenet.ch`. -/
section NonVacuityStr
def linesS : List Str :=
  ["*.ck".toList, "!www.ck".toList, "co.uk".toList, "*.firenet.ch".toList, "*.svc.firenet.ch".toList]

example : split (SuffixTrie.build linesS) (some "WWW.Example.CO.UK.".toList) =
    some ("www.example".toList, "co.uk".toList) := by
  unfold linesS
  simp only [toList_lit]
  decide +kernel
example : extractDomainName (SuffixTrie.build linesS) (some "www.example.co.uk".toList) =
    some "example.co.uk".toList := by
  unfold linesS
  simp only [toList_lit]
  decide +kernel
example : split (SuffixTrie.build linesS) (some "www.ck".toList) = some ("www".toList, "ck".toList) := by
  unfold linesS
  simp only [toList_lit]
  decide +kernel
example : split (SuffixTrie.build linesS) (some "ck".toList) = none := by
  unfold linesS
  simp only [toList_lit]
  decide +kernel
example : split (SuffixTrie.build linesS) (some "svc.firenet.ch".toList) =
    some ([], "svc.firenet.ch".toList) := by
  unfold linesS
  simp only [toList_lit]
  decide +kernel
example : hostLen linesS "a.b.svc.firenet.ch".toList = some 4 := by
  unfold linesS
  simp only [toList_lit]
  decide +kernel
example : isSpecialHost "www.example.co.uk".toList = false ∧ isSpecialHost "localhostcert.net".toList = false ∧
    isSpecialHost "localhost".toList = true := by
  simp only [toList_lit]
  decide +kernel
example : hasValidTld (fun s => s) ["com".toList] (some "a.b.COM".toList) = true ∧
    hasValidTld (fun s => s) ["com".toList] (some "com.b".toList) = false := by
  simp only [toList_lit]
  decide +kernel
end NonVacuityStr

/-! ## `ural/tld.py` -/

/-- `split_suffix`, `get_domain_name`, `has_valid_suffix` are the trie functions on the trie
that `refresh()` fills with the public then the private suffixes; so everything above holds
for them with `lines = PUBLIC_SUFFIXES ++ PRIVATE_SUFFIXES`. -/
theorem tld_functions_spec (pub priv : List Str) (h : Option Str) :
    suffixTrie pub priv = priv.foldl SuffixTrie.add (pub.foldl SuffixTrie.add SNode.empty) ∧
    splitSuffix pub priv h = split (SuffixTrie.build (pub ++ priv)) h ∧
    getDomainName pub priv h = extractDomainName (SuffixTrie.build (pub ++ priv)) h ∧
    hasValidSuffix pub priv h = hasValidDomainName (SuffixTrie.build (pub ++ priv)) h := by
  refine ⟨by simp [suffixTrie, SuffixTrie.build, List.foldl_append], rfl, rfl, rfl⟩

/-- **`has_valid_tld` depends only on the last label**: it is `is_valid_tld` of the last label,
hence equal for two non-empty hostnames with the same last label. -/
theorem has_valid_tld_last_label_only (puny : Str → Str) (tlds : List Str) (a b : Str)
    (ha : a ≠ []) (hb : b ≠ []) :
    hasValidTld puny tlds (some a) = isValidTld puny tlds (lastLabel a) ∧
    (lastLabel a = lastLabel b → hasValidTld puny tlds (some a) = hasValidTld puny tlds (some b)) := by
  have ea : a.isEmpty = false := by cases a <;> simp_all
  have eb : b.isEmpty = false := by cases b <;> simp_all
  constructor
  · simp [hasValidTld, ea]
  · intro e; simp [hasValidTld, ea, eb, e]

/-- **`is_valid_tld` is case-insensitive** (ASCII) -/
theorem is_valid_tld_case_insensitive (puny : Str → Str) (tlds : List Str) (a b : Str)
    (h : lower a = lower b) : isValidTld puny tlds a = isValidTld puny tlds b := by
  simp only [isValidTld, ← lstripChars_dot_lower, h]

/-- **`has_valid_tld` is case-insensitive** (ASCII) -/
theorem has_valid_tld_case_insensitive (puny : Str → Str) (tlds : List Str) (a b : Str)
    (h : lower a = lower b) :
    hasValidTld puny tlds (some a) = hasValidTld puny tlds (some b) := by
  have hl : lower (lastLabel a) = lower (lastLabel b) := by
    simp only [lastLabel, ← splitLast_snd_lower, h]
  have he : a.isEmpty = b.isEmpty := by
    have := congrArg List.length h
    simp only [lower, List.length_map] at this
    cases a <;> cases b <;> simp_all
  simp only [hasValidTld, he]
  split
  · rfl
  · exact is_valid_tld_case_insensitive puny tlds _ _ hl

/-- **`is_valid_tld` is punycode-insensitive**: under `PunyLaws`, a label and its decoded form
get the same verdict (`l` a single label, e.g. `xn--p1ai` and `рф`). -/
theorem is_valid_tld_puny_insensitive (puny : Str → Str) (laws : PunyLaws puny)
    (tlds : List Str) (l : Str) (hl : '.' ∉ l) :
    isValidTld puny tlds (puny (lower l)) = isValidTld puny tlds l := by
  have h1 : '.' ∉ puny (lower l) := laws.noDot _ (not_mem_lower_dot l hl)
  simp only [isValidTld, lstripChars_of_not_mem _ hl, lstripChars_of_not_mem _ h1, laws.idem]

/-- **two spellings that decode alike get the same verdict**: whenever the codec maps the
lower-cased forms of two (dot-free) labels to the same label — `XN--P1AI`, `xn--p1ai` and `рф`
under a decoder that knows `xn--p1ai` — `is_valid_tld` answers alike; no law needed.  With
`is_valid_tld_puny_insensitive` (a label and what it decodes to: the law `idem`) this is the
"punycode-insensitively" of the property; `punyLaws_demo` below shows a NON-identity decoder
satisfying the laws, with both spellings of `рф` accepted. -/
theorem is_valid_tld_same_decoding (puny : Str → Str) (tlds : List Str) (a b : Str)
    (ha : '.' ∉ a) (hb : '.' ∉ b) (h : puny (lower a) = puny (lower b)) :
    isValidTld puny tlds a = isValidTld puny tlds b := by
  simp only [isValidTld, lstripChars_of_not_mem _ ha, lstripChars_of_not_mem _ hb, h]

/-- the hypothesis structure is satisfiable: the identity decoder obeys `PunyLaws` -/
theorem punyLaws_id : PunyLaws (fun s => s) :=
  ⟨fun s => Ural.Py.lower_idem s, fun _ h => h⟩

/-- a decoder that knows one label, `xn--p1ai` ↦ `рф`: it satisfies the laws and is not the
identity -/
def punyDemo (l : Str) : Str := if l = "xn--p1ai".toList then "рф".toList else l

theorem punyLaws_demo : PunyLaws punyDemo := by
  refine ⟨fun s => ?_, fun s hd => ?_⟩
  · unfold punyDemo
    by_cases h : lower s = "xn--p1ai".toList
    · rw [if_pos h]; decide +kernel
    · rw [if_neg h, Ural.Py.lower_idem, if_neg h]
  · unfold punyDemo
    by_cases h : s = "xn--p1ai".toList
    · rw [if_pos h]; decide +kernel
    · rw [if_neg h]; exact hd

/-- non-vacuity of the punycode clause: the ACE spelling (any case), the Unicode spelling, both
through `has_valid_tld` on a hostname — and a label that decodes to something else -/
example :
    isValidTld punyDemo ["рф".toList] "XN--P1AI".toList = true ∧
    isValidTld punyDemo ["рф".toList] "рф".toList = true ∧
    isValidTld punyDemo ["рф".toList] ".xn--p1ai".toList = true ∧
    isValidTld (fun s => s) ["рф".toList] "xn--p1ai".toList = false ∧
    hasValidTld punyDemo ["рф".toList] (some "кремль.Xn--P1ai".toList) = true ∧
    isValidTld punyDemo ["рф".toList] "xn--p1aj".toList = false ∧
    punyDemo (lower "XN--P1AI".toList) = punyDemo (lower "рф".toList) := by
  unfold punyDemo
  simp only [toList_lit]
  decide +kernel

/-! ## The hostname given inside a URL

`Model/TldUrl.lean`: `safe_urlsplit` (`PROTOCOL_RE`, `"http://"` put in front), the modelled
`urlsplit` and `SplitResult.hostname`, then everything above.  `urlHost url` is the hostname
the modelled parser extracts (`.error` = the `ValueError` of `urlsplit`, which the functions
let through). -/
section Url
open Ural.TldUrl

/-- **The string-level functions are the hostname-level functions on the hostname the parser
extracts** — for every URL string; a `ValueError` of the parser is passed on by all of them. -/
theorem url_functions_via_host (pub priv : List Str) (puny : Str → Str) (tlds : List Str)
    (url : Str) :
    (∀ h, urlHost url = .ok h →
      splitSuffixUrl pub priv url = .ok (splitSuffix pub priv h) ∧
      getDomainNameUrl pub priv url = .ok (getDomainName pub priv h) ∧
      hasValidSuffixUrl pub priv url = .ok (hasValidSuffix pub priv h) ∧
      extractSuffixUrl (suffixTrie pub priv) url = .ok (extractSuffix (suffixTrie pub priv) h) ∧
      hasValidTldUrl puny tlds url = .ok (hasValidTld puny tlds h)) ∧
    (∀ e, urlHost url = .error e →
      splitSuffixUrl pub priv url = .error e ∧ getDomainNameUrl pub priv url = .error e ∧
      hasValidSuffixUrl pub priv url = .error e ∧
      extractSuffixUrl (suffixTrie pub priv) url = .error e ∧
      hasValidTldUrl puny tlds url = .error e) := by
  unfold urlHost splitSuffixUrl getDomainNameUrl hasValidSuffixUrl splitUrl extractDomainNameUrl
    hasValidDomainNameUrl extractSuffixUrl hasValidTldUrl walkUrl
  cases safeUrlsplit url with
  | ok r =>
    constructor
    · intro h hh
      simp only [Except.ok.injEq] at hh
      subst hh
      exact ⟨rfl, rfl, rfl, rfl, rfl⟩
    · intro e he
      cases he
  | error e0 =>
    constructor
    · intro h hh
      cases hh
    · intro e he
      cases e; cases e0
      exact ⟨rfl, rfl, rfl, rfl, rfl⟩

/-- the four answers in which the codec and the TLD table do not occur -/
theorem url_suffix_functions_via_host (pub priv : List Str) {url : Str} {h : Option Str}
    (hh : urlHost url = .ok h) :
    splitSuffixUrl pub priv url = .ok (splitSuffix pub priv h) ∧
    getDomainNameUrl pub priv url = .ok (getDomainName pub priv h) ∧
    hasValidSuffixUrl pub priv url = .ok (hasValidSuffix pub priv h) ∧
    extractSuffixUrl (suffixTrie pub priv) url = .ok (extractSuffix (suffixTrie pub priv) h) :=
  have ⟨h1, h2, h3, h4, _⟩ := (url_functions_via_host pub priv (fun s => s) [] url).1 h hh
  ⟨h1, h2, h3, h4⟩

/-- **For every URL string, the result is what the Public Suffix algorithm gives on the
hostname the parser extracts** (non-special hostname `hn`; `lines` = public then private
suffixes): `split_suffix` cuts the label list `n` labels from the right, `get_domain_name`
keeps `n + 1` labels, `has_valid_suffix` says whether a rule matched — `n = hostLen lines hn`
being `pslLen` over the rule list, `None`/`False` when no rule matches. -/
theorem url_psl_spec (pub priv : List Str) (url hn : Str) (hh : urlHost url = .ok (some hn))
    (hs : isSpecialHost hn = false) :
    splitSuffixUrl pub priv url = .ok ((hostLen (pub ++ priv) hn).map (fun n =>
      (join dot ((hostParts hn).take ((hostParts hn).length - n)),
       join dot ((hostParts hn).drop ((hostParts hn).length - n))))) ∧
    getDomainNameUrl pub priv url = .ok ((hostLen (pub ++ priv) hn).map (fun n =>
      join dot ((hostParts hn).drop ((hostParts hn).length - n - 1)))) ∧
    hasValidSuffixUrl pub priv url = .ok (hostLen (pub ++ priv) hn).isSome ∧
    extractSuffixUrl (suffixTrie pub priv) url = .ok ((hostLen (pub ++ priv) hn).map (fun n =>
      join dot ((hostParts hn).drop ((hostParts hn).length - n)))) := by
  obtain ⟨h1, h2, h3, h4⟩ := url_suffix_functions_via_host pub priv hh
  rw [h1, h2, h3, h4]
  simp only [splitSuffix, getDomainName, hasValidSuffix, suffixTrie]
  rw [split_spec _ _ hs, extract_domain_name_spec _ _ hs, has_valid_spec _ _ hs,
    extract_suffix_spec _ _ hs]
  exact ⟨rfl, rfl, rfl, rfl⟩

/-- **`split_suffix(url)` re-joins to the lower-cased hostname of the URL** (`split_rejoin` on the
URL string): the two parts are `("", host)` for a bare suffix, else `first + "." + second` is the
hostname the parser extracted, lower-cased, without trailing dots. -/
theorem url_split_rejoin (pub priv : List Str) (url hn d s : Str)
    (hh : urlHost url = .ok (some hn)) (hs : isSpecialHost hn = false)
    (h : splitSuffixUrl pub priv url = .ok (some (d, s))) :
    (hostLen (pub ++ priv) hn = some (hostParts hn).length ∧ d = [] ∧ s = hostStr hn) ∨
      d ++ '.' :: s = hostStr hn := by
  obtain ⟨h1, _⟩ := url_suffix_functions_via_host pub priv hh
  rw [h1] at h
  simp only [Except.ok.injEq] at h
  exact split_rejoin (pub ++ priv) hn d s hs h

/-- **`get_domain_name(url)` is the suffix of `split_suffix(url)` plus exactly one more label**
(`domain_is_suffix_plus_one` on the URL string) — the host itself when it is a bare suffix -/
theorem url_domain_is_suffix_plus_one (pub priv : List Str) (url hn d s dom : Str)
    (hh : urlHost url = .ok (some hn)) (hs : isSpecialHost hn = false)
    (h1 : splitSuffixUrl pub priv url = .ok (some (d, s)))
    (h2 : getDomainNameUrl pub priv url = .ok (some dom)) :
    ∃ n, hostLen (pub ++ priv) hn = some n ∧
      ((n = (hostParts hn).length ∧ dom = s ∧ dom = hostStr hn) ∨
       (n < (hostParts hn).length ∧
          ∃ lab, (hostParts hn)[(hostParts hn).length - n - 1]? = some lab ∧
            dom = lab ++ '.' :: s)) := by
  obtain ⟨e1, e2, _⟩ := url_suffix_functions_via_host pub priv hh
  rw [e1] at h1
  rw [e2] at h2
  simp only [Except.ok.injEq] at h1 h2
  exact domain_is_suffix_plus_one (pub ++ priv) hn d s dom hs h1 h2

/-- **The negative cases, as the code treats them**: a URL without hostname (`""`, `/path`,
`http://`, `http:///p`, `//`), or whose hostname is special (`localhost`, `1.2.3.4`, the text
of an IPv6 literal `[::1]` — whatever `is_special_host` accepts), has no suffix, no domain
name and no valid suffix; a URL that `urlsplit` rejects makes every function raise. -/
theorem url_negative_cases (pub priv : List Str) (url : Str)
    (h : urlHost url = .ok none ∨ ∃ hn, urlHost url = .ok (some hn) ∧ isSpecialHost hn = true) :
    splitSuffixUrl pub priv url = .ok none ∧ getDomainNameUrl pub priv url = .ok none ∧
    hasValidSuffixUrl pub priv url = .ok false ∧
    extractSuffixUrl (suffixTrie pub priv) url = .ok none := by
  have key : ∃ ho, urlHost url = .ok ho ∧
      (ho = none ∨ ∃ hn, ho = some hn ∧ isSpecialHost hn = true) := by
    rcases h with h | ⟨hn, h, hsp⟩
    · exact ⟨none, h, Or.inl rfl⟩
    · exact ⟨some hn, h, Or.inr ⟨hn, rfl, hsp⟩⟩
  obtain ⟨ho, hh, hcase⟩ := key
  obtain ⟨h1, h2, h3, h4⟩ := url_suffix_functions_via_host pub priv hh
  obtain ⟨a, b, c, d⟩ := special_or_none_is_none (suffixTrie pub priv) ho hcase
  rw [h1, h2, h3, h4]
  simp only [splitSuffix, getDomainName, hasValidSuffix, a, b, c, d, and_self]

/-- **Scheme, userinfo, port, path, query and fragment do not matter; nor does the ASCII
letter case of the host.**  Whatever stands before the authority (`scheme://` for any scheme
of 1–64 ASCII letters in any case, `//`, or nothing), whatever userinfo and port text the
authority carries and whatever follows it (`rest`: empty or starting with `/`, `?` or `#`),
the hostname the parser extracts from `lead ++ userinfo@host:port ++ rest` is the
lower-cased host. -/
theorem url_host_of_parts (l : Lead) (ui : Option Str) (host : Str) (port : Option Str)
    (rest : Str) (hl : l.Ok (netlocOf ui host port ++ rest)) (hu : UiChars ui)
    (hh : HostChars host) (hp : PortChars port) (hc : NetlocChars (netlocOf ui host port))
    (hr : RestOk rest) :
    urlHost (assemble l ui host port rest) = .ok (some (lower host)) :=
  urlHost_assemble l ui host port rest hl hu hh hp hc hr

/-- the five functions on an assembled URL are the hostname-level functions on the
lower-cased host -/
theorem url_functions_of_parts (pub priv : List Str) (puny : Str → Str) (tlds : List Str)
    (l : Lead) (ui : Option Str) (host : Str) (port : Option Str)
    (rest : Str) (hl : l.Ok (netlocOf ui host port ++ rest)) (hu : UiChars ui)
    (hh : HostChars host) (hp : PortChars port) (hc : NetlocChars (netlocOf ui host port))
    (hr : RestOk rest) :
    splitSuffixUrl pub priv (assemble l ui host port rest) =
      .ok (splitSuffix pub priv (some (lower host))) ∧
    getDomainNameUrl pub priv (assemble l ui host port rest) =
      .ok (getDomainName pub priv (some (lower host))) ∧
    hasValidSuffixUrl pub priv (assemble l ui host port rest) =
      .ok (hasValidSuffix pub priv (some (lower host))) ∧
    extractSuffixUrl (suffixTrie pub priv) (assemble l ui host port rest) =
      .ok (extractSuffix (suffixTrie pub priv) (some (lower host))) ∧
    hasValidTldUrl puny tlds (assemble l ui host port rest) =
      .ok (hasValidTld puny tlds (some (lower host))) :=
  (url_functions_via_host pub priv puny tlds _).1 _
    (url_host_of_parts l ui host port rest hl hu hh hp hc hr)

/-- **Two URLs whose hosts differ in ASCII letter case only get the same answers**, whatever
their schemes, userinfos, ports, paths, queries and fragments are. -/
theorem url_invariance (pub priv : List Str) (puny : Str → Str) (tlds : List Str)
    (l l' : Lead) (ui ui' : Option Str) (host host' : Str) (port port' : Option Str)
    (rest rest' : Str)
    (hl : l.Ok (netlocOf ui host port ++ rest)) (hu : UiChars ui)
    (hh : HostChars host) (hp : PortChars port) (hc : NetlocChars (netlocOf ui host port))
    (hr : RestOk rest)
    (hl' : l'.Ok (netlocOf ui' host' port' ++ rest')) (hu' : UiChars ui')
    (hh' : HostChars host') (hp' : PortChars port')
    (hc' : NetlocChars (netlocOf ui' host' port')) (hr' : RestOk rest')
    (hcase : lower host = lower host') :
    splitSuffixUrl pub priv (assemble l ui host port rest) =
      splitSuffixUrl pub priv (assemble l' ui' host' port' rest') ∧
    getDomainNameUrl pub priv (assemble l ui host port rest) =
      getDomainNameUrl pub priv (assemble l' ui' host' port' rest') ∧
    hasValidSuffixUrl pub priv (assemble l ui host port rest) =
      hasValidSuffixUrl pub priv (assemble l' ui' host' port' rest') ∧
    hasValidTldUrl puny tlds (assemble l ui host port rest) =
      hasValidTldUrl puny tlds (assemble l' ui' host' port' rest') := by
  obtain ⟨a1, a2, a3, _, a5⟩ :=
    url_functions_of_parts pub priv puny tlds l ui host port rest hl hu hh hp hc hr
  obtain ⟨b1, b2, b3, _, b5⟩ :=
    url_functions_of_parts pub priv puny tlds l' ui' host' port' rest' hl' hu' hh' hp' hc' hr'
  rw [a1, a2, a3, a5, b1, b2, b3, b5, hcase]
  exact ⟨rfl, rfl, rfl, rfl⟩

/-- **Given bare or inside a URL**: the answers on `lead ++ userinfo@host:port ++ rest` are
the answers on the string `host` alone. -/
theorem url_same_as_bare_host (pub priv : List Str) (puny : Str → Str) (tlds : List Str)
    (l : Lead) (ui : Option Str) (host : Str) (port : Option Str)
    (rest : Str) (hl : l.Ok (netlocOf ui host port ++ rest)) (hu : UiChars ui)
    (hh : HostChars host) (hp : PortChars port) (hc : NetlocChars (netlocOf ui host port))
    (hr : RestOk rest) :
    splitSuffixUrl pub priv (assemble l ui host port rest) = splitSuffixUrl pub priv host ∧
    getDomainNameUrl pub priv (assemble l ui host port rest) = getDomainNameUrl pub priv host ∧
    hasValidSuffixUrl pub priv (assemble l ui host port rest) = hasValidSuffixUrl pub priv host ∧
    hasValidTldUrl puny tlds (assemble l ui host port rest) = hasValidTldUrl puny tlds host := by
  have hch : NetlocChars host := by
    simp only [NetlocChars, netlocOf, List.forall_mem_append] at hc
    exact hc.1.2
  have e : assemble .bare none host none [] = host := by
    simp [assemble, Lead.str, netlocOf_none]
  have := url_invariance pub priv puny tlds l .bare ui none host host port none rest []
    hl hu hh hp hc hr (bare_host_ok host hh hch) (by intro u hu; cases hu) hh
    (by intro p hp; cases hp) ((netlocOf_none host).symm ▸ hch) (by intro c hc; cases hc) rfl
  rwa [e] at this

/-- **String-level statement of the property for assembled URLs**: for every lead, userinfo,
port and rest, and every host text whose lower-cased form is not special, `split_suffix`,
`get_domain_name` and `has_valid_suffix` of the URL are given by the Public Suffix algorithm
(`hostLen = pslLen` over the rule list) run on the labels of the host — lower-cased, trailing
dots removed. -/
theorem url_psl_of_parts (pub priv : List Str)
    (l : Lead) (ui : Option Str) (host : Str) (port : Option Str)
    (rest : Str) (hl : l.Ok (netlocOf ui host port ++ rest)) (hu : UiChars ui)
    (hh : HostChars host) (hp : PortChars port) (hc : NetlocChars (netlocOf ui host port))
    (hr : RestOk rest) (hs : isSpecialHost (lower host) = false) :
    splitSuffixUrl pub priv (assemble l ui host port rest) =
      .ok ((hostLen (pub ++ priv) host).map (fun n =>
        (join dot ((hostParts host).take ((hostParts host).length - n)),
         join dot ((hostParts host).drop ((hostParts host).length - n))))) ∧
    getDomainNameUrl pub priv (assemble l ui host port rest) =
      .ok ((hostLen (pub ++ priv) host).map (fun n =>
        join dot ((hostParts host).drop ((hostParts host).length - n - 1)))) ∧
    hasValidSuffixUrl pub priv (assemble l ui host port rest) =
      .ok (hostLen (pub ++ priv) host).isSome := by
  have hp' := hostParts_lower host
  have hl' : hostLen (pub ++ priv) (lower host) = hostLen (pub ++ priv) host := by
    simp only [hostLen, hp']
  obtain ⟨a, b, c, _⟩ := url_psl_spec pub priv _ _
    (url_host_of_parts l ui host port rest hl hu hh hp hc hr) hs
  rw [a, b, c, hp', hl']
  exact ⟨rfl, rfl, rfl⟩

/-- … and re-join / suffix-plus-one for assembled URLs: whatever the lead, userinfo, port and
rest, the two parts of `split_suffix` re-join to the lower-cased host text without trailing dots,
and `get_domain_name` is the suffix plus one label -/
theorem url_rejoin_of_parts (pub priv : List Str)
    (l : Lead) (ui : Option Str) (host : Str) (port : Option Str)
    (rest : Str) (hl : l.Ok (netlocOf ui host port ++ rest)) (hu : UiChars ui)
    (hh : HostChars host) (hp : PortChars port) (hc : NetlocChars (netlocOf ui host port))
    (hr : RestOk rest) (hs : isSpecialHost (lower host) = false) (d s : Str)
    (h : splitSuffixUrl pub priv (assemble l ui host port rest) = .ok (some (d, s))) :
    ((d = [] ∧ s = hostStr host) ∨ d ++ '.' :: s = hostStr host) ∧
    ∃ dom, getDomainNameUrl pub priv (assemble l ui host port rest) = .ok (some dom) ∧
      (dom = s ∨ ∃ lab ∈ hostParts host, dom = lab ++ '.' :: s) := by
  have hhost := url_host_of_parts l ui host port rest hl hu hh hp hc hr
  have hstr : hostStr (lower host) = hostStr host := by simp only [hostStr, lower_idem]
  have hparts := hostParts_lower host
  constructor
  · rcases url_split_rejoin pub priv _ _ d s hhost hs h with ⟨_, h1, h2⟩ | h1
    · exact Or.inl ⟨h1, by rw [h2, hstr]⟩
    · exact Or.inr (by rw [h1, hstr])
  · obtain ⟨a, b, _⟩ := url_psl_spec pub priv _ _ hhost hs
    rw [a] at h
    cases hlen : hostLen (pub ++ priv) (lower host) with
    | none => rw [hlen] at h; simp at h
    | some n =>
      rw [hlen] at b
      refine ⟨_, b, ?_⟩
      obtain ⟨n', hn', hcase⟩ := url_domain_is_suffix_plus_one pub priv _ _ d s _ hhost hs
        (by rw [a]; exact h) b
      rcases hcase with ⟨_, h1, _⟩ | ⟨_, lab, hlab, h1⟩
      · exact Or.inl h1
      · exact Or.inr ⟨lab, hparts ▸ List.mem_of_getElem? hlab, h1⟩

/-- **NFKC look-alikes of the delimiters make every function raise.**  An authority that holds
a character whose compatibility form contains one of `/ ? # @ :` (U+FF0F `／`, U+FF1A `：`,
U+2100 `℀`, … — `nfkcDelim`, the regenerated table) is refused by `urlsplit` (`_checknetloc`):
`split_suffix`, `get_domain_name`, `has_valid_suffix`, `has_valid_tld` raise `ValueError`, they
do not answer for the host `ａ／b.com`.  This is the complement of `NetlocChars` in
`url_host_of_parts` / `url_psl_of_parts` (whose third conjunct excludes exactly these). -/
theorem url_nfkc_rejected (pub priv : List Str) (puny : Str → Str) (tlds : List Str)
    (l : Lead) (nl rest : Str) (hl : l.Ok (nl ++ rest)) (hnl : NetlocSyntax nl)
    (hr : RestOk rest) (hx : nfkcRejects nl = true) :
    urlHost (l.str ++ nl ++ rest) = .error .valueError ∧
    splitSuffixUrl pub priv (l.str ++ nl ++ rest) = .error .valueError ∧
    getDomainNameUrl pub priv (l.str ++ nl ++ rest) = .error .valueError ∧
    hasValidSuffixUrl pub priv (l.str ++ nl ++ rest) = .error .valueError ∧
    hasValidTldUrl puny tlds (l.str ++ nl ++ rest) = .error .valueError := by
  have h := urlHost_lead_nfkc l nl rest hl hnl hr hx
  obtain ⟨a, b, c, _, e⟩ := (url_functions_via_host pub priv puny tlds _).2 _ h
  exact ⟨h, a, b, c, e⟩

/-- **A trailing dot on the host inside a URL does not matter** (non-special hosts) -/
theorem url_trailing_dot (pub priv : List Str)
    (l : Lead) (ui : Option Str) (host : Str) (port : Option Str) (rest : Str)
    (hl : l.Ok (netlocOf ui host port ++ rest))
    (hld : l.Ok (netlocOf ui (host ++ ['.']) port ++ rest)) (hu : UiChars ui)
    (hh : HostChars host) (hp : PortChars port) (hc : NetlocChars (netlocOf ui host port))
    (hr : RestOk rest) (hs : isSpecialHost (lower host) = false)
    (hsd : isSpecialHost (lower host ++ ['.']) = false) :
    splitSuffixUrl pub priv (assemble l ui (host ++ ['.']) port rest) =
      splitSuffixUrl pub priv (assemble l ui host port rest) ∧
    getDomainNameUrl pub priv (assemble l ui (host ++ ['.']) port rest) =
      getDomainNameUrl pub priv (assemble l ui host port rest) ∧
    hasValidSuffixUrl pub priv (assemble l ui (host ++ ['.']) port rest) =
      hasValidSuffixUrl pub priv (assemble l ui host port rest) := by
  have hcd : NetlocChars (netlocOf ui (host ++ ['.']) port) := by
    simp only [NetlocChars, netlocOf, List.forall_mem_append] at hc ⊢
    exact ⟨⟨hc.1.1, hc.1.2, by decide⟩, hc.2⟩
  obtain ⟨a1, a2, a3, _⟩ := url_suffix_functions_via_host pub priv
    (url_host_of_parts l ui host port rest hl hu hh hp hc hr)
  obtain ⟨b1, b2, b3, _⟩ := url_suffix_functions_via_host pub priv
    (url_host_of_parts l ui (host ++ ['.']) port rest hld hu (hostChars_dot host hh) hp hcd hr)
  obtain ⟨t1, t2, _, t4⟩ := split_trailing_dot (suffixTrie pub priv) (lower host) hs hsd
  rw [a1, a2, a3, b1, b2, b3, lower_append_dot]
  simp only [splitSuffix, getDomainName, hasValidSuffix, t1, t2, t4, and_self]

/-- **IP literals**: from `lead ++ userinfo@[h]:port ++ rest` the parser extracts the text
between the brackets (lower-cased up to a `%zone`) when `urlsplit` accepts it, and raises
`ValueError` otherwise; `[::1]`, `[2001:db8::1]` … are then special hosts
(`url_negative_cases`). -/
theorem url_host_bracketed (l : Lead) (ui : Option Str) (h : Str) (port : Option Str)
    (rest : Str) (hl : l.Ok (netlocBr ui h port ++ rest)) (hu : UiChars ui)
    (hh : BrChars h) (hp : PortChars port) (hc : NetlocChars (netlocBr ui h port))
    (hr : RestOk rest) :
    urlHost (l.str ++ netlocBr ui h port ++ rest) =
      if bracketedHostOk h then .ok (if h = [] then none else some (lowerHost h))
      else .error .valueError := by
  rw [urlHost_lead l _ rest hl hc hr, netlocOk_netlocBr ui h port hu hh hp,
    hostname_netlocBr ui h port hh hp]

/-! Non-vacuity of the URL-level statements, on `*.ck`, `!www.ck`, `co.uk`, `*.firenet.ch`,
`*.svc.firenet.ch` (public) and no private rule. -/
section NonVacuityUrl

example : splitSuffixUrl linesS [] "HTTPS://user:pw@WWW.Example.CO.UK.:8080/p?q=1#f".toList =
    .ok (some ("www.example".toList, "co.uk".toList)) := by
  unfold linesS
  simp only [toList_lit]
  decide +kernel
example : getDomainNameUrl linesS [] "www.example.co.uk:80/p".toList =
    .ok (some "example.co.uk".toList) := by
  unfold linesS
  simp only [toList_lit]
  decide +kernel
example : splitSuffixUrl linesS [] "//a.www.ck/x".toList = .ok (some ("a.www".toList, "ck".toList)) := by
  unfold linesS
  simp only [toList_lit]
  decide +kernel
-- negative cases
example : splitSuffixUrl linesS [] "http://[::1]:80/x".toList = .ok none ∧
    splitSuffixUrl linesS [] "localhost:8080".toList = .ok none ∧
    splitSuffixUrl linesS [] "http://1.2.3.4/co.uk".toList = .ok none ∧
    splitSuffixUrl linesS [] "".toList = .ok none ∧
    splitSuffixUrl linesS [] "/co.uk".toList = .ok none ∧
    splitSuffixUrl linesS [] "http:///co.uk".toList = .ok none ∧
    splitSuffixUrl linesS [] "http://ck/".toList = .ok none ∧
    hasValidSuffixUrl linesS [] "http://[::1/x".toList = .error .valueError := by
  unfold linesS
  simp only [toList_lit]
  refine ⟨?_, ?_, ?_, ?_, ?_, ?_, ?_, ?_⟩ <;> decide +kernel
-- empty labels are ordinary labels: `a..co.uk` has the suffix `co.uk`
example : splitSuffixUrl linesS [] "http://a..co.uk/".toList = .ok (some ("a.".toList, "co.uk".toList)) := by
  unfold linesS
  simp only [toList_lit]
  decide +kernel
-- the hypotheses of `url_psl_of_parts` hold for a scheme / userinfo / port / path URL
example : (Lead.scheme "HTTPS".toList).Ok (netlocOf (some "user:pw".toList) "WWW.Example.CO.UK".toList
      (some "8080".toList) ++ "/p?q=1#f".toList) ∧
    UiChars (some "user:pw".toList) ∧ HostChars "WWW.Example.CO.UK".toList ∧
    PortChars (some "8080".toList) ∧
    NetlocChars (netlocOf (some "user:pw".toList) "WWW.Example.CO.UK".toList (some "8080".toList)) ∧
    RestOk "/p?q=1#f".toList ∧ isSpecialHost (lower "WWW.Example.CO.UK".toList) = false := by
  simp only [toList_lit]
  refine ⟨?_, ?_, ?_, ?_, ?_, ?_, ?_⟩ <;> decide +kernel
-- … and for a scheme-less one (`Lead.bare`): `host:80/p` is not mistaken for a scheme
example : Lead.bare.Ok (netlocOf none "a.co.uk".toList (some "80".toList) ++ "/p".toList) := by
  show protoLen _ = none
  decide +kernel
-- the one ambiguous scheme-less spelling is excluded by `Lead.Ok`: `abc://x` has the host `x`
example : urlHost "abc://x".toList = .ok (some "x".toList) ∧
    ¬ Lead.bare.Ok (netlocOf none "abc".toList (some []) ++ "//x".toList) := by
  refine ⟨by decide +kernel, ?_⟩
  show ¬ (protoLen _ = none)
  decide +kernel
-- a scheme that is not made of letters only is not a scheme for `PROTOCOL_RE`: the hypothesis
-- `AlphaProto` of `Lead.Ok` is needed
example : urlHost "svn+ssh://a.co.uk/".toList = .ok (some "svn+ssh".toList) := by
  simp only [toList_lit]
  decide +kernel

-- the NFKC check: fullwidth solidus / colon / commercial at, `℀` (a/c) in the authority
example : splitSuffixUrl linesS [] "http://ａ／b.co.uk/".toList = .error .valueError ∧
    urlHost "http://a：b.co.uk/".toList = .error .valueError ∧
    urlHost "u＠a.co.uk".toList = .error .valueError ∧
    urlHost "//℀.co.uk".toList = .error .valueError ∧
    -- … but not behind the authority, and not for other fullwidth characters
    urlHost "http://a.co.uk/／".toList = .ok (some "a.co.uk".toList) ∧
    urlHost "http://ａ.co.uk/".toList = .ok (some "ａ.co.uk".toList) := by
  unfold linesS
  simp only [toList_lit]
  decide +kernel
example : NetlocSyntax "ａ／b.co.uk".toList ∧ nfkcRejects "ａ／b.co.uk".toList = true ∧
    ¬ NetlocChars "ａ／b.co.uk".toList ∧ NetlocChars "ａ.co.uk".toList := by
  simp only [toList_lit]
  decide +kernel

end NonVacuityUrl

end Url

/-! ## table obligation -/

/-- the hand-written `isSpecialHost` answers like the real compiled `SPECIAL_HOSTS_RE` on
every probe host regenerated from the source for this run -/
theorem special_hosts_probes :
    Ural.Gen.SpecialHostsRe.probes.all (fun p => isSpecialHost p.1 == p.2) = true := by
  decide +kernel

/-- the NFKC check of `urlsplit` may be made character by character (no canonical decomposition
of the running Unicode database has a delimiter as a component, so recomposition never absorbs
one), and the refused code points are all non-ASCII (`netloc.isascii()` short-cut).  The table
itself is free to change with the Unicode version. -/
theorem nfkc_check_charwise :
    Gen.nfkcCharwise = true ∧ Gen.nfkcDelimCodes.all (fun n => decide (128 ≤ n)) = true ∧
    Gen.nfkcDelimCodes ≠ [] := by decide +kernel

/-- the pattern of `PROTOCOL_RE` found in the source is the one `protoLen` (used by the model
of `safe_urlsplit`) was written for -/
theorem protocol_pattern_unchanged :
    Gen.protocolRePattern = protocolPatternModelled ∧ Gen.protocolReFlags = 32 :=
  protocolRe_modelled

end Ural.Props.C08
