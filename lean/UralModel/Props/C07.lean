import UralModel.Lemmas.C07Bridge
import UralModel.Lemmas.C07Canon
import UralModel.Lemmas.Fingerprint
import UralModel.Lemmas.StrLit
/-!
# C07 — hostname and LRU-stem helpers agree with the URL-level functions

Every claim of the property compares two code paths of ural; both are in the model
(`Model/Normalize.lean`, `Model/Fingerprint.lean`, `Model/Lru.lean`, `Model/LruVariants.lean`,
`Model/C07.lean`), so every theorem is an equation between two model functions, for all inputs.

What is CPython (`urlsplit`, the `SplitResult` accessors) is a parameter of the model functions
(`parse`, `hostOf`, `netlocAcc`, `split5`).  The URL-level theorems take what they need from it
as explicit hypotheses **about the input at hand** (never as universally quantified "facts"):

* `hsame`  — the parser finds the same host in the string the helper builds
             (`ensure_protocol(strip(control-free(u)))`) and in the string the URL function builds
             (`"http://" +` / `upper_quoted` of the same cleaned string): the two strings differ
             by `http:` in front of a leading `//` and by the case of percent-escapes;
* `hclean` — that host is clean (`CleanHost`: lower-case, no control character — both
             consequences of the cleaning — and no leading/trailing whitespace: the reading);
* `hacc`/`hhost` — `.hostname` of the tuple `normalize_url` assembled reads back the hostname that
             `unsplit_netloc` wrote;
* `ReparseOk` — `urlsplit(ensure_protocol(urlunsplit(t)))` has the components of `t`
             (the round-trip development, `Lemmas/UrlRoundTrip.lean`).

Each of them is evaluated against the real parser on every case of every run (harness/props/C07.py:
`assumptions_hold`, tag `assume`, driver op `c07_true`; and the oracle, which states the agreements on the implementation alone).  The claim
that does not leave the modelled parser (`get_hostname`) is proved without any hypothesis; those
about bare hostnames stand in `Props/C07Whole.lean`, where a bare hostname is a string of the class.
-/
namespace Ural.Props.C07
open Ural.Py Ural.UrlParts Ural.Normalize Ural.Fingerprint Ural.LruVariants Ural.C07
open Ural.Lru (Parts lruStems lruStemsT strStem render)

/-- table obligation: the two `IRRELEVANT_SUBDOMAIN` patterns of ural, as regenerated from the
source, are the ones `subdomainSub` was written from (the labels `www\d?`, `mobile`, `amp`, `m`) —
same obligation as C05's; the hostname claims rest on `subdomainSub` being shared by both code
paths -/
theorem irrelevant_labels_ascii :
    Gen.Normalize.irrelevantSubdomainPattern = "(?:^|(?<=\\.))(?:www\\d?|mobile|m)\\." ∧
    Gen.Normalize.irrelevantSubdomainAmpPattern = "(?:^|(?<=\\.))(?:www\\d?|mobile|amp|m)\\." := 
  ⟨rfl, rfl⟩

/-! The facts about the modelled parser and the two `PROTOCOL_RE` matchers on which the hypothesis-free
claims below rest, under the names of this property (proofs: `Lemmas/C07Bridge.lean`). -/

/-- `http:` in front of a scheme-relative URL does not change the host (modelled parser) -/
theorem hostOfModel_scheme_relative (r : Str) :
    hostOfModel ("http:".toList ++ '/' :: '/' :: r) = hostOfModel ('/' :: '/' :: r) :=
  Ural.C07.hostOfModel_scheme_relative r

/-- the two hand matchers of `PROTOCOL_RE` (C01's and C20's) are the same function -/
theorem protoLen_eq (s : Str) : Ural.protoLen s = UrlParts.protoLen s := Ural.C07.protoLen_eq s

/-- same host in the helper's string and in `normalize_url`'s string (modelled parser,
percent-free cleaned URL) -/
theorem same_host_model (c : Str) (h : '%' ∉ c) :
    hostOfModel (ensureProtocol c httpStr) = hostOfModel (ensureHttp (Ural.Quote.upperQuoted c)) :=
  Ural.C07.same_host_model c h

/-- the hostname the modelled parser returns for a control-free, percent-free string is
lower-case and control-free -/
theorem cleanHost_of_model (s h : Str) (hp : '%' ∉ s) (hctl : stripControl s = s)
    (hh : hostOfModel s = some h) (hstrip : strip h = h) : CleanHost h :=
  Ural.C07.cleanHost_of_model s h hp hctl hh hstrip

/-- the string the hostname helpers hand to the parser: `ensure_protocol` of the cleaned (and, on
request, redirection-resolved) URL -/
def helperString (inferRedirection : Bool) (url : Str) : Str :=
  ensureProtocol (strip (stripControl (if inferRedirection then infer url else url))) "http".toList

theorem getNormalizedHostname_eq (puny : Str → Str) (hostOf : Str → Option Str) (amp ir : Bool)
    (url : Str) :
    getNormalizedHostname puny hostOf amp ir url =
      match hostOf (helperString ir url) with
      | none => none
      | some h => if h.isEmpty then none else some (normalizeHostname puny amp h) := rfl

theorem getFingerprintedHostname_eq (E : Env) (hostOf : Str → Option Str) (ir sfx : Bool) (url : Str) :
    getFingerprintedHostname E hostOf ir sfx url =
      match hostOf (helperString ir (lower url)) with
      | none => .ok none
      | some h => if h.isEmpty then .ok none else (fingerprintHostname E sfx h).map some := rfl

/-- `fpHost` is the host step of `fpParts` (`fpHostOut`, `fpParts_eq`) on the accessors of the netloc -/
theorem fpHost_of_acc {E : Env} {r : Split} {a : Accessors} (hacc : E.netlocAcc r.netloc = .ok a)
    (s : Bool) : fpHost E s r = fpHostOut E s a.hostname := by
  unfold fpHost fpHostOut
  simp only [hacc]
  cases a.hostname <;> rfl

theorem normHost_eq_normalizeHostname (puny : Str → Str) (o : Opts)
    (hs : o.stripIrrelevantSubdomains = true) (h : Str) (hc : CleanHost h) :
    normHost puny o h = normalizeHostname puny o.normalizeAmp h :=
  Ural.C07.normHost_eq_normalizeHostname puny o hs h hc

/-! ## `None` ≡ empty: the text of a host (`strOf`)

Every claim of this file compares hosts up to "`None` or `""`" (`orNone`).  `orNone` factors through the text
`strOf`, and in text view each function of the two sides is one equation, without the cases
absent / empty / present. -/

open Ural.UrlRoundTrip (strOf strOf_some strOf_none)

theorem orNone_text (a : Option Str) : orNone a = orNone (some (strOf a)) := by
  cases a with
  | none => rfl
  | some x => rw [strOf_some]

theorem strOf_orNone (a : Option Str) : strOf (orNone a) = strOf a := by
  cases a with
  | none => rfl
  | some x => cases x <;> rfl

theorem orNone_of_text {a b : Option Str} (h : strOf a = strOf b) : orNone a = orNone b := by
  rw [orNone_text a, orNone_text b, h]

theorem map_orNone_text (x : Except Err (Option Str)) :
    x.map orNone = (x.map strOf).map fun s => orNone (some s) := by
  cases x with
  | error e => rfl
  | ok a => exact congrArg Except.ok (orNone_text a)

theorem normalizeHostname_nil (puny : Str → Str) (amp : Bool) : normalizeHostname puny amp [] = [] := by
  cases amp <;> rfl

theorem getNormalizedHostname_text (puny : Str → Str) (hostOf : Str → Option Str) (amp ir : Bool) (url : Str) :
    strOf (getNormalizedHostname puny hostOf amp ir url) =
      normalizeHostname puny amp (strOf (hostOf (helperString ir url))) := by
  rw [getNormalizedHostname_eq]
  cases hostOf (helperString ir url) with
  | none => exact (normalizeHostname_nil puny amp).symm
  | some h =>
    rw [strOf_some]
    cases h with
    | nil => exact (normalizeHostname_nil puny amp).symm
    | cons a b => exact strOf_some _

theorem getFingerprintedHostname_text (E : Env) (hostOf : Str → Option Str) (ir sfx : Bool) (url : Str)
    (hw : E.walkHost [] = .ok none) :
    (getFingerprintedHostname E hostOf ir sfx url).map strOf =
      fingerprintHostname E sfx (strOf (hostOf (helperString ir (lower url)))) := by
  have h0 : fingerprintHostname E sfx [] = .ok [] := fingerprintHost_nil E sfx hw
  rw [getFingerprintedHostname_eq]
  cases hostOf (helperString ir (lower url)) with
  | none => exact h0.symm
  | some h =>
    rw [strOf_some]
    cases h with
    | nil => exact h0.symm
    | cons a b =>
      show ((fingerprintHostname E sfx (a :: b)).map some).map strOf = _
      cases fingerprintHostname E sfx (a :: b) with
      | error e => rfl
      | ok y => exact congrArg Except.ok (strOf_some y)

theorem strOf_map_normHost (puny : Str → Str) (o : Opts) (hs : o.stripIrrelevantSubdomains = true)
    (h : Option Str) (hclean : ∀ x, h = some x → CleanHost x) :
    strOf (h.map (normHost puny o)) = normalizeHostname puny o.normalizeAmp (strOf h) := by
  cases h with
  | none => exact (normalizeHostname_nil puny _).symm
  | some x =>
    rw [Option.map_some, strOf_some, strOf_some]
    exact normHost_eq_normalizeHostname puny o hs x (hclean x rfl)

/-- the hostname component of `normalize_url(u, unsplit=False)` is the `hostname` argument of the
`unsplit_netloc` call that assembled the netloc of the result -/
theorem normalized_netloc (puny : Str → Str) (parse : Str → Option Parsed) (platform : Str → Str)
    (o : Opts) (infr : Bool) (url : Str) (p : Parsed)
    (hp : parse (prepared platform infr url).1 = some p) :
    ∃ c : Comps,
      normalizeUrlSplit puny parse platform o infr url =
        .inr { scheme := c.scheme, netloc := unsplitNetloc c.user c.pass c.host c.port,
               path := c.path, query := safeSerializeQsl c.qsl, fragment := some c.fragment } ∧
      normalizedHost puny parse platform o infr url = some c.host ∧
      c.host = p.hostname.map (normHost puny o) := by
  refine ⟨normComps puny o (prepared platform infr url).2 p, ?_, ?_, rfl⟩
  · simp only [normalizeUrlSplit, hp]; rfl
  · simp only [normalizedHost, hp]; rfl

/-- **`get_normalized_hostname(u)` is the host of `normalize_url(u)`**, for `normalize_amp`,
`infer_redirection` ∈ {True, False} (and any `platform`): whenever the URL parses (`hp`), the
parser finds the same, clean host in the helper's string (`hsame`, `hclean`), the helper returns
the hostname component of the URL function's result (`None` ≡ empty). -/
theorem normalized_hostname_agrees (puny : Str → Str) (parse : Str → Option Parsed)
    (hostOf : Str → Option Str) (platform : Str → Str) (amp infr : Bool) (url : Str) (p : Parsed)
    (hp : parse (prepared platform infr url).1 = some p)
    (hsame : hostOf (helperString infr url) = p.hostname)
    (hclean : ∀ h, p.hostname = some h → CleanHost h) :
    (normalizedHost puny parse platform (ampOpts amp) infr url).map orNone
      = some (orNone (getNormalizedHostname puny hostOf amp infr url)) := by
  simp only [normalizedHost, hp, Option.map_some]
  refine congrArg some (orNone_of_text ?_)
  rw [getNormalizedHostname_text, hsame]
  exact strOf_map_normHost puny (ampOpts amp) rfl p.hostname hclean

/-- the reading about whitespace is needed: on a host that starts with whitespace the hostname
pass of `normalize_url` and `normalize_hostname` differ (`' www.a.com'` is kept by the first,
becomes `'a.com'` in the second) -/
theorem edge_whitespace_witness :
    normHost id (ampOpts true) " www.a.com".toList = " www.a.com".toList ∧
    normalizeHostname id true " www.a.com".toList = "a.com".toList ∧
    ¬ CleanHost " www.a.com".toList := by
  simp only [toList_lit]
  decide +kernel

/-- **the same with nothing assumed about the parser but the whitespace reading**, for URLs whose
cleaned form holds no `%`: `hostOf` is the modelled parser, `parse` any function whose hostname is
the modelled parser's (`hmodel`); "same host in both strings" and "the host is lower-case and
control-free" are proved (`same_host_model`, `cleanHost_of_model`), `platform_aware=False`. -/
theorem normalized_hostname_agrees_model (puny : Str → Str) (parse : Str → Option Parsed)
    (amp infr : Bool) (url : Str) (p : Parsed)
    (hpct : '%' ∉ strip (stripControl (if infr then infer url else url)))
    (hp : parse (prepared id infr url).1 = some p)
    (hmodel : p.hostname = hostOfModel (prepared id infr url).1)
    (hws : ∀ h, p.hostname = some h → strip h = h) :
    (normalizedHost puny parse id (ampOpts amp) infr url).map orNone
      = some (orNone (getNormalizedHostname puny hostOfModel amp infr url)) := by
  have hctl : UrlRoundTrip.NoCtl (strip (stripControl (if infr then infer url else url))) :=
    .of_subset (strip_subset _) (CanonRoundTrip.noCtl_stripControl _)
  have hprep : (prepared id infr url).1 =
      ensureHttp (strip (stripControl (if infr then infer url else url))) := by
    simp only [prepared, preClean, id_eq]
    rw [Quote.upperQuoted_of_no_pct hpct]
  apply normalized_hostname_agrees puny parse hostOfModel id amp infr url p hp
  · rw [hmodel, hprep]
    exact hostOfModel_ensureProtocol _
  · intro h hh
    have hh' := hh
    rw [hmodel, hprep] at hh'
    have hhttp : '%' ∉ "http://".toList ∧ ∀ c ∈ "http://".toList, isControlChar c = false := by decide
    refine cleanHost_of_model _ h ?_ ?_ hh' (hws h hh)
    · intro hm
      rcases List.mem_append.1 (ensureHttp_subset _ hm) with hm | hm
      · exact hhttp.1 hm
      · exact hpct hm
    · exact stripControl_eq_self_iff.2
        (UrlRoundTrip.NoCtl.of_subset (ensureHttp_subset _) (UrlRoundTrip.NoCtl.append hhttp.2 hctl))

/-- non-vacuity: a clean host with an irrelevant label, an `amp-` prefix and a label in punycode
spelling (identity decoder) -/
example : CleanHost "www.amp-xn--tlrama-bvab.m.example.co.uk".toList ∧
    normHost id (ampOpts true) "www.amp-xn--tlrama-bvab.m.example.co.uk".toList
      = "xn--tlrama-bvab.example.co.uk".toList ∧
    normalizeHostname id true "www.amp-xn--tlrama-bvab.m.example.co.uk".toList
      = "xn--tlrama-bvab.example.co.uk".toList := by
  simp only [toList_lit]
  decide +kernel

/-- **`get_fingerprinted_hostname(u, strip_suffix)` is the host of
`fingerprint_url(u, strip_suffix)`**, for `strip_suffix` ∈ {True, False}, parametric in the
suffix trie and the country set (`E`): whenever the lower-cased URL parses (`hp`), the parser
finds the same, clean host in the helper's string (`hsame`, `hclean`) and the `.hostname`
accessor reads back, from the netloc `normalize_url` assembled, the hostname that was written
into it (`hacc`, `hhost`), both functions hand the same hostname to the same language-label /
suffix steps and return the same answer (`None` ≡ empty; exceptions included). `hw`:
`safe_urlsplit('').hostname` is `None`. -/
theorem fingerprinted_hostname_agrees (E : Env) (hostOf : Str → Option Str) (sfx : Bool) (url : Str)
    (p : Parsed) (a : Accessors)
    (hp : E.parse (prepared E.platform true (lower url)).1 = some p)
    (hsame : hostOf (helperString true (lower url)) = p.hostname)
    (hclean : ∀ h, p.hostname = some h → CleanHost h)
    (hacc : E.netlocAcc (normParts E.puny fpOpts (prepared E.platform true (lower url)).2 p).netloc = .ok a)
    (hhost : a.hostname = orNone (p.hostname.map (normHost E.puny fpOpts)))
    (hw : E.walkHost [] = .ok none) :
    (fingerprintedHost E sfx url).map orNone
      = (getFingerprintedHostname E hostOf true sfx url).map orNone := by
  have hf : fingerprintedHost E sfx url = fpHostOut E sfx a.hostname := by
    simp only [fingerprintedHost, normalizeUrlSplit, hp]
    exact fpHost_of_acc hacc sfx
  rw [map_orNone_text, map_orNone_text, hf, fpHostOut_text E sfx hw, getFingerprintedHostname_text E hostOf true sfx url hw,
    hsame, hhost, strOf_orNone, strOf_map_normHost E.puny fpOpts rfl p.hostname hclean]
  rfl

/-! ## URLs the parser refuses

On them `normalize_url` returns its argument, and `fingerprint_url` (fingerprint_url.py, `if not
isinstance(splitted, SplitResult)`; FX-C07-c806a8b) returns that string, `url.lower()`.  "The
host of `fingerprint_url(u)`" is then the host the standard parser reads in that string after a
scheme is ensured — nothing when it refuses it. -/

/-- **the fingerprint pair on an URL the parser refuses**: `fingerprint_url(u)` is `u.lower()`
under both `unsplit` (no exception, no tuple: no hostname component), and for an URL that needs
no cleaning and carries no redirection (`hclean`: the string the helper parses is
`ensure_protocol(u.lower())`) the helper answers `None` exactly when no host can be read in that
result — the parser refuses it, or reads an empty host.  (A refused *port* — `http://a.com:99999/` —
leaves a host to read on both sides: neither helper reads `.port`; which host is compared on
parseable URLs only.) -/
theorem fingerprinted_hostname_unparseable (E : Env) (hostOf : Str → Option Str) (sfx : Bool)
    (url : Str) (hp : E.parse (prepared E.platform true (lower url)).1 = none)
    (hclean : helperString true (lower url) = ensureProtocol (lower url) httpStr) :
    fingerprintUrlSplit E sfx url = .ok (.inl (lower url)) ∧
    fingerprintUrl E sfx url = .ok (lower url) ∧
    fingerprintedHost E sfx url = .ok none ∧
    (getFingerprintedHostname E hostOf true sfx url = .ok none ↔
      hostAfterEnsure hostOf (lower url) = none) := by
  have hs : fingerprintUrlSplit E sfx url = .ok (.inl (lower url)) := by
    simp only [fingerprintUrlSplit, normalizeUrlSplit, hp]
  refine ⟨hs, by unfold fingerprintUrl; rw [hs]; rfl,
    by simp only [fingerprintedHost, normalizeUrlSplit, hp], ?_⟩
  rw [getFingerprintedHostname_eq, hclean]
  unfold hostAfterEnsure
  cases hostOf (ensureProtocol (lower url) httpStr) with
  | none => simp [orNone]
  | some h =>
    cases h with
    | nil => simp [orNone]
    | cons c cs =>
      simp only [orNone, List.isEmpty_cons, Bool.false_eq_true, if_false]
      cases fingerprintHostname E sfx (c :: cs) with
      | error e => simp [Except.map]
      | ok v => simp [Except.map]

theorem bareHost_lower {h : Str} (hb : BareHost h) : BareHost (lower h) := by
  have hd : ∀ c ∈ ['/', '?', '#', '@', ':', '[', ']', '%'], ¬ (97 ≤ c.toNat ∧ c.toNat ≤ 122) := by
    decide
  exact ⟨fun c hc hm => hb.1 c (mem_of_mem_lower (hd c hm) hc) hm,
    stripControl_eq_self_iff.2 (UrlRoundTrip.NoCtl.lower (stripControl_eq_self_iff.1 hb.2))⟩

/-- when the accessor reads the written hostname back (`hhost`), the `.hostname` of the tuple
`normalize_url(u, unsplit=False)` is the hostname component (`None` ≡ empty) -/
theorem accHostname_normalized (puny : Str → Str) (parse : Str → Option Parsed)
    (platform : Str → Str) (o : Opts) (infr : Bool) (url : Str) (p : Parsed)
    (acc : Str → Except Fingerprint.Err Accessors) (a : Accessors)
    (hp : parse (prepared platform infr url).1 = some p)
    (hacc : acc (normParts puny o (prepared platform infr url).2 p).netloc = .ok a)
    (hhost : a.hostname = orNone (p.hostname.map (normHost puny o))) :
    ∃ t, normalizeUrlSplit puny parse platform o infr url = .inr t ∧ acc t.netloc = .ok a ∧
      (normalizedHost puny parse platform o infr url).map orNone = some a.hostname := by
  refine ⟨normParts puny o (prepared platform infr url).2 p, ?_, hacc, ?_⟩
  · simp only [normalizeUrlSplit, hp]
  · simp only [normalizedHost, hp, Option.map_some, hhost]; rfl

/-- **what the round trip must deliver** (`Lemmas/UrlRoundTrip.lean` proves it on the ranges of the
URL functions): the standard parser, after a scheme is ensured, reads back from the string `s`
the five components of the tuple `t` — with `http` for an empty scheme, `""` for a `None`
fragment. -/
def ReparseOk (split5 : Str → Option Parts) (s : Str) (t : Split) : Prop :=
  split5 (ensureProtocol s httpStr) =
    some { scheme := if t.scheme = [] then httpStr else t.scheme, netloc := t.netloc,
           path := t.path, query := t.query, fragment := t.fragment.getD [] }

/-- the scheme stem is the first stem, and the other stems do not depend on the scheme -/
theorem stems_scheme_cons (sp : Str → Option (Str × Str)) (sa : Bool) (p : Parts) (sch : Str)
    (hs : sch ≠ []) :
    lruStems sp sa { p with scheme := sch } =
      ('s' :: ':' :: sch) :: lruStems sp sa { p with scheme := [] } := by
  simp [lruStems, lruStemsT, strStem, hs, render]

/-- "minus the scheme stem when the scheme was stripped" -/
def minusScheme (t : Split) (stems : List Str) : List Str :=
  if t.scheme = [] then dropSchemeStem stems else stems

/-- the stems of the tuple are the stems of the string that reparses to it, minus the scheme
stem when the tuple has no scheme -/
theorem stems_of_reparse (sp : Str → Option (Str × Str)) (split5 : Str → Option Parts) (sa : Bool)
    (s : Str) (t : Split) (hr : ReparseOk split5 s t) :
    (lruStemsOfUrl sp split5 sa s).map (minusScheme t) = some (stemsOfSplit sp sa t) := by
  unfold lruStemsOfUrl
  rw [hr]
  simp only [Option.map_some, stemsOfSplit, partsOfSplit, minusScheme]
  congr 1
  by_cases hs : t.scheme = []
  · simp only [hs, if_true]
    have := stems_scheme_cons sp sa
      { scheme := [], netloc := t.netloc, path := t.path, query := t.query, fragment := t.fragment.getD [] }
      httpStr (by decide)
    simp only at this
    rw [this, dropSchemeStem_cons]
  · simp only [hs, if_false]

/-- **`normalized_lru_stems(u)` = `lru_stems(normalize_url(u))` minus the scheme stem when the
scheme was stripped** — for every option set, given the round trip of the result -/
theorem stems_agree_norm_of_reparse (sp : Str → Option (Str × Str)) (split5 : Str → Option Parts)
    (puny : Str → Str) (parse : Str → Option Parsed) (platform : Str → Str) (o : Opts)
    (infr sa : Bool) (url : Str) (t : Split)
    (ht : normalizeUrlSplit puny parse platform o infr url = .inr t)
    (hr : ReparseOk split5 (normalizeUrl puny parse platform o infr url) t) :
    (lruStemsOfUrl sp split5 sa (normalizeUrl puny parse platform o infr url)).map (minusScheme t)
      = normalizedLruStems sp puny parse platform o infr sa url := by
  rw [stems_of_reparse sp split5 sa _ t hr]
  simp only [normalizedLruStems, ht]

/-- **`canonicalized_lru_stems(u)` = `lru_stems(canonicalize_url(u))`** (the canonical tuple
always has a scheme: nothing is dropped then), given the round trip of the result -/
theorem stems_agree_canon_of_reparse (sp : Str → Option (Str × Str)) (split5 : Str → Option Parts)
    (puny : Str → Str) (parse : Str → Option Parsed) (sa : Bool) (url : Str) (p : Parsed)
    (hp : parse (Canonicalize.cleanUrl url httpsStr) = some p)
    (hr : ReparseOk split5 (UrlParts.urlunsplit (Canonicalize.canonParts puny false false p))
      (Canonicalize.canonParts puny false false p)) :
    (lruStemsOfUrl sp split5 sa (UrlParts.urlunsplit (Canonicalize.canonParts puny false false p))).map
        (minusScheme (Canonicalize.canonParts puny false false p))
      = canonicalizedLruStems sp puny parse sa url := by
  rw [stems_of_reparse sp split5 sa _ _ hr]
  simp only [canonicalizedLruStems, hp, Option.map_some]

/-- **`canonicalized_lru_stems(u)` = `lru_stems(canonicalize_url(u))`, no round-trip hypothesis**:
with the modelled parser on both sides (`Py.parseUrl` for `canonicalize_url`, `Py.urlsplit` for
`lru_stems`), the round trip is the one proved by the round-trip development
(`Lemmas/UrlRoundTrip.lean`, `Lemmas/CanonRoundTrip.lean`) plus `ensureProtocol_of_scheme` (the
canonical string already has a protocol).  Conditions: the decoder invents no delimiter
(`PunyClean`), the netloc holds no bracket, the canonical netloc is not empty (reading: URLs with a
host). -/
theorem stems_agree_canon (sp : Str → Option (Str × Str)) (puny : Str → Str)
    (hpc : Ural.CanonRoundTrip.PunyClean puny) (sa : Bool) (url : Str) (p : Parsed)
    (hp : parseUrl (Canonicalize.cleanUrl url httpsStr) = some p)
    (hb : '[' ∉ p.netloc ∧ ']' ∉ p.netloc)
    (hn : (Canonicalize.canonParts puny false false p).netloc ≠ []) :
    lruStemsOfUrl sp modelSplit5 sa (UrlParts.urlunsplit (Canonicalize.canonParts puny false false p))
      = canonicalizedLruStems sp puny parseUrl sa url := by
  obtain ⟨hr, hs⟩ := canon_reparse hpc url p hp hb hn
  have hre : ReparseOk modelSplit5 (UrlParts.urlunsplit (Canonicalize.canonParts puny false false p))
      (Canonicalize.canonParts puny false false p) := by
    unfold ReparseOk
    rw [hr, if_neg hs]
  have := stems_agree_canon_of_reparse sp modelSplit5 puny parseUrl sa url p hp hre
  rw [← this]
  cases lruStemsOfUrl sp modelSplit5 sa (UrlParts.urlunsplit (Canonicalize.canonParts puny false false p)) with
  | none => rfl
  | some st => simp [minusScheme, hs]

/-- **`fingerprinted_lru_stems(u, strip_suffix)` = `lru_stems(fingerprint_url(u, strip_suffix))`
minus the scheme stem** (the fingerprint has no scheme), given the round trip of the result;
errors of `fingerprint_url` are errors of the variant -/
theorem stems_agree_fp_of_reparse (sp : Str → Option (Str × Str)) (split5 : Str → Option Parts)
    (E : Env) (sa sfx : Bool) (url : Str) (t : Split) (s : Str)
    (ht : fingerprintUrlSplit E sfx url = .ok (.inr t))
    (hs : fingerprintUrl E sfx url = .ok s)
    (hr : ReparseOk split5 s t) :
    fingerprintedLruStems sp E sa sfx url = .ok (some (stemsOfSplit sp sa t)) ∧
    (lruStemsOfUrl sp split5 sa s).map (minusScheme t) = some (stemsOfSplit sp sa t) := by
  refine ⟨?_, stems_of_reparse sp split5 sa s t hr⟩
  simp only [fingerprintedLruStems, ht]
  rfl

/-- errors agree too: when `fingerprint_url` raises, so does the variant, with the same error -/
theorem stems_fp_error (sp : Str → Option (Str × Str)) (E : Env) (sa sfx : Bool) (url : Str)
    (e : Fingerprint.Err) (ht : fingerprintUrlSplit E sfx url = .error e) :
    fingerprintedLruStems sp E sa sfx url = .error e ∧ fingerprintUrl E sfx url = .error e := by
  simp only [fingerprintedLruStems, fingerprintUrl, ht]
  exact ⟨rfl, rfl⟩

/-- non-vacuity of the scheme-stem rule -/
example : minusScheme ⟨[], "a.com".toList, "/x".toList, [], some []⟩
    (lruStems (fun _ => none) false ⟨"http".toList, "a.com".toList, "/x".toList, [], []⟩)
    = lruStems (fun _ => none) false ⟨[], "a.com".toList, "/x".toList, [], []⟩ := by
  simp only [toList_lit]
  decide +kernel

/-- **`get_hostname(u)` is the host the standard parser sees after a scheme is ensured** — for
any parser for which `http:` in front of `//…` does not change the host of *this* `u` -/
theorem get_hostname_spec_of (hostOf : Str → Option Str) (url : Str)
    (hrel : ∀ r, url = '/' :: '/' :: r → hostOf ("http:".toList ++ url) = hostOf url) :
    getHostname hostOf url = hostAfterEnsure hostOf url := by
  unfold getHostname hostAfterEnsure
  rcases safeArg_cases url with h | ⟨r, hr, h1, h2⟩
  · rw [h]
  · rw [h1, h2, hrel r hr]

/-- **`get_hostname(u) = urlsplit(ensure_protocol(u)).hostname or None`** for every string `u`,
with the modelled parser: no hypothesis -/
theorem get_hostname_spec (url : Str) :
    getHostname hostOfModel url = hostAfterEnsure hostOfModel url :=
  get_hostname_spec_of hostOfModel url (fun r hr => by
    subst hr; exact hostOfModel_scheme_relative r)

example : getHostname hostOfModel "//WWW.Example.com:80/x".toList = some "www.example.com".toList ∧
    safeUrlsplitArg "//WWW.Example.com:80/x".toList ≠ ensureProtocol "//WWW.Example.com:80/x".toList httpStr := by
  simp only [toList_lit]
  decide +kernel

end Ural.Props.C07
