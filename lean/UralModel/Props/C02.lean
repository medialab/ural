import UralModel.Lemmas.Canonicalize
import UralModel.Lemmas.QuoteIdem
import UralModel.Lemmas.Normpath
import UralModel.Lemmas.CanonModes
import UralModel.Lemmas.StrLit
/-!
# C02 — canonicalize_url yields one canonical spelling and is idempotent

This file holds the COMPONENT level: lemmas about the stages of the cleaning pass and about the
component rules of the model, for all strings — and, component by component: idempotence in
both modes and the four mode round trips (path, userinfo items, query, fragment; the mode round
trips that start from quoted mode under the explicit exclusion of KF-C02-1's class, `cleanStr` /
`pathClean`), dot-segment insertion (`canonPath` factors through the resolved view) and
escape-equivalence.

Several statements are congruences whose hypothesis is an intermediate value
of the implementation (`clean_control_irrelevant`, `hex_case_irrelevant`, `canon_default_port`,
`unquote_respects_equiv`): they are LEMMAS.  The clauses of the property they serve are stated
on STRINGS, at whole-function level, in `Props/C02Spelling.lean` (`canon_surrounding`,
`canon_control_inserted`, `canon_hex_case_step`, `canon_scheme_string`, `canon_host_case_string`,
`canon_default_port_string`, `canon_empty_query_string`, `canon_empty_fragment_string`,
`canon_dot_segments_string`, `canon_path_escaped_*_string`, `canon_punycode_label_string`), with
the substitution laws of the safe unquoters in `Lemmas/C02String.lean`
(`safelyUnquote_escaped_ascii` / `_space` / `_utf8`); whole-function idempotence is in
`Props/C02Whole.lean`.  What is NOT a theorem at whole-function level is listed in `UNPROVED` of
`harness/props/C02.py` and decided on every run by the oracle
(`canonicalize(T(u)) == canonicalize(u)` over every transformation of the statement) and by the
model-vs-implementation comparison of both spellings.
-/
namespace Ural.Props.C02
open Ural Ural.Py Ural.UrlParts Ural.Quote Ural.Canonicalize Ural.Normpath

/-- LEMMA (a congruence: the hypothesis is the first stage of `cleanUrl` itself): the cleaning
pass depends on the input only through its control-stripped form.  The clause "embedded control
characters never change the result" is `canon_control_inserted` (`Props/C02Spelling.lean`) -/
theorem clean_control_irrelevant (u v dp : Str) (h : stripControl u = stripControl v) :
    Canonicalize.cleanUrl u dp = Canonicalize.cleanUrl v dp := by
  simp [Canonicalize.cleanUrl, h]

/-- inserting a control character anywhere is such a change -/
theorem stripControl_insert (a b : Str) (c : Char) (hc : isControlChar c = true) :
    stripControl (a ++ c :: b) = stripControl (a ++ b) := by
  simp [stripControl, List.filter_append, hc]

/-- surrounding whitespace never changes the result -/
theorem strip_surrounding (ws1 ws2 s : Str) (h1 : ws1.all isSpace = true)
    (h2 : ws2.all isSpace = true) : strip (ws1 ++ s ++ ws2) = strip s :=
  strip_wrap s (List.all_eq_true.mp h1) (List.all_eq_true.mp h2)

/-- LEMMA on records (both sides have the same `netloc`, which is not what two spellings of a
URL give): the port rule drops the scheme's default port.  The clause "writing the default port
explicitly never changes the result" is `canon_default_port_string` (`Props/C02Spelling.lean`:
two STRINGS with different authorities) -/
theorem canon_default_port (puny : Str → Str) (quoted sf : Bool) (p : Parsed) (n : Nat)
    (h : defaultPort p.scheme = some n) :
    canonComps puny quoted sf { p with port := some n } = canonComps puny quoted sf { p with port := none } := by
  simp [canonComps, h, hasMore, hostEndsUrl, portRule]

/-- LEMMA (`congrArg render`; it speaks of `upperQuoted` and of the scanner's tokens, not of
`canonicalizeUrl`): two strings whose scans agree up to the case of hex digits inside escapes have
the same `upper_quoted`.  The clause "lower-case hex digits never change the result" is
`canon_hex_case_step` / `canon_hex_case` (`Props/C02Spelling.lean`, on string decompositions
`x ++ %h1h2 ++ y`) -/
theorem hex_case_irrelevant (a b : Str)
    (h : (tokens a).map upperTok = (tokens b).map upperTok) : upperQuoted a = upperQuoted b := by
  simp [upperQuoted, h]

/-- the canonical host is a fixed point of the host rule (idempotence; letter case of the host
is `canon_host_case_string`, punycode vs Unicode `canon_punycode_label_string`) -/
theorem host_idempotent (puny : Str → Str) (hp : PunyLaws puny) (h : Str) :
    canonHost puny (canonHost puny h) = canonHost puny h := canonHost_idem puny hp h

/-! ## idempotence of the unquoted-mode component rules -/

theorem safelyUnquote_idem (U : List UInt8) (hU : (0x25 : UInt8) ∈ U) (hA : AsciiSet U) (s : Str) :
    safelyUnquote U (safelyUnquote U s) = safelyUnquote U s := Quote.safelyUnquote_idem U hU hA s

/-- an optional component under a plain safe unquoter `safelyUnquote U` (the fragment; for a user
name or password up to `requoteNfkc`, `Lemmas/CanonAuth.lean`): canonicalizing the canonical
component changes nothing (unquoted mode) -/
theorem canonOpt_idempotent (U : List UInt8) (hU : (0x25 : UInt8) ∈ U) (hA : AsciiSet U)
    (o : Option Str) :
    canonOpt false (safelyUnquote U) (canonOpt false (safelyUnquote U) o) =
      canonOpt false (safelyUnquote U) o :=
  canonOpt_modes U hU hA false false o (fun h => by cases h)

/-- the query: canonicalizing the canonical query changes nothing (unquoted mode) -/
theorem canonQuery_idempotent (q : Str) :
    canonQuery false (canonQuery false q) = canonQuery false q :=
  canonQuery_modes false false q (fun h => by cases h)

/-! ## the path: idempotence, the two modes, dot segments

`Lemmas/Normpath.lean`.  `absPath p`: `p` is empty or starts with `/` (every path the parser
returns for a URL with an authority); `pathClean p`: no raw `?`, `#`, control character (every
path the parser returns after the cleaning pass).  Both are checked on every parsed case of
the correspondence stream (`path_hyp` line). -/

/-- the `path` field of the result is `pathOut` of the input path -/
theorem comps_path (puny : Str → Str) (quoted sf : Bool) (p : Parsed) :
    (canonComps puny quoted sf p).path =
      pathOut quoted p.path (hasMore puny sf p) := by
  simp only [canonComps, pathOut]

/-- **path idempotence**: the path rule applied to its own result (whatever the "query or
fragment present" flags of the two passes) gives that result -/
theorem canonPath_idempotent (p : Str) (m m' : Bool) (h : absPath p = true) :
    canonPath (canonPath p m) m' = canonPath p m' :=
  canonPath_idem p m m' h

/-- the second `safely_unquote_path` of unquoted mode changes nothing -/
theorem path_second_unquote_noop (p : Str) (m : Bool) (h : absPath p = true) :
    unquotePath (canonPath p m) = canonPath p m :=
  unquotePath_canonPath p m h

/-- the full statement of the mode round trips on the path, for every absolute path -/
def FullPathModes : Prop :=
  ∀ (q1 q2 : Bool) (p : Str) (m m' : Bool), absPath p = true →
    pathOut q2 (pathOut q1 p m) m' = pathOut q2 p m'

/-- **idempotence in both modes and the four mode round trips, on the path**: what the second
pass (mode `q2`) computes from the path printed by the first pass (mode `q1`) is what mode `q2`
computes from the original path.  No hypothesis beyond `absPath` when the first pass is the
unquoted one; `pathClean` when it is the quoted one. -/
theorem path_modes_partial (q1 q2 : Bool) (p : Str) (m m' : Bool) (h : absPath p = true)
    (hc : q1 = true → pathClean p = true) :
    pathOut q2 (pathOut q1 p m) m' = pathOut q2 p m' :=
  pathOut_modes q1 q2 p m m' h hc

/-- outside `pathClean` the round trip through quoted mode fails in the model (a raw `?` —
which the parser never leaves in a path — is escaped by `quote` and then kept escaped) -/
example : ¬ FullPathModes := by
  intro h
  have := h true false "/?".toList false false (by decide)
  revert this
  decide +kernel

/-- **`canonPath` factors through the resolved view** (`pathKey`: the unescaped segments after
`.` / `..` / empty-segment resolution + the trailing-slash flag) -/
theorem canonPath_factors (p : Str) (m : Bool) (h : absPath p = true) :
    canonPath p m = renderSegs (pathKey p) m :=
  canonPath_render p m h

/-- **dot-segment insertion is irrelevant**: two absolute paths with the same resolved view
have the same canonical path — however their `.`, `..`, empty segments are placed and
however the dots are spelled (`%2E`) -/
theorem dot_segment_insertion_irrelevant (p p' : Str) (m : Bool) (h : absPath p = true)
    (h' : absPath p' = true) (hk : pathKey p = pathKey p') : canonPath p m = canonPath p' m :=
  canonPath_congr p p' m h h' hk

/-- inserting a `.` segment anywhere -/
theorem insert_dot_segment (a b : Str) (m : Bool) (h : absPath a = true) :
    canonPath (a ++ '/' :: (['.'] ++ '/' :: b)) m = canonPath (a ++ '/' :: b) m :=
  canonPath_insert a _ b m h (by
    have : unquotePath ['.'] = ['.'] := by decide
    rw [this]; exact insert_dot_ok)

/-- … spelled `%2E` -/
theorem insert_escaped_dot_segment (a b : Str) (m : Bool) (h : absPath a = true) :
    canonPath (a ++ '/' :: ("%2E".toList ++ '/' :: b)) m = canonPath (a ++ '/' :: b) m :=
  canonPath_insert a _ b m h (by
    have : unquotePath "%2E".toList = ['.'] := by decide
    rw [this]; exact insert_dot_ok)

/-- inserting an empty segment (a doubled slash) anywhere -/
theorem insert_empty_segment (a b : Str) (m : Bool) (h : absPath a = true) :
    canonPath (a ++ '/' :: ([] ++ '/' :: b)) m = canonPath (a ++ '/' :: b) m :=
  canonPath_insert a _ b m h (by rw [unquotePath_nil]; exact insert_empty_ok)

/-- inserting `x/..` anywhere, for a segment `x` that is not itself a dot segment -/
theorem insert_updir_segment (a x b : Str) (m : Bool) (h : absPath a = true)
    (hx : Normal (unquotePath x)) :
    canonPath (a ++ '/' :: ((x ++ '/' :: "..".toList) ++ '/' :: b)) m = canonPath (a ++ '/' :: b) m :=
  canonPath_insert a _ b m h (by
    have : unquotePath "..".toList = ['.', '.'] := by decide
    rw [unquotePath_append_slash, this]; exact insert_updir_ok _ hx)

/-! ## escape-equivalence -/

/-- LEMMA (`normItems U` is the first two stages of `safelyUnquote U` itself): two strings
with the same item list are unquoted to the same string — `normItems U s` is the list of what each
token of `s` is for the unquoter (kept escape, decoded ASCII character, pending byte), with raw
non-ASCII characters spelled as their UTF-8 bytes.  The independent statements of
escape-equivalence are the three substitution laws on strings of `Lemmas/C02String.lean`:
`safelyUnquote_escaped_ascii` (`%41` vs `A`), `safelyUnquote_escaped_space` (`%20` vs a raw
space), `safelyUnquote_escaped_utf8` (`é` vs `%C3%A9` / `%c3%a9`), proved from this lemma. -/
theorem unquote_respects_equiv (U : List UInt8) (a b : Str) (h : normItems U a = normItems U b) :
    safelyUnquote U a = safelyUnquote U b :=
  Quote.unquote_respects_equiv U a b h

/-- … hence the same canonical path -/
theorem canonPath_respects_equiv (a b : Str) (m : Bool)
    (h : normItems Gen.Quote.unsafeForPath a = normItems Gen.Quote.unsafeForPath b) :
    canonPath a m = canonPath b m := by
  have := Quote.unquote_respects_equiv _ a b h
  rw [canonPath_eq, canonPath_eq]
  unfold unquotePath
  rw [this]

/-- non-vacuity: escaped unreserved characters, a raw space, a raw non-ASCII character against
its lower-case escaped bytes; a reserved escape (`%2F`) is NOT equivalent to the raw character -/
example :
    normItems Gen.Quote.unsafeForPath "/%41%7Eb c/é%2F".toList =
      normItems Gen.Quote.unsafeForPath "/A~%62%20c/%c3%a9%2F".toList ∧
    normItems Gen.Quote.unsafeForPath "/a%2Fb".toList ≠ normItems Gen.Quote.unsafeForPath "/a/b".toList := by
  simp only [toList_lit]
  decide +kernel

def FullOptModes (U : List UInt8) : Prop :=
  ∀ (q1 q2 : Bool) (o : Option Str),
    canonOpt q2 (safelyUnquote U) (canonOpt q1 (safelyUnquote U) o) = canonOpt q2 (safelyUnquote U) o

/-- **idempotence in both modes and the four mode round trips of an optional component under
`safelyUnquote U`** (the fragment; the partial of the user-info rule); when the first pass is the
quoted one, every raw character of the component must survive a quote/unquote cycle (`cleanStr`:
this excludes exactly the class of KF-C02-1) -/
theorem opt_modes_partial (U : List UInt8) (hU : (0x25 : UInt8) ∈ U) (hA : AsciiSet U) (q1 q2 : Bool)
    (o : Option Str) (hcl : q1 = true → ∀ u, o = some u → cleanStr U u = true) :
    canonOpt q2 (safelyUnquote U) (canonOpt q1 (safelyUnquote U) o) = canonOpt q2 (safelyUnquote U) o :=
  canonOpt_modes U hU hA q1 q2 o hcl

/-- KF-C02-1 in the model, on the partial of the user-info rule: a password `:` does not come back
from quoted mode -/
example : ¬ FullOptModes Gen.Quote.unsafeForAuthItem := by
  intro h
  have := h true false (some ":".toList)
  revert this
  decide +kernel

def FullQueryModes : Prop :=
  ∀ (q1 q2 : Bool) (x : Str), canonQuery q2 (canonQuery q1 x) = canonQuery q2 x

/-- **idempotence in both modes and the four mode round trips of the query** (`QslClean`:
every key and value is `cleanItem` — `cleanStrBy` for the safe set `"/+"` that `safely_quote_qsl` quotes
with —, needed when the first pass is the quoted one) -/
theorem query_modes_partial (q1 q2 : Bool) (x : Str) (hcl : q1 = true → QslClean x) :
    canonQuery q2 (canonQuery q1 x) = canonQuery q2 x :=
  canonQuery_modes q1 q2 x hcl

/-- non-vacuity (FX-C01-6e09416): a raw `+` (kept by `safely_quote_qsl`, `safe="/+"`) and an
escaped one (kept by the unquoter: `+` is in `UNSAFE_FOR_QUERY_ITEM`) are inside the hypothesis,
and each is its own canonical spelling in both modes -/
example :
    (∀ kv ∈ safeQslIter "a+b=c%2Bd&q=+".toList, cleanItem kv.1 = true ∧ ∀ v ∈ kv.2, cleanItem v = true) ∧
    canonQuery true "a+b=c%2Bd&q=+".toList = "a+b=c%2Bd&q=+".toList ∧
    canonQuery false "a+b=c%2Bd&q=+".toList = "a+b=c%2Bd&q=+".toList := by
  simp only [toList_lit]
  decide +kernel

/-- KF-C02-1 in the model: a query value `=` does not come back from quoted mode -/
example : ¬ FullQueryModes := by
  intro h
  have := h true false "k==".toList
  revert this
  decide +kernel

/-- the four regenerated unsafe sets satisfy what the mode theorems need -/
theorem tables_modes :
    (0x25 : UInt8) ∈ Gen.Quote.unsafeForAuthItem ∧ AsciiSet Gen.Quote.unsafeForAuthItem ∧
    (0x25 : UInt8) ∈ Gen.Quote.unsafeForFragment ∧ AsciiSet Gen.Quote.unsafeForFragment ∧
    (0x25 : UInt8) ∈ Gen.Quote.unsafeForQueryItem ∧ AsciiSet Gen.Quote.unsafeForQueryItem ∧
    (0x25 : UInt8) ∈ Gen.Quote.unsafeForPath ∧ AsciiSet Gen.Quote.unsafeForPath :=
  ⟨unsafeForAuthItem_ok.1, unsafeForAuthItem_ok.2, unsafeForFragment_ok.1, unsafeForFragment_ok.2,
    unsafeForQueryItem_ok.1, unsafeForQueryItem_ok.2, unsafeForPath_ok.1, unsafeForPath_ok.2⟩

/-- non-vacuity of the mode theorems: clean components with escapes, a space, a non-ASCII
character and an undecodable byte; a path with dot segments -/
example :
    cleanStr Gen.Quote.unsafeForAuthItem "p%41 é%E9~".toList = true ∧
    pathClean "/a/%2E%2E/b c/é%E9/".toList = true ∧ absPath "/a/%2E%2E/b c/é%E9/".toList = true ∧
    pathOut true "/a/%2E%2E/b c/é%E9/".toList false = "/b%20c/%C3%A9%E9/".toList ∧
    pathOut false "/b%20c/%C3%A9%E9/".toList false = "/b%20c/é%E9/".toList ∧
    pathOut false "/a/%2E%2E/b c/é%E9/".toList false = "/b%20c/é%E9/".toList := by
  simp only [toList_lit]
  decide +kernel

/-- non-vacuity -/
example : stripControl "a\x00b\x7fc".toList = "abc".toList ∧
    strip " \t x y \n".toList = "x y".toList ∧
    upperQuoted "%c3%A9%zz".toList = upperQuoted "%C3%a9%zz".toList := by
  simp only [toList_lit]
  decide +kernel

end Ural.Props.C02
