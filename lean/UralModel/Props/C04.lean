import UralModel.Lemmas.C04Lower
import UralModel.Lemmas.C04Path
import UralModel.Lemmas.C04Escape
import UralModel.Props.C02
import UralModel.Props.C04Tables
/-!
# C04 — normalize_url ignores every variation it documents as irrelevant

One theorem per transformation of the documented family, about the model functions over ALL
inputs.  A transformation that acts on a component of the URL is stated on the `Parsed` record
(`urlsplit` + accessors are CPython: how the real parser maps the string transformation to the
component transformation is covered by the correspondence and the oracle); a transformation of
the string (whitespace, control characters, redirection) is stated on the string.  `lowercase`
(the undocumented option of `fingerprint_url`) is off in the documented statements; where the
same argument goes through for every value of it, the statement for all `o` comes first
(`norm_*_lc`, hypotheses on the case-folded text `lcStr o …` / `lcItem o …`) and the documented
one is its instance.
-/
set_option linter.unusedSimpArgs false
namespace Ural.Props.C04
open Ural Ural.Py Ural.UrlParts Ural.Quote Ural.Canonicalize Ural.Normalize Ural.Normpath

/-- the printed result on a parsed URL -/
def normOut (puny : Str → Str) (o : Opts) (hp : Bool) (p : Parsed) : Str :=
  finalString o hp (normParts puny o hp p)

/-! ## scheme / absence of scheme -/

/-- **the scheme is irrelevant**: when the protocol is stripped (`strip_protocol`, or no
protocol was written) the result depends neither on `Parsed.scheme` nor on whether the cleaned
string had a protocol -/
theorem norm_scheme_irrelevant (puny : Str → Str) (o : Opts) (hp hp' : Bool) (p : Parsed) (s : Str)
    (h : (o.stripProtocol || !hp) = true) (h' : (o.stripProtocol || !hp') = true) :
    normParts puny o hp { p with scheme := s } = normParts puny o hp' p ∧
    normOut puny o hp { p with scheme := s } = normOut puny o hp' p := by
  have e : normParts puny o hp { p with scheme := s } = normParts puny o hp' p := by
    simp only [normParts_eq, h, h', if_true]
  refine ⟨e, ?_⟩
  unfold normOut finalString
  rw [e]
  simp only [h, h']

/-- non-vacuity: `https://…`, `ftp://…` and the scheme-less spelling (for which `http://` is
prepended) differ in `scheme` / `has_protocol` only -/
example : (prepared id false "a.com/p".toList).2 = false ∧ (prepared id false "https://a.com/p".toList).2 = true := by
  simp only [toList_lit]
  decide +kernel

/-! ## userinfo -/

/-- **userinfo is irrelevant** under `strip_authentication` -/
theorem norm_userinfo_irrelevant (puny : Str → Str) (o : Opts) (hp : Bool) (p : Parsed)
    (u w : Option Str) (nl : Str) (h : o.stripAuthentication = true) :
    normParts puny o hp { p with username := u, password := w, netloc := nl } = normParts puny o hp p := by
  simp only [normParts_eq, h, if_true]

/-! ## explicit default port -/

/-- **an explicit 80 / 443 is no port** (whatever the options) -/
theorem norm_default_port (puny : Str → Str) (o : Opts) (hp : Bool) (p : Parsed) (n : Nat)
    (h : n = 80 ∨ n = 443) :
    normParts puny o hp { p with port := some n } = normParts puny o hp { p with port := none } := by
  simp only [normParts_eq, normPort, h, if_true]

/-! ## letter case of the host -/

/-- what the proof needs from the idna codec: decoding does not depend on the letter case of
the label, up to the case of the result (true of the identity decoder; the real codec is
compared on every run, and `urlsplit(...).hostname` is lower-case anyway) -/
def PunyCase (puny : Str → Str) : Prop := ∀ x, lower (puny (lower x)) = lower (puny x)

theorem punyCase_id : PunyCase id := fun x => by simp [lower_idem]

theorem canonLabel_lower (puny : Str → Str) (hc : PunyCase puny) (part : Str) :
    canonLabel puny (lower part) = canonLabel puny part := by
  unfold canonLabel
  rw [← lower_take, lower_idem]
  by_cases h : lower (part.take 4) = "xn--".toList
  · simp only [h, if_true]
    have : "xn--".toList ++ (lower part).drop 4 = lower ("xn--".toList ++ part.drop 4) := by
      rw [lower_append, lower_drop]; rfl
    rw [this, hc]
  · simp only [h, if_false, lower_idem]

theorem canonHost_lower (puny : Str → Str) (hc : PunyCase puny) (h : Str) :
    canonHost puny (lower h) = canonHost puny h := by
  rw [canonHost_eq, canonHost_eq, splitOn_lower lowerChar_eq_dot, List.map_map]
  congr 1
  apply List.map_congr_left
  intro p _
  exact canonLabel_lower puny hc p

/-- **the letter case of the host is irrelevant**: the hostname enters the result through
`lower(decode_punycode_hostname(h))` only, which is blind to the case of `h` -/
theorem norm_host_case (puny : Str → Str) (hc : PunyCase puny) (o : Opts) (hp : Bool) (p : Parsed)
    (h : Str) :
    normParts puny o hp { p with hostname := some (lower h) } =
      normParts puny o hp { p with hostname := some h } := by
  simp only [normParts_eq, hostKey_eq, Option.map_some, normHost_eq_tail, canonHost_lower puny hc]

example : canonHost id "WWW.Example.COM".toList = canonHost id "www.example.com".toList := by
  simp only [toList_lit]
  decide +kernel

/-! ## irrelevant subdomains -/

/-- **an irrelevant label (`www`, `www<digit>`, `mobile`, `m`, and `amp` under
`normalize_amp`; any letter case) in front of a dot is irrelevant at EVERY label position** of
the hostname: `".".join(H1 + [lab] + H2)` and `".".join(H1 + H2)` have the same normalized
hostname, for dot-free labels and `H2` non-empty (the pattern needs the dot after the label:
a *last* label `www` stays) -/
theorem norm_irrelevant_label (puny : Str → Str) (hpl : PunyLaws puny) (o : Opts)
    (hs : o.stripIrrelevantSubdomains = true) (H1 H2 : List Str) (lab : Str) (h2 : H2 ≠ [])
    (hd : ∀ l ∈ H1 ++ lab :: H2, '.' ∉ l)
    (hlab : isIrrLabel o.normalizeAmp (canonLabel puny lab) = true) :
    normHost puny o (join ['.'] (H1 ++ lab :: H2)) = normHost puny o (join ['.'] (H1 ++ H2)) := by
  have hd' : ∀ l ∈ H1 ++ H2, '.' ∉ l := by
    intro l hl
    apply hd
    simp only [List.mem_append, List.mem_cons] at hl ⊢
    rcases hl with h | h
    · exact Or.inl h
    · exact Or.inr (Or.inr h)
  have hne' : H1 ++ H2 ≠ [] := by simp [h2]
  rw [normHost_eq_tail, normHost_eq_tail, canonHost_join puny _ (by simp) hd,
    canonHost_join puny _ hne' hd', hostTail_eq, hostTail_eq]
  have hdc : ∀ (L : List Str), (∀ l ∈ L, '.' ∉ l) → ∀ l ∈ L.map (canonLabel puny), '.' ∉ l := by
    intro L hL l hl
    simp only [List.mem_map] at hl
    obtain ⟨l0, hl0, rfl⟩ := hl
    exact dot_not_mem_canonLabel puny hpl l0 (hL l0 hl0)
  have e : afterSub o (join ['.'] ((H1 ++ lab :: H2).map (canonLabel puny))) =
      afterSub o (join ['.'] ((H1 ++ H2).map (canonLabel puny))) := by
    unfold afterSub
    rw [if_pos hs, if_pos hs, subdomainSub_join _ _ (by simp) (hdc _ hd),
      subdomainSub_join _ _ (by simp [h2]) (hdc _ hd')]
    simp only [List.map_append, List.map_cons]
    rw [keepLabels_insert _ _ _ _ (by simpa using h2) hlab]
  rw [e]

/-- table obligation: `0`–`9` are among the digits `\d` matches (the regenerated class) -/
theorem ascii_digits_in_class : (48, 57) ∈ Gen.Normalize.reDigitRanges := by decide +kernel

theorem isReDigit_of_ascii {d : Char} (h : isAsciiDigit d = true) : isReDigit d = true := by
  unfold isReDigit
  rw [List.any_eq_true]
  refine ⟨(48, 57), ascii_digits_in_class, ?_⟩
  have h0 : ('0' : Char).toNat = 48 := by decide +kernel
  have h9 : ('9' : Char).toNat = 57 := by decide +kernel
  simp only [isAsciiDigit, Bool.decide_and, Bool.and_eq_true, decide_eq_true_eq, char_le_iff, h0, h9] at h
  simp [h.1, h.2]

/-- the documented labels are irrelevant labels, in any letter case (`www<digit>`: every digit the
pattern's `\d` matches — `0`–`9` by `isReDigit_of_ascii`, and the other Unicode decimal digits) -/
theorem documented_labels (puny : Str → Str) (amp : Bool) (lab : Str)
    (h : lower lab = "www".toList ∨ lower lab = "m".toList ∨ lower lab = "mobile".toList ∨
      (∃ d, isReDigit d = true ∧ lower lab = "www".toList ++ [d]) ∨
      (amp = true ∧ lower lab = "amp".toList)) :
    isIrrLabel amp (canonLabel puny lab) = true := by
  have hx : lower (lab.take 4) ≠ "xn--".toList := by
    rw [lower_take]
    rcases h with h | h | h | ⟨d, _, h⟩ | ⟨_, h⟩ <;> rw [h]
    · decide +kernel
    · decide +kernel
    · decide +kernel
    · simp
    · decide +kernel
  unfold canonLabel
  simp only [hx, if_false]
  rcases h with h | h | h | ⟨d, hd, h⟩ | ⟨ha, h⟩ <;> rw [h]
  · cases amp <;> decide +kernel
  · cases amp <;> decide +kernel
  · cases amp <;> decide +kernel
  · have hw : ciMatch 'w' 'w' = true := by decide +kernel
    have : matchLit "www".toList ("www".toList ++ [d]) = some [d] := by
      show matchLit ['w', 'w', 'w'] ['w', 'w', 'w', d] = some [d]
      simp [matchLit, hw]
    unfold isIrrLabel wwwOk
    rw [this]
    simp [hd]
  · subst ha; decide +kernel

/-- the per-domain query filters name domains whose first label is longer than any irrelevant
label: a label in front of the host cannot turn a host into such a domain -/
theorem perDomain_first_labels :
    Gen.Normalize.perDomainQueryFilters.all
      (fun e => decide (6 < (e.1.toList.takeWhile (· ≠ '.')).length)) = true := by decide +kernel

/-- **a leading `amp-` is irrelevant** in front of every decoded host `c` (every label is its own
`decode_punycode_hostname`) that does not itself start with `amp-` once its irrelevant labels are
removed (`afterSub`; the prefix is documented once, D19): the hostname steps give the same with
and without the prefix — whatever follows it, irrelevant labels included (`amp-www.a.com`: the
cut is followed by a second label pass) -/
theorem norm_amp_dash (puny : Str → Str) (o : Opts) (ha : o.normalizeAmp = true) (c : Str)
    (hdec : ∀ x ∈ splitOn c '.', decodePunycodeHostname puny x = x)
    (honce : startsWith (afterSub o c) ampDash = false) :
    hostTail puny o (ampDash ++ c) = hostTail puny o c := by
  -- the label structure of `c`
  have hd : ∀ x ∈ splitOn c '.', '.' ∉ x := not_mem_of_mem_splitOn '.' c
  have hj : join ['.'] (splitOn c '.') = c := join_splitOn '.' c
  cases hL : splitOn c '.' with
  | nil => exact absurd hL (splitOn_ne_nil c '.')
  | cons l ls =>
  rw [hL] at hd hdec hj
  rw [hostTail_eq, hostTail_eq]
  simp only [ha, if_true]
  -- without the prefix nothing is cut
  have hR : stripAmpPrefix puny o.stripIrrelevantSubdomains (afterSub o c) = afterSub o c := by
    simp only [stripAmpPrefix, honce, Bool.false_eq_true, if_false]
  rw [hR]
  have hcut : ∀ x : Str, startsWith (ampDash ++ x) ampDash = true ∧ (ampDash ++ x).drop 4 = x := by
    intro x; simp [startsWith, ampDash]
  by_cases hs : o.stripIrrelevantSubdomains = true
  · have hmem : ∀ x ∈ l :: keepLabels true ls, x ∈ l :: ls := by
      intro x hx
      rcases List.mem_cons.mp hx with h | h
      · rw [h]; simp
      · exact List.mem_cons_of_mem _ (mem_keepLabels true ls x h)
    have hfirst : afterSub o (ampDash ++ c) = ampDash ++ join ['.'] (l :: keepLabels true ls) := by
      unfold afterSub
      simp only [hs, ha, if_true]
      rw [← hj, subdomainSub_ampDash l ls hd]
    have hsecond : subdomainSub true (join ['.'] (l :: keepLabels true ls)) = afterSub o c := by
      unfold afterSub
      simp only [hs, ha, if_true]
      rw [← hj, subdomainSub_second_pass l ls hd]
    rw [hfirst]
    simp only [stripAmpPrefix, (hcut _).1, (hcut _).2, if_true, hs]
    rw [decode_join_fixed puny _ (by simp) (fun x hx => hd x (hmem x hx)) (fun x hx => hdec x (hmem x hx))]
    exact hsecond
  · have hs' : o.stripIrrelevantSubdomains = false := by simpa using hs
    have e1 : afterSub o (ampDash ++ c) = ampDash ++ c := by simp [afterSub, hs']
    have e2 : afterSub o c = c := by simp [afterSub, hs']
    rw [e1, e2]
    simp only [stripAmpPrefix, (hcut _).1, (hcut _).2, if_true, hs', Bool.false_eq_true, if_false]
    rw [← hj]
    exact decode_join_fixed puny _ (by simp) hd hdec

/-- the hypothesis `honce` cannot be dropped, by design (D19: the code cuts one `amp-`, and the
documented transformation adds one): `amp-amp-a.com` keeps one prefix -/
theorem ampDash_cut_once :
    hostTail id {} (ampDash ++ "amp-a.com".toList) ≠ hostTail id {} "amp-a.com".toList := by
  simp only [toList_lit]
  decide +kernel

/-- `amp-` hiding an irrelevant label (`amp-www.a.com`; /repo a3404a2 added the second label pass),
and the statement's hypotheses on it -/
example : hostTail id {} "amp-www.a.com".toList = hostTail id {} "www.a.com".toList ∧
    hostTail id {} "amp-www.a.com".toList = "a.com".toList ∧
    hostTail id {} "amp-m.www2.a.com".toList = "a.com".toList ∧
    hostTail id {} "www.amp-mobile.a.com".toList = "a.com".toList ∧
    hostTail id { stripIrrelevantSubdomains := false } "amp-www.a.com".toList = "www.a.com".toList ∧
    startsWith (afterSub {} "www.a.com".toList) ampDash = false ∧
    (∀ x ∈ splitOn "www.a.com".toList '.', decodePunycodeHostname id x = x) := by
  simp only [toList_lit]
  decide +kernel

example : hostTail id {} "amp-madame.lefigaro.fr".toList = hostTail id {} "madame.lefigaro.fr".toList ∧
    hostTail id {} "www.m.lemonde.fr".toList = "lemonde.fr".toList ∧
    hostTail id {} "a.www.b.com".toList = "a.b.com".toList ∧
    hostTail id {} "forum-m.example.com".toList = "forum-m.example.com".toList := by
  simp only [toList_lit]
  decide +kernel

/-! ## fragment -/

/-- the routing test reads the first characters `/`, `!` only, which case folding leaves alone
(`shouldStripFragment_lower`) -/
theorem norm_fragment_nonrouting_lc (puny : Str → Str) (o : Normalize.Opts) (hp : Bool) (p : Parsed) (f : Str)
    (h : o.stripFragment = .yes ∨
      (o.stripFragment = .exceptRouting ∧ shouldStripFragment (unquoteFragment f) = false)) :
    normParts puny o hp { p with fragment := f } = normParts puny o hp { p with fragment := [] } := by
  have e : fragStep o f = fragStep o [] := by
    rw [fragStep_eq_lc, fragStep_eq_lc]
    have h0 : unquoteFragment [] = [] := by decide +kernel
    rw [h0, lcStr_nil]
    unfold normFragment
    simp only [List.isEmpty_nil, if_true]
    have hemp : (lcStr o (unquoteFragment f)).isEmpty = true → lcStr o (unquoteFragment f) = [] := by
      intro he; cases hx : lcStr o (unquoteFragment f) <;> simp_all
    rcases h with h | ⟨h, h'⟩
    · rw [h]; by_cases he : (lcStr o (unquoteFragment f)).isEmpty = true
      · simp only [he, if_true]; exact hemp he
      · simp [he]
    · rw [h]; by_cases he : (lcStr o (unquoteFragment f)).isEmpty = true
      · simp only [he, if_true]; exact hemp he
      · simp [he, shouldStripFragment_lcStr, h']
  simp only [normParts_eq, e]

/-- **a fragment that is not client-side routing is irrelevant**: whenever the fragment rule
drops it (`strip_fragment=True`, or `'except-routing'` and the unescaped fragment is not a
routing one) the result is that of the URL without fragment -/
theorem norm_fragment_nonrouting (puny : Str → Str) (o : Opts) (hl : o.lowercase = false) (hp : Bool)
    (p : Parsed) (f : Str)
    (h : o.stripFragment = .yes ∨
      (o.stripFragment = .exceptRouting ∧ shouldStripFragment (unquoteFragment f) = false)) :
    normParts puny o hp { p with fragment := f } = normParts puny o hp { p with fragment := [] } :=
  norm_fragment_nonrouting_lc puny o hp p f h

example : shouldStripFragment (unquoteFragment "top".toList) = false ∧
    shouldStripFragment (unquoteFragment "%2Froute".toList) = true ∧
    shouldStripFragment (unquoteFragment "x/y".toList) = false := by
  simp only [toList_lit]
  decide +kernel

/-! ## query items: tracking items at any position, permutation, `&amp;` -/

/-- the item the filter sees at a position that is not the first (`fix_common_mistakes` cuts a
leading `amp;` there) / with the repair switched off -/
def seenAt (o : Opts) (x : QItem) : QItem := if o.fixCommonMistakes then seenTail x else x

theorem seenItems_append (o : Opts) (a : QItem) (L1 L2 : List QItem) :
    seenItems o.fixCommonMistakes (a :: L1 ++ L2) =
      seenItems o.fixCommonMistakes (a :: L1) ++ L2.map (seenAt o) := by
  unfold seenItems seenAt
  cases o.fixCommonMistakes <;> simp

/-- **a tracking / session / AMP item is irrelevant at ANY position after the first**, whatever
`lowercase`: the filter strips `x` as it sees it — after the `&amp;` repair and, under `lowercase`,
lower-cased (`lcItem o`) -/
theorem norm_tracking_item_any_position_lc (puny : Str → Str) (o : Normalize.Opts)
    (hts : o.stripTrailingSlash = true) (hp : Bool) (p : Parsed) (q q' : Str)
    (a : QItem) (L1 L2 : List QItem) (x : QItem)
    (hq : decoded q = a :: L1 ++ x :: L2) (hq' : decoded q' = a :: L1 ++ L2)
    (hx : keepItem o (hostKey puny p.hostname) (lcItem o (seenAt o x)) = false) :
    normParts puny o hp { p with query := q } = normParts puny o hp { p with query := q' } := by
  apply normParts_congr_query_lc keeps_empty puny o hts
  rw [hq, hq', seenItems_append, seenItems_append]
  simp only [List.map_cons, List.map_append, List.filter_append, List.filter_cons, hx,
    Bool.false_eq_true, if_false]

/-- **a tracking / session / AMP item is irrelevant at ANY position after the first**: if the
decoded items of the two queries are `L1 ++ x :: L2` and `L1 ++ L2` (`L1` non-empty) and the
filter strips `x` as it sees it, the results are equal -/
theorem norm_tracking_item_any_position (puny : Str → Str) (o : Opts) (hl : o.lowercase = false)
    (hts : o.stripTrailingSlash = true) (hp : Bool) (p : Parsed) (q q' : Str)
    (a : QItem) (L1 L2 : List QItem) (x : QItem)
    (hq : decoded q = a :: L1 ++ x :: L2) (hq' : decoded q' = a :: L1 ++ L2)
    (hx : keepItem o (hostKey puny p.hostname) (seenAt o x) = false) :
    normParts puny o hp { p with query := q } = normParts puny o hp { p with query := q' } :=
  norm_tracking_item_any_position_lc puny o hts hp p q q' a L1 L2 x hq hq'
    (by rw [lcItem_false o hl]; exact hx)

/-- `norm_tracking_item_raw` for every value of `lowercase`: the item is judged after the case folding -/
theorem norm_tracking_item_raw_lc (puny : Str → Str) (o : Normalize.Opts)
    (hts : o.stripTrailingSlash = true) (hp : Bool) (p : Parsed) (r0 : Str) (R1 R2 : List Str) (t : Str)
    (hR : ∀ r ∈ r0 :: R1 ++ t :: R2, '&' ∉ r)
    (hx : keepItem o (hostKey puny p.hostname) (lcItem o (seenAt o (unqItem (cutFirst '=' t)))) = false) :
    normParts puny o hp { p with query := join ['&'] (r0 :: R1 ++ t :: R2) } =
      normParts puny o hp { p with query := join ['&'] (r0 :: R1 ++ R2) } := by
  have hR' : ∀ r ∈ r0 :: R1 ++ R2, '&' ∉ r := by
    intro r hr
    apply hR
    simp only [List.cons_append, List.mem_cons, List.mem_append] at hr ⊢
    rcases hr with h | h | h
    · exact Or.inl h
    · exact Or.inr (Or.inl h)
    · exact Or.inr (Or.inr (Or.inr h))
  apply norm_tracking_item_any_position_lc puny o hts hp p _ _
    (unqItem (cutFirst '=' r0)) (R1.map fun r => unqItem (cutFirst '=' r))
    (R2.map fun r => unqItem (cutFirst '=' r)) (unqItem (cutFirst '=' t))
  · rw [decoded_join _ (by simp) hR]; simp
  · rw [decoded_join _ (by simp) hR']; simp
  · exact hx

/-- the same on the raw query strings `"&".join(r0 :: R1 ++ t :: R2)` / `"&".join(r0 :: R1 ++ R2)`
(raw items without `&`): the inserted raw item `t` is judged as the filter sees it — split at
its first `=`, unescaped, serialised, a leading `amp;` cut, split and unescaped again -/
theorem norm_tracking_item_raw (puny : Str → Str) (o : Opts) (hl : o.lowercase = false)
    (hts : o.stripTrailingSlash = true) (hp : Bool) (p : Parsed) (r0 : Str) (R1 R2 : List Str) (t : Str)
    (hR : ∀ r ∈ r0 :: R1 ++ t :: R2, '&' ∉ r)
    (hx : keepItem o (hostKey puny p.hostname) (seenAt o (unqItem (cutFirst '=' t))) = false) :
    normParts puny o hp { p with query := join ['&'] (r0 :: R1 ++ t :: R2) } =
      normParts puny o hp { p with query := join ['&'] (r0 :: R1 ++ R2) } :=
  norm_tracking_item_raw_lc puny o hts hp p r0 R1 R2 t hR (by rw [lcItem_false o hl]; exact hx)

/-- `norm_tracking_item_first` for every value of `lowercase` -/
theorem norm_tracking_item_first_lc (puny : Str → Str) (o : Normalize.Opts)
    (hts : o.stripTrailingSlash = true) (hp : Bool) (p : Parsed) (q q' : Str)
    (b : QItem) (L2 : List QItem) (x : QItem)
    (hq : decoded q = x :: b :: L2) (hq' : decoded q' = b :: L2)
    (hb : o.fixCommonMistakes = true → dropAmp (serializeItem b) = serializeItem b)
    (hx : keepItem o (hostKey puny p.hostname)
      (lcItem o (if o.fixCommonMistakes then seenHead x else x)) = false) :
    normParts puny o hp { p with query := q } = normParts puny o hp { p with query := q' } := by
  apply normParts_congr_query_lc keeps_empty puny o hts
  rw [hq, hq']
  unfold seenItems
  by_cases hf : o.fixCommonMistakes = true
  · have : seenTail b = seenHead b := by unfold seenTail seenHead; rw [hb hf]
    simp only [hf, if_true] at hx ⊢
    simp only [List.map_cons, List.filter_cons, hx, Bool.false_eq_true, if_false, this]
  · have hf' : o.fixCommonMistakes = false := by simpa using hf
    simp only [hf', Bool.false_eq_true, if_false] at hx ⊢
    simp only [List.map_cons, List.filter_cons, hx, Bool.false_eq_true, if_false]

/-- **… and at the first position**, when the item that becomes the first one does not start
with `amp;` (it would lose that prefix only while it is not the first) -/
theorem norm_tracking_item_first (puny : Str → Str) (o : Opts) (hl : o.lowercase = false)
    (hts : o.stripTrailingSlash = true) (hp : Bool) (p : Parsed) (q q' : Str)
    (b : QItem) (L2 : List QItem) (x : QItem)
    (hq : decoded q = x :: b :: L2) (hq' : decoded q' = b :: L2)
    (hb : o.fixCommonMistakes = true → dropAmp (serializeItem b) = serializeItem b)
    (hx : keepItem o (hostKey puny p.hostname)
      (if o.fixCommonMistakes then seenHead x else x) = false) :
    normParts puny o hp { p with query := q } = normParts puny o hp { p with query := q' } :=
  norm_tracking_item_first_lc puny o hts hp p q q' b L2 x hq hq' hb
    (by rw [lcItem_false o hl]; exact hx)

/-- `norm_tracking_item_alone` for every value of `lowercase` -/
theorem norm_tracking_item_alone_lc (puny : Str → Str) (o : Normalize.Opts)
    (hts : o.stripTrailingSlash = true) (hp : Bool) (p : Parsed) (q : Str) (x : QItem)
    (hq : decoded q = [x])
    (hx : keepItem o (hostKey puny p.hostname)
      (lcItem o (if o.fixCommonMistakes then seenHead x else x)) = false) :
    normParts puny o hp { p with query := q } = normParts puny o hp { p with query := [] } := by
  apply normParts_congr_query_lc keeps_empty puny o hts
  rw [hq, decoded_nil]
  have hkeep := keepItem_empty keeps_empty o (hostKey puny p.hostname)
  have hh : seenHead ([], none) = ([], none) := by decide +kernel
  unfold seenItems
  by_cases hf : o.fixCommonMistakes = true
  · simp only [hf, if_true] at hx ⊢
    simp only [List.map_nil, List.map_cons, List.filter_cons, hx, hh, lcItem_empty, hkeep,
      Bool.false_eq_true, if_false, if_true, List.filter_nil, sortIf_singleton, renderQsl_empty_item]
    cases o.sortQuery <;> simp [sortIf, sortQsl, renderQsl_nil]
  · have hf' : o.fixCommonMistakes = false := by simpa using hf
    simp only [hf', Bool.false_eq_true, if_false] at hx ⊢
    simp only [List.map_nil, List.map_cons, List.filter_cons, hx, lcItem_empty, hkeep,
      Bool.false_eq_true, if_false, if_true, List.filter_nil, sortIf_singleton, renderQsl_empty_item]
    cases o.sortQuery <;> simp [sortIf, sortQsl, renderQsl_nil]

/-- **… and alone**: a query made of one stripped item gives the result of the empty query -/
theorem norm_tracking_item_alone (puny : Str → Str) (o : Opts) (hl : o.lowercase = false)
    (hts : o.stripTrailingSlash = true) (hp : Bool) (p : Parsed) (q : Str) (x : QItem)
    (hq : decoded q = [x])
    (hx : keepItem o (hostKey puny p.hostname)
      (if o.fixCommonMistakes then seenHead x else x) = false) :
    normParts puny o hp { p with query := q } = normParts puny o hp { p with query := [] } :=
  norm_tracking_item_alone_lc puny o hts hp p q x hq (by rw [lcItem_false o hl]; exact hx)

/-- non-vacuity: the decoded items of `a=1&utm_source=x&b=2` and of `a=1&b=2`, and the verdict
of the filter on the inserted item -/
example : decoded "a=1&utm_source=x&b=2".toList =
      ("a".toList, some "1".toList) :: [] ++ ("utm_source".toList, some "x".toList) :: [("b".toList, some "2".toList)] ∧
    decoded "a=1&b=2".toList = ("a".toList, some "1".toList) :: [] ++ [("b".toList, some "2".toList)] ∧
    keepItem {} (some "a.com".toList) (seenAt {} ("utm_source".toList, some "x".toList)) = false ∧
    keepItem {} (some "a.com".toList) (seenAt {} ("%75tm_source".toList, some "x".toList)) = false := by
  simp only [toList_lit]
  decide +kernel

/-- **the order of the query items is irrelevant** (`sort_query`), whatever `lowercase`: the items
are folded one by one, which commutes with a permutation -/
theorem norm_query_permutation_lc (puny : Str → Str) (o : Normalize.Opts)
    (hts : o.stripTrailingSlash = true) (hs : o.sortQuery = true) (hp : Bool) (p : Parsed)
    (q q' : Str) (hperm : (decoded q).Perm (decoded q'))
    (hamp : o.fixCommonMistakes = true →
      ∀ kv ∈ decoded q, dropAmp (serializeItem kv) = serializeItem kv) :
    normParts puny o hp { p with query := q } = normParts puny o hp { p with query := q' } := by
  apply normParts_congr_query_lc keeps_empty puny o hts
  congr 1
  simp only [sortIf, hs, if_true]
  apply sortQsl_eq_of_perm
  apply List.Perm.filter
  apply List.Perm.map
  by_cases hf : o.fixCommonMistakes = true
  · have hamp' : ∀ kv ∈ decoded q', dropAmp (serializeItem kv) = serializeItem kv :=
      fun kv hkv => hamp hf kv (hperm.symm.subset hkv)
    rw [hf, seenItems_true_eq_map _ (hamp hf), seenItems_true_eq_map _ hamp']
    exact hperm.map _
  · have hf' : o.fixCommonMistakes = false := by simpa using hf
    simp only [hf', seenItems, Bool.false_eq_true, if_false]
    exact hperm

/-- **the order of the query items is irrelevant** (`sort_query` on): if the decoded items of
the two queries are permutations of each other — and, with the `&amp;` repair on, no item
starts with `amp;` (the repair treats the first item differently) — the results are equal.
Rests on `sortQsl_eq_of_perm`: the sort key is a total order whose ties are equal items. -/
theorem norm_query_permutation (puny : Str → Str) (o : Opts) (hl : o.lowercase = false)
    (hts : o.stripTrailingSlash = true) (hs : o.sortQuery = true) (hp : Bool) (p : Parsed)
    (q q' : Str) (hperm : (decoded q).Perm (decoded q'))
    (hamp : o.fixCommonMistakes = true →
      ∀ kv ∈ decoded q, dropAmp (serializeItem kv) = serializeItem kv) :
    normParts puny o hp { p with query := q } = normParts puny o hp { p with query := q' } :=
  norm_query_permutation_lc puny o hts hs hp p q q' hperm hamp

/-- the general list-level fact behind it: filter, then sort, is blind to the order -/
theorem sort_filter_perm (f : QItem → Bool) {l l' : List QItem} (h : l.Perm l') :
    sortQsl (l.filter f) = sortQsl (l'.filter f) := sortQsl_eq_of_perm (h.filter f)

example : sortQsl [("b".toList, some "2".toList), ("a".toList, none), ("a".toList, some []), ("a".toList, some "1".toList)] =
    sortQsl [("a".toList, some "1".toList), ("a".toList, some []), ("b".toList, some "2".toList), ("a".toList, none)] := by
  simp only [toList_lit]
  decide +kernel

/-- `norm_amp_semicolon_partial` for every value of `lowercase`: its hypotheses do not mention the case -/
theorem norm_amp_semicolon_lc_partial (puny : Str → Str) (o : Normalize.Opts)
    (hts : o.stripTrailingSlash = true) (hf : o.fixCommonMistakes = true) (hp : Bool) (p : Parsed)
    (q q' : Str) (a : QItem) (L1 L2 : List QItem) (x y : QItem)
    (hq : decoded q = a :: L1 ++ y :: L2) (hq' : decoded q' = a :: L1 ++ x :: L2)
    (hy : ampRest (serializeItem y) = some (serializeItem x))
    (hx : dropAmp (serializeItem x) = serializeItem x) :
    normParts puny o hp { p with query := q } = normParts puny o hp { p with query := q' } := by
  apply normParts_congr_query_lc keeps_empty puny o hts
  rw [hq, hq', seenItems_append, seenItems_append]
  have : seenAt o y = seenAt o x := by
    unfold seenAt seenTail dropAmp
    simp only [hf, if_true]
    rw [hy]
    unfold dropAmp at hx
    simp only [Option.getD_some]
    rw [hx]
  simp only [List.map_cons, this]

/-- **`&amp;` written for `&`** (`fix_common_mistakes` on), at any separator but the one in
front of an item that itself starts with `amp;`: if the decoded items are `a :: L1 ++ y :: L2`
and `a :: L1 ++ x :: L2`, where `y` serialises as `amp;` / `amp%3B` (any case) followed by the
serialisation of `x`, the results are equal -/
theorem norm_amp_semicolon_partial (puny : Str → Str) (o : Opts) (hl : o.lowercase = false)
    (hts : o.stripTrailingSlash = true) (hf : o.fixCommonMistakes = true) (hp : Bool) (p : Parsed)
    (q q' : Str) (a : QItem) (L1 L2 : List QItem) (x y : QItem)
    (hq : decoded q = a :: L1 ++ y :: L2) (hq' : decoded q' = a :: L1 ++ x :: L2)
    (hy : ampRest (serializeItem y) = some (serializeItem x))
    (hx : dropAmp (serializeItem x) = serializeItem x) :
    normParts puny o hp { p with query := q } = normParts puny o hp { p with query := q' } :=
  norm_amp_semicolon_lc_partial puny o hts hf hp p q q' a L1 L2 x y hq hq' hy hx

/-- the statement without the last hypothesis -/
def FullAmpSemicolon : Prop :=
  ∀ (x y : QItem), ampRest (serializeItem y) = some (serializeItem x) → seenTail y = seenTail x

/-- … is false: in `…&amp;amp;c` the repair consumes one `amp;` only, so the item reads
`amp;c`, while in `…&amp;c` it reads `c` (not in the family: the oracle does not apply the
transformation in front of such an item) -/
theorem fullAmpSemicolon_fails : ¬ FullAmpSemicolon := by
  intro h
  have := h ("amp;c".toList, none) ("amp;amp;c".toList, none) (by decide +kernel)
  revert this
  decide +kernel

example : decoded "a=1&amp;b=2".toList = ("a".toList, some "1".toList) :: [] ++ ("amp;b".toList, some "2".toList) :: [] ∧
    ampRest (serializeItem ("amp;b".toList, some "2".toList)) = some (serializeItem ("b".toList, some "2".toList)) ∧
    ampRest (serializeItem ("AMP%3Bb".toList, some "2".toList)) = some (serializeItem ("b".toList, some "2".toList)) := by
  simp only [toList_lit]
  decide +kernel

/-! ## an irrelevant label in front of the hostname, on the parsed URL -/

/-- **a documented irrelevant label in FRONT of the hostname is irrelevant for the whole
result**: hostname (by `norm_irrelevant_label` with `H1 = []`) and per-domain query filter
(`domainFilter_front`, `perDomain_first_labels`).  `hlen`: 6 is the length of `mobile`, the longest
irrelevant label; every per-domain filter names a domain whose first label is longer -/
theorem norm_irrelevant_label_front (puny : Str → Str) (hpl : PunyLaws puny) (o : Opts)
    (hs : o.stripIrrelevantSubdomains = true) (hp : Bool) (p : Parsed) (lab h : Str)
    (hl : '.' ∉ lab) (hlen : lab.length ≤ 6) (hx : lower (lab.take 4) ≠ "xn--".toList)
    (hlab : isIrrLabel o.normalizeAmp (lower lab) = true) :
    normParts puny o hp { p with hostname := some (lab ++ '.' :: h) } =
      normParts puny o hp { p with hostname := some h } := by
  have hcl : canonLabel puny lab = lower lab := by unfold canonLabel; rw [if_neg hx]
  have hsplit : lab ++ '.' :: h = join ['.'] ([] ++ lab :: splitOn h '.') := by
    rw [List.nil_append, join_dot_cons _ _ (splitOn_ne_nil h '.'), join_splitOn]
  have hh : h = join ['.'] ([] ++ splitOn h '.') := by simp [join_splitOn]
  have hd : ∀ l ∈ [] ++ lab :: splitOn h '.', '.' ∉ l := by
    intro l hl'
    simp only [List.nil_append, List.mem_cons] at hl'
    rcases hl' with rfl | hl'
    · exact hl
    · exact not_mem_of_mem_splitOn '.' h l hl'
  have hhost : normHost puny o (lab ++ '.' :: h) = normHost puny o h := by
    conv => lhs; rw [hsplit]
    conv => rhs; rw [hh]
    exact norm_irrelevant_label puny hpl o hs [] (splitOn h '.') lab (splitOn_ne_nil h '.') hd
      (by rw [hcl]; exact hlab)
  have hkey : domainFilter (hostKey puny (some (lab ++ '.' :: h))) = domainFilter (hostKey puny (some h)) := by
    rw [hostKey_eq, hostKey_eq]
    have : canonHost puny (lab ++ '.' :: h) = lower lab ++ '.' :: canonHost puny h := by
      rw [hsplit, canonHost_join puny _ (by simp) hd]
      simp only [List.nil_append, List.map_cons, hcl]
      rw [join_dot_cons _ _ (by simpa using splitOn_ne_nil h '.'), ← canonHost_eq]
    rw [this]
    exact domainFilter_front _ _ (by rw [dot_mem_lower]; exact hl) (by simpa [lower] using hlen)
      perDomain_first_labels
  have hfilter : ∀ q, filterQuery o (hostKey puny (some (lab ++ '.' :: h))) q =
      filterQuery o (hostKey puny (some h)) q := by
    intro q
    unfold filterQuery
    simp only [hkey]
  simp only [normParts_eq, Option.map_some, hhost, hfilter]

/-- a parsed `http://<host>/p?<query>` for the examples -/
def exParsed (host query : String) : Parsed :=
  ⟨"http".toList, host.toList, "/p".toList, query.toList, [], none, none, some host.toList, none⟩

example : (normParts id {} true (exParsed "www.facebook.com" "_rdr=1&a=1")).query = "a=1".toList ∧
    (normParts id {} true (exParsed "www.facebook.com" "_rdr=1&a=1")).netloc = "facebook.com".toList := by
  unfold exParsed
  simp only [toList_lit]
  decide +kernel

/-! ## trailing slash, trailing index file name -/

/-- `norm_trailing_slash` for every value of `lowercase` -/
theorem norm_trailing_slash_lc (puny : Str → Str) (o : Normalize.Opts)
    (hts : o.stripTrailingSlash = true) (hp : Bool) (p : Parsed) (habs : absPath p.path = true) :
    normParts puny o hp { p with path := p.path ++ ['/'] } = normParts puny o hp p := by
  simp only [normParts_eq, normPath, pathSteps_trailing_slash_lc o hts p.path habs]

/-- **a trailing slash is irrelevant** (`strip_trailing_slash`; absolute path, i.e. what the
parser returns for a URL with an authority) -/
theorem norm_trailing_slash (puny : Str → Str) (o : Opts) (hl : o.lowercase = false)
    (hts : o.stripTrailingSlash = true) (hp : Bool) (p : Parsed) (habs : absPath p.path = true) :
    normParts puny o hp { p with path := p.path ++ ['/'] } = normParts puny o hp p :=
  norm_trailing_slash_lc puny o hts hp p habs

/-- **a trailing `index.*` / `default.*` file name is irrelevant**, whatever `lowercase`: the
hypotheses of `norm_index`, read on the unescaped and case-folded name and base path
(`Index.HTML` is an index file name under `lowercase`, not otherwise) -/
theorem norm_index_lc (puny : Str → Str) (o : Normalize.Opts)
    (hts : o.stripTrailingSlash = true) (hi : o.stripIndex = true) (hp : Bool) (p : Parsed)
    (name : Str) (habs : absPath p.path = true)
    (hn : '/' ∉ lcStr o (unquotePath name))
    (hroot : splitextRoot (lcStr o (unquotePath name)) = "index".toList ∨
      splitextRoot (lcStr o (unquotePath name)) = "default".toList)
    (hnamp : o.normalizeAmp = true →
      ampSuffixSubFrom (lcStr o (unquotePath name)) true 0 = lcStr o (unquotePath name))
    (hbamp : o.normalizeAmp = true →
      ampSuffixSub (resolveUnquoted true (lcStr o (unquotePath p.path))) =
        resolveUnquoted true (lcStr o (unquotePath p.path)))
    (hbidx : stripIndex (resolveUnquoted true (lcStr o (unquotePath p.path))) =
      resolveUnquoted true (lcStr o (unquotePath p.path))) :
    normParts puny o hp { p with path := p.path ++ '/' :: name } = normParts puny o hp p := by
  simp only [normParts_eq, normPath,
    pathSteps_index_lc o hts hi p.path name habs hn hroot hnamp hbamp hbidx]

/-- **a trailing `index.*` / `default.*` file name is irrelevant** (`strip_index`,
`strip_trailing_slash`; absolute path) when the resolved path of the base does not already end
in an AMP marker or an index file name, and the appended name carries no AMP marker (stated on
the name alone: scanning it after a slash removes nothing) -/
theorem norm_index (puny : Str → Str) (o : Opts) (hl : o.lowercase = false)
    (hts : o.stripTrailingSlash = true) (hi : o.stripIndex = true) (hp : Bool) (p : Parsed)
    (name : Str) (habs : absPath p.path = true)
    (hn : '/' ∉ unquotePath name)
    (hroot : splitextRoot (unquotePath name) = "index".toList ∨
      splitextRoot (unquotePath name) = "default".toList)
    (hnamp : o.normalizeAmp = true → ampSuffixSubFrom (unquotePath name) true 0 = unquotePath name)
    (hbamp : o.normalizeAmp = true →
      ampSuffixSub (resolveUnquoted true (unquotePath p.path)) = resolveUnquoted true (unquotePath p.path))
    (hbidx : stripIndex (resolveUnquoted true (unquotePath p.path)) =
      resolveUnquoted true (unquotePath p.path)) :
    normParts puny o hp { p with path := p.path ++ '/' :: name } = normParts puny o hp p := by
  have h := norm_index_lc puny o hts hi hp p name habs
  simp only [lcStr_false o hl] at h
  exact h hn hroot hnamp hbamp hbidx

/-- non-vacuity: the documented names satisfy the hypotheses on the name, and a plain base path
those on the base; a base ending in an index / AMP marker does not -/
example : ["index.html", "index.php", "index", "default.aspx", "default", "index.htm", "index%2Ehtml"].all (fun nm =>
      let n := unquotePath nm.toList
      !n.contains '/' && (splitextRoot n == "index".toList || splitextRoot n == "default".toList) &&
        ampSuffixSubFrom n true 0 == n) = true ∧
    (let r := resolveUnquoted true (unquotePath "/a/../x%2Fy/b.html".toList)
     ampSuffixSub r = r ∧ stripIndex r = r) ∧
    (let r := resolveUnquoted true (unquotePath "/x/amp".toList); ampSuffixSub r ≠ r) ∧
    (let r := resolveUnquoted true (unquotePath "/x/index.php".toList); stripIndex r ≠ r) := by
  simp only [toList_lit]
  decide +kernel

/-! ## spelling of percent-escapes -/

/-- **what the escapes hide enters the result after unescaping and case folding only**, whatever
`lowercase`: `/%41`, `/%61`, `/A` and `/a` are one path under `lowercase` (the folding comes right
after the unescaping, before the case-sensitive steps) -/
theorem norm_escape_fold_lc (puny : Str → Str) (o : Normalize.Opts)
    (hts : o.stripTrailingSlash = true) (hp : Bool) (p : Parsed) (path' q' f' : Str)
    (hpath : lcStr o (unquotePath path') = lcStr o (unquotePath p.path))
    (hq : (seenItems o.fixCommonMistakes (decoded q')).map (lcItem o) =
      (seenItems o.fixCommonMistakes (decoded p.query)).map (lcItem o))
    (hf : lcStr o (unquoteFragment f') = lcStr o (unquoteFragment p.fragment)) :
    normParts puny o hp { p with path := path', query := q', fragment := f' } = normParts puny o hp p := by
  have h1 : normParts puny o hp { p with path := path', query := q', fragment := f' } =
      normParts puny o hp { p with query := q' } := by
    simp only [normParts_eq, normPath, pathSteps_eq_tail, fragStep_eq_lc, hpath, hf]
  rw [h1]
  have h2 := normParts_congr_query_lc keeps_empty puny o hts hp p q' p.query (by rw [hq])
  simpa using h2

/-- **the spelling of percent-escapes is irrelevant**, whatever `lowercase`: path, query and
fragment enter the result through their safely-unquoted forms only (the case folding comes after) -/
theorem norm_escape_spelling_lc (puny : Str → Str) (o : Normalize.Opts)
    (hts : o.stripTrailingSlash = true) (hp : Bool) (p : Parsed) (path' q' f' : Str)
    (hpath : unquotePath path' = unquotePath p.path)
    (hq : decoded q' = decoded p.query)
    (hf : unquoteFragment f' = unquoteFragment p.fragment) :
    normParts puny o hp { p with path := path', query := q', fragment := f' } = normParts puny o hp p :=
  norm_escape_fold_lc puny o hts hp p path' q' f' (by rw [hpath]) (by rw [hq]) (by rw [hf])

/-- **the spelling of percent-escapes is irrelevant**: path, query and fragment enter the result
through their safely-unquoted forms only — `safely_unquote_path(path)`,
`safely_unquote_qsl(safe_qsl_iter(query))`, `safely_unquote_fragment(fragment)` — so two
parsed URLs whose components agree after unescaping give the same result (`strip_trailing_slash`
on, so that an empty and an absent query are not told apart) -/
theorem norm_escape_spelling (puny : Str → Str) (o : Opts) (hl : o.lowercase = false)
    (hts : o.stripTrailingSlash = true) (hp : Bool) (p : Parsed) (path' q' f' : Str)
    (hpath : unquotePath path' = unquotePath p.path)
    (hq : decoded q' = decoded p.query)
    (hf : unquoteFragment f' = unquoteFragment p.fragment) :
    normParts puny o hp { p with path := path', query := q', fragment := f' } = normParts puny o hp p :=
  norm_escape_spelling_lc puny o hts hp p path' q' f' hpath hq hf

/-- what "agree after unescaping" covers, token by token (C14): an escape of a printable ASCII
character outside the component's unsafe set is that character … -/
theorem escape_of_unreserved (U : List UInt8) (h1 h2 : Char)
    (hk : keepEsc U (byteOf h1 h2) = false) (hlt : byteOf h1 h2 < 0x80) (hsp : byteOf h1 h2 ≠ 0x20)
    (a b : List Tok) :
    unquoteToks U (escapeRaw (a ++ .esc h1 h2 :: b)) =
      unquoteToks U (escapeRaw (a ++ .raw (Char.ofNat (byteOf h1 h2).toNat) :: b)) :=
  unquoteToks_esc_eq_raw U h1 h2 hk hlt hsp a b

/-- … the result of unescaping is a fixed point of unescaping (so any mixture of the two
spellings agrees with both) … -/
theorem unquote_idempotent (U : List UInt8) (hU : (0x25 : UInt8) ∈ U) (hA : AsciiSet U) (s : Str) :
    safelyUnquote U (safelyUnquote U s) = safelyUnquote U s := C02.safelyUnquote_idem U hU hA s

example : unquotePath "/%7Ea/%62-c/%C3%A9".toList = unquotePath "/~a/b%2Dc/é".toList ∧
    decoded "%75tm_source=1&x=%41".toList = decoded "utm_source=%31&%78=A".toList ∧
    unquoteFragment "%2Froute".toList = unquoteFragment "/route".toList := by
  simp only [toList_lit]
  decide +kernel

/-! ## redirection inference is a pre-step; whitespace and control characters around the URL -/

/-- **redirection inference is exactly a pre-step**: on a URL whose resolved, cleaned form
parses, `normalize_url(u)` is `normalize_url(infer_redirection(u), infer_redirection=False)`;
when it does not parse each call returns its own argument unchanged -/
theorem norm_redirect_prestep (puny : Str → Str) (parse : Str → Option Parsed) (platform : Str → Str)
    (o : Opts) (url : Str) :
    prepared platform true url = prepared platform false (infer url) ∧
    normalizeUrl puny parse platform o true url =
      (match parse (prepared platform true url).1 with
       | none => url
       | some _ => normalizeUrl puny parse platform o false (infer url)) ∧
    (parse (prepared platform true url).1 = none →
      normalizeUrl puny parse platform o false (infer url) = infer url) := by
  have e : prepared platform true url = prepared platform false (infer url) := rfl
  refine ⟨e, ?_, ?_⟩
  · simp only [normalizeUrl]
    rw [← e]
    cases parse (prepared platform true url).1 <;> rfl
  · intro h
    simp only [normalizeUrl]
    rw [← e, h]

/-- the result depends on the string only through its cleaned form (and on the string itself
when that does not parse) -/
theorem norm_clean_congr (puny : Str → Str) (parse : Str → Option Parsed) (platform : Str → Str)
    (o : Opts) (ir : Bool) (u v : Str)
    (h : preClean (if ir then infer u else u) = preClean (if ir then infer v else v)) :
    prepared platform ir u = prepared platform ir v ∧
    (parse (prepared platform ir v).1 ≠ none →
      normalizeUrl puny parse platform o ir u = normalizeUrl puny parse platform o ir v) := by
  have e : prepared platform ir u = prepared platform ir v := by
    unfold prepared
    simp only [h]
  refine ⟨e, ?_⟩
  intro hne
  simp only [normalizeUrl]
  rw [e]
  cases hp : parse (prepared platform ir v).1 with
  | none => exact absurd hp hne
  | some p => rfl

/-- a character that the cleaning pass removes at the ends of the URL -/
def isSurrounding (c : Char) : Bool := isSpace c || isControlChar c

theorem stripControl_all_space (w : Str) (h : w.all isSurrounding = true) :
    (stripControl w).all isSpace = true := by
  induction w with
  | nil => rfl
  | cons c cs ih =>
    simp only [List.all_cons, Bool.and_eq_true] at h
    unfold stripControl
    simp only [List.filter_cons]
    by_cases hc : isControlChar c = true
    · simp only [hc, Bool.not_true, Bool.false_eq_true, if_false]
      exact ih h.2
    · have hc' : isControlChar c = false := by simpa using hc
      have : isSpace c = true := by
        have := h.1; unfold isSurrounding at this; simpa [hc'] using this
      simp only [hc', Bool.not_false, if_true, List.all_cons, this, Bool.true_and]
      exact ih h.2

/-- the cleaning pass of the url functions (`CONTROL_CHARS_RE.sub`, `strip`) forgets whitespace and
control characters around the URL -/
theorem cleanedUrl_surrounding (w1 w2 s : Str) (h1 : w1.all isSurrounding = true)
    (h2 : w2.all isSurrounding = true) : cleanedUrl (w1 ++ s ++ w2) = cleanedUrl s := by
  unfold cleanedUrl
  have : stripControl (w1 ++ s ++ w2) = stripControl w1 ++ stripControl s ++ stripControl w2 := by
    simp [stripControl, List.filter_append]
  rw [this, C02.strip_surrounding _ _ _ (stripControl_all_space w1 h1) (stripControl_all_space w2 h2)]

/-- **whitespace and control characters around the URL are irrelevant** for the cleaning
pass (`CONTROL_CHARS_RE.sub`, `strip`, `upper_quoted`) -/
theorem preClean_surrounding (w1 w2 s : Str) (h1 : w1.all isSurrounding = true)
    (h2 : w2.all isSurrounding = true) : preClean (w1 ++ s ++ w2) = preClean s := by
  show upperQuoted (cleanedUrl (w1 ++ s ++ w2)) = upperQuoted (cleanedUrl s)
  rw [cleanedUrl_surrounding w1 w2 s h1 h2]

/-- **… hence for `normalize_url(…, infer_redirection=False)`** on every URL that parses -/
theorem norm_surrounding_ws (puny : Str → Str) (parse : Str → Option Parsed) (platform : Str → Str)
    (o : Opts) (w1 w2 s : Str) (h1 : w1.all isSurrounding = true) (h2 : w2.all isSurrounding = true)
    (hparse : parse (prepared platform false s).1 ≠ none) :
    normalizeUrl puny parse platform o false (w1 ++ s ++ w2) = normalizeUrl puny parse platform o false s :=
  (norm_clean_congr puny parse platform o false _ _ (by simpa using preClean_surrounding w1 w2 s h1 h2)).2 hparse

/-- redirection inference commutes with the cleaning: `infer_redirection` looks for its hints in
the cleaned url (`C15.infer_reads_cleaned`), so two strings with the same cleaned form have
resolved forms with the same cleaned form -/
theorem infer_clean_irrelevant (a b : Str) (h : cleanedUrl a = cleanedUrl b) :
    preClean (infer a) = preClean (infer b) := by
  rcases infer_clean_congr a b h with e | ⟨ea, eb⟩
  · rw [e]
  · rw [ea, eb]
    show upperQuoted (cleanedUrl a) = upperQuoted (cleanedUrl b)
    rw [h]

/-- **the result depends on the argument through its cleaned form only**, with and without
redirection inference, on every URL that parses: control characters anywhere and whitespace at
the ends are irrelevant -/
theorem norm_clean_irrelevant (puny : Str → Str) (parse : Str → Option Parsed) (platform : Str → Str)
    (o : Opts) (ir : Bool) (a b : Str) (h : cleanedUrl a = cleanedUrl b)
    (hparse : parse (prepared platform ir b).1 ≠ none) :
    normalizeUrl puny parse platform o ir a = normalizeUrl puny parse platform o ir b := by
  refine (norm_clean_congr puny parse platform o ir a b ?_).2 hparse
  cases ir with
  | true => simpa using infer_clean_irrelevant a b h
  | false =>
    show upperQuoted (cleanedUrl a) = upperQuoted (cleanedUrl b)
    rw [h]

/-- **… and with redirection inference** (the default), on every URL that parses, whatever the
URL carries — no hint, an absolute or a relative redirect target (also behind leading whitespace), an
AMP-cache host -/
theorem norm_surrounding_ws_redirect (puny : Str → Str) (parse : Str → Option Parsed)
    (platform : Str → Str) (o : Opts) (w1 w2 s : Str) (h1 : w1.all isSurrounding = true)
    (h2 : w2.all isSurrounding = true)
    (hparse : parse (prepared platform true s).1 ≠ none) :
    normalizeUrl puny parse platform o true (w1 ++ s ++ w2) = normalizeUrl puny parse platform o true s :=
  norm_clean_irrelevant puny parse platform o true _ _ (cleanedUrl_surrounding w1 w2 s h1 h2) hparse

/-- … and the case of the hex digits is absorbed by `upper_quoted` on the whole URL before it is
parsed (`C02.hex_case_irrelevant`) -/
theorem norm_hex_case (puny : Str → Str) (parse : Str → Option Parsed) (platform : Str → Str)
    (o : Opts) (u v : Str)
    (h : (tokens (strip (stripControl u))).map upperTok = (tokens (strip (stripControl v))).map upperTok)
    (hparse : parse (prepared platform false v).1 ≠ none) :
    normalizeUrl puny parse platform o false u = normalizeUrl puny parse platform o false v := by
  refine (norm_clean_congr puny parse platform o false u v ?_).2 hparse
  simp only [Bool.false_eq_true, if_false]
  exact C02.hex_case_irrelevant _ _ h

example : preClean " \x00\thttp://A.com/%c3%a9 \n\x7f".toList = preClean "http://A.com/%c3%a9".toList ∧
    (" \x00\t".toList).all isSurrounding = true := by
  simp only [toList_lit]
  decide +kernel

/-- shapes on which `infer_redirection` must read the cleaned url for the two spellings to agree: a
relative target behind a control character, a hint at the very start behind a blank, an empty target in
front of a blank — through the model of `infer_redirection` (fuel form, `C15.infer_total`) -/
example :
    preClean (inferFuel inferTarget 40 "\x00http://a.com/x?redirect=/z".toList) =
      preClean (inferFuel inferTarget 40 "http://a.com/x?redirect=/z".toList) ∧
    inferFuel inferTarget 40 "\x00http://a.com/x?redirect=/z".toList = "http://a.com/z".toList ∧
    preClean (inferFuel inferTarget 40 " url=http://b.com/x".toList) = "http://b.com/x".toList ∧
    preClean (inferFuel inferTarget 40 "http://a.com/?url=https:// ".toList) =
      "http://a.com/?url=https://".toList := by
  simp only [toList_lit]
  decide +kernel

end Ural.Props.C04
