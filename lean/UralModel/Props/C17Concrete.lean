import UralModel.Props.C17
import UralModel.Props.C16
import UralModel.Props.C01Whole
import UralModel.Lemmas.CanonShape
import UralModel.Lemmas.StrLit
/-!
# C17 with the parameters instantiated: `links_from_html` over the Lean models of `is_url`,
# `urljoin`, `canonicalize_url`

`linksFromHtmlConcrete` (`Model/LinksConcrete.lean`) is the parametric model `links` of
`Props/C17.lean` applied to the models of the functions `links_from_html` calls.  What stays
outside (`World`): the idna codec `puny` and the TLD table `validTld`.

* **`links_are_urls_concrete`**, **`links_should_follow_concrete`**, **`links_http_concrete`** —
  the clauses "every yielded link is accepted by `is_url` / by `should_follow_href` / is an
  absolute http(s) URL" for the concrete models, **without any hypothesis** (no class of
  inputs, nothing assumed of the idna codec or the TLD table): the chain
  tests `is_url` again after `canonicalize_url`, so the first is an instance of
  `links_are_urls`, and the other two follow from what the `is_url` model accepts
  (`isUrlC_implies_http`, `httpMatch_not_hash`, both proved here).
* **`canon_preserves_is_url_on`** / **`canon_preserves_is_url`** — a SIDE theorem about
  `canonicalize_url` itself, not used by the clauses above: "`canonicalize_url` preserves
  `is_url`" for the concrete models, on the decidable class `region` (ASCII scheme, no `@`
  behind the authority), for every TLD table and every idna decoder that maps to host labels
  the `xn--` labels **that occur in the hostname of the URL** (`PunySafeOnHostOf`).  The
  statement with the global hypothesis `PunyLabelSafe` (every label decodes to a label) is
  kept as a corollary, but `PunyLabelSafe` is FALSE for CPython's codec
  (`'xn---a-cja'.encode().decode('idna') == '-aé'`), so that corollary says nothing about the
  real codec; the `_on` form applies to it on every URL whose own labels decode to labels.
  The clause is **false** without these hypotheses, on the models
  (`canon_not_preserving_outside_region`, `canon_not_preserving_bad_puny`) and on the
  implementation (KF-C17-3, KF-C17-4; KF-C17-5 lies outside the parser model).
* the clauses that hold for arbitrary parameters, instantiated (`links_*_concrete`).
-/
namespace Ural.Props.C17
open Ural.Html Ural.Py Ural.Py.Re Ural.Py.Re.Extra Ural.UrlPattern Ural.Canonicalize Ural.CanonRoundTrip
open Ural.Gen.Patterns

/-! ## `is_url` with the parser inside never raises -/

/-- the only exception the model of `safe_urlsplit(…).hostname` produces is the `ValueError`
that `is_url` catches: `isUrlC` (a `Bool`) loses nothing -/
theorem isUrlC_total (W : World) (u : Str) :
    ∃ b, IsUrl.is_url (isUrlEnv W) u linkOpts = .ok b :=
  Ural.Props.C16.isurl_total_concrete W u linkOpts

/-! ## `canonicalize_url` preserves `is_url` -/

/-- the full clause, for the concrete models: **false** (see the two witnesses below) -/
def FullCanonPreservesIsUrl : Prop :=
  ∀ (W : World) (sf : Bool) (u c : Str),
    isUrlC W u = true → canonC W sf u = some c → isUrlC W c = true

/-- the idna decoder maps to host labels the punycode labels that occur in the hostname `is_url`
looks at for `u` (the pieces of `safe_urlsplit(u.strip()).hostname.split(".")` that start with
`xn--` and are labels of the patterns).  A hypothesis about
the codec on finitely many strings determined by `u`, which CPython's codec satisfies unless
one of these very labels decodes to something with a leading / trailing hyphen (KF-C17-4) or
another character outside the label classes. -/
def PunySafeOnHostOf (W : World) (u : Str) : Prop :=
  ∀ h, safeHostname (strip u) = .ok (some h) → PunyLabelSafeOn W.puny h

/-- **`canonicalize_url` preserves `is_url`** on `region`, when the idna decoder maps the labels
of the URL's hostname to labels: if `is_url(u, require_protocol=True, tld_aware=True,
allow_spaces_in_path=True, only_http_https=True)` and `canonicalize_url(u, strip_fragment=sf)`
returns `c`, then `is_url(c, …)`.  For every string `u` (surrounding whitespace, control
characters, any userinfo / port / path / query / fragment, IPv4, localhost, names, punycode
labels), both values of `strip_fragment`, every TLD table.  A side theorem about
`canonicalize_url`: the clauses of `links_from_html` below do not depend on it. -/
theorem canon_preserves_is_url_on (W : World) (sf : Bool) (u c : Str)
    (hr : region u = true) (hpuny : PunySafeOnHostOf W u)
    (hu : isUrlC W u = true) (hc : canonC W sf u = some c) :
    isUrlC W c = true := by
  obtain ⟨sch, ui, H, po, tl, hsh, hok0, htld⟩ := shape_of_isUrl W u hu hr
  have hpuny : PunyLabelSafeOn W.puny (lower H) :=
    hpuny _ (by rw [safeHostname_shape hsh, if_pos hok0])
  obtain ⟨ui1, tl1, hsh1⟩ := clean_shape hsh
  obtain ⟨S, rest, hcl, _⟩ := cleanUrl_cleaned u "https".toList https_shaped
  obtain ⟨p, ⟨hpp, hub⟩, rfl⟩ := (C01.canonicalize_accepts_iff W.puny (canonOpts sf) u c).mp hc
  have hnb : '[' ∉ ui1 ∧ ']' ∉ ui1 := hsh1.userinfoBrackets_iff.mp (by
    obtain ⟨pa, q, f, po1, hpe⟩ := hsh1.parseUrl_some hpp
    rw [hpe] at hub
    exact hub)
  obtain ⟨ui2, po2, tl2, hsh2, hws, hui2, hpo2, hok2, hprint⟩ :=
    canon_shape_on W.puny sf hsh1 hpuny hcl hpp hnb
  show isUrlC W (printSplit (canonParts W.puny false sf p)) = true
  rw [hprint]
  exact isUrl_of_shape W hsh2 hsh.sch.lower_eq hws hui2 hpo2 hok2 (TldOk.canon hsh.host hpuny htld)

/-- the same under the GLOBAL hypothesis `PunyLabelSafe` (every label of the patterns
decodes to a label).  Vacuous for CPython's codec, which is not `PunyLabelSafe`
(`xn---a-cja` ↦ `-aé`); use `canon_preserves_is_url_on` for a statement that applies to it. -/
theorem canon_preserves_is_url (W : World) (hpuny : PunyLabelSafe W.puny) (sf : Bool) (u c : Str)
    (hr : region u = true) (hu : isUrlC W u = true) (hc : canonC W sf u = some c) :
    isUrlC W c = true :=
  canon_preserves_is_url_on W sf u c hr (fun h _ => hpuny.on h) hu hc

/-! ### the hypotheses are needed (closed examples, evaluated by the kernel) -/

section Witnesses

private def s (x : String) : Str := x.toList

/-- a world: the idna codec fails on every label (identity), `com` is the only TLD -/
private def w0 : World := ⟨id, fun l => l == s "com"⟩

/-- outside `region` the clause fails (KF-C17-3): `is_url` accepts `http://x_.com/@c.com/..`
through a userinfo that reaches the `@` in the path, `canonicalize_url` resolves the dot
segments, and `is_url` refuses `http://x_.com` -/
theorem canon_not_preserving_outside_region : ¬ FullCanonPreservesIsUrl := by
  intro h
  have := h w0 false (s "http://x_.com/@c.com/..") (s "http://x_.com")
  revert this
  unfold w0 s
  simp only [toList_lit]
  decide +kernel

/-- a world whose decoder maps the label `xn---a-cja` to `-ab` (the real codec gives `-aé`) -/
private def w1 : World := ⟨fun l => if l == s "xn---a-cja" then s "-ab" else l, fun l => l == s "com"⟩

/-- without `PunyLabelSafe` the clause fails inside `region` (KF-C17-4) -/
theorem canon_not_preserving_bad_puny :
    region (s "http://xn---a-cja.com/") = true ∧ isUrlC w1 (s "http://xn---a-cja.com/") = true ∧
      canonC w1 false (s "http://xn---a-cja.com/") = some (s "http://-ab.com") ∧
      isUrlC w1 (s "http://-ab.com") = false := by
  unfold w1 s
  simp only [toList_lit]
  decide +kernel

/-- non-vacuity: the theorem applies to a URL with surrounding whitespace, upper-case scheme
and host, userinfo, a port with leading zeros, dot segments, escapes, a query and a fragment -/
example :
    region (s " HTTP://u%41:p@A.COM:0080/a/../%7Eb?x=1#f ") = true ∧
      isUrlC w0 (s " HTTP://u%41:p@A.COM:0080/a/../%7Eb?x=1#f ") = true ∧
      canonC w0 true (s " HTTP://u%41:p@A.COM:0080/a/../%7Eb?x=1#f ") = some (s "http://uA:p@a.com/~b?x=1") ∧
      isUrlC w0 (s "http://uA:p@a.com/~b?x=1") = true := by
  unfold w0 s
  simp only [toList_lit]
  decide +kernel

/-- non-vacuity of the restricted hypothesis: the decoder of `w1` is NOT `PunyLabelSafe` (it is
the one of `canon_not_preserving_bad_puny`), yet `canon_preserves_is_url_on` applies to a URL
whose labels it decodes to labels -/
example : PunySafeOnHostOf w1 (s " http://XN--B.com/p ") ∧ region (s " http://XN--B.com/p ") = true ∧
    isUrlC w1 (s " http://XN--B.com/p ") = true ∧
    canonC w1 false (s " http://XN--B.com/p ") = some (s "http://xn--b.com/p") := by
  have e : (safeHostname (strip (s " http://XN--B.com/p "))).toOption = some (some (s "xn--b.com")) ∧
      splitOn (s "xn--b.com") '.' = [s "xn--b", s "com"] ∧
      w1.puny (s "xn--b") = s "xn--b" ∧ w1.puny (s "com") = s "com" ∧
      region (s " http://XN--B.com/p ") = true ∧ isUrlC w1 (s " http://XN--B.com/p ") = true ∧
      canonC w1 false (s " http://XN--B.com/p ") = some (s "http://xn--b.com/p") := by
    unfold w1 s
    simp only [toList_lit]
    decide +kernel
  obtain ⟨e, hs, p1, p2, rest⟩ := e
  refine ⟨?_, rest⟩
  intro h hh l hl _ hlab
  rw [hh] at e
  rw [Option.some.inj (Option.some.inj e), hs] at hl
  simp only [List.mem_cons, List.not_mem_nil, or_false] at hl
  rcases hl with rfl | rfl
  · rw [p1]; exact hlab
  · rw [p2]; exact hlab

end Witnesses

/-! ## the clauses of `links_from_html`, for the concrete model -/

variable (W : World) (canonicalize unique sf : Bool)

/-- **every yielded link is accepted by `is_url`** — for the concrete models, with NO
hypothesis: neither on the inputs nor on the idna codec / TLD table (`W` arbitrary).  Instance
of `links_are_urls`: the chain tests `is_url` on the resolved href and, with
`canonicalize=True`, again on its canonical form (links_from_html.py:48-56). -/
theorem links_are_urls_concrete (base : Str) (hrefs : List Str) :
    ∀ l ∈ (linksFromHtmlConcrete W canonicalize unique sf base hrefs).1, isUrlC W l = true :=
  links_are_urls (concreteEnv W sf) ⟨canonicalize, unique⟩ base hrefs

theorem httpProtocolMatch_of_pyMatch {s : Str} (h : pyMatch HTTP_PROTOCOL_RE s = true) :
    httpProtocolMatch s = true := by
  obtain ⟨a, b, c, d, e, rest, rfl, ha, hb, hc, hd, he⟩ := http_accepts_iff.mp (pyMatch_sound h)
  have hA : (a == 'h' || a == 'H') = true := by rcases ha with rfl | rfl <;> decide
  have hB : (b == 't' || b == 'T') = true := by rcases hb with rfl | rfl <;> decide
  have hC : (c == 't' || c == 'T') = true := by rcases hc with rfl | rfl <;> decide
  have hD : (d == 'p' || d == 'P') = true := by rcases hd with rfl | rfl <;> decide
  rcases he with rfl | ⟨x, rfl, hx⟩
  · simp only [httpProtocolMatch, List.nil_append, hA, hB, hC, hD, Bool.and_self]
  · rcases hx with rfl | rfl | rfl <;>
      simp [httpProtocolMatch, hA, hB, hC, hD, longS]

theorem isUrlC_implies_http : IsUrlImpliesHttp (concreteEnv W sf) := by
  intro u hu
  obtain ⟨hne, hhttp, _, _⟩ := (isUrlC_iff W u).mp hu
  exact ⟨by simpa using hne, httpProtocolMatch_of_pyMatch hhttp⟩

theorem httpMatch_not_hash (u : Str) (h : httpProtocolMatch u = true) : u.head? ≠ some '#' := by
  intro hh
  match u, hh with
  | c :: r, hh =>
    simp only [List.head?_cons, Option.some.injEq] at hh
    subst hh
    match r with
    | [] => simp [httpProtocolMatch] at h
    | [_] => simp [httpProtocolMatch] at h
    | [_, _] => simp [httpProtocolMatch] at h
    | _ :: _ :: _ :: _ => simp [httpProtocolMatch] at h

/-- **every yielded link is accepted by `should_follow_href`** — no hypothesis: the two
hypotheses of `links_should_follow` are proved for the concrete models -/
theorem links_should_follow_concrete (base : Str) (hrefs : List Str) :
    ∀ l ∈ (linksFromHtmlConcrete W canonicalize unique sf base hrefs).1,
      shouldFollowHref (concreteEnv W sf) l = true :=
  links_should_follow (concreteEnv W sf) ⟨canonicalize, unique⟩ (isUrlC_implies_http W sf)
    (fun u h => httpMatch_not_hash u h) base hrefs

/-- **absolute http(s) URL** — no hypothesis: a yielded link, stripped, is non-empty and starts
with `http://` or `https://`, read as `HTTP_PROTOCOL_RE` (`^https?://`, `re.I`, Unicode) reads
it: ASCII case-insensitively, and with U+017F (`ſ`) allowed for the `s` of `https` because
`re.I` folds it onto `s`.  So `httpſ://…` is NOT excluded by this statement (is_url's own
protocol class is `re.I` too; what refuses such a link on the real code is the TLD test on the
hostname `urlsplit` reads, i.e. the TLD table, which is a parameter here).  The oracle checks
`urlsplit(link).scheme in {http, https}` on the implementation. -/
theorem links_http_concrete (base : Str) (hrefs : List Str) :
    ∀ l ∈ (linksFromHtmlConcrete W canonicalize unique sf base hrefs).1,
      strip l ≠ [] ∧ httpProtocolMatch (strip l) = true := by
  intro l hl
  exact isUrlC_implies_http W sf l
    (links_are_urls_concrete W canonicalize unique sf base hrefs l hl)

theorem optToExcept_ok {o : Option Str} {y : Str} (h : optToExcept o = .ok y) : o = some y := by
  cases o with
  | none => cases h
  | some c => exact congrArg some (Except.ok.inj h)

/-- never the (canonicalized, when requested) base URL — instance of `links_not_base` -/
theorem links_not_base_concrete (base : Str) (hrefs : List Str) :
    ∀ l ∈ (linksFromHtmlConcrete W canonicalize unique sf base hrefs).1,
      (canonicalize = false → l ≠ base) ∧
      (canonicalize = true → ∃ b, canonC W sf base = some b ∧ l ≠ b) := by
  intro l hl
  obtain ⟨h1, h2⟩ := links_not_base (concreteEnv W sf) ⟨canonicalize, unique⟩ base hrefs l hl
  refine ⟨h1, fun hc => ?_⟩
  obtain ⟨b, hb, hne⟩ := h2 hc
  simp only [concreteEnv] at hb
  exact ⟨b, optToExcept_ok hb, hne⟩

/-- exactly `canonicalize_url` of the resolved href — instance of `links_canonical` -/
theorem links_canonical_concrete (base : Str) (hrefs : List Str) :
    ∀ l ∈ (linksFromHtmlConcrete W true unique sf base hrefs).1,
      ∃ b h u, canonC W sf base = some b ∧ h ∈ hrefs ∧
        (pyMatch PROTOCOL_RE h = true → u = h) ∧
        (pyMatch PROTOCOL_RE h = false → Py.urljoin b h = some u) ∧
        canonC W sf u = some l := by
  intro l hl
  obtain ⟨b, h, u, h1, h2, h3, h4⟩ :=
    links_canonical (concreteEnv W sf) ⟨true, unique⟩ rfl base hrefs l hl
  simp only [concreteEnv] at h1 h4
  simp only [resolve, concreteEnv] at h3
  refine ⟨b, h, u, optToExcept_ok h1, h2, ?_, ?_, optToExcept_ok h4⟩
  · intro hp
    simp only [hp, if_true] at h3
    simpa using h3.symm
  · intro hp
    simp only [hp, Bool.false_eq_true, if_false] at h3
    exact optToExcept_ok h3

/-- once when `unique` — instance of `links_unique` -/
theorem links_unique_concrete (base : Str) (hrefs : List Str) :
    (linksFromHtmlConcrete W canonicalize true sf base hrefs).1.Nodup :=
  links_unique (concreteEnv W sf) ⟨canonicalize, true⟩ rfl base hrefs

/-- the href is followable and its resolved form is a URL — instance of `links_followable` -/
theorem links_followable_concrete (base : Str) (hrefs : List Str) :
    ∀ l ∈ (linksFromHtmlConcrete W canonicalize unique sf base hrefs).1,
      ∃ b h u, effectiveBase (concreteEnv W sf) ⟨canonicalize, unique⟩ base = .ok b ∧ h ∈ hrefs ∧
        h ≠ [] ∧ shouldFollowHref (concreteEnv W sf) h = true ∧
        resolve (concreteEnv W sf) b h = .ok u ∧ isUrlC W u = true ∧
        finish (concreteEnv W sf) ⟨canonicalize, unique⟩ u = .ok l :=
  links_followable (concreteEnv W sf) ⟨canonicalize, unique⟩ base hrefs

/-- non-vacuity of the concrete model (the kernel runs scan-free `links` with the regex
matcher, the parser, `urljoin` and `canonicalize_url`): a relative href is joined, a
duplicate up to canonicalization and the self link are dropped, `mailto:` is refused -/
example :
    linksFromHtmlConcrete ⟨id, fun l => l == "com".toList⟩ true true false "HTTP://Base.com:80/d/p.html".toList
        ["x?q=%7E".toList, "http://a.com/%7Ex".toList, "http://a.com/~x".toList, "mailto:a@b.c".toList,
         "p.html".toList, "http://a.zz/".toList] =
      (["http://base.com/d/x?q=~".toList, "http://a.com/~x".toList], none) := by
  simp only [toList_lit]
  decide +kernel

end Ural.Props.C17
