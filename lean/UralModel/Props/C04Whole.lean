import UralModel.Props.C04Lower
import UralModel.Lemmas.NormBridge
/-!
# C04 on STRINGS: `normalize_url(T(u)) = normalize_url(u)` with the parser inside the model

`Props/C04.lean` states one theorem per transformation of the documented-irrelevant family on the
`Parsed` record (what CPython's `urlsplit` + accessors returned).  Here the parser is the model
`Py.parseUrl` and the function is the whole-string model `normalizeUrlString`
(`Model/NormalizeUrl.lean`): each theorem below says `normalizeUrlString (T u) = normalizeUrlString u`
for **every string `u = g.str` of the grammar class** `NormBridge.InClass ir g`
(`Lemmas/NormBridge.lean`):

    [ letters{1,64} "://" | "//" | nothing ]  [ userinfo "@" ]  host  [ ":" port ]
        [ "/" path ]  [ "?" query ]  [ "#" fragment ]

* `g.wf` (decidable): the bare form does not itself start like a protocol; userinfo without
  `/ ? # [ ]`; host without `/ ? # @ : [ ]`, or an IP literal `[h]` (`br`) with `h` free of
  `/ ? # @ [ ]` and accepted by the model's `_check_bracketed_host`; port text without
  `/ ? # @ [ ]`; path empty or absolute, without `? #`; query without `#`;
* `Plain ir g.str`: the cleaning pass leaves the string alone (no control character, no white
  space at the ends, escapes in upper case — `Cleaned`) and, under `infer_redirection`, the string
  is not followed as a redirect (`infer u = u`; how redirect hints react to a respelling is
  C15 / KF-C04-1);
* the transformed string is in the class too (a decidable hypothesis on `T u`), and the port text
  is a port (`portVal g.port ≠ none`: an unparseable URL is returned as it is, C05).

Each statement comes three times: `normG_*` on the pieces, `norm_*_string_rel` for **every** pair
`u`, `u'` whose cleaned, resolved forms are the two strings of the grammar (`InClassOf`: white
space and control characters around, lower-case escapes, a redirect that is followed to a URL of
the class — nothing is asked of `u` itself), and its instance `norm_*_string` at the two strings
themselves.

`platform_aware` is off (`platform = id`, the default).  Each proof is: bridging lemma
(`NormBridge.parse_str`: what the modelled parser returns on a string of the grammar) + the
theorem on the tuple (`partsG_*`, `Props/C04Lower.lean`; the printed string is a function of the
tuple and of whether a protocol was written, `normG_of_partsG`).  Whitespace / control characters
around the URL need no grammar (`norm_surrounding_ws_string`, `norm_clean_string`: every string
that parses).
-/
set_option linter.unusedSimpArgs false
set_option linter.unusedVariables false
namespace Ural.Props.C04
open Ural Ural.Py Ural.UrlParts Ural.Quote Ural.Canonicalize Ural.Normalize Ural.Normpath Ural.NormBridge

theorem normG_of_partsG (puny : Str → Str) (o : Normalize.Opts) (g g' : UrlG)
    (hp : g'.proto.hasProto = g.proto.hasProto) (h : partsG puny o g' = partsG puny o g) :
    normG puny o g' = normG puny o g := by
  rw [normG_eq_partsG, normG_eq_partsG, h, hp]

/-! ## scheme swap / scheme removal -/

/-- on the pieces -/
theorem normG_scheme (puny : Str → Str) (o : Normalize.Opts) (hs : o.stripProtocol = true)
    (g : UrlG) (P : Proto) :
    normG puny o ({ g with proto := P } : UrlG) = normG puny o g := by
  rw [normG_eq_partsG, normG_eq_partsG, partsG_scheme puny o hs g P]
  cases partsG puny o g with
  | none => rfl
  | some r => exact congrArg some (finalString_stripProtocol o hs _ _ r)

/-- **the scheme prefix is irrelevant on strings** (`strip_protocol`): `https://…`, `ftp://…`,
`//…` and the bare spelling of the same rest are normalized alike -/
theorem norm_scheme_string_rel (puny : Str → Str) (o : Normalize.Opts) (hs : o.stripProtocol = true) (ir : Bool)
    (g : UrlG) (P : Proto) (u u' : Str) (hg : InClassOf ir g u) (hg' : InClassOf ir { g with proto := P } u')
    (hport : portVal g.port ≠ none) :
    normalizeUrlString puny id o ir u' = normalizeUrlString puny id o ir u :=
  string_of_grammar_rel puny o ir _ _ u u' hg hg' hport
    (normG_scheme puny o hs g P)

theorem norm_scheme_string (puny : Str → Str) (o : Normalize.Opts) (hs : o.stripProtocol = true) (ir : Bool)
    (g : UrlG) (P : Proto) (hg : InClass ir g) (hg' : InClass ir { g with proto := P })
    (hport : portVal g.port ≠ none) :
    normalizeUrlString puny id o ir ({ g with proto := P } : UrlG).str =
      normalizeUrlString puny id o ir g.str :=
  norm_scheme_string_rel puny o hs ir g P _ _ hg.of hg'.of hport

/-! ## userinfo -/

/-- on the pieces -/
theorem normG_userinfo (puny : Str → Str) (o : Normalize.Opts) (hs : o.stripAuthentication = true)
    (g : UrlG) (ui' : Option Str) :
    normG puny o ({ g with ui := ui' } : UrlG) = normG puny o g :=
  normG_of_partsG puny o g _ rfl (partsG_userinfo puny o hs g ui')

/-- **userinfo is irrelevant on strings** (`strip_authentication`): inserted, replaced, removed -/
theorem norm_userinfo_string_rel (puny : Str → Str) (o : Normalize.Opts) (hs : o.stripAuthentication = true)
    (ir : Bool) (g : UrlG) (ui' : Option Str) (u u' : Str) (hg : InClassOf ir g u)
    (hg' : InClassOf ir { g with ui := ui' } u') (hport : portVal g.port ≠ none) :
    normalizeUrlString puny id o ir u' = normalizeUrlString puny id o ir u :=
  string_of_grammar_rel puny o ir _ _ u u' hg hg' hport
    (normG_userinfo puny o hs g ui')

theorem norm_userinfo_string (puny : Str → Str) (o : Normalize.Opts) (hs : o.stripAuthentication = true)
    (ir : Bool) (g : UrlG) (ui' : Option Str) (hg : InClass ir g)
    (hg' : InClass ir { g with ui := ui' }) (hport : portVal g.port ≠ none) :
    normalizeUrlString puny id o ir ({ g with ui := ui' } : UrlG).str =
      normalizeUrlString puny id o ir g.str :=
  norm_userinfo_string_rel puny o hs ir g ui' _ _ hg.of hg'.of hport

/-! ## explicit default port -/

/-- on the pieces -/
theorem normG_default_port (puny : Str → Str) (o : Normalize.Opts) (g : UrlG) (p : Str)
    (n : Nat) (hn : n = 80 ∨ n = 443) (hp : portVal (some p) = some (some n))
    (hbase : portVal g.port = some none) :
    normG puny o ({ g with port := some p } : UrlG) = normG puny o g :=
  normG_of_partsG puny o g _ rfl (partsG_default_port puny o g p n hn hp hbase)

/-- **an explicit `:80` / `:443` is irrelevant on strings** (any options): the port text `p`
reads 80 or 443 (`80`, `080`, `443`, …) where the base has no port (`a.com`, or `a.com:`) -/
theorem norm_default_port_string_rel (puny : Str → Str) (o : Normalize.Opts) (ir : Bool) (g : UrlG) (p : Str)
    (n : Nat) (hn : n = 80 ∨ n = 443) (hp : portVal (some p) = some (some n))
    (hbase : portVal g.port = some none)
    (u u' : Str) (hg : InClassOf ir g u) (hg' : InClassOf ir { g with port := some p } u') :
    normalizeUrlString puny id o ir u' = normalizeUrlString puny id o ir u :=
  string_of_grammar_rel puny o ir _ _ u u' hg hg' (by rw [hbase]; simp)
    (normG_default_port puny o g p n hn hp hbase)

theorem norm_default_port_string (puny : Str → Str) (o : Normalize.Opts) (ir : Bool) (g : UrlG) (p : Str)
    (n : Nat) (hn : n = 80 ∨ n = 443) (hp : portVal (some p) = some (some n))
    (hbase : portVal g.port = some none)
    (hg : InClass ir g) (hg' : InClass ir { g with port := some p }) :
    normalizeUrlString puny id o ir ({ g with port := some p } : UrlG).str =
      normalizeUrlString puny id o ir g.str :=
  norm_default_port_string_rel puny o ir g p n hn hp hbase _ _ hg.of hg'.of

/-- on the pieces -/
theorem normG_host_case (puny : Str → Str) (o : Normalize.Opts) (g : UrlG) (h' : Str)
    (hl : lower h' = lower g.host) (hpct : '%' ∉ g.host) (hpct' : '%' ∉ h') :
    normG puny o ({ g with host := h' } : UrlG) = normG puny o g :=
  normG_of_partsG puny o g _ rfl (partsG_host_case puny o g h' hl hpct hpct')

/-- **the letter case of the host is irrelevant on strings** (any options, any decoder — the
parser lower-cases the host): `h'` and the host of the base have the same `str.lower` -/
theorem norm_host_case_string_rel (puny : Str → Str) (o : Normalize.Opts) (ir : Bool) (g : UrlG) (h' : Str)
    (hl : lower h' = lower g.host) (hpct : '%' ∉ g.host) (hpct' : '%' ∉ h')
    (u u' : Str) (hg : InClassOf ir g u) (hg' : InClassOf ir { g with host := h' } u') (hport : portVal g.port ≠ none) :
    normalizeUrlString puny id o ir u' = normalizeUrlString puny id o ir u :=
  string_of_grammar_rel puny o ir _ _ u u' hg hg' hport
    (normG_host_case puny o g h' hl hpct hpct')

theorem norm_host_case_string (puny : Str → Str) (o : Normalize.Opts) (ir : Bool) (g : UrlG) (h' : Str)
    (hl : lower h' = lower g.host) (hpct : '%' ∉ g.host) (hpct' : '%' ∉ h')
    (hg : InClass ir g) (hg' : InClass ir { g with host := h' }) (hport : portVal g.port ≠ none) :
    normalizeUrlString puny id o ir ({ g with host := h' } : UrlG).str =
      normalizeUrlString puny id o ir g.str :=
  norm_host_case_string_rel puny o ir g h' hl hpct hpct' _ _ hg.of hg'.of hport

/-! ## an irrelevant label in front of the host -/

/-- on the pieces -/
theorem normG_irrelevant_label (puny : Str → Str) (hpl : PunyLaws puny) (o : Normalize.Opts)
    (hs : o.stripIrrelevantSubdomains = true) (g : UrlG) (lab : Str)
    (hne : g.host ≠ []) (hdot : '.' ∉ lab) (hlen : lab.length ≤ 6)
    (hx : lower (lab.take 4) ≠ "xn--".toList)
    (hlab : isIrrLabel o.normalizeAmp (lower lab) = true)
    (hpct : '%' ∉ g.host) (hpct' : '%' ∉ lab) :
    normG puny o ({ g with host := lab ++ '.' :: g.host } : UrlG) = normG puny o g :=
  normG_of_partsG puny o g _ rfl
    (partsG_irrelevant_label puny hpl o hs g lab hne hdot hlen hx hlab hpct hpct')

/-- **a documented irrelevant label in front of the host is irrelevant on strings**
(`strip_irrelevant_subdomains`): `www.`, `WWW.`, `www2.`, `m.`, `mobile.`, and `amp.` under
`normalize_amp` (`documented_labels`), in front of a non-empty host -/
theorem norm_irrelevant_label_string_rel (puny : Str → Str) (hpl : PunyLaws puny) (o : Normalize.Opts)
    (hs : o.stripIrrelevantSubdomains = true) (ir : Bool) (g : UrlG) (lab : Str)
    (hne : g.host ≠ []) (hdot : '.' ∉ lab) (hlen : lab.length ≤ 6)
    (hx : lower (lab.take 4) ≠ "xn--".toList)
    (hlab : isIrrLabel o.normalizeAmp (lower lab) = true)
    (hpct : '%' ∉ g.host) (hpct' : '%' ∉ lab)
    (u u' : Str) (hg : InClassOf ir g u) (hg' : InClassOf ir { g with host := lab ++ '.' :: g.host } u')
    (hport : portVal g.port ≠ none) :
    normalizeUrlString puny id o ir u' = normalizeUrlString puny id o ir u :=
  string_of_grammar_rel puny o ir _ _ u u' hg hg' hport
    (normG_irrelevant_label puny hpl o hs g lab hne hdot hlen hx hlab hpct hpct')

theorem norm_irrelevant_label_string (puny : Str → Str) (hpl : PunyLaws puny) (o : Normalize.Opts)
    (hs : o.stripIrrelevantSubdomains = true) (ir : Bool) (g : UrlG) (lab : Str)
    (hne : g.host ≠ []) (hdot : '.' ∉ lab) (hlen : lab.length ≤ 6)
    (hx : lower (lab.take 4) ≠ "xn--".toList)
    (hlab : isIrrLabel o.normalizeAmp (lower lab) = true)
    (hpct : '%' ∉ g.host) (hpct' : '%' ∉ lab)
    (hg : InClass ir g) (hg' : InClass ir { g with host := lab ++ '.' :: g.host })
    (hport : portVal g.port ≠ none) :
    normalizeUrlString puny id o ir ({ g with host := lab ++ '.' :: g.host } : UrlG).str =
      normalizeUrlString puny id o ir g.str :=
  norm_irrelevant_label_string_rel puny hpl o hs ir g lab hne hdot hlen hx hlab hpct hpct' _ _
    hg.of hg'.of hport

/-! ## trailing slash, trailing index file name -/

theorem absPath_of_class {ir : Bool} {g : UrlG} (hg : InClass ir g) : absPath g.path = true :=
  (wf_facts hg.wf).pabs

/-- on the pieces -/
theorem normG_trailing_slash (puny : Str → Str) (o : Normalize.Opts) (hl : o.lowercase = false)
    (hts : o.stripTrailingSlash = true) (g : UrlG) (hw : g.wf = true) :
    normG puny o ({ g with path := g.path ++ ['/'] } : UrlG) = normG puny o g :=
  normG_of_partsG puny o g _ rfl (partsG_trailing_slash puny o hts g hw)

/-- **a trailing slash is irrelevant on strings** (`strip_trailing_slash`), also after an empty
path (`http://a.com` / `http://a.com/`) -/
theorem norm_trailing_slash_string_rel (puny : Str → Str) (o : Normalize.Opts) (hl : o.lowercase = false)
    (hts : o.stripTrailingSlash = true) (ir : Bool) (g : UrlG)
    (u u' : Str) (hg : InClassOf ir g u) (hg' : InClassOf ir { g with path := g.path ++ ['/'] } u')
    (hport : portVal g.port ≠ none) :
    normalizeUrlString puny id o ir u' = normalizeUrlString puny id o ir u :=
  string_of_grammar_rel puny o ir _ _ u u' hg hg' hport
    (normG_trailing_slash puny o hl hts g hg.wf)

theorem norm_trailing_slash_string (puny : Str → Str) (o : Normalize.Opts) (hl : o.lowercase = false)
    (hts : o.stripTrailingSlash = true) (ir : Bool) (g : UrlG)
    (hg : InClass ir g) (hg' : InClass ir { g with path := g.path ++ ['/'] })
    (hport : portVal g.port ≠ none) :
    normalizeUrlString puny id o ir ({ g with path := g.path ++ ['/'] } : UrlG).str =
      normalizeUrlString puny id o ir g.str :=
  norm_trailing_slash_string_rel puny o hl hts ir g _ _ hg.of hg'.of hport

/-- on the pieces -/
theorem normG_index (puny : Str → Str) (o : Normalize.Opts) (hl : o.lowercase = false)
    (hts : o.stripTrailingSlash = true) (hi : o.stripIndex = true) (g : UrlG)
    (name : Str) (hn : '/' ∉ unquotePath name)
    (hroot : splitextRoot (unquotePath name) = "index".toList ∨
    splitextRoot (unquotePath name) = "default".toList)
    (hnamp : o.normalizeAmp = true → ampSuffixSubFrom (unquotePath name) true 0 = unquotePath name)
    (hbamp : o.normalizeAmp = true →
    ampSuffixSub (resolveUnquoted true (unquotePath g.path)) = resolveUnquoted true (unquotePath g.path))
    (hbidx : stripIndex (resolveUnquoted true (unquotePath g.path)) =
    resolveUnquoted true (unquotePath g.path)) (hw : g.wf = true) :
    normG puny o ({ g with path := g.path ++ '/' :: name } : UrlG) = normG puny o g := by
  have h := partsG_index puny o hts hi g name
  simp only [lcStr_false o hl] at h
  exact normG_of_partsG puny o g _ rfl (h hn hroot hnamp hbamp hbidx hw)

/-- **a trailing `index.*` / `default.*` file name is irrelevant on strings** (`strip_index`,
`strip_trailing_slash`), under the hypotheses of `norm_index` on the name and on the base path -/
theorem norm_index_string_rel (puny : Str → Str) (o : Normalize.Opts) (hl : o.lowercase = false)
    (hts : o.stripTrailingSlash = true) (hi : o.stripIndex = true) (ir : Bool) (g : UrlG)
    (name : Str) (hn : '/' ∉ unquotePath name)
    (hroot : splitextRoot (unquotePath name) = "index".toList ∨
      splitextRoot (unquotePath name) = "default".toList)
    (hnamp : o.normalizeAmp = true → ampSuffixSubFrom (unquotePath name) true 0 = unquotePath name)
    (hbamp : o.normalizeAmp = true →
      ampSuffixSub (resolveUnquoted true (unquotePath g.path)) = resolveUnquoted true (unquotePath g.path))
    (hbidx : stripIndex (resolveUnquoted true (unquotePath g.path)) =
      resolveUnquoted true (unquotePath g.path))
    (u u' : Str) (hg : InClassOf ir g u) (hg' : InClassOf ir { g with path := g.path ++ '/' :: name } u')
    (hport : portVal g.port ≠ none) :
    normalizeUrlString puny id o ir u' = normalizeUrlString puny id o ir u :=
  string_of_grammar_rel puny o ir _ _ u u' hg hg' hport
    (normG_index puny o hl hts hi g name hn hroot hnamp hbamp hbidx hg.wf)

theorem norm_index_string (puny : Str → Str) (o : Normalize.Opts) (hl : o.lowercase = false)
    (hts : o.stripTrailingSlash = true) (hi : o.stripIndex = true) (ir : Bool) (g : UrlG)
    (name : Str) (hn : '/' ∉ unquotePath name)
    (hroot : splitextRoot (unquotePath name) = "index".toList ∨
      splitextRoot (unquotePath name) = "default".toList)
    (hnamp : o.normalizeAmp = true → ampSuffixSubFrom (unquotePath name) true 0 = unquotePath name)
    (hbamp : o.normalizeAmp = true →
      ampSuffixSub (resolveUnquoted true (unquotePath g.path)) = resolveUnquoted true (unquotePath g.path))
    (hbidx : stripIndex (resolveUnquoted true (unquotePath g.path)) =
      resolveUnquoted true (unquotePath g.path))
    (hg : InClass ir g) (hg' : InClass ir { g with path := g.path ++ '/' :: name })
    (hport : portVal g.port ≠ none) :
    normalizeUrlString puny id o ir ({ g with path := g.path ++ '/' :: name } : UrlG).str =
      normalizeUrlString puny id o ir g.str :=
  norm_index_string_rel puny o hl hts hi ir g name hn hroot hnamp hbamp hbidx _ _ hg.of hg'.of
    hport

/-! ## fragment -/

/-- on the pieces -/
theorem normG_fragment (puny : Str → Str) (o : Normalize.Opts)
    (g : UrlG) (f' : Option Str) (hf : DroppedFragment o g.fragment) (hf' : DroppedFragment o f') :
    normG puny o ({ g with fragment := f' } : UrlG) = normG puny o g :=
  normG_of_partsG puny o g _ rfl (partsG_fragment puny o g f' hf hf')

/-- **a non-routing fragment is irrelevant on strings**: added, replaced by another one, removed -/
theorem norm_fragment_string_rel (puny : Str → Str) (o : Normalize.Opts) (hl : o.lowercase = false) (ir : Bool)
    (g : UrlG) (f' : Option Str) (hf : DroppedFragment o g.fragment) (hf' : DroppedFragment o f')
    (u u' : Str) (hg : InClassOf ir g u) (hg' : InClassOf ir { g with fragment := f' } u')
    (hport : portVal g.port ≠ none) :
    normalizeUrlString puny id o ir u' = normalizeUrlString puny id o ir u :=
  string_of_grammar_rel puny o ir _ _ u u' hg hg' hport
    (normG_fragment puny o g f' hf hf')

theorem norm_fragment_string (puny : Str → Str) (o : Normalize.Opts) (hl : o.lowercase = false) (ir : Bool)
    (g : UrlG) (f' : Option Str) (hf : DroppedFragment o g.fragment) (hf' : DroppedFragment o f')
    (hg : InClass ir g) (hg' : InClass ir { g with fragment := f' })
    (hport : portVal g.port ≠ none) :
    normalizeUrlString puny id o ir ({ g with fragment := f' } : UrlG).str =
      normalizeUrlString puny id o ir g.str :=
  norm_fragment_string_rel puny o hl ir g f' hf hf' _ _ hg.of hg'.of hport

/-! ## whitespace and control characters: every string that parses, no grammar -/

/-- **whitespace and control characters around the URL are irrelevant on strings**, with and
without redirection inference, for every `s` whose resolved, cleaned form the modelled parser
accepts -/
theorem norm_surrounding_ws_string (puny : Str → Str) (o : Normalize.Opts) (ir : Bool) (w1 w2 s : Str)
    (h1 : w1.all isSurrounding = true) (h2 : w2.all isSurrounding = true)
    (hparse : parseUrl (prepared id ir s).1 ≠ none) :
    normalizeUrlString puny id o ir (w1 ++ s ++ w2) = normalizeUrlString puny id o ir s := by
  rw [normalizeUrlString_eq, normalizeUrlString_eq]
  exact norm_clean_irrelevant puny parseUrl id o ir _ _ (cleanedUrl_surrounding w1 w2 s h1 h2) hparse

/-- **control characters anywhere, whitespace at the ends**: two strings with the same cleaned
form are normalized alike -/
theorem norm_clean_string (puny : Str → Str) (o : Normalize.Opts) (ir : Bool) (a b : Str)
    (h : cleanedUrl a = cleanedUrl b) (hparse : parseUrl (prepared id ir b).1 ≠ none) :
    normalizeUrlString puny id o ir a = normalizeUrlString puny id o ir b := by
  rw [normalizeUrlString_eq, normalizeUrlString_eq]
  exact norm_clean_irrelevant puny parseUrl id o ir a b h hparse

/-! ## inside the query string (the parser is the identity there) -/

/-- on the pieces -/
theorem normG_tracking_item (puny : Str → Str) (o : Normalize.Opts) (hl : o.lowercase = false)
    (hts : o.stripTrailingSlash = true) (g : UrlG) (r0 : Str) (R1 R2 : List Str) (t : Str)
    (hq : g.query = some (join ['&'] (r0 :: R1 ++ R2)))
    (hR : ∀ r ∈ r0 :: R1 ++ t :: R2, '&' ∉ r)
    (hx : keepItem o (hostKey puny g.hostname) (seenAt o (unqItem (cutFirst '=' t))) = false) :
    normG puny o ({ g with query := some (join ['&'] (r0 :: R1 ++ t :: R2)) } : UrlG) = normG puny o g :=
  normG_of_partsG puny o g _ rfl
    (partsG_tracking_item puny o hts g r0 R1 R2 t hq hR (by rw [lcItem_false o hl]; exact hx))

/-- **a tracking item inserted at any position after the first is irrelevant on strings**: the
query of the base is `"&".join(r0 :: R1 ++ R2)`, that of the variant
`"&".join(r0 :: R1 ++ t :: R2)`, and the filter strips `t` as it sees it -/
theorem norm_tracking_item_string_rel (puny : Str → Str) (o : Normalize.Opts) (hl : o.lowercase = false)
    (hts : o.stripTrailingSlash = true) (ir : Bool) (g : UrlG) (r0 : Str) (R1 R2 : List Str) (t : Str)
    (hq : g.query = some (join ['&'] (r0 :: R1 ++ R2)))
    (hR : ∀ r ∈ r0 :: R1 ++ t :: R2, '&' ∉ r)
    (hx : keepItem o (hostKey puny g.hostname) (seenAt o (unqItem (cutFirst '=' t))) = false)
    (u u' : Str) (hg : InClassOf ir g u)
    (hg' : InClassOf ir { g with query := some (join ['&'] (r0 :: R1 ++ t :: R2)) } u')
    (hport : portVal g.port ≠ none) :
    normalizeUrlString puny id o ir u' = normalizeUrlString puny id o ir u :=
  string_of_grammar_rel puny o ir _ _ u u' hg hg' hport
    (normG_tracking_item puny o hl hts g r0 R1 R2 t hq hR hx)

theorem norm_tracking_item_string (puny : Str → Str) (o : Normalize.Opts) (hl : o.lowercase = false)
    (hts : o.stripTrailingSlash = true) (ir : Bool) (g : UrlG) (r0 : Str) (R1 R2 : List Str) (t : Str)
    (hq : g.query = some (join ['&'] (r0 :: R1 ++ R2)))
    (hR : ∀ r ∈ r0 :: R1 ++ t :: R2, '&' ∉ r)
    (hx : keepItem o (hostKey puny g.hostname) (seenAt o (unqItem (cutFirst '=' t))) = false)
    (hg : InClass ir g)
    (hg' : InClass ir { g with query := some (join ['&'] (r0 :: R1 ++ t :: R2)) })
    (hport : portVal g.port ≠ none) :
    normalizeUrlString puny id o ir
        ({ g with query := some (join ['&'] (r0 :: R1 ++ t :: R2)) } : UrlG).str =
      normalizeUrlString puny id o ir g.str :=
  norm_tracking_item_string_rel puny o hl hts ir g r0 R1 R2 t hq hR hx _ _ hg.of hg'.of hport

/-- on the pieces -/
theorem normG_query_permutation (puny : Str → Str) (o : Normalize.Opts)
    (hts : o.stripTrailingSlash = true) (hs : o.sortQuery = true) (g : UrlG)
    (q q' : Str) (hq : g.query = some q) (hperm : (decoded q').Perm (decoded q))
    (hamp : o.fixCommonMistakes = true →
    ∀ kv ∈ decoded q', dropAmp (serializeItem kv) = serializeItem kv) :
    normG puny o ({ g with query := some q' } : UrlG) = normG puny o g :=
  normG_of_partsG puny o g _ rfl (partsG_query_permutation puny o hts hs g q q' hq hperm hamp)

/-- **the order of the query items is irrelevant on strings** (`sort_query`) -/
theorem norm_query_permutation_string_rel (puny : Str → Str) (o : Normalize.Opts) (hl : o.lowercase = false)
    (hts : o.stripTrailingSlash = true) (hs : o.sortQuery = true) (ir : Bool) (g : UrlG)
    (q q' : Str) (hq : g.query = some q) (hperm : (decoded q').Perm (decoded q))
    (hamp : o.fixCommonMistakes = true →
      ∀ kv ∈ decoded q', dropAmp (serializeItem kv) = serializeItem kv)
    (u u' : Str) (hg : InClassOf ir g u) (hg' : InClassOf ir { g with query := some q' } u')
    (hport : portVal g.port ≠ none) :
    normalizeUrlString puny id o ir u' = normalizeUrlString puny id o ir u :=
  string_of_grammar_rel puny o ir _ _ u u' hg hg' hport
    (normG_query_permutation puny o hts hs g q q' hq hperm hamp)

theorem norm_query_permutation_string (puny : Str → Str) (o : Normalize.Opts) (hl : o.lowercase = false)
    (hts : o.stripTrailingSlash = true) (hs : o.sortQuery = true) (ir : Bool) (g : UrlG)
    (q q' : Str) (hq : g.query = some q) (hperm : (decoded q').Perm (decoded q))
    (hamp : o.fixCommonMistakes = true →
      ∀ kv ∈ decoded q', dropAmp (serializeItem kv) = serializeItem kv)
    (hg : InClass ir g) (hg' : InClass ir { g with query := some q' })
    (hport : portVal g.port ≠ none) :
    normalizeUrlString puny id o ir ({ g with query := some q' } : UrlG).str =
      normalizeUrlString puny id o ir g.str :=
  norm_query_permutation_string_rel puny o hl hts hs ir g q q' hq hperm hamp _ _ hg.of hg'.of hport

/-- on the pieces -/
theorem normG_amp_semicolon_partial (puny : Str → Str) (o : Normalize.Opts)
    (hts : o.stripTrailingSlash = true) (hf : o.fixCommonMistakes = true) (g : UrlG)
    (q q' : Str) (hq : g.query = some q) (a : QItem) (L1 L2 : List QItem) (x y : QItem)
    (hd' : decoded q' = a :: L1 ++ y :: L2) (hd : decoded q = a :: L1 ++ x :: L2)
    (hy : ampRest (serializeItem y) = some (serializeItem x))
    (hx : dropAmp (serializeItem x) = serializeItem x) :
    normG puny o ({ g with query := some q' } : UrlG) = normG puny o g :=
  normG_of_partsG puny o g _ rfl
    (partsG_amp_semicolon_partial puny o hts hf g q q' hq a L1 L2 x y hd' hd hy hx)

/-- **`&amp;` written for `&` is irrelevant on strings** (`fix_common_mistakes`), under the
hypotheses of `norm_amp_semicolon_partial` on the decoded items -/
theorem norm_amp_semicolon_string_rel_partial (puny : Str → Str) (o : Normalize.Opts) (hl : o.lowercase = false)
    (hts : o.stripTrailingSlash = true) (hf : o.fixCommonMistakes = true) (ir : Bool) (g : UrlG)
    (q q' : Str) (hq : g.query = some q) (a : QItem) (L1 L2 : List QItem) (x y : QItem)
    (hd' : decoded q' = a :: L1 ++ y :: L2) (hd : decoded q = a :: L1 ++ x :: L2)
    (hy : ampRest (serializeItem y) = some (serializeItem x))
    (hx : dropAmp (serializeItem x) = serializeItem x)
    (u u' : Str) (hg : InClassOf ir g u) (hg' : InClassOf ir { g with query := some q' } u')
    (hport : portVal g.port ≠ none) :
    normalizeUrlString puny id o ir u' = normalizeUrlString puny id o ir u :=
  string_of_grammar_rel puny o ir _ _ u u' hg hg' hport
    (normG_amp_semicolon_partial puny o hts hf g q q' hq a L1 L2 x y hd' hd hy hx)

theorem norm_amp_semicolon_string_partial (puny : Str → Str) (o : Normalize.Opts) (hl : o.lowercase = false)
    (hts : o.stripTrailingSlash = true) (hf : o.fixCommonMistakes = true) (ir : Bool) (g : UrlG)
    (q q' : Str) (hq : g.query = some q) (a : QItem) (L1 L2 : List QItem) (x y : QItem)
    (hd' : decoded q' = a :: L1 ++ y :: L2) (hd : decoded q = a :: L1 ++ x :: L2)
    (hy : ampRest (serializeItem y) = some (serializeItem x))
    (hx : dropAmp (serializeItem x) = serializeItem x)
    (hg : InClass ir g) (hg' : InClass ir { g with query := some q' })
    (hport : portVal g.port ≠ none) :
    normalizeUrlString puny id o ir ({ g with query := some q' } : UrlG).str =
      normalizeUrlString puny id o ir g.str :=
  norm_amp_semicolon_string_rel_partial puny o hl hts hf ir g q q' hq a L1 L2 x y hd' hd hy hx _ _
    hg.of hg'.of hport

/-! ## a tracking item in front of the first item, alone; escape spelling -/

/-- on the pieces -/
theorem normG_tracking_item_first (puny : Str → Str) (o : Normalize.Opts) (hl : o.lowercase = false)
    (hts : o.stripTrailingSlash = true) (g : UrlG) (q q' : Str) (b : QItem) (L2 : List QItem) (x : QItem)
    (hqg : g.query = some q')
    (hq : decoded q = x :: b :: L2) (hq' : decoded q' = b :: L2)
    (hb : o.fixCommonMistakes = true → dropAmp (serializeItem b) = serializeItem b)
    (hx : keepItem o (hostKey puny g.hostname) (if o.fixCommonMistakes then seenHead x else x) = false) :
    normG puny o ({ g with query := some q } : UrlG) = normG puny o g :=
  normG_of_partsG puny o g _ rfl
    (partsG_tracking_item_first puny o hts g q q' b L2 x hqg hq hq' hb
      (by rw [lcItem_false o hl]; exact hx))

/-- **a tracking item inserted in FRONT of the first item is irrelevant on strings**, when the
item that becomes second does not start with `amp;` -/
theorem norm_tracking_item_first_string_rel (puny : Str → Str) (o : Normalize.Opts) (hl : o.lowercase = false)
    (hts : o.stripTrailingSlash = true) (ir : Bool) (g : UrlG) (q q' : Str) (b : QItem) (L2 : List QItem)
    (x : QItem) (hqg : g.query = some q')
    (hq : decoded q = x :: b :: L2) (hq' : decoded q' = b :: L2)
    (hb : o.fixCommonMistakes = true → dropAmp (serializeItem b) = serializeItem b)
    (hx : keepItem o (hostKey puny g.hostname) (if o.fixCommonMistakes then seenHead x else x) = false)
    (u u' : Str) (hg : InClassOf ir g u) (hg' : InClassOf ir { g with query := some q } u')
    (hport : portVal g.port ≠ none) :
    normalizeUrlString puny id o ir u' = normalizeUrlString puny id o ir u :=
  string_of_grammar_rel puny o ir _ _ u u' hg hg' hport
    (normG_tracking_item_first puny o hl hts g q q' b L2 x hqg hq hq' hb hx)

theorem norm_tracking_item_first_string (puny : Str → Str) (o : Normalize.Opts) (hl : o.lowercase = false)
    (hts : o.stripTrailingSlash = true) (ir : Bool) (g : UrlG) (q q' : Str) (b : QItem) (L2 : List QItem)
    (x : QItem) (hqg : g.query = some q')
    (hq : decoded q = x :: b :: L2) (hq' : decoded q' = b :: L2)
    (hb : o.fixCommonMistakes = true → dropAmp (serializeItem b) = serializeItem b)
    (hx : keepItem o (hostKey puny g.hostname) (if o.fixCommonMistakes then seenHead x else x) = false)
    (hg : InClass ir g) (hg' : InClass ir { g with query := some q }) (hport : portVal g.port ≠ none) :
    normalizeUrlString puny id o ir ({ g with query := some q } : UrlG).str =
      normalizeUrlString puny id o ir g.str :=
  norm_tracking_item_first_string_rel puny o hl hts ir g q q' b L2 x hqg hq hq' hb hx _ _ hg.of
    hg'.of hport

/-- on the pieces -/
theorem normG_tracking_item_alone (puny : Str → Str) (o : Normalize.Opts) (hl : o.lowercase = false)
    (hts : o.stripTrailingSlash = true) (g : UrlG) (q : Str) (x : QItem)
    (hqg : g.query.getD [] = [])
    (hq : decoded q = [x])
    (hx : keepItem o (hostKey puny g.hostname) (if o.fixCommonMistakes then seenHead x else x) = false) :
    normG puny o ({ g with query := some q } : UrlG) = normG puny o g :=
  normG_of_partsG puny o g _ rfl
    (partsG_tracking_item_alone puny o hts g q x hqg hq (by rw [lcItem_false o hl]; exact hx))

/-- **a query made of one tracking item is irrelevant on strings**: `…/p?utm_source=x` and `…/p`
(or `…/p?`) -/
theorem norm_tracking_item_alone_string_rel (puny : Str → Str) (o : Normalize.Opts) (hl : o.lowercase = false)
    (hts : o.stripTrailingSlash = true) (ir : Bool) (g : UrlG) (q : Str) (x : QItem)
    (hqg : g.query.getD [] = []) (hq : decoded q = [x])
    (hx : keepItem o (hostKey puny g.hostname) (if o.fixCommonMistakes then seenHead x else x) = false)
    (u u' : Str) (hg : InClassOf ir g u) (hg' : InClassOf ir { g with query := some q } u')
    (hport : portVal g.port ≠ none) :
    normalizeUrlString puny id o ir u' = normalizeUrlString puny id o ir u :=
  string_of_grammar_rel puny o ir _ _ u u' hg hg' hport
    (normG_tracking_item_alone puny o hl hts g q x hqg hq hx)

theorem norm_tracking_item_alone_string (puny : Str → Str) (o : Normalize.Opts) (hl : o.lowercase = false)
    (hts : o.stripTrailingSlash = true) (ir : Bool) (g : UrlG) (q : Str) (x : QItem)
    (hqg : g.query.getD [] = []) (hq : decoded q = [x])
    (hx : keepItem o (hostKey puny g.hostname) (if o.fixCommonMistakes then seenHead x else x) = false)
    (hg : InClass ir g) (hg' : InClass ir { g with query := some q }) (hport : portVal g.port ≠ none) :
    normalizeUrlString puny id o ir ({ g with query := some q } : UrlG).str =
      normalizeUrlString puny id o ir g.str :=
  norm_tracking_item_alone_string_rel puny o hl hts ir g q x hqg hq hx _ _ hg.of hg'.of hport

/-- on the pieces -/
theorem normG_escape_spelling (puny : Str → Str) (o : Normalize.Opts)
    (hts : o.stripTrailingSlash = true) (g : UrlG) (path' : Str) (Q' F' : Option Str)
    (hpath : unquotePath path' = unquotePath g.path)
    (hq : decoded (Q'.getD []) = decoded (g.query.getD []))
    (hf : unquoteFragment (F'.getD []) = unquoteFragment (g.fragment.getD [])) :
    normG puny o ({ g with path := path', query := Q', fragment := F' } : UrlG) = normG puny o g :=
  normG_of_partsG puny o g _ rfl (partsG_escape_spelling puny o hts g path' Q' F' hpath hq hf)

/-- **the spelling of percent-escapes in path, query and fragment is irrelevant on strings**
(`strip_trailing_slash`): the three texts agree after unescaping -/
theorem norm_escape_spelling_string_rel (puny : Str → Str) (o : Normalize.Opts) (hl : o.lowercase = false)
    (hts : o.stripTrailingSlash = true) (ir : Bool) (g : UrlG) (path' : Str) (Q' F' : Option Str)
    (hpath : unquotePath path' = unquotePath g.path)
    (hq : decoded (Q'.getD []) = decoded (g.query.getD []))
    (hf : unquoteFragment (F'.getD []) = unquoteFragment (g.fragment.getD []))
    (u u' : Str) (hg : InClassOf ir g u)
    (hg' : InClassOf ir { g with path := path', query := Q', fragment := F' } u')
    (hport : portVal g.port ≠ none) :
    normalizeUrlString puny id o ir u' = normalizeUrlString puny id o ir u :=
  string_of_grammar_rel puny o ir _ _ u u' hg hg' hport
    (normG_escape_spelling puny o hts g path' Q' F' hpath hq hf)

theorem norm_escape_spelling_string (puny : Str → Str) (o : Normalize.Opts) (hl : o.lowercase = false)
    (hts : o.stripTrailingSlash = true) (ir : Bool) (g : UrlG) (path' : Str) (Q' F' : Option Str)
    (hpath : unquotePath path' = unquotePath g.path)
    (hq : decoded (Q'.getD []) = decoded (g.query.getD []))
    (hf : unquoteFragment (F'.getD []) = unquoteFragment (g.fragment.getD []))
    (hg : InClass ir g) (hg' : InClass ir { g with path := path', query := Q', fragment := F' })
    (hport : portVal g.port ≠ none) :
    normalizeUrlString puny id o ir ({ g with path := path', query := Q', fragment := F' } : UrlG).str =
      normalizeUrlString puny id o ir g.str :=
  norm_escape_spelling_string_rel puny o hl hts ir g path' Q' F' hpath hq hf _ _ hg.of hg'.of hport

/-! ## non-vacuity, and a witness outside the class -/

/-- `https://www.a.com/p?a=1` as a string of the grammar -/
def exG : UrlG :=
  { proto := .scheme "https".toList, ui := none, host := "www.a.com".toList, port := none,
    path := "/p".toList, query := some "a=1".toList, fragment := none }

example : exG.str = "https://www.a.com/p?a=1".toList ∧ InClass false exG ∧
    InClass false { exG with proto := .bare } ∧ InClass false { exG with proto := .slashes } ∧
    InClass false { exG with ui := some "user:pw".toList } ∧
    InClass false { exG with port := some "443".toList } ∧
    portVal (some "443".toList) = some (some 443) ∧ portVal exG.port = some none ∧
    InClass false { exG with host := "WWW.a.COM".toList } ∧
    InClass false { exG with host := "m".toList ++ '.' :: exG.host } ∧
    InClass false { exG with path := exG.path ++ ['/'] } ∧
    InClass false { exG with fragment := some "top".toList } ∧
    DroppedFragment {} (some "top".toList) ∧
    InClass false { exG with query := some "a=1&utm_source=x".toList } := by
  unfold exG
  simp only [toList_lit]
  decide +kernel

/-- the relational class: white space / control characters around and lower-case escapes are
cleaned away before the grammar is asked -/
example : InClassOf false { exG with path := "/%C3%A9".toList } " \x00https://www.a.com/%c3%a9?a=1\n".toList ∧
    InClassOf false { exG with path := "/%C3%A9".toList, ui := some "u".toList }
      "\thttps://u@www.a.com/%C3%a9?a=1 ".toList := by
  unfold exG
  simp only [toList_lit]
  decide +kernel

/-- an IP literal as host: `https://[2001:DB8::1]/p?a=1`, with a userinfo, with `:443` -/
def exG6 : UrlG := { exG with host := "2001:DB8::1".toList, br := true }

example : exG6.str = "https://[2001:DB8::1]/p?a=1".toList ∧ InClass false exG6 ∧
    InClass false { exG6 with port := some "443".toList } ∧
    InClass false { exG6 with ui := some "u:p".toList } ∧
    InClass false { exG6 with host := "2001:db8::1".toList } ∧
    InClass false { exG6 with proto := .bare } ∧
    parseUrl (ensureHttp ({ exG6 with ui := some "u:p".toList, port := some "443".toList } : UrlG).str) =
      ({ exG6 with ui := some "u:p".toList, port := some "443".toList } : UrlG).parsed := by
  unfold exG6 exG
  simp only [toList_lit]
  decide +kernel

/-- the parser on a string of the grammar, evaluated: the bridging lemma says what this is for
every string of the class -/
example : parseUrl (ensureHttp ({ exG with ui := some "user:pw".toList, port := some "8080".toList } : UrlG).str) =
    ({ exG with ui := some "user:pw".toList, port := some "8080".toList } : UrlG).parsed := by
  unfold exG
  simp only [toList_lit]
  decide +kernel

/-- outside the class the statements fail: a userinfo holding `/` ends the authority
(`http://a/b@a.com/` has host `a`), a bare string that starts like a protocol is not the rest of
`http://…` (`x://a.com`), a port text that is no port makes the URL unparseable -/
example :
    normalizeUrlString id id {} false "http://a/b@a.com/".toList ≠
      normalizeUrlString id id {} false "http://a.com/".toList ∧
    normalizeUrlString id id {} false "x://a.com".toList ≠
      normalizeUrlString id id {} false "http://x://a.com".toList ∧
    normalizeUrlString id id {} false "http://u@a.com:x/".toList ≠
      normalizeUrlString id id {} false "http://a.com:x/".toList := by
  simp only [toList_lit]
  decide +kernel

example : InClass false { exG with path := "/%7Ep".toList, query := some "%61=1".toList } ∧
    unquotePath "/%7Ep".toList = unquotePath "/~p".toList ∧
    decoded "%61=1".toList = decoded "a=1".toList := by
  unfold exG
  simp only [toList_lit]
  decide +kernel

end Ural.Props.C04
