import UralModel.Lemmas.TrieDict
/-!
# C10 — TrieDict behaves as a mapping from token sequences to values

The property theorems and the vocabulary they are stated in (`run`, `specRun`, `Refines`); helper
lemmas are in `Lemmas/TrieDict.lean`.  The abstract
specification is the simplest possible dictionary: an association list updated with
`setChild` (overwrite or append) and read with `child`.  `run ops` is the trie obtained from
the empty `TrieDict()` by the assignment history `ops`; `specRun ops` is the dictionary
obtained from `{}` by the same history.  Every theorem is for *all* histories, all keys
(the empty key included) and an arbitrary value type `α` (so a stored `None` is just a
value).
-/
set_option linter.unusedSectionVars false

namespace Ural.Props.C10
open Ural Ural.TNode

variable {τ α : Type} [DecidableEq τ]

/-- the specification state: a dictionary from token lists to values -/
abbrev Spec (τ α : Type) := List (List τ × α)

def run (ops : List (List τ × α)) : TNode τ α :=
  ops.foldl (fun t kv => t.setitem kv.1 kv.2) TNode.empty

def specRun (ops : List (List τ × α)) : Spec τ α :=
  ops.foldl (fun m kv => setChild m kv.1 kv.2) []

/-! ## one step -/

/-- assignment then lookup: the assigned key reads the new value, every other key is
unchanged -/
theorem get_setitem (t : TNode τ α) (k q : List τ) (v : α) :
    (t.setitem k v).get q = if q = k then some v else t.get q := by
  simp [setitem, get_ins]

/-- `t[k]` raises `KeyError` exactly when `get` finds nothing, and returns the stored value
otherwise -/
theorem getitem_keyError_iff (t : TNode τ α) (k : List τ) :
    (t.getitem k = .error .keyError ↔ t.get k = none) ∧
    (∀ v, t.getitem k = .ok v ↔ t.get k = some v) := by
  unfold getitem
  cases t.get k <;> simp

/-- the representation invariant (counters = number of items below, distinct child keys) is
preserved by assignment -/
theorem wf_setitem (t : TNode τ α) (k : List τ) (v : α) (h : Wf t) : Wf (t.setitem k v) :=
  wf_ins t k v h

/-- `items()` is exactly the graph of `get` -/
theorem items_spec (t : TNode τ α) (h : Wf t) (q : List τ) (v : α) :
    (q, v) ∈ t.items ↔ t.get q = some v :=
  mem_items t h q v

/-- `prefixes()` (the stack generator of trie_dict.py:145-158) lists every stored key once -/
theorem items_nodup (t : TNode τ α) (h : Wf t) : t.prefixes.Nodup :=
  nodup_prefixes t h

/-- **the three generators.**  `items()`, `prefixes()` and `values()` are three independent
explicit-stack loops in trie_dict.py (130-172) and three independent definitions in the model
(`itemsLoop`, `prefixesLoop`, `valuesLoop`, run for `size t` iterations).  For EVERY trie
(no invariant needed): `items()` yields a permutation of the pre-order listing `t.items` — so
the loop visits every node once and the fuel `size t` is enough —, and `prefixes()` /
`values()` yield the first / second components of what `items()` yields, in the same order. -/
theorem generators_spec (t : TNode τ α) :
    t.itemsIter.Perm t.items ∧
    t.prefixes = t.itemsIter.map Prod.fst ∧
    t.values = t.itemsIter.map Prod.snd :=
  ⟨itemsIter_perm t, prefixes_eq t, values_eq t⟩

/-- `items()` (the generator) is exactly the graph of `get`, every pair once -/
theorem itemsIter_spec (t : TNode τ α) (h : Wf t) :
    (∀ q v, (q, v) ∈ t.itemsIter ↔ t.get q = some v) ∧ t.itemsIter.Nodup := by
  refine ⟨fun q v => by rw [(itemsIter_perm t).mem_iff, mem_items t h], ?_⟩
  exact (itemsIter_perm t).nodup_iff.2 (nodup_of_nodup_map Prod.fst (nodup_items_keys t h))

/-- `len()` is the number of stored keys, the empty key included -/
theorem len_spec (t : TNode τ α) (h : Wf t) : t.len = t.items.length :=
  len_eq_items_length t h

/-- `longest_matching_prefix_value(q)` is the value stored under the longest stored key that
is a prefix of `q` (`q` included); `none` when no stored key is a prefix of `q` -/
theorem lmpv_spec (t : TNode τ α) (q : List τ) :
    (∀ v, t.lmpv q = some v ↔
      ∃ p, p <+: q ∧ t.get p = some v ∧
        ∀ p', p' <+: q → p.length < p'.length → t.get p' = none) ∧
    (t.lmpv q = none ↔ ∀ p, p <+: q → t.get p = none) := by
  rw [lmpv_eq]
  exact ⟨fun v => lmpvSpec_some _ _ v, lmpvSpec_eq_none _ _⟩

/-! ## every reachable state -/

/-- the refinement relation between a trie and a dictionary (`len`, `items()`, `prefixes()`,
`values()` follow: `Lemmas/TrieDict.lean`, "a well-formed trie is its graph") -/
structure Refines (t : TNode τ α) (m : Spec τ α) : Prop where
  wf : Wf t
  nodup : (keys m).Nodup
  get : ∀ q, t.get q = child m q

theorem refines_empty : Refines (TNode.empty : TNode τ α) [] :=
  ⟨wf_empty, by simp [keys], fun q => by simp⟩

theorem refines_step (t : TNode τ α) (m : Spec τ α) (k : List τ) (v : α) (h : Refines t m) :
    Refines (t.setitem k v) (setChild m k v) :=
  ⟨wf_setitem t k v h.wf, nodup_keys_setChild m k v h.nodup, fun q => by
    rw [get_setitem, child_setChild, h.get]⟩

theorem Refines.graph {t : TNode τ α} {m : Spec τ α} (h : Refines t m) (q : List τ) (v : α) :
    (q, v) ∈ m ↔ t.get q = some v := by
  rw [h.get, mem_iff_child m h.nodup]

theorem refines_run (ops : List (List τ × α)) : Refines (run ops) (specRun ops) := by
  unfold run specRun
  suffices H : ∀ (t : TNode τ α) (m : Spec τ α), Refines t m →
      Refines (ops.foldl (fun t kv => t.setitem kv.1 kv.2) t)
        (ops.foldl (fun m kv => setChild m kv.1 kv.2) m) from H _ _ refines_empty
  induction ops with
  | nil => intro t m h; exact h
  | cons op ops ih => intro t m h; exact ih _ _ (refines_step t m op.1 op.2 h)

/-- **Refinement.** After any assignment history, `get` on the trie is lookup in the
dictionary built by the same history -/
theorem history_refines (ops : List (List τ × α)) (q : List τ) :
    (run ops).get q = child (specRun ops) q :=
  (refines_run ops).get q

/-- the dictionary built by a history has pairwise distinct keys … -/
theorem specRun_nodup (ops : List (List τ × α)) : (keys (specRun ops)).Nodup :=
  (refines_run ops).nodup

/-- … and holds, for every key, the value of the LATEST assignment to that key in the history
(`none` when the key was never assigned): `specRun` really is "the keys assigned so far with
their latest values" -/
theorem specRun_latest (ops : List (List τ × α)) (q : List τ) :
    child (specRun ops) q = (ops.reverse.find? (fun kv => kv.1 = q)).map Prod.snd := by
  simpa [specRun] using child_foldl_setChild ops [] q

/-- after any history, `len` is the number of keys of the dictionary, which are pairwise
distinct: `len` is the number of DISTINCT keys assigned so far -/
theorem history_len (ops : List (List τ × α)) :
    (run ops).len = (specRun ops).length ∧ (keys (specRun ops)).Nodup :=
  have h := refines_run ops
  ⟨len_of_graph h.wf h.nodup h.graph, h.nodup⟩

/-- after any history, `items()` (the stack generator, `__iter__` too) yields exactly the
pairs of the dictionary, each once: a permutation of it -/
theorem history_items (ops : List (List τ × α)) :
    (run ops).itemsIter.Perm (specRun ops) ∧
    (∀ q v, (q, v) ∈ (run ops).itemsIter ↔ child (specRun ops) q = some v) := by
  have h := refines_run ops
  exact ⟨itemsIter_perm_of_graph h.wf h.nodup h.graph, fun q v => by
    rw [(itemsIter_spec _ h.wf).1, h.get]⟩

/-- after any history, `prefixes()` (its own stack loop) yields exactly the keys of the
dictionary, each once -/
theorem history_prefixes (ops : List (List τ × α)) :
    (run ops).prefixes.Perm (keys (specRun ops)) ∧ (run ops).prefixes.Nodup := by
  refine ⟨?_, items_nodup _ (refines_run ops).wf⟩
  rw [prefixes_eq]
  exact (history_items ops).1.map _

/-- after any history, `values()` (its own stack loop) yields exactly the values of the
dictionary, with multiplicity (one per key) -/
theorem history_values (ops : List (List τ × α)) :
    (run ops).values.Perm ((specRun ops).map Prod.snd) := by
  rw [values_eq]
  exact (history_items ops).1.map _

/-- after any history, the longest-prefix lookup is the longest-prefix lookup of the
dictionary -/
theorem history_lmpv (ops : List (List τ × α)) (q : List τ) :
    (run ops).lmpv q = lmpvSpec (child (specRun ops)) q := by
  rw [lmpv_eq, funext (history_refines ops)]

/-! ## non-vacuity: a concrete history with an overwrite, the empty key, a stored `None`
(`α := Option Nat`) and a prefix pair -/

example :
    let ops : List (List String × Option Nat) :=
      [(["a", "b"], some 1), ([], none), (["a"], some 2), (["a", "b"], some 3)]
    (run ops).len = 3 ∧ (run ops).get [] = some none ∧ (run ops).get ["a", "b"] = some (some 3)
      ∧ (run ops).get ["b"] = none ∧ (run ops).lmpv ["a", "b", "c"] = some (some 3)
      ∧ (run ops).lmpv ["b"] = some none
      ∧ (run ops).itemsIter = [([], none), (["a"], some 2), (["a", "b"], some 3)]
      ∧ (run ops).prefixes = [[], ["a"], ["a", "b"]]
      ∧ (run ops).values = [none, some 2, some 3]
      ∧ specRun ops = [(["a", "b"], some 3), ([], none), (["a"], some 2)] := by
  decide +kernel

/-- the stack order is not the pre-order: the LAST child is popped first -/
example :
    let ops : List (List String × Nat) := [(["a"], 1), (["b"], 2), (["a", "c"], 3)]
    (run ops).values = [2, 1, 3] ∧ (run ops).items.map Prod.snd = [1, 3, 2] := by
  decide +kernel

end Ural.Props.C10
