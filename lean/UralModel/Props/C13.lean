import UralModel.Lemmas.LruKey
import UralModel.Props.C12
import UralModel.Lemmas.StrLit
/-!
# C13 — LRUs are hierarchical: a page's ancestors are exactly its LRU prefixes

`Under u v` (`Model/LruSpec.lean`) is the statement's "v lies under u", on the components
returned by `urlsplit`.  Stems are compared "empty path stems aside", i.e. through
`clean_trailing_path` (what `LRUTrie` does), on both sides.  `sp` is the public-suffix split
(property C08), arbitrary; what is assumed about it is explicit (`SplitLaw`,
`SameSuffixSplit`).

* forward, `suffix_aware = False`: full (`stems_prefix_of_under`), for hosts that are names
  (`NamesOrEqual`: an IP literal has no subdomains — the reading of "subdomain"), `u` without
  userinfo (userinfo stems come last: the statement's universe has none);
* forward, `suffix_aware = True`: `stems_prefix_of_under_partial`, with the hypothesis that both
  hosts have the same public-suffix split; without it the law is false *by design* (the suffix
  is one stem): `kf_ancestor_inside_suffix_witness`;
* converse: full in both modes (`under_of_stems_prefix`, `under_of_stems_prefix_sa`), only `u`
  needs to be without userinfo; suffix-aware hosts are compared lower-cased;
* `serialize_prefix_iff`: with the `|` after every stem, stem-list prefix is string prefix.
* the clause "the serialised LRU of `u` is a string prefix of that of `v`": `lru_prefix_of_under*`
  state it for the serialisation of the CLEANED stems (`serialize_lru ∘ clean_trailing_path ∘
  lru_stems`, a string no ural function returns); for `url_to_lru` itself it holds when `v`'s path
  segments read as they are extend `u`'s (`UnderRaw`: `stems_prefix_of_under_raw`,
  `lru_prefix_of_under_raw`, `url_to_lru_prefix_of_under_string`) and is false under `Under`
  (`raw_lru_not_prefix_witness`: `http://a.com/` vs `http://a.com/x`).
-/
set_option linter.unusedSectionVars false
set_option linter.unusedSimpArgs false

namespace Ural.Props.C13
open Ural Ural.Py Ural.Lru

variable (sp : Str → Option (Str × Str))

/-! ## hosts -/

theorem cmp_hostOfStems (sa : Bool) (n : Str) (h : sa = true → SplitLaw sp n) :
    (if sa then lower else id) (hostOfStems sp sa n) = (if sa then lower else id) (specHost n) := by
  rw [hostOfStems_eq_expected sp sa n h]
  unfold expectedHost
  cases sa with
  | false => rfl
  | true =>
    simp only [Bool.true_and, if_true]
    split
    · exact lower_idem _
    · rfl

theorem normalHostStems_of_labelHost {h : Str} (hl : labelHost h = true) :
    normalHostStems h = labelStems h := by
  unfold normalHostStems
  split
  · next hc =>
    simp only [labelHost, hc, Bool.not_true, Bool.false_or, Bool.not_eq_true'] at hl
    have : '.' ∉ h := by simpa using hl
    simp [labelStems, splitChar_of_not_mem this]
  · rfl

/-- the hosts are DNS names (their stems are their labels), unless they are equal -/
def NamesOrEqual (u v : Parts) : Prop :=
  specHost u.netloc = specHost v.netloc ∨
    (labelHost (specHost u.netloc) = true ∧ labelHost (specHost v.netloc) = true)

/-- where the suffix-aware mode splits the host (a plain host of the grammar), the lower-cased
`.hostname` is the lower-cased host -/
theorem lowerHostname_of_split {n : Str} (hwf : wfNetloc n = true) {ds : Str × Str}
    (h : hostSplit sp n = some ds) : lowerHostname n = lower (specHost n) := by
  rcases (grammar_of_wf hwf).host with ⟨inner, hin, _⟩ | hp
  · rw [hostSplit_bracketed sp hin] at h; cases h
  · exact lower_pyHostname_plain hwf hp

/-! ## serialisation -/

/-- **stem-list prefix ↔ string prefix of the serialised LRUs**, for stem lists without `|`
(the `|` terminator after every stem); both non-empty (the stems of a URL always are) -/
theorem serialize_prefix_iff (A B : List Str) (hne : A ≠ []) (hBne : B ≠ [])
    (hA : ∀ a ∈ A, '|' ∉ a) (hB : ∀ b ∈ B, '|' ∉ b) :
    serializeLru A <+: serializeLru B ↔ A <+: B := by
  rw [serializeLru_eq_flatMap hne, serializeLru_eq_flatMap hBne]
  exact flatMap_bar_prefix_iff hA hB

/-! ## forward -/

theorem under_to_nestedG (segs : Str → List Str) (f : Str → Str) (u v : Parts)
    {Heq Hpre : Prop} (hrefl : Heq → Hpre)
    (h1 : f (specHost u.netloc) = f (specHost v.netloc) → Heq)
    (h2 : strictSub (f (specHost u.netloc)) (f (specHost v.netloc)) = true → Hpre)
    (h : UnderByG segs f u v) :
    u.scheme = v.scheme ∧ specPort u.netloc = specPort v.netloc ∧
      ((Heq ∧
          ((segs u.path = segs v.path ∧
              ((u.query = v.query ∧ (u.fragment = [] ∨ u.fragment = v.fragment)) ∨
               (u.fragment = [] ∧ (u.query = [] ∨ u.query = v.query)))) ∨
           (u.query = [] ∧ u.fragment = [] ∧ segs u.path <+: segs v.path))) ∨
       (segs u.path = [] ∧ u.query = [] ∧ u.fragment = [] ∧ Hpre)) := by
  unfold UnderByG at h
  have hP0 : segs u.path = [] → segs u.path <+: segs v.path := by
    intro e; rw [e]; exact List.nil_prefix
  have hPeq : segs u.path = segs v.path → segs u.path <+: segs v.path := by
    intro e; rw [e]; exact List.prefix_refl _
  grind

theorem nested_to_under (segs : Str → List Str) (f : Str → Str) (u v : Parts)
    {Heq Hpre : Prop}
    (h1 : Heq → f (specHost u.netloc) = f (specHost v.netloc))
    (h2 : Hpre → f (specHost u.netloc) = f (specHost v.netloc) ∨
      strictSub (f (specHost u.netloc)) (f (specHost v.netloc)) = true)
    (h : u.scheme = v.scheme ∧ specPort u.netloc = specPort v.netloc ∧
      ((Heq ∧
          ((segs u.path = segs v.path ∧
              ((u.query = v.query ∧ (u.fragment = [] ∨ u.fragment = v.fragment)) ∨
               (u.fragment = [] ∧ (u.query = [] ∨ u.query = v.query)))) ∨
           (u.query = [] ∧ u.fragment = [] ∧ segs u.path <+: segs v.path))) ∨
       (segs u.path = [] ∧ u.query = [] ∧ u.fragment = [] ∧ Hpre))) :
    UnderByG segs f u v := by
  unfold UnderByG
  have hP0 : segs u.path = [] → segs u.path <+: segs v.path := by
    intro e; rw [e]; exact List.nil_prefix
  grind

theorem hostSplit_congr (sp : Str → Option (Str × Str)) {nu nv : Str} (hwu : wfNetloc nu = true)
    (hwv : wfNetloc nv = true) (e : specHost nu = specHost nv) :
    hostSplit sp nu = hostSplit sp nv :=
  hostSplit_of_specHost sp hwu hwv e

theorem normalHostStems_sub {hu hv pre : Str} (l1 : labelHost hu = true) (l2 : labelHost hv = true)
    (hpre : hv = pre ++ '.' :: hu) : normalHostStems hu <+: normalHostStems hv := by
  rw [normalHostStems_of_labelHost l1, normalHostStems_of_labelHost l2, hpre, labelStems_sub]
  exact List.prefix_append _ _

/-- forward, both modes, any reading `segs` of the path segments: all that is asked of the hosts is
that the host stems nest when `v`'s host is a strict subdomain of `u`'s (equal hosts have equal
host stems) -/
theorem keyG_prefix_of_hostStems (segs : Str → List Str) (sa : Bool) (u v : Parts)
    (hwu : wfNetloc u.netloc = true) (hwv : wfNetloc v.netloc = true)
    (hnu : noUserinfo u.netloc = true)
    (hsub : strictSub (specHost u.netloc) (specHost v.netloc) = true →
      hostStems sp sa u.netloc (specHost u.netloc) <+: hostStems sp sa v.netloc (specHost v.netloc))
    (h : UnderByG segs id u v) :
    keyStemsG sp segs sa u <+: keyStemsG sp segs sa v := by
  rw [keyStemsG_prefix_iff sp segs sa u v hnu hwu hwv]
  exact under_to_nestedG segs id u v (fun e => by rw [e]; exact List.prefix_refl _)
    (hostStems_congr sp sa hwu hwv) hsub h

/-- forward, `suffix_aware = False`, for any reading `segs` of the path segments — the core of
`stems_prefix_of_under` (`cleanSegs`) and of `stems_prefix_of_under_raw` (`rawSegs`) -/
theorem keyG_prefix_of_under (segs : Str → List Str) (u v : Parts) (hwu : wfNetloc u.netloc = true)
    (hwv : wfNetloc v.netloc = true) (hnu : noUserinfo u.netloc = true) (hnames : NamesOrEqual u v)
    (h : UnderByG segs id u v) :
    keyStemsG sp segs false u <+: keyStemsG sp segs false v := by
  refine keyG_prefix_of_hostStems sp segs false u v hwu hwv hnu (fun hs => ?_) h
  obtain ⟨pre, hpre⟩ := strictSub_iff.mp hs
  simp only [hostStems_spec, Bool.false_eq_true, if_false]
  rcases hnames with e | ⟨l1, l2⟩
  · rw [e]; exact List.prefix_refl _
  · exact normalHostStems_sub l1 l2 hpre

/-- **forward, `suffix_aware = False`** (full): if `v` lies under `u`, the stems of `u` (empty
path stems aside) are a prefix of the stems of `v`.  `u` has no userinfo; the hosts are names
unless equal. -/
theorem stems_prefix_of_under (u v : Parts) (hwu : wfNetloc u.netloc = true)
    (hwv : wfNetloc v.netloc = true) (hnu : noUserinfo u.netloc = true) (hnames : NamesOrEqual u v)
    (h : Under u v) :
    cleanTrailingPath (lruStems sp false u) <+: cleanTrailingPath (lruStems sp false v) := by
  rw [clean_lruStems, clean_lruStems, keyStems_eq_G, keyStems_eq_G]
  exact (keyG_prefix_of_under sp cleanSegs u v hwu hwv hnu hnames
    ((underBy_iff_G id u v).1 h)).map render

/-- the stems `lru_stems` returns, as they are (no `clean_trailing_path`) -/
theorem lruStems_eq_G (sa : Bool) (p : Parts) :
    lruStems sp sa p = (keyStemsG sp rawSegs sa p).map render := by
  unfold lruStems; rw [lruStemsT_eq_G]

/-- **forward, `suffix_aware = False`, the RAW stems** (full): if `v` lies under `u` with the
path segments read as they are (`UnderRaw`: `v`'s segments, empty ones included, extend `u`'s),
the stems `lru_stems(u)` are a prefix of `lru_stems(v)` — no `clean_trailing_path` on either
side -/
theorem stems_prefix_of_under_raw (u v : Parts) (hwu : wfNetloc u.netloc = true)
    (hwv : wfNetloc v.netloc = true) (hnu : noUserinfo u.netloc = true) (hnames : NamesOrEqual u v)
    (h : UnderRaw u v) :
    lruStems sp false u <+: lruStems sp false v := by
  rw [lruStems_eq_G, lruStems_eq_G]
  exact (keyG_prefix_of_under sp rawSegs u v hwu hwv hnu hnames h).map render

theorem cleanSegs_eq_filter (path : Str) : cleanSegs path = (rawSegs path).filter (· != []) := rfl

/-- the raw reading of the hierarchy implies the one of the statement (empty segments aside) -/
theorem under_of_underRaw (u v : Parts) (h : UnderRaw u v) : Under u v := by
  obtain ⟨h1, h2, h3, h4, h5⟩ := h
  refine ⟨h1, h2, ?_, ?_, h5⟩
  · rcases h3 with e | ⟨a, b⟩
    · exact Or.inl e
    · right
      refine ⟨?_, b⟩
      rw [cleanSegs_eq_filter, a]; rfl
  · rcases h4 with e | ⟨a, b, c⟩
    · left; rw [cleanSegs_eq_filter, cleanSegs_eq_filter, e]
    · right
      refine ⟨a, b, ?_⟩
      rw [cleanSegs_eq_filter, cleanSegs_eq_filter]
      exact c.filter _

/-- the full forward statement for `suffix_aware = True` (without the same-suffix hypothesis) -/
def FullForwardSuffixAware : Prop :=
  ∀ (sp : Str → Option (Str × Str)) (u v : Parts),
    wfNetloc u.netloc = true → wfNetloc v.netloc = true → noUserinfo u.netloc = true →
    NamesOrEqual u v → SplitLaw sp u.netloc → SplitLaw sp v.netloc → Under u v →
    cleanTrailingPath (lruStems sp true u) <+: cleanTrailingPath (lruStems sp true v)

theorem not_strictSub_of_eq {a b : Str} (e : a = b) : ¬ strictSub a b = true := by
  intro hs
  obtain ⟨pre, hpre⟩ := strictSub_iff.mp hs
  have := congrArg List.length hpre
  rw [e] at this
  simp at this
  omega

/-- forward, `suffix_aware = True`, the hypotheses only where they are needed, for any reading
`segs` of the path segments (core of `stems_prefix_of_under_sub` and of its raw form) -/
theorem keyG_prefix_of_under_sub (sp : Str → Option (Str × Str)) (segs : Str → List Str)
    (u v : Parts)
    (hwu : wfNetloc u.netloc = true) (hwv : wfNetloc v.netloc = true)
    (hnu : noUserinfo u.netloc = true)
    (hsub : strictSub (specHost u.netloc) (specHost v.netloc) = true →
      labelHost (specHost u.netloc) = true ∧ labelHost (specHost v.netloc) = true ∧
        SplitLaw sp u.netloc ∧ SplitLaw sp v.netloc ∧ SameSuffixSplit sp u.netloc v.netloc)
    (h : UnderByG segs id u v) :
    keyStemsG sp segs true u <+: keyStemsG sp segs true v := by
  refine keyG_prefix_of_hostStems sp segs true u v hwu hwv hnu (fun hs => ?_) h
  obtain ⟨l1, l2, hsu, hsv, hsame⟩ := hsub hs
  obtain ⟨pre, hpre⟩ := strictSub_iff.mp hs
  simp only [hostStems_spec, if_true]
  rcases hsame with ⟨a, b⟩ | ⟨du, dv, s, a, b⟩
  · rw [a, b]
    exact normalHostStems_sub l1 l2 hpre
  · have lu := lowerHostname_of_split sp hwu a
    have lv := lowerHostname_of_split sp hwv b
    have elv : lower (specHost v.netloc) = lower pre ++ '.' :: lower (specHost u.netloc) := by
      rw [hpre, lower_dot]
    have h1 := hsu du s a
    have h2 := hsv dv s b
    rw [lu] at h1
    rw [lv, elv] at h2
    rw [a, b, lu, lv, elv]
    exact splitStems_prefix _ _ h1 h2

/-- **forward, `suffix_aware = True`, the hypotheses only where they are needed**: when the two
hosts are equal nothing is asked of `split_suffix`; when `v`'s host is a strict subdomain, the
hosts are names, C08's clause holds for both and the public suffix is the same.  (Generalises
`stems_prefix_of_under_partial`.) -/
theorem stems_prefix_of_under_sub (sp : Str → Option (Str × Str)) (u v : Parts)
    (hwu : wfNetloc u.netloc = true) (hwv : wfNetloc v.netloc = true)
    (hnu : noUserinfo u.netloc = true)
    (hsub : strictSub (specHost u.netloc) (specHost v.netloc) = true →
      labelHost (specHost u.netloc) = true ∧ labelHost (specHost v.netloc) = true ∧
        SplitLaw sp u.netloc ∧ SplitLaw sp v.netloc ∧ SameSuffixSplit sp u.netloc v.netloc)
    (h : Under u v) :
    cleanTrailingPath (lruStems sp true u) <+: cleanTrailingPath (lruStems sp true v) := by
  rw [clean_lruStems, clean_lruStems, keyStems_eq_G, keyStems_eq_G]
  exact (keyG_prefix_of_under_sub sp cleanSegs u v hwu hwv hnu hsub
    ((underBy_iff_G id u v).1 h)).map render

/-- **forward, `suffix_aware = True`** (partial): as above, when both hosts have the same
public-suffix split (`SameSuffixSplit`) and C08's clause holds for both (`SplitLaw`) -/
theorem stems_prefix_of_under_partial (u v : Parts) (hwu : wfNetloc u.netloc = true)
    (hwv : wfNetloc v.netloc = true) (hnu : noUserinfo u.netloc = true) (hnames : NamesOrEqual u v)
    (hsu : SplitLaw sp u.netloc) (hsv : SplitLaw sp v.netloc)
    (hsame : SameSuffixSplit sp u.netloc v.netloc) (h : Under u v) :
    cleanTrailingPath (lruStems sp true u) <+: cleanTrailingPath (lruStems sp true v) := by
  refine stems_prefix_of_under_sub sp u v hwu hwv hnu (fun hs => ?_) h
  rcases hnames with e | ⟨l1, l2⟩
  · exact absurd hs (not_strictSub_of_eq e)
  · exact ⟨l1, l2, hsu, hsv, hsame⟩

/-- the cleaned stems of a well-formed stem list of a URL: non-empty, no `|` -/
theorem clean_stems_ok_of (sa : Bool) (p : Parts) (ok : StemsOK (lruStems sp sa p)) :
    cleanTrailingPath (lruStems sp sa p) ≠ [] ∧
      ∀ s ∈ cleanTrailingPath (lruStems sp sa p), '|' ∉ s := by
  constructor
  · rw [clean_lruStems]
    simp only [ne_eq, List.map_eq_nil_iff, keyStems, List.append_eq_nil_iff]
    intro h
    exact Lru.hostStems_ne_nil sp _ _ _ h.2.2.1
  · intro s hsm
    simp only [cleanTrailingPath, List.mem_filter] at hsm
    exact ok.nobar s hsm.1

/-- the cleaned stems of a URL without `|`: non-empty, no `|` -/
theorem clean_stems_ok (sa : Bool) (p : Parts) (hb : noBar p = true)
    (hs : sa = true → SplitLaw sp p.netloc) :
    cleanTrailingPath (lruStems sp sa p) ≠ [] ∧
      ∀ s ∈ cleanTrailingPath (lruStems sp sa p), '|' ∉ s :=
  clean_stems_ok_of sp sa p (C12.stems_wellformed sp sa p hb hs)

/-- **the serialisation of the CLEANED stems of `u` is a string prefix of that of `v`**
(`serialize_lru(clean_trailing_path(lru_stems(·)))` on both sides: "empty path stems aside"),
`suffix_aware = False`, for URLs without `|`.  NOT a statement about `url_to_lru(u)`, which keeps
the empty path stems: see `lru_prefix_of_under_raw` / `raw_lru_not_prefix_witness` -/
theorem lru_prefix_of_under (u v : Parts) (hwu : wfNetloc u.netloc = true)
    (hwv : wfNetloc v.netloc = true) (hnu : noUserinfo u.netloc = true) (hnames : NamesOrEqual u v)
    (hbu : noBar u = true) (hbv : noBar v = true) (h : Under u v) :
    serializeLru (cleanTrailingPath (lruStems sp false u)) <+:
      serializeLru (cleanTrailingPath (lruStems sp false v)) := by
  have cu := clean_stems_ok sp false u hbu (by simp)
  have cv := clean_stems_ok sp false v hbv (by simp)
  rw [serialize_prefix_iff _ _ cu.1 cv.1 cu.2 cv.2]
  exact stems_prefix_of_under sp u v hwu hwv hnu hnames h

/-- **`url_to_lru(u)` itself is a string prefix of `url_to_lru(v)`** — the serialisation of the
stems as `lru_stems` returns them, empty path stems kept —, `suffix_aware = False`, for URLs
without `|`, when `v` lies under `u` with the path segments read as they are (`UnderRaw`).  Under
the statement's reading `Under` (empty path stems aside) this is false: `http://a.com/` →
`…|p:|` is not a prefix of `http://a.com/x` → `…|p:x|` (`raw_lru_not_prefix_witness`) -/
theorem lru_prefix_of_under_raw (u v : Parts) (hwu : wfNetloc u.netloc = true)
    (hwv : wfNetloc v.netloc = true) (hnu : noUserinfo u.netloc = true) (hnames : NamesOrEqual u v)
    (hbu : noBar u = true) (hbv : noBar v = true) (h : UnderRaw u v) :
    serializeLru (lruStems sp false u) <+: serializeLru (lruStems sp false v) := by
  have ou := C12.stems_wellformed sp false u hbu (by simp)
  have ov := C12.stems_wellformed sp false v hbv (by simp)
  rw [serialize_prefix_iff _ _ ou.ne ov.ne ou.nobar ov.nobar]
  exact stems_prefix_of_under_raw sp u v hwu hwv hnu hnames h

/-- the same, `suffix_aware = True`, under the same-suffix hypothesis -/
theorem lru_prefix_of_under_partial (u v : Parts) (hwu : wfNetloc u.netloc = true)
    (hwv : wfNetloc v.netloc = true) (hnu : noUserinfo u.netloc = true) (hnames : NamesOrEqual u v)
    (hsu : SplitLaw sp u.netloc) (hsv : SplitLaw sp v.netloc)
    (hsame : SameSuffixSplit sp u.netloc v.netloc)
    (hbu : noBar u = true) (hbv : noBar v = true) (h : Under u v) :
    serializeLru (cleanTrailingPath (lruStems sp true u)) <+:
      serializeLru (cleanTrailingPath (lruStems sp true v)) := by
  have cu := clean_stems_ok sp true u hbu (fun _ => hsu)
  have cv := clean_stems_ok sp true v hbv (fun _ => hsv)
  rw [serialize_prefix_iff _ _ cu.1 cv.1 cu.2 cv.2]
  exact stems_prefix_of_under_partial sp u v hwu hwv hnu hnames hsu hsv hsame h

/-! ## the known finding: an ancestor inside the public suffix -/

/-- a concrete split for the witnesses: `uk` and `co.uk` are public suffixes -/
def ukSplit (h : Str) : Option (Str × Str) :=
  if h = "uk".toList then some ([], "uk".toList)
  else if h = "co.uk".toList then some ([], "co.uk".toList)
  else if h = "a.co.uk".toList then some ("a".toList, "co.uk".toList)
  else none

def urlUk : Parts := { scheme := "http".toList, netloc := "uk".toList, path := [], query := [], fragment := [] }
def urlACoUk : Parts :=
  { scheme := "http".toList, netloc := "a.co.uk".toList, path := [], query := [], fragment := [] }
def urlCoUk : Parts :=
  { scheme := "http".toList, netloc := "co.uk".toList, path := [], query := [], fragment := [] }

theorem ukSplit_law (n : Str) (h : n = "uk".toList ∨ n = "co.uk".toList ∨ n = "a.co.uk".toList) :
    SplitLaw ukSplit n := by
  rcases h with rfl | rfl | rfl
  · refine splitLaw_of_hostSplit ukSplit (d := []) (s := "uk".toList) ?_ ?_ <;> decide +kernel
  · refine splitLaw_of_hostSplit ukSplit (d := []) (s := "co.uk".toList) ?_ ?_ <;> decide +kernel
  · refine splitLaw_of_hostSplit ukSplit (d := "a".toList) (s := "co.uk".toList) ?_ ?_ <;>
      decide +kernel

/-- **KF-C13-1, "ancestor inside the public suffix"**: `http://a.co.uk` lies under `http://uk`,
yet with `suffix_aware=True` the stems `[s:http, h:uk]` are not a prefix of
`[s:http, h:co.uk, h:a]` -/
theorem kf_ancestor_inside_suffix_witness :
    Under urlUk urlACoUk ∧
    ¬ (cleanTrailingPath (lruStems ukSplit true urlUk) <+:
        cleanTrailingPath (lruStems ukSplit true urlACoUk)) := by
  constructor
  · decide +kernel
  · decide +kernel

/-- hence the full suffix-aware forward statement is false (by design of the mode) -/
theorem fullForwardSuffixAware_false : ¬ FullForwardSuffixAware := by
  intro h
  have := h ukSplit urlUk urlACoUk (by decide +kernel) (by decide +kernel) (by decide +kernel) (Or.inr (by decide +kernel))
    (ukSplit_law _ (Or.inl rfl)) (ukSplit_law _ (Or.inr (Or.inr rfl)))
    kf_ancestor_inside_suffix_witness.1
  exact kf_ancestor_inside_suffix_witness.2 this

/-! ## converse -/

theorem under_of_stems_prefix_by (sa : Bool) (u v : Parts) (hwu : wfNetloc u.netloc = true)
    (hwv : wfNetloc v.netloc = true) (hnu : noUserinfo u.netloc = true)
    (hsu : sa = true → SplitLaw sp u.netloc) (hsv : sa = true → SplitLaw sp v.netloc)
    (h : cleanTrailingPath (lruStems sp sa u) <+: cleanTrailingPath (lruStems sp sa v)) :
    UnderBy (if sa then lower else id) u v := by
  rw [clean_lruStems, clean_lruStems, map_prefix_of_injective render render_injective,
    keyStems_prefix_iff sp sa u v hnu hwu hwv] at h
  have hdot : ∀ a b : Str, (if sa then lower else id) (a ++ '.' :: b) =
      (if sa then lower else id) a ++ '.' :: (if sa then lower else id) b := by
    cases sa
    · exact fun _ _ => rfl
    · exact lower_dot
  apply (underBy_iff_G _ u v).2
  apply nested_to_under cleanSegs _ u v _ _ h
  · intro e
    rw [← cmp_hostOfStems sp sa _ hsu, ← cmp_hostOfStems sp sa _ hsv, hostOfStems_congr sp sa _ _ e]
  · intro e
    rw [← cmp_hostOfStems sp sa _ hsu, ← cmp_hostOfStems sp sa _ hsv]
    rcases hostOfStems_of_prefix sp sa _ _ e with h | ⟨pre, h⟩
    · left; rw [h]
    · right; exact strictSub_iff.mpr ⟨_, by rw [h, hdot]⟩

/-- **converse, `suffix_aware = False`** (full): if the stems of `u` (empty path stems aside)
are a prefix of those of `v`, then `v` lies under `u`; only `u` has to be without userinfo -/
theorem under_of_stems_prefix (u v : Parts) (hwu : wfNetloc u.netloc = true)
    (hwv : wfNetloc v.netloc = true) (hnu : noUserinfo u.netloc = true)
    (h : cleanTrailingPath (lruStems sp false u) <+: cleanTrailingPath (lruStems sp false v)) :
    Under u v :=
  under_of_stems_prefix_by sp false u v hwu hwv hnu (fun h => nomatch h) (fun h => nomatch h) h

/-- **converse, `suffix_aware = True`** (full, given C08's clause for both hosts): hosts are
compared lower-cased, as the mode lower-cases them -/
theorem under_of_stems_prefix_sa (u v : Parts) (hwu : wfNetloc u.netloc = true)
    (hwv : wfNetloc v.netloc = true) (hnu : noUserinfo u.netloc = true)
    (hsu : SplitLaw sp u.netloc) (hsv : SplitLaw sp v.netloc)
    (h : cleanTrailingPath (lruStems sp true u) <+: cleanTrailingPath (lruStems sp true v)) :
    UnderBy lower u v :=
  under_of_stems_prefix_by sp true u v hwu hwv hnu (fun _ => hsu) (fun _ => hsv) h

/-- `Under` (hosts compared as written) implies the lower-cased comparison -/
theorem underBy_lower_of_under (u v : Parts) (h : Under u v) : UnderBy lower u v := by
  have h' : UnderBy id u v := h
  unfold UnderBy at h' ⊢
  obtain ⟨h1, h2, h3, h4⟩ := h'
  refine ⟨h1, h2, ?_, h4⟩
  rcases h3 with e | ⟨a, b, c, d⟩
  · left; simp only [id] at e; rw [e]
  · right
    refine ⟨a, b, c, ?_⟩
    simp only [id] at d
    obtain ⟨pre, hpre⟩ := strictSub_iff.mp d
    apply strictSub_iff.mpr
    refine ⟨lower pre, ?_⟩
    rw [hpre, lower_dot]

/-! ## non-vacuity -/

def urlSite : Parts :=
  { scheme := "http".toList, netloc := "lemonde.fr:8080".toList, path := "/".toList, query := [], fragment := [] }
def urlPage : Parts :=
  { scheme := "http".toList, netloc := "me@www.lemonde.fr:8080".toList, path := "/a//b".toList,
    query := "q=1".toList, fragment := "f".toList }
def urlEvil : Parts :=
  { scheme := "http".toList, netloc := "lemonde.fr.evil.com:8080".toList, path := "/a".toList, query := [], fragment := [] }

example : Under urlSite urlPage ∧ ¬ Under urlSite urlEvil ∧ ¬ Under urlPage urlSite := by
  unfold urlSite urlPage urlEvil
  simp only [toList_lit]
  decide +kernel
example : wfNetloc urlSite.netloc = true ∧ wfNetloc urlPage.netloc = true ∧ noUserinfo urlSite.netloc = true ∧
    NamesOrEqual urlSite urlPage := by
  refine ⟨by decide +kernel, by decide +kernel, by decide +kernel, Or.inr (by decide +kernel)⟩
example : cleanTrailingPath (lruStems (fun _ => none) false urlSite) =
    ["s:http", "t:8080", "h:fr", "h:lemonde"].map String.toList := by
  unfold urlSite
  simp only [List.map, toList_lit]
  decide +kernel
example : cleanTrailingPath (lruStems (fun _ => none) false urlPage) =
    ["s:http", "t:8080", "h:fr", "h:lemonde", "h:www", "p:a", "p:b", "q:q=1", "f:f", "u:me"].map String.toList := by
  unfold urlPage
  simp only [List.map, toList_lit]
  decide +kernel
/-- the look-alike is not below the site, and its stems are not an extension -/
example : ¬ (cleanTrailingPath (lruStems (fun _ => none) false urlSite) <+:
    cleanTrailingPath (lruStems (fun _ => none) false urlEvil)) := by
  unfold urlSite urlEvil
  simp only [toList_lit]
  decide +kernel
/-- the same-suffix hypothesis is satisfiable on a non-trivial pair: `co.uk` / `a.co.uk` -/
example : SameSuffixSplit ukSplit urlCoUk.netloc urlACoUk.netloc :=
  Or.inr ⟨[], "a".toList, "co.uk".toList, by decide +kernel, by decide +kernel⟩
example : cleanTrailingPath (lruStems ukSplit true urlCoUk) <+:
    cleanTrailingPath (lruStems ukSplit true urlACoUk) := by
  unfold ukSplit urlACoUk urlCoUk
  simp only [toList_lit]
  decide +kernel
/-- without the names hypothesis the forward law fails: `3.4` / `1.2.3.4` (an IPv4 literal is
one stem) -/
example : Under { urlUk with netloc := "3.4".toList } { urlUk with netloc := "1.2.3.4".toList } ∧
    ¬ (cleanTrailingPath (lruStems (fun _ => none) false { urlUk with netloc := "3.4".toList }) <+:
      cleanTrailingPath (lruStems (fun _ => none) false { urlUk with netloc := "1.2.3.4".toList })) := by
  unfold urlUk
  simp only [toList_lit]
  decide +kernel
/-- with userinfo in `u` the forward law fails (userinfo stems come last) -/
example : Under { urlSite with netloc := "me@lemonde.fr".toList }
      { urlSite with netloc := "me@lemonde.fr".toList, path := "/x".toList } ∧
    ¬ (cleanTrailingPath (lruStems (fun _ => none) false { urlSite with netloc := "me@lemonde.fr".toList }) <+:
      cleanTrailingPath (lruStems (fun _ => none) false
        { urlSite with netloc := "me@lemonde.fr".toList, path := "/x".toList })) := by
  unfold urlSite
  simp only [toList_lit]
  decide +kernel


/-! ## string level: the parser inside the model

The same laws for URL **strings**: `urlParts u` is `urlsplit(ensure_protocol(u))` computed by the
model of CPython's parser (`Py/UrlSplit.lean`, compared with CPython on every URL of the
universe by the stream), `lruStemsUrl` is `lru_stems` as a function of the string
(`Model/LruUrl.lean`).  "`v` lies under `u`" is `Under` on the components the parser returns;
"no `|`" is a hypothesis on the strings (`C12.noBar_of_url`). -/

theorem stemsUrl_of_parts (sa : Bool) {u : Str} {pu : Parts} (hu : urlParts u = some pu) :
    lruStemsUrl sp sa u = some (lruStems sp sa pu) := by
  simp [lruStemsUrl, hu]

/-- **forward, `suffix_aware = False`, on URL strings** (full): if the parser splits `u`, `v`
(no `|`) into components in the grammar with `v` under `u`, then `lru_stems(u)` (empty path
stems aside) is a prefix of `lru_stems(v)` and the serialisation of the cleaned stems a string
prefix (for the string `url_to_lru` returns: `url_to_lru_prefix_of_under_string`) -/
theorem lru_prefix_of_under_string (u v : Str) (hbu : '|' ∉ u) (hbv : '|' ∉ v) (pu pv : Parts)
    (hu : urlParts u = some pu) (hv : urlParts v = some pv)
    (hwu : wfNetloc pu.netloc = true) (hwv : wfNetloc pv.netloc = true)
    (hnu : noUserinfo pu.netloc = true) (hnames : NamesOrEqual pu pv) (h : Under pu pv) :
    ∃ su sv, lruStemsUrl sp false u = some su ∧ lruStemsUrl sp false v = some sv ∧
      cleanTrailingPath su <+: cleanTrailingPath sv ∧
      serializeLru (cleanTrailingPath su) <+: serializeLru (cleanTrailingPath sv) :=
  ⟨_, _, stemsUrl_of_parts sp false hu, stemsUrl_of_parts sp false hv,
    stems_prefix_of_under sp pu pv hwu hwv hnu hnames h,
    lru_prefix_of_under sp pu pv hwu hwv hnu hnames (C12.noBar_of_url hu hbu)
      (C12.noBar_of_url hv hbv) h⟩

/-- **forward, `suffix_aware = True`, on URL strings** (partial: same public-suffix split) -/
theorem lru_prefix_of_under_string_partial (u v : Str) (hbu : '|' ∉ u) (hbv : '|' ∉ v)
    (pu pv : Parts) (hu : urlParts u = some pu) (hv : urlParts v = some pv)
    (hwu : wfNetloc pu.netloc = true) (hwv : wfNetloc pv.netloc = true)
    (hnu : noUserinfo pu.netloc = true) (hnames : NamesOrEqual pu pv)
    (hsu : SplitLaw sp pu.netloc) (hsv : SplitLaw sp pv.netloc)
    (hsame : SameSuffixSplit sp pu.netloc pv.netloc) (h : Under pu pv) :
    ∃ su sv, lruStemsUrl sp true u = some su ∧ lruStemsUrl sp true v = some sv ∧
      cleanTrailingPath su <+: cleanTrailingPath sv ∧
      serializeLru (cleanTrailingPath su) <+: serializeLru (cleanTrailingPath sv) :=
  ⟨_, _, stemsUrl_of_parts sp true hu, stemsUrl_of_parts sp true hv,
    stems_prefix_of_under_partial sp pu pv hwu hwv hnu hnames hsu hsv hsame h,
    lru_prefix_of_under_partial sp pu pv hwu hwv hnu hnames hsu hsv hsame
      (C12.noBar_of_url hu hbu) (C12.noBar_of_url hv hbv) h⟩

/-- **converse on URL strings**, both modes (full; suffix-aware: hosts compared lower-cased,
given C08's clause for both): if `lru_stems(u)` (empty path stems aside) is a prefix of
`lru_stems(v)`, then `v` lies under `u` -/
theorem under_of_stems_prefix_string (sa : Bool) (u v : Str) (su sv : List Str)
    (hsu : lruStemsUrl sp sa u = some su) (hsv : lruStemsUrl sp sa v = some sv)
    (hpre : cleanTrailingPath su <+: cleanTrailingPath sv) :
    ∃ pu pv, urlParts u = some pu ∧ urlParts v = some pv ∧
      (wfNetloc pu.netloc = true → wfNetloc pv.netloc = true → noUserinfo pu.netloc = true →
        (sa = true → SplitLaw sp pu.netloc ∧ SplitLaw sp pv.netloc) →
        UnderBy (if sa then lower else id) pu pv) := by
  unfold lruStemsUrl at hsu hsv
  cases hu : urlParts u with
  | none => rw [hu] at hsu; cases hsu
  | some pu =>
    cases hv : urlParts v with
    | none => rw [hv] at hsv; cases hsv
    | some pv =>
      rw [hu] at hsu; rw [hv] at hsv
      simp only [Option.map_some, Option.some.injEq] at hsu hsv
      subst hsu; subst hsv
      refine ⟨pu, pv, rfl, rfl, ?_⟩
      exact fun hwu hwv hnu hlaw => under_of_stems_prefix_by sp sa pu pv hwu hwv hnu
        (fun h => (hlaw h).1) (fun h => (hlaw h).2) hpre

theorem urlToLru_of_parts (sa : Bool) {u : Str} {pu : Parts} (hu : urlParts u = some pu) :
    urlToLru sp sa u = some (serializeLru (lruStems sp sa pu)) := by
  simp [urlToLru, lruStemsUrl, hu]

/-- **forward for the real `lru_stems` / `url_to_lru`, on URL strings, `suffix_aware = False`**
(full): if the parser splits `u`, `v` (no `|`) into components in the grammar with `v` under `u`,
path segments read as they are (`UnderRaw`), then `lru_stems(u)` is a prefix of `lru_stems(v)` and
the string `url_to_lru(u)` is a prefix of the string `url_to_lru(v)` -/
theorem url_to_lru_prefix_of_under_string (u v : Str) (hbu : '|' ∉ u) (hbv : '|' ∉ v)
    (pu pv : Parts) (hu : urlParts u = some pu) (hv : urlParts v = some pv)
    (hwu : wfNetloc pu.netloc = true) (hwv : wfNetloc pv.netloc = true)
    (hnu : noUserinfo pu.netloc = true) (hnames : NamesOrEqual pu pv) (h : UnderRaw pu pv) :
    ∃ su sv lu lv, lruStemsUrl sp false u = some su ∧ lruStemsUrl sp false v = some sv ∧
      urlToLru sp false u = some lu ∧ urlToLru sp false v = some lv ∧ su <+: sv ∧ lu <+: lv :=
  ⟨_, _, _, _, stemsUrl_of_parts sp false hu, stemsUrl_of_parts sp false hv,
    urlToLru_of_parts sp false hu, urlToLru_of_parts sp false hv,
    stems_prefix_of_under_raw sp pu pv hwu hwv hnu hnames h,
    lru_prefix_of_under_raw sp pu pv hwu hwv hnu hnames (C12.noBar_of_url hu hbu)
      (C12.noBar_of_url hv hbv) h⟩

/-- **with an empty path stem the clause fails for `url_to_lru`**: `http://a.com/x` lies under
`http://a.com/` (`Under`, empty path stems aside; not `UnderRaw`), the cleaned serialisations are
nested, but `url_to_lru("http://a.com/") = "s:http|h:com|h:a|p:|"` is not a string prefix of
`url_to_lru("http://a.com/x") = "s:http|h:com|h:a|p:x|"` -/
theorem raw_lru_not_prefix_witness :
    let pu : Parts := { urlUk with netloc := "a.com".toList, path := "/".toList }
    let pv : Parts := { urlUk with netloc := "a.com".toList, path := "/x".toList }
    urlParts "http://a.com/".toList = some pu ∧ urlParts "http://a.com/x".toList = some pv ∧
    Under pu pv ∧ ¬ UnderRaw pu pv ∧
    urlToLru (fun _ => none) false "http://a.com/".toList = some "s:http|h:com|h:a|p:|".toList ∧
    urlToLru (fun _ => none) false "http://a.com/x".toList = some "s:http|h:com|h:a|p:x|".toList ∧
    ¬ ("s:http|h:com|h:a|p:|".toList <+: "s:http|h:com|h:a|p:x|".toList) ∧
    serializeLru (cleanTrailingPath (lruStems (fun _ => none) false pu)) <+:
      serializeLru (cleanTrailingPath (lruStems (fun _ => none) false pv)) := by
  unfold urlUk
  simp only [toList_lit]
  decide +kernel

/-- non-vacuity of the raw law: trailing slash and an empty segment inside -/
example : ¬ UnderRaw { urlUk with netloc := "a.com".toList, path := "/a".toList }
      { urlUk with netloc := "www.a.com".toList, path := "/a/".toList } ∧
    UnderRaw { urlUk with netloc := "a.com".toList, path := "/a".toList }
      { urlUk with netloc := "a.com".toList, path := "/a/".toList, query := "q".toList } ∧
    UnderRaw { urlUk with netloc := "a.com".toList, path := "/a/".toList }
      { urlUk with netloc := "a.com".toList, path := "/a//b".toList } ∧
    ¬ UnderRaw { urlUk with netloc := "a.com".toList, path := "/a/".toList }
      { urlUk with netloc := "a.com".toList, path := "/a/b".toList } ∧
    UnderRaw { urlUk with netloc := "a.com".toList }
      { urlUk with netloc := "www.a.com".toList, path := "//x".toList } := by
  unfold urlUk
  simp only [toList_lit]
  decide +kernel

/-- stem-list prefix ⇔ string prefix of `url_to_lru`, for the LRUs of two `|`-free URL strings
(`suffix_aware = False`; no grammar restriction) -/
theorem url_to_lru_prefix_iff (u v : Str) (hbu : '|' ∉ u) (hbv : '|' ∉ v) (su sv : List Str)
    (hsu : lruStemsUrl sp false u = some su) (hsv : lruStemsUrl sp false v = some sv) :
    ∃ lu lv, urlToLru sp false u = some lu ∧ urlToLru sp false v = some lv ∧
      (lu <+: lv ↔ su <+: sv) := by
  obtain ⟨ou, eu, _⟩ := C12.serialization_string sp false u hbu (fun h => by cases h) su hsu
  obtain ⟨ov, ev, _⟩ := C12.serialization_string sp false v hbv (fun h => by cases h) sv hsv
  exact ⟨_, _, eu, ev, serialize_prefix_iff su sv ou.ne ov.ne ou.nobar ov.nobar⟩

/-- non-vacuity on strings: scheme-less `lemonde.fr:8080/` vs a page below it -/
example : ∃ pu pv, urlParts "lemonde.fr:8080/".toList = some pu ∧
    urlParts "HTTP://me@www.lemonde.fr:8080/a//b?q=1#f".toList = some pv ∧ Under pu pv ∧
    wfNetloc pu.netloc = true ∧ wfNetloc pv.netloc = true ∧ noUserinfo pu.netloc = true := by
  refine ⟨urlSite, urlPage, ?_⟩
  unfold urlSite urlPage
  simp only [toList_lit]
  decide +kernel

end Ural.Props.C13
