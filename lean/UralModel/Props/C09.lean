import UralModel.Lemmas.Prune
import UralModel.Lemmas.HostTok
import UralModel.Model.HostnameTrieSetUrl
import UralModel.Lemmas.TldUrl
import UralModel.Lemmas.StrLit
/-!
# C09 — HostnameTrieSet is the set of all hosts at or under the added domains

The property theorems (helper lemmas: `Lemmas/Prune.lean`, `Lemmas/HostTok.lean`,
`Lemmas/TldUrl.lean`).

Token level (any token type `τ`; for `HostnameTrieSet` a token is a decoded label and a key
is the reversed label list of a hostname, so "`a <+: q`" reads "`q` equals `a` or is a
subdomain of `a`, by whole labels").  `adds as` is the trie obtained from the empty
`HostnameTrieSet()` by the add sequence `as`.  Every theorem is for *all* add sequences, all
keys and all queries.

URL level: `tok` (strip / lower / punycode / split / reverse) with the `idna` codec as a
parameter `puny` constrained by `PunyLaws`, the special-host test as a parameter `special`;
the parsed hostname is the argument of `matchHost`.

URL *string* level (last section): `matchUrl` = `safe_urlsplit` + `.hostname` of the modelled
CPython parser (`Model/TldUrl.lean`, `Model/HostnameTrieSetUrl.lean`) + `matchHost`.
-/
set_option linter.unusedSectionVars false

namespace Ural.Props.C09
open Ural Ural.TNode Ural.HostnameTrieSet Ural.Py

variable {τ : Type} [DecidableEq τ]

/-- the trie after the add sequence `as` (on token lists) -/
def adds (as : List (List τ)) : TNode τ Bool :=
  as.foldl addTok TNode.empty

/-! ## the representation invariant -/

/-- every counter is the number of valued nodes strictly below its node, the keys of every
children table are distinct (`Wf`), and a node that carries a value has no children
(`Leafy`) -/
def Inv (t : TNode τ Bool) : Prop := Wf t ∧ Leafy t

/-- the invariant holds for `HostnameTrieSet()` -/
theorem inv_empty : Inv (TNode.empty : TNode τ Bool) := ⟨wf_empty, leafy_empty⟩

/-- the invariant is preserved by one `add` (`set_and_prune_if_shorter`): in particular the
counter bookkeeping of the pruning branch is exact whatever the shape of the pruned subtree -/
theorem prune_inv (t : TNode τ Bool) (k : List τ) (h : Inv t) : Inv (addTok t k) :=
  setAndPrune_inv t k true h.1 h.2

/-- the invariant holds in every reachable state -/
theorem adds_inv (as : List (List τ)) : Inv (adds as) := by
  unfold adds
  suffices H : ∀ (t : TNode τ Bool), Inv t → Inv (as.foldl addTok t) from H _ inv_empty
  induction as with
  | nil => intro t h; exact h
  | cons a as ih => intro t h; exact ih _ (prune_inv t a h)

/-- under the invariant no stored key is a proper prefix of another stored key -/
theorem inv_antichain (t : TNode τ Bool) (h : Inv t) (p q : List τ)
    (hp : t.get p ≠ none) (hpq : p <+: q) (hne : p ≠ q) : t.get q = none :=
  leafy_antichain t h.2 p q hp hpq hne

/-! ## one `add`, read through `get` -/

/-- if a proper prefix of `k` is stored, `add k` changes nothing; otherwise afterwards `k` is
stored, every key properly below `k` is gone and every other key is untouched -/
theorem get_add (t : TNode τ Bool) (k q : List τ) :
    (Blocked t k → (addTok t k).get q = t.get q) ∧
    (¬ Blocked t k → (addTok t k).get q =
      if q = k then some true else if k <+: q then none else t.get q) :=
  get_setAndPrune t k true q

/-! ## every reachable state stores exactly the minimal adds -/

/-- the stored keys of `t` are exactly the minimal elements of `S`, all with value `True` -/
def Rep (t : TNode τ Bool) (S : List (List τ)) : Prop :=
  ∀ p, t.get p = if IsMinimal S p then some true else none

/-- what the induction over the adds carries; with the antichain of `Inv` it gives `Rep`
(`Covers.rep`) -/
structure Covers (t : TNode τ Bool) (S : List (List τ)) : Prop where
  stored : ∀ p, t.get p ≠ none → t.get p = some true ∧ p ∈ S
  above : ∀ a ∈ S, ∃ p, p <+: a ∧ t.get p ≠ none

theorem covers_empty : Covers (TNode.empty : TNode τ Bool) [] :=
  ⟨fun p h => absurd (get_empty p) h, fun a ha => by cases ha⟩

theorem covers_step (t : TNode τ Bool) (S : List (List τ)) (a : List τ) (h : Covers t S) :
    Covers (addTok t a) (S ++ [a]) := by
  obtain ⟨hs, hc⟩ := h
  by_cases hb : Blocked t a
  · -- nothing changes, and the key that blocks `a` is a stored prefix of `a`
    have e : ∀ q, (addTok t a).get q = t.get q := fun q => (get_add t a q).1 hb
    refine ⟨fun p hp => ?_, fun b hbm => ?_⟩ <;>
      simp only [e, List.mem_append, List.mem_singleton] at *
    · exact ⟨(hs p hp).1, Or.inl (hs p hp).2⟩
    · rcases hbm with hbS | rfl
      · exact hc b hbS
      · obtain ⟨p, hp, _, hg⟩ := hb
        exact ⟨p, hp, hg⟩
  · have e : ∀ q, (addTok t a).get q =
        if q = a then some true else if a <+: q then none else t.get q :=
      fun q => (get_add t a q).2 hb
    refine ⟨fun p hp => ?_, fun b hbm => ?_⟩ <;>
      simp only [e, List.mem_append, List.mem_singleton] at *
    · by_cases hpa : p = a
      · simp [hpa]
      · by_cases hap : a <+: p
        · simp [hpa, hap] at hp
        · simp only [hpa, hap, if_false] at hp ⊢
          exact ⟨(hs p hp).1, Or.inl (hs p hp).2⟩
    · -- below `a` the stored prefix of `b` is `a` itself; elsewhere it is the old one
      by_cases hab : a <+: b
      · exact ⟨a, hab, by simp⟩
      · obtain ⟨p, hpb, hg⟩ := hc b (hbm.resolve_right fun e => hab (e ▸ List.prefix_refl _))
        have hpa : p ≠ a := fun hpa => hab (hpa ▸ hpb)
        have hap : ¬ a <+: p := fun hap => hab (hap.trans hpb)
        exact ⟨p, hpb, by rwa [if_neg hpa, if_neg hap]⟩

theorem adds_covers (as : List (List τ)) : Covers (adds as) as := by
  unfold adds
  suffices H : ∀ (t : TNode τ Bool) (S : List (List τ)), Covers t S →
      Covers (as.foldl addTok t) (S ++ as) by
    simpa using H _ _ covers_empty
  induction as with
  | nil => intro t S h; simpa using h
  | cons a as ih =>
    intro t S h
    simpa [List.append_assoc] using ih _ _ (covers_step t S a h)

theorem Covers.rep {t : TNode τ Bool} {S : List (List τ)} (h : Covers t S)
    (hanti : ∀ p q, t.get p ≠ none → p <+: q → p ≠ q → t.get q = none) : Rep t S := by
  intro p
  have hm : IsMinimal S p ↔ t.get p ≠ none :=
    isMinimal_iff_of_cover (M := fun p => t.get p ≠ none) (fun p hp => (h.stored p hp).2)
      (fun p q hp hq hpq => Classical.byContradiction fun hne => hq (hanti p q hp hpq hne))
      (fun a ha => (h.above a ha).imp fun _ hp => ⟨hp.2, hp.1⟩) p
  by_cases hg : t.get p = none
  · rw [hg, if_neg fun hmin => hm.1 hmin hg]
  · rw [(h.stored p hg).1, if_pos (hm.2 hg)]

/-- **After any add sequence** the stored keys are exactly the adds that have no other add as
a proper prefix -/
theorem adds_rep (as : List (List τ)) : Rep (adds as) as :=
  (adds_covers as).rep (inv_antichain _ (adds_inv as))

theorem matchTok_iff (t : TNode τ Bool) (S : List (List τ)) (h : Covers t S) (q : List τ) :
    matchTok t q = true ↔ ∃ a ∈ S, a <+: q := by
  unfold matchTok
  rw [lmpv_eq]
  cases hs : lmpvSpec t.get q with
  | none =>
    have hnone := (lmpvSpec_eq_none _ _).1 hs
    simp only [Option.getD_none, Bool.false_eq_true, false_iff]
    rintro ⟨a, ha, haq⟩
    obtain ⟨p, hpa, hg⟩ := h.above a ha
    exact hg (hnone p (hpa.trans haq))
  | some v =>
    obtain ⟨p, hpq, hg, _⟩ := (lmpvSpec_some _ _ v).1 hs
    obtain ⟨hv, hp⟩ := h.stored p (by simp [hg])
    obtain rfl : true = v := Option.some.inj (hv.symm.trans hg)
    simpa using ⟨p, hp, hpq⟩

/-- **match.**  After the adds `a₁ … aₙ`, `match` answers `True` exactly on the keys that
have one of the `aᵢ` as a prefix (for hostnames: the host equals an added host or is a
subdomain of one, by whole labels) -/
theorem match_spec (as : List (List τ)) (q : List τ) :
    matchTok (adds as) q = true ↔ ∃ a ∈ as, a <+: q :=
  matchTok_iff _ _ (adds_covers as) q

theorem match_spec_map {β : Type} (f : β → List τ) (l : List β) (q : List τ) :
    matchTok (adds (l.map f)) q = true ↔ ∃ x ∈ l, f x <+: q := by
  rw [match_spec]
  exact ⟨fun ⟨_, ha, hq⟩ => (List.mem_map.1 ha).elim fun x hx => ⟨x, hx.1, hx.2 ▸ hq⟩,
    fun ⟨x, hx, hq⟩ => ⟨_, List.mem_map_of_mem hx, hq⟩⟩

/-- a query whose FIRST token starts none of the added keys is not matched.  For hostnames the
first token is the LAST label: the TLD — or the empty label that a trailing dot (`a.b.`) or an
empty label (`a..b`) leaves behind `split('.')`: labels are compared as they are, the empty ones
included, so a host spelled with a trailing dot is covered only by adds spelled with one (and
vice versa).  The class does not normalise this away (`match_url_trailing_dot` below). -/
theorem match_needs_first_token (as : List (List τ)) (x : τ) (q : List τ)
    (h : ∀ a ∈ as, a ≠ [] ∧ a.head? ≠ some x) : matchTok (adds as) (x :: q) = false := by
  cases hm : matchTok (adds as) (x :: q) with
  | false => rfl
  | true =>
    obtain ⟨a, ha, hpre⟩ := (match_spec as (x :: q)).1 hm
    obtain ⟨h1, h2⟩ := h a ha
    cases a with
    | nil => exact absurd rfl h1
    | cons y ys =>
      have := (List.cons_prefix_cons.1 hpre).1
      subst this
      exact absurd rfl h2

def stored (S : List (List τ)) : List (List τ × Bool) := (minimalKeys S).map fun p => (p, true)

theorem keys_stored (S : List (List τ)) : keys (stored S) = minimalKeys S := by
  simp [keys, stored, Function.comp_def]

theorem nodup_keys_stored (S : List (List τ)) : (keys (stored S)).Nodup := by
  rw [keys_stored]; exact nodup_minimalKeys S

theorem Rep.graph {t : TNode τ Bool} {S : List (List τ)} (h : Rep t S) (q : List τ) (v : Bool) :
    (q, v) ∈ stored S ↔ t.get q = some v := by
  rw [h q]
  simp only [stored, List.mem_map, mem_minimalKeys, Prod.mk.injEq]
  constructor
  · rintro ⟨a, ha, rfl, rfl⟩; rw [if_pos ha]
  · intro e
    by_cases hm : IsMinimal S q
    · rw [if_pos hm] at e; exact ⟨q, hm, rfl, Option.some.inj e⟩
    · rw [if_neg hm] at e; cases e

/-- **iteration.**  After the adds `as`, the stored keys (`prefixes()`, from which `__iter__`
builds the hostnames) are exactly the antichain of minimal adds, each once -/
theorem iter_spec (as : List (List τ)) :
    (adds as).prefixes.Perm (minimalKeys as) ∧
    (adds as).prefixes.Nodup ∧
    (∀ p, p ∈ (adds as).prefixes ↔ (p ∈ as ∧ ∀ b ∈ as, b <+: p → b = p)) := by
  have hp := prefixes_perm_of_graph (adds_inv as).1 (nodup_keys_stored as) (adds_rep as).graph
  rw [keys_stored] at hp
  exact ⟨hp, hp.nodup_iff.2 (nodup_minimalKeys as), fun p => hp.mem_iff.trans (mem_minimalKeys as p)⟩

/-- **len.**  After the adds `as`, `len` is the number of elements of the antichain of
minimal adds (an add repeated several times counts once) -/
theorem len_spec (as : List (List τ)) : (adds as).len = (minimalKeys as).length := by
  rw [len_of_graph (adds_inv as).1 (nodup_keys_stored as) (adds_rep as).graph, stored,
    List.length_map]

theorem adds_same_set (as bs : List (List τ)) (h : ∀ a, a ∈ as ↔ a ∈ bs) :
    (∀ q, (adds as).get q = (adds bs).get q) ∧
    (∀ q, matchTok (adds as) q = matchTok (adds bs) q) ∧
    (adds as).len = (adds bs).len ∧ (adds as).prefixes.Perm (adds bs).prefixes := by
  have e : ∀ q, (adds as).get q = (adds bs).get q := fun q => by
    rw [adds_rep as q, adds_rep bs q]
    exact ite_congr (propext (IsMinimal.congr h q)) (fun _ => rfl) (fun _ => rfl)
  have hp := items_perm_of_get_eq (adds_inv as).1 (adds_inv bs).1 fun q => (e q).symm
  refine ⟨e, fun q => by simp only [matchTok, lmpv_eq, funext e], ?_,
    (prefixes_perm _).trans ((hp.map _).trans (prefixes_perm _).symm)⟩
  rw [len_eq_items_length _ (adds_inv as).1, len_eq_items_length _ (adds_inv bs).1, hp.length_eq]

/-- the answer of `match` does not depend on the order (or multiplicity) of the adds -/
theorem match_order_independent (as bs : List (List τ)) (h : as.Perm bs) (q : List τ) :
    matchTok (adds as) q = matchTok (adds bs) q :=
  (adds_same_set as bs fun _ => h.mem_iff).2.1 q

/-- `len` and the set of stored keys do not depend on the order of the adds either -/
theorem len_iter_order_independent (as bs : List (List τ)) (h : as.Perm bs) :
    (adds as).len = (adds bs).len ∧ (adds as).prefixes.Perm (adds bs).prefixes :=
  (adds_same_set as bs fun _ => h.mem_iff).2.2

/-- hostnames never tokenise to the empty key, so the root carries no value and `len` is the
root counter -/
theorem len_eq_root_counter (as : List (List τ)) (hne : ∀ a ∈ as, a ≠ []) :
    (adds as).len = (adds as).counter := by
  have h := adds_rep as []
  have hnm : ¬ IsMinimal as ([] : List τ) := fun hm => hne [] hm.1 rfl
  rw [get_nil] at h
  simp only [hnm, if_false] at h
  simp [TNode.len, h]

/-! ## URL layer: hostnames as strings -/

section Url
variable (special : Str → Bool) (puny : Str → Str)

/-- the `HostnameTrieSet` after `add(h)` for every `h` of `hs`, in order -/
def addsHost (hs : List Str) : T := hs.foldl (add special puny) new

theorem addsHost_tokenize (hs : List Str) :
    addsHost special puny hs = adds (hs.map (tokenizeHostname special puny)) := by
  simp only [addsHost, adds, List.foldl_map]
  rfl

theorem addsHost_eq (hs : List Str) (hord : ∀ h ∈ hs, special h = false) :
    addsHost special puny hs = adds (hs.map (tok puny)) := by
  rw [addsHost_tokenize, List.map_congr_left (g := tok puny) fun h hh => by
    simp [tokenizeHostname, hord h hh]]

/-- `match(url)` is `matchTok` on the tokenised parsed hostname (definitional), and `False`
when the URL has no hostname -/
theorem match_def (t : T) (host : Str) (hne : host ≠ []) (hs : special host = false) :
    matchHost special puny t (some host) = matchTok t (tok puny host) ∧
    matchHost special puny t none = false ∧ matchHost special puny t (some []) = false := by
  simp [matchHost, tokenizeHostname, hne, hs]

theorem matchTok_addsHost (hs : List Str) (hord : ∀ h ∈ hs, special h = false) (q : List Str) :
    matchTok (addsHost special puny hs) q = true ↔
      ∃ h ∈ hs, (tok puny h).reverse <:+ q.reverse := by
  simp only [addsHost_eq special puny hs hord, match_spec_map, List.reverse_suffix]

/-- **match, on hostnames.**  For ordinary hostnames: after `add(h₁) … add(hₙ)`, `match` on a
URL whose parsed hostname is `host` answers `True` exactly when the label list of some `hᵢ`
(stripped, lower-cased, punycode-decoded) is a whole-label suffix of that of `host` -/
theorem match_url_spec (hs : List Str) (hord : ∀ h ∈ hs, special h = false)
    (host : Str) (hne : host ≠ []) (hq : special host = false) :
    matchHost special puny (addsHost special puny hs) (some host) = true ↔
      ∃ h ∈ hs, (tok puny h).reverse <:+ (tok puny host).reverse := by
  rw [(match_def special puny _ host hne hq).1]
  exact matchTok_addsHost special puny hs hord _

/-- `len` and `__iter__` on hostnames: the minimal added hostnames (as token lists), each
once, joined back with dots -/
theorem len_iter_url_spec (hs : List Str) (hord : ∀ h ∈ hs, special h = false) :
    HostnameTrieSet.len (addsHost special puny hs) = (minimalKeys (hs.map (tok puny))).length ∧
    (iter (addsHost special puny hs)).Perm
      ((minimalKeys (hs.map (tok puny))).map joinHostname) := by
  rw [addsHost_eq special puny hs hord]
  exact ⟨len_spec _, (iter_spec _).1.map _⟩

/-- a tokenised hostname is never the empty key (`"".split(".") == [""]`) -/
theorem tok_ne_nil (h : Str) : tok puny h ≠ [] := by
  simp [tok, tokLabels, splitOn_ne_nil]

/-- **case.**  Two spellings of a hostname that differ only in (ASCII) letter case tokenise
identically, hence are the same key for `add` and for `match` -/
theorem tok_case_insensitive (h h' : Str) (e : lower h = lower h') : tok puny h = tok puny h' := by
  unfold tok
  rw [← strip_lower, ← strip_lower, e]

theorem tok_upper (h : Str) : tok puny (upper h) = tok puny h :=
  tok_case_insensitive puny _ _ (lower_upper h)

theorem tok_lower (h : Str) : tok puny (lower h) = tok puny h :=
  tok_case_insensitive puny _ _ (lower_idem h)

/-- **punycode vs Unicode.**  Under `PunyLaws`: a host name spelled with punycode labels
(`xn--…`) and the same host name with those labels spelled in Unicode (each label replaced by
what the codec decodes it to) tokenise identically.  `ls` are the labels of the host name
(lower-case, dot-free, unpadded: `CleanLabel`); that their decoded forms are clean too is the law
`PunyLaws.clean` (evaluated on the real codec on every run). -/
theorem tok_punycode_unicode (laws : PunyLaws puny) (ls : List Str) (hne : ls ≠ [])
    (hc : ∀ l ∈ ls, CleanLabel l) :
    tok puny (join ['.'] (ls.map (punyPart puny))) = tok puny (join ['.'] ls) := by
  rw [tok_join puny ls hne hc,
    tok_join puny (ls.map (punyPart puny)) (by simpa using hne)
      (by intro l hl; obtain ⟨x, hx, rfl⟩ := List.mem_map.1 hl
          exact punyPart_clean puny laws x (hc x hx)),
    tokLabels_decoded puny laws]

/-- **iteration yields every hostname once, as a STRING.**  `join_hostname` is injective on
non-empty keys of dot-free labels (`joinHostname_injective`), every token of a hostname is
dot-free (`tok_dot_free`, law `PunyLaws.no_dot`) and no hostname tokenises to the empty key: the
strings `__iter__` yields are pairwise distinct — and they are (`len_iter_url_spec`) the minimal
added hostnames joined back with dots. -/
theorem iter_url_nodup (laws : PunyLaws puny) (hs : List Str)
    (hord : ∀ h ∈ hs, special h = false) :
    (iter (addsHost special puny hs)).Nodup ∧
    (iter (addsHost special puny hs)).length = HostnameTrieSet.len (addsHost special puny hs) := by
  have hlen := (len_iter_url_spec special puny hs hord)
  refine ⟨?_, by rw [hlen.1, hlen.2.length_eq]; simp⟩
  rw [addsHost_eq special puny hs hord]
  unfold iter
  have hspec := iter_spec (hs.map (tok puny))
  have hmem : ∀ p ∈ (adds (hs.map (tok puny))).prefixes, p ≠ [] ∧ ∀ l ∈ p, '.' ∉ l := by
    intro p hp
    obtain ⟨hin, _⟩ := (hspec.2.2 p).1 hp
    obtain ⟨h, _, rfl⟩ := List.mem_map.1 hin
    exact ⟨tok_ne_nil puny h, tok_dot_free puny laws h⟩
  have hnd := hspec.2.1
  rw [List.nodup_iff_pairwise_ne] at hnd ⊢
  rw [List.pairwise_map]
  exact hnd.imp_of_mem (fun ha hb hab e => hab (joinHostname_injective _ _
    (hmem _ ha).1 (hmem _ hb).1 (hmem _ ha).2 (hmem _ hb).2 e))

/-! ### trailing dot, empty labels: compared as they are -/

/-- a trailing dot is one more (empty) label at the TLD end of the key: `"a.b."` tokenises to
`["", "b", "a"]` — the class does not strip it -/
theorem tok_trailing_dot (ls : List Str) (hne : ls ≠ []) (hc : ∀ l ∈ ls, CleanLabel l) :
    tok puny (join ['.'] ls ++ ['.']) = [] :: tok puny (join ['.'] ls) := by
  have hc' : ∀ l ∈ ls ++ [[]], CleanLabel l := by
    intro l hl
    rcases List.mem_append.1 hl with h | h
    · exact hc l h
    · have : l = [] := by simpa using h
      subst this; decide +kernel
  rw [← join_append_empty ls hne, tok_join puny _ (by simp) hc', tok_join puny ls hne hc]
  simp [tokLabels, punyPart, hasHeader, punyHeader, lower, acePrefix]

/-- **what `match` does with a trailing dot / an empty last label**: after adds none of which
ends with an empty label (no trailing dot), a URL whose hostname does is NOT matched — even when
the same hostname without the dot was added.  (Symmetrically, by `match_needs_first_token`, an
add spelled `a.b.` covers only hosts spelled with the trailing dot.)  Hostnames with a trailing
dot or an empty label are outside the property's quantifier (labels over an alphabet); this is
the behaviour of the code as it is, stated, not an invariance. -/
theorem match_url_trailing_dot (hs : List Str) (hord : ∀ h ∈ hs, special h = false)
    (hnd : ∀ h ∈ hs, (tok puny h).head? ≠ some [])
    (host : Str) (hne : host ≠ []) (hq : special host = false)
    (hhost : (tok puny host).head? = some []) :
    matchHost special puny (addsHost special puny hs) (some host) = false := by
  rw [(match_def special puny _ host hne hq).1, addsHost_eq special puny hs hord]
  cases ht : tok puny host with
  | nil => rw [ht] at hhost; cases hhost
  | cons x q =>
    rw [ht] at hhost
    simp only [List.head?_cons, Option.some.injEq] at hhost
    subst hhost
    apply match_needs_first_token
    intro a ha
    obtain ⟨h, hh, rfl⟩ := List.mem_map.1 ha
    exact ⟨tok_ne_nil puny h, hnd h hh⟩

end Url

/-! ## URL string level: `match(url)` through the modelled parser -/

section UrlString
open Ural.TldUrl
variable (special : Str → Bool) (puny : Str → Str)

/-- **`match` on a URL string is `match` on the hostname the parser extracts** — for every
string; a `ValueError` of `urlsplit` is passed on; a URL without hostname is never matched. -/
theorem match_url_via_host (t : T) (url : Str) :
    (∀ h, urlHost url = .ok h → matchUrl special puny t url = .ok (matchHost special puny t h)) ∧
    (∀ e, urlHost url = .error e → matchUrl special puny t url = .error e) ∧
    (urlHost url = .ok none → matchUrl special puny t url = .ok false) := by
  unfold urlHost matchUrl
  cases safeUrlsplit url with
  | ok r =>
    refine ⟨?_, ?_, ?_⟩
    · intro h hh
      simp only [Except.ok.injEq] at hh
      subst hh; rfl
    · intro e he; cases he
    · intro hh
      simp only [Except.ok.injEq] at hh
      simp [matchSplit, matchHost, hh]
  | error e0 =>
    refine ⟨?_, ?_, ?_⟩
    · intro h hh; cases hh
    · intro e he; cases e; cases e0; rfl
    · intro hh; cases hh

/-- **Scheme, userinfo, port, path, query, fragment and the letter case of the host do not
matter**: on `lead ++ userinfo@host:port ++ rest` (`TldUrl.urlHost_assemble`),
`match` is `matchTok` on the tokenised host. -/
theorem match_url_of_parts (t : T) (l : Lead) (ui : Option Str) (host : Str)
    (port : Option Str) (rest : Str) (hl : l.Ok (netlocOf ui host port ++ rest))
    (hu : UiChars ui) (hh : HostChars host) (hp : PortChars port)
    (hc : NetlocChars (netlocOf ui host port)) (hr : RestOk rest)
    (hs : special (lower host) = false) :
    matchUrl special puny t (assemble l ui host port rest) = .ok (matchTok t (tok puny host)) := by
  have hhost := urlHost_assemble l ui host port rest hl hu hh hp hc hr
  rw [(match_url_via_host special puny t _).1 _ hhost,
    (match_def special puny t (lower host) (fun e => hh.1 (lower_eq_nil.1 e)) hs).1, tok_lower]

/-- **match, on URL strings.**  For ordinary hostnames: after `add(h₁) … add(hₙ)`, `match` on
the URL `lead ++ userinfo@host:port ++ rest` answers `True` exactly when the label list of
some `hᵢ` is a whole-label suffix of that of `host` (both stripped, lower-cased,
punycode-decoded) — whatever the lead, userinfo, port and rest are. -/
theorem match_url_string_spec (hs : List Str) (hord : ∀ h ∈ hs, special h = false)
    (l : Lead) (ui : Option Str) (host : Str)
    (port : Option Str) (rest : Str) (hl : l.Ok (netlocOf ui host port ++ rest))
    (hu : UiChars ui) (hh : HostChars host) (hp : PortChars port)
    (hc : NetlocChars (netlocOf ui host port)) (hr : RestOk rest)
    (hq : special (lower host) = false) :
    ∃ b, matchUrl special puny (addsHost special puny hs) (assemble l ui host port rest) = .ok b ∧
      (b = true ↔ ∃ h ∈ hs, (tok puny h).reverse <:+ (tok puny host).reverse) :=
  ⟨_, match_url_of_parts special puny _ l ui host port rest hl hu hh hp hc hr hq,
    matchTok_addsHost special puny hs hord _⟩

/-- an authority that holds a character whose NFKC form contains one of `/ ? # @ :` (U+FF0F,
U+FF1A, U+2100 …) is refused by `urlsplit` (`_checknetloc`): `match` raises `ValueError` — it does
not answer for a host such as `ａ／b.com`.  (`NetlocChars` in the theorems above excludes exactly
these characters.) -/
theorem match_url_nfkc_rejected (t : T) (l : Lead) (nl rest : Str) (hl : l.Ok (nl ++ rest))
    (hnl : NetlocSyntax nl) (hr : RestOk rest) (hx : nfkcRejects nl = true) :
    matchUrl special puny t (l.str ++ nl ++ rest) = .error .valueError :=
  (match_url_via_host special puny t _).2.1 _ (urlHost_lead_nfkc l nl rest hl hnl hr hx)

/-- two URLs whose hosts differ in ASCII letter case only get the same answer -/
theorem match_url_invariance (t : T)
    (l l' : Lead) (ui ui' : Option Str) (host host' : Str) (port port' : Option Str)
    (rest rest' : Str)
    (hl : l.Ok (netlocOf ui host port ++ rest)) (hu : UiChars ui)
    (hh : HostChars host) (hp : PortChars port) (hc : NetlocChars (netlocOf ui host port))
    (hr : RestOk rest) (hs : special (lower host) = false)
    (hl' : l'.Ok (netlocOf ui' host' port' ++ rest')) (hu' : UiChars ui')
    (hh' : HostChars host') (hp' : PortChars port')
    (hc' : NetlocChars (netlocOf ui' host' port')) (hr' : RestOk rest')
    (hcase : lower host = lower host') :
    matchUrl special puny t (assemble l ui host port rest) =
      matchUrl special puny t (assemble l' ui' host' port' rest') := by
  rw [match_url_of_parts special puny t l ui host port rest hl hu hh hp hc hr hs,
    match_url_of_parts special puny t l' ui' host' port' rest' hl' hu' hh' hp' hc' hr'
      (by rw [← hcase]; exact hs),
    tok_case_insensitive puny host host' hcase]

end UrlString

/-! ## non-vacuity -/

/-- a concrete history: subdomains first, then their parent (pruning with a two-entry
subtree), then a longer one (ignored), a duplicate, and an unrelated one -/
example :
    let as : List (List String) :=
      [["fr", "lemonde", "business"], ["fr", "lemonde", "home"], ["fr", "lemonde"],
       ["fr", "lemonde", "social"], ["fr", "lemonde"], ["net", "lacamargue"]]
    (adds as).len = 2 ∧ (adds as).counter = 2 ∧
      (adds (as.take 2)).len = 2 ∧ (adds (as.take 3)).len = 1 ∧
      matchTok (adds as) ["fr", "lemonde", "www", "x"] = true ∧
      matchTok (adds as) ["fr"] = false ∧ matchTok (adds as) ["fr", "lemondes"] = false ∧
      matchTok (adds (as.take 2)) ["fr", "lemonde"] = false ∧
      (adds as).prefixes = [["net", "lacamargue"], ["fr", "lemonde"]] ∧
      minimalKeys as = [["fr", "lemonde"], ["net", "lacamargue"]] := by
  decide +kernel

/-- a decoder that knows one label; it satisfies the laws and is not the identity -/
def punyDemo (l : Str) : Str :=
  if l = "xn--tlrama-bvab".toList then "télérama".toList else l

theorem punyLaws_demo : PunyLaws punyDemo := by
  refine ⟨fun l _ => ?_, fun l _ hd => ?_, fun l _ hc => ?_⟩ <;> unfold punyDemo <;>
    by_cases h : l = "xn--tlrama-bvab".toList
  · right; rw [if_pos h]; decide +kernel
  · left; rw [if_neg h]
  · rw [if_pos h]; decide +kernel
  · rw [if_neg h]; exact hd
  · rw [if_pos h]; decide +kernel
  · rw [if_neg h]; exact hc

example :
    tok punyDemo " XN--tlrama-BVAB.Fr ".toList = ["fr".toList, "télérama".toList] ∧
    tok punyDemo "télérama.fr".toList = ["fr".toList, "télérama".toList] ∧
    matchHost (fun _ => false) punyDemo
      (addsHost (fun _ => false) punyDemo ["xN--tlrama-bvAb.fr".toList])
      (some "www.télérama.fr".toList) = true ∧
    iter (addsHost (fun _ => false) punyDemo ["xN--tlrama-bvAb.fr".toList, "FR".toList])
      = ["fr".toList] := by
  unfold punyDemo
  simp only [toList_lit]
  decide +kernel

/-- trailing dot: the query `a.b.` is not covered by the add `a.b`, nor `a.b` by the add `a.b.` -/
example :
    tok punyDemo "a.b.".toList = ["".toList, "b".toList, "a".toList] ∧
    matchHost (fun _ => false) punyDemo (addsHost (fun _ => false) punyDemo ["a.b".toList])
      (some "a.b.".toList) = false ∧
    matchHost (fun _ => false) punyDemo (addsHost (fun _ => false) punyDemo ["a.b.".toList])
      (some "a.b".toList) = false ∧
    matchHost (fun _ => false) punyDemo (addsHost (fun _ => false) punyDemo ["a.b.".toList])
      (some "www.a.b.".toList) = true ∧
    matchUrl (fun _ => false) punyDemo (addsHost (fun _ => false) punyDemo ["a.b".toList])
      "http://a.b./p".toList = .ok false := by
  unfold punyDemo
  simp only [toList_lit]
  decide +kernel

example :
    matchUrl (fun _ => false) punyDemo
      (addsHost (fun _ => false) punyDemo ["xN--tlrama-bvAb.fr".toList])
      "HTTPS://user:pw@WWW.Télérama.FR:8080/p?q=1#f".toList = .ok true ∧
    matchUrl (fun _ => false) punyDemo
      (addsHost (fun _ => false) punyDemo ["telerama.fr".toList]) "//telerama.fr.evil.com/telerama.fr".toList
      = .ok false ∧
    matchUrl (fun _ => false) punyDemo (addsHost (fun _ => false) punyDemo ["fr".toList]) "/fr".toList
      = .ok false ∧
    matchUrl (fun _ => false) punyDemo new "http://[fr/".toList = .error .valueError ∧
    matchUrl (fun _ => false) punyDemo (addsHost (fun _ => false) punyDemo ["fr".toList])
      "http://a／b.fr/".toList = .error .valueError := by
  unfold punyDemo
  simp only [toList_lit]
  decide +kernel

end Ural.Props.C09
