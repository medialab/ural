import UralModel.Lemmas.StrLit
import UralModel.Model.NormalizeUrlExcept
import UralModel.Props.C15
/-!
# C05, last clause: "a URL that cannot be parsed is returned unchanged instead of raising"

A statement `∃ s, normalizeUrl … = s` is true of any function and says nothing about raising (a
recursive `infer_redirection` — one frame per hop, FX-C15-0c9bfa3 — makes `normalize_url` raise
`RecursionError` on 1200 nested hops while `∃ s, … = s` stays true).  The clause is therefore stated
about `normalizeUrlExcept` (`Model/NormalizeUrlExcept.lean`), the model of `normalize_url` in
which every site where the Python can raise is an `Except` value and the
`try … except ValueError` is an explicit handler that lets every other exception through:

* `parseE_only_valueError` — the `try` body (modelled `urlsplit` + accessors) raises nothing but
  `ValueError`: what makes the handler sufficient;
* `normalize_never_raises` — for every string, option setting, decoder and platform rewriting the
  result is `.ok`, of the documented shape: a string under `unsplit=True`; under `unsplit=False`
  the 5-tuple, or the argument itself exactly when the prepared string does not parse;
* `normalizeUrlExcept_eq` — the `.ok` value is the one of the total model `normalizeUrlString` /
  `normalizeUrlStringSplit` (the model compared with the real function on every case);
* `tryExceptValueError_other` / examples — the error channel is not vacuous: the handler lets a
  non-`ValueError` through, and the `try` body does raise on `http://a.com:99999/`, `http://[::1`;
* `normalize_redirection_hops` — the loop of `infer_redirection` stops after at most `len(url)`
  hops (C15: every hop is strictly shorter), so there is no unbounded iteration.

NOT a theorem: that CPython's `urlsplit` / `.port` raise nothing but `ValueError`, that the idna
codec raises nothing but `UnicodeError` (`puny` is a total parameter), that the interpreter's
stack suffices (the model has no stack: the 150 / 1200 / 1500-hop and the very long inputs of the
C05 corpus are run through the real function by the oracle and the correspondence on every run).
-/
namespace Ural.Props.C05
open Ural Ural.Py Ural.UrlParts Ural.Quote Ural.Normalize

/-- the body of the `try` is the parser of the total model, `none` ↦ `ValueError` -/
theorem parseE_eq (url : Str) :
    parseE url = match parseForNormalize url with
      | none => .error .valueError
      | some p => .ok p := by
  unfold parseE urlsplitE portE parseForNormalize
  cases urlsplit url [] with
  | none => rfl
  | some r =>
    simp only
    cases Py.port r.netloc <;> rfl

/-- **the `try` body raises nothing but `ValueError`** (so `except ValueError` catches all of it) -/
theorem parseE_only_valueError (url : Str) (e : PyExc) (h : parseE url = .error e) :
    e = .valueError := by
  rw [parseE_eq] at h
  cases hp : parseForNormalize url with
  | none => rw [hp] at h; cases h; rfl
  | some p => rw [hp] at h; cases h

/-- the handler is not a catch-all: any other exception of the body would escape -/
theorem tryExceptValueError_other {α β : Type} (n : String) (handler : Except PyExc β)
    (cont : α → Except PyExc β) :
    tryExceptValueError (.error (.other n) : Except PyExc α) handler cont = .error (.other n) := rfl

/-- the value of `normalizeUrlExcept` is the value of the total whole-string model -/
theorem normalizeUrlExcept_eq (puny : Str → Str) (platform : Str → Str) (o : Normalize.Opts)
    (ir : Bool) (url : Str) :
    normalizeUrlExcept puny platform o ir false url =
      .ok (normalizeUrlStringSplit puny platform o ir url) ∧
    normalizeUrlExcept puny platform o ir true url =
      .ok (.inl (normalizeUrlString puny platform o ir url)) := by
  unfold normalizeUrlExcept normalizeUrlString normalizeUrlStringSplit
  simp only [parseE_eq]
  cases parseForNormalize _ <;> exact ⟨rfl, rfl⟩

/-- **`normalize_url` never raises, and returns a value of the documented shape**: for every
string, every option setting, decoder and platform rewriting, `infer_redirection` on or off —
`unsplit=True`: a string; `unsplit=False`: the argument itself when the prepared string does not
parse (`ValueError` of `urlsplit` / `.port`, caught), the 5-tuple `normParts` otherwise. -/
theorem normalize_never_raises (puny : Str → Str) (platform : Str → Str) (o : Normalize.Opts)
    (ir : Bool) (url : Str) :
    (∃ s : Str, normalizeUrlExcept puny platform o ir true url = .ok (.inl s)) ∧
    ((parseForNormalize (prepared platform ir url).1 = none ∧
        normalizeUrlExcept puny platform o ir false url = .ok (.inl url)) ∨
     (∃ p, parseForNormalize (prepared platform ir url).1 = some p ∧
        normalizeUrlExcept puny platform o ir false url =
          .ok (.inr (normParts puny o (prepared platform ir url).2 p)))) := by
  obtain ⟨e1, e2⟩ := normalizeUrlExcept_eq puny platform o ir url
  refine ⟨⟨_, e2⟩, ?_⟩
  rw [e1]
  unfold normalizeUrlStringSplit prepared preClean ensureHttp hasProtocol
  simp only
  cases hp : parseForNormalize _ with
  | none => left; exact ⟨rfl, rfl⟩
  | some p => right; exact ⟨p, rfl, rfl⟩

/-- in particular no error value, whatever `unsplit` -/
theorem normalize_no_error_value (puny : Str → Str) (platform : Str → Str) (o : Normalize.Opts)
    (ir unsplit : Bool) (url : Str) :
    ∀ e, normalizeUrlExcept puny platform o ir unsplit url ≠ .error e := by
  intro e h
  obtain ⟨e1, e2⟩ := normalizeUrlExcept_eq puny platform o ir url
  cases unsplit with
  | false => rw [e1] at h; cases h
  | true => rw [e2] at h; cases h

/-- the redirection step is a bounded loop: `infer_redirection(url)` is reached from `url` by at
most `len(url)` single hops, and no further hop applies to it (C15) -/
theorem normalize_redirection_hops (url : Str) :
    ∃ n, n ≤ url.length ∧ iterStep inferStep n url = infer url ∧
      inferStep (infer url) = infer url :=
  Props.C15.infer_is_iterated_step url

local instance instDecEqExceptC05Total {ε α : Type} [DecidableEq ε] [DecidableEq α] :
    DecidableEq (Except ε α) := fun a b =>
  match a, b with
  | .ok x, .ok y => if h : x = y then isTrue (by rw [h]) else isFalse (fun e => h (by cases e; rfl))
  | .error x, .error y => if h : x = y then isTrue (by rw [h]) else isFalse (fun e => h (by cases e; rfl))
  | .ok _, .error _ => isFalse (fun e => by cases e)
  | .error _, .ok _ => isFalse (fun e => by cases e)

/-- the error channel is inhabited: the `try` body raises `ValueError` on a bad port and on an
unbalanced bracket, the function returns the argument; and a parseable URL goes through -/
example :
    parseE "http://a.com:99999/".toList = .error .valueError ∧
    parseE "http://[::1".toList = .error .valueError ∧
    normalizeUrlExcept id id {} false true "http://a.com:99999/".toList = .ok (.inl "http://a.com:99999/".toList) ∧
    normalizeUrlExcept id id {} false false "http://[::1".toList = .ok (.inl "http://[::1".toList) ∧
    normalizeUrlExcept id id {} false true "http://www.a.com/x/?utm_source=1".toList = .ok (.inl "a.com/x".toList) := by
  simp only [toList_lit]
  decide +kernel

end Ural.Props.C05
