import UralModel.Props.C04Whole
import UralModel.Lemmas.Re
import UralModel.Lemmas.ReExtra
import UralModel.Lemmas.ReAlt
/-!
# C04 — what the rules ARE (characterisations), `amp-` on strings, compositions

* **the fragment rule, read off the code** (`routing_fragment_iff`): a fragment is kept as
  client-side routing exactly when it starts with `/` or `!` and is more than the bare marker
  (`/`, `!`, `!/`).  The README says "`except-routing` … will only strip the fragment if the fragment
  is not deemed to be js routing (i.e. if it contains a `/`)": that is not the code's rule —
  `frag/with` contains a `/` and is stripped, `!route` contains none and is kept
  (`readme_rule_is_not_the_code`).
* **tracking keys, by family** (`tracking_prefix_family`): every key `utm_…`, `mtm_…`, `at_…`
  (and `amp_…` under `normalize_amp`), in any letter case, whatever follows the prefix (one
  character at least, no line break), is stripped — proved for ALL such keys from the regenerated
  pattern through the regex semantics (`Re.accepts_prefixFamily` of `Lemmas/ReAlt.lean`), the
  pattern being asked (obligation `tracking_families_in_pattern`) to have the family as one of its
  alternatives.
* **a leading `amp-` on strings** (`norm_amp_dash_string`, `_rel`).
* **compositions**: the string theorems are `string_of_grammar_rel` applied to an equality of
  `normG` on the pieces; such equalities chain (`norm_compose_string_rel`: the intermediate spelling
  needs no string of its own), the class of the pieces is closed under the transformations
  (`wf_tail`, `wf_authority`), and `norm_tracking_then_slash_string_rel`,
  `norm_scheme_userinfo_label_string_rel` are two compositions spelled out.
-/
set_option linter.unusedSimpArgs false
namespace Ural.Props.C04
open Ural Ural.Py Ural.UrlParts Ural.Quote Ural.Canonicalize Ural.Normalize Ural.Normpath Ural.NormBridge

/-! ## the fragment rule -/

/-- **the code's routing test**: `should_strip_fragment(f)` is true (the fragment is client-side
routing and is KEPT under `'except-routing'`) iff `f` is `/…` or `!…` with something after the
marker `/`, `!`, `!/` -/
theorem routing_fragment_iff (f : Str) :
    shouldStripFragment f = true ↔
      (∃ r, r ≠ [] ∧ f = '/' :: r) ∨ (∃ r, r ≠ [] ∧ r ≠ ['/'] ∧ f = '!' :: r) := by
  unfold shouldStripFragment
  cases f with
  | nil => simp [startsWith, List.isPrefixOf]
  | cons c r =>
    by_cases h1 : c = '/'
    · subst h1
      by_cases hr : r = []
      · subst hr; simp
      · have e1 : ('/' :: r) ≠ "!/".toList := by simp
        have e2 : ('/' :: r) ≠ "/".toList := by simp [hr]
        have e3 : ('/' :: r) ≠ "!".toList := by simp
        simp [e1, e2, e3, startsWith, List.isPrefixOf, hr]
    · by_cases h2 : c = '!'
      · subst h2
        by_cases hr : r = []
        · subst hr; simp
        · by_cases hs : r = ['/']
          · subst hs; simp
          · have e1 : ('!' :: r) ≠ "!/".toList := by simp [hs]
            have e2 : ('!' :: r) ≠ "/".toList := by simp
            have e3 : ('!' :: r) ≠ "!".toList := by simp [hr]
            simp [e1, e2, e3, startsWith, List.isPrefixOf, hr, hs]
      · have e1 : (c :: r) ≠ "!/".toList := by simp [h2]
        have e2 : (c :: r) ≠ "/".toList := by simp [h1]
        have e3 : (c :: r) ≠ "!".toList := by simp [h2]
        simp [e1, e2, e3, startsWith, List.isPrefixOf, h1, h2, Ne.symm h1, Ne.symm h2]

/-- … so a fragment is NOT routing (dropped under `'except-routing'`) iff it starts with neither
`/` nor `!`, or is one of the bare markers -/
theorem nonrouting_fragment_iff (f : Str) :
    shouldStripFragment f = false ↔
      (∀ r, f ≠ '/' :: r ∧ f ≠ '!' :: r) ∨ f = "/".toList ∨ f = "!".toList ∨ f = "!/".toList := by
  rw [← Bool.not_eq_true, routing_fragment_iff]
  constructor
  · intro h
    cases f with
    | nil => left; intro r; simp
    | cons c r =>
      by_cases h1 : c = '/'
      · subst h1
        by_cases hr : r = []
        · subst hr; right; left; rfl
        · exact absurd (Or.inl ⟨r, hr, rfl⟩) h
      · by_cases h2 : c = '!'
        · subst h2
          by_cases hr : r = []
          · subst hr; right; right; left; rfl
          · by_cases hs : r = ['/']
            · subst hs; right; right; right; rfl
            · exact absurd (Or.inr ⟨r, hr, hs, rfl⟩) h
        · left; intro r'; simp [h1, h2]
  · rintro (h | h | h | h)
    · rintro (⟨r, _, e⟩ | ⟨r, _, _, e⟩)
      · exact (h r).1 e
      · exact (h r).2 e
    · subst h; rintro (⟨r, hr, e⟩ | ⟨r, _, _, e⟩) <;> simp_all
    · subst h; rintro (⟨r, hr, e⟩ | ⟨r, hr, _, e⟩) <;> simp_all
    · subst h; rintro (⟨r, hr, e⟩ | ⟨r, hr, hs, e⟩) <;> simp_all

/-- the README's gloss of `'except-routing'` ("routing … i.e. if it contains a `/`") is not the
code's rule: a `/` inside is neither necessary nor sufficient
(`normalize_url('http://a.com/x#frag/with') == 'a.com/x'`, `…#!route` keeps its fragment) -/
theorem readme_rule_is_not_the_code :
    ('/' ∈ "frag/with".toList ∧ shouldStripFragment (unquoteFragment "frag/with".toList) = false) ∧
    ('/' ∉ "!route".toList ∧ shouldStripFragment (unquoteFragment "!route".toList) = true) := by
  simp only [toList_lit]
  decide +kernel

/-! ## tracking keys by family -/

open Ural.Py.Re in
/-- the leaves of a tree of alternatives -/
def altLeaves : Re → List Re
  | .alt p q => altLeaves p ++ altLeaves q
  | r => [r]

open Ural.Py.Re in
theorem altLeaves_eq_alts (r : Re) : altLeaves r = alts r := by
  induction r <;> simp [altLeaves, alts, *]

open Ural.Py.Re in
/-- the class CPython compiles an ASCII letter without special case folds (or a non-letter) to
under `re.I` -/
def ciCls (c : Char) : CharClass :=
  if isAsciiAlpha c then ⟨false, [((upperChar c).toNat, (upperChar c).toNat), ((lowerChar c).toNat, (lowerChar c).toNat)]⟩
  else CharClass.single c

open Ural.Py.Re in
/-- `.` (no DOTALL) -/
def dotCls : CharClass := ⟨true, [(10, 10)]⟩

open Ural.Py.Re in
/-- `<pre>.+` under `re.I`, as a flat list of pieces -/
def familyPieces (pre : Str) : List Re := pre.map (fun c => Re.cls (ciCls c)) ++ [Re.plus (Re.cls dotCls)]

open Ural.Py.Re in
/-- the alternatives of `^(?:…)$` -/
def bodyOf : Re → Option Re
  | .seq .bos (.seq A .eos) => some A
  | _ => none

open Ural.Py.Re in
/-- `pat` is `^(?:… | <pre>.+ | …)$` (up to the nesting of concatenations) -/
def hasFamily (pat : Re) (pre : Str) : Bool :=
  match bodyOf pat with
  | some A => (altLeaves A).any (fun l => spine l == familyPieces pre)
  | none => false

open Ural.Py.Re in
theorem ciCls_mem_lower (c : Char) (hc : lowerChar c = c) : (ciCls c).mem c = true := by
  unfold ciCls
  split
  · simp only [CharClass.mem, CharClass.inRanges, List.any_cons, List.any_nil, Bool.or_false, hc]
    simp
  · exact (CharClass.mem_single c c).2 rfl

open Ural.Py.Re in
theorem litSpine_ciCls (pre : Str) (hpre : ∀ c ∈ pre, lowerChar c = c) :
    litSpine pre (pre.map fun c => Re.cls (ciCls c)) = true := by
  induction pre with
  | nil => rfl
  | cons a as ih =>
    simp only [List.map_cons, litSpine, ciCls_mem_lower a (hpre a (by simp)), Bool.true_and]
    exact ih fun c hc => hpre c (List.mem_cons_of_mem _ hc)

open Ural.Py.Re in
/-- `hasFamily` read in the terms of `Lemmas/ReAlt.lean`: the pattern is `^ A $` and one alternative
of `A` is a prefix family there (`re.I` compiles a lower-case `pre` to classes that accept it) -/
theorem framed_of_hasFamily {pat : Re} {pre : Str} (hfam : hasFamily pat pre = true)
    (hpre : ∀ c ∈ pre, lowerChar c = c) :
    ∃ A, spine pat = .bos :: (spine A ++ [.eos]) ∧ (alts A).any (isPrefixFamily pre) = true := by
  unfold hasFamily at hfam
  split at hfam
  · rename_i A hb
    refine ⟨A, ?_, ?_⟩
    · unfold bodyOf at hb
      split at hb
      · injection hb with hb; subst hb; rfl
      · cases hb
    · obtain ⟨l, hl, hsp⟩ := List.any_eq_true.1 hfam
      rw [altLeaves_eq_alts] at hl
      refine List.any_eq_true.2 ⟨l, hl, ?_⟩
      unfold isPrefixFamily
      rw [beq_iff_eq.1 hsp]
      simp [familyPieces, Re.plus, litSpine_ciCls pre hpre, isDot, dotCls]
  · cases hfam

open Ural.Py.Re in
/-- a pattern `^(?:… | <pre>.+ | …)$` accepts every `<pre><r>`, `r` non-empty without line break -/
theorem family_accepts (pat : Re) (pre r : Str) (hfam : hasFamily pat pre = true)
    (hpre : ∀ c ∈ pre, lowerChar c = c) (hne : r ≠ []) (hr : ∀ c ∈ r, c ≠ '\n') :
    Accepts pat (pre ++ r) := by
  obtain ⟨A, hf, ha⟩ := framed_of_hasFamily hfam hpre
  exact accepts_prefixFamily hf ha r hne fun h => hr _ h rfl

/-- table obligation: the regenerated patterns have the documented prefix families as alternatives
(`utm_.+`, `mtm_.+`, `at_.+`; `amp_.+` in the AMP variant only) and no repetition of a nullable body -/
theorem tracking_families_in_pattern :
    (["utm_", "mtm_", "at_"].all fun p =>
      hasFamily Gen.Normalize.IRRELEVANT_QUERY_RE p.toList &&
        hasFamily Gen.Normalize.IRRELEVANT_QUERY_AMP_RE p.toList) = true ∧
    hasFamily Gen.Normalize.IRRELEVANT_QUERY_AMP_RE "amp_".toList = true ∧
    hasFamily Gen.Normalize.IRRELEVANT_QUERY_RE "amp_".toList = false ∧
    Re.noNullRep Gen.Normalize.IRRELEVANT_QUERY_RE = true ∧
    Re.noNullRep Gen.Normalize.IRRELEVANT_QUERY_AMP_RE = true := by
  simp only [toList_lit]
  decide +kernel

/-- **tracking keys, by family**: every item whose key — in any letter case — is `utm_…`, `mtm_…`,
`at_…` (or `amp_…` under `normalize_amp`) followed by at least one character and no line break is
stripped, whatever its value, the host and the caller's filter.  For ALL keys of the family, from the
regenerated pattern (not a sample table). -/
theorem tracking_prefix_family (amp : Bool) (qf : QueryItemFilter) (df : Option (List String))
    (key : Str) (v : Option Str) (pre r : Str)
    (hpre : pre = "utm_".toList ∨ pre = "mtm_".toList ∨ pre = "at_".toList ∨
      (amp = true ∧ pre = "amp_".toList))
    (hkey : lower key = pre ++ r) (hne : r ≠ []) (hr : ∀ c ∈ r, c ≠ '\n') :
    shouldStripQueryItem amp qf df (key, v) = true := by
  obtain ⟨h1, h2, _, n1, n2⟩ := tracking_families_in_pattern
  simp only [List.all_cons, List.all_nil, Bool.and_true, Bool.and_eq_true] at h1
  obtain ⟨⟨u1, u2⟩, ⟨m1, m2⟩, ⟨a1, a2⟩⟩ := h1
  have hlow : ∀ c ∈ pre, lowerChar c = c := by
    rcases hpre with rfl | rfl | rfl | ⟨_, rfl⟩ <;> decide
  -- the pattern `amp` selects has the family among its alternatives
  have hpat : hasFamily (if amp = true then Gen.Normalize.IRRELEVANT_QUERY_AMP_RE
        else Gen.Normalize.IRRELEVANT_QUERY_RE) pre = true ∧
      Re.noNullRep (if amp = true then Gen.Normalize.IRRELEVANT_QUERY_AMP_RE
        else Gen.Normalize.IRRELEVANT_QUERY_RE) = true := by
    cases amp with
    | true =>
      simp only [if_true]
      refine ⟨?_, n2⟩
      rcases hpre with rfl | rfl | rfl | ⟨_, rfl⟩
      · exact u2
      · exact m2
      · exact a2
      · exact h2
    | false =>
      simp only [Bool.false_eq_true, if_false]
      refine ⟨?_, n1⟩
      rcases hpre with rfl | rfl | rfl | ⟨h, _⟩
      · exact u1
      · exact m1
      · exact a1
      · cases h
  unfold shouldStripQueryItem
  simp only [hkey, (Re.pyMatch_iff hpat.2 _).2 (family_accepts _ pre r hpat.1 hlow hne hr), if_true]

/-- non-vacuity: `UTM_Whatever`, `at_x`, `amp_analytics` (AMP only) -/
example : shouldStripQueryItem false .none none ("UTM_Whatever".toList, some "1".toList) = true ∧
    lower "UTM_Whatever".toList = "utm_".toList ++ "whatever".toList ∧
    shouldStripQueryItem true .none none ("amp_analytics".toList, none) = true ∧
    shouldStripQueryItem false .none none ("amp_analytics".toList, none) = false ∧
    shouldStripQueryItem true .none none ("utm_".toList, none) = false := by
  simp only [toList_lit]
  decide +kernel

/-! ## a leading `amp-` on strings -/

/-- on the pieces.  `hcanon`: the idna step does not look at the prefixed first label differently
(true as soon as the first label of the host is no `xn--` label: behind `amp-` a punycode label stays
encoded until the cut — D20, in the corpus, not here); `hdec`, `honce`: the hypotheses of
`norm_amp_dash`, read on the decoded lower-cased host; `hdf`: the per-domain query filter is chosen
alike (it is chosen by `endswith`) -/
theorem partsG_amp_dash (puny : Str → Str) (o : Normalize.Opts) (ha : o.normalizeAmp = true) (g : UrlG)
    (hne : g.host ≠ []) (hpct : '%' ∉ g.host)
    (hcanon : canonHost puny (ampDash ++ lower g.host) = ampDash ++ canonHost puny (lower g.host))
    (hdec : ∀ x ∈ splitOn (canonHost puny (lower g.host)) '.', decodePunycodeHostname puny x = x)
    (honce : startsWith (afterSub o (canonHost puny (lower g.host))) ampDash = false)
    (hdf : domainFilter (hostKey puny (some (ampDash ++ lower g.host))) =
      domainFilter (hostKey puny (some (lower g.host)))) :
    partsG puny o ({ g with host := ampDash ++ g.host } : UrlG) = partsG puny o g := by
  refine partsG_congr puny o g _ rfl rfl ?_
  intro po
  have hh' : ({ g with host := ampDash ++ g.host } : UrlG).hostname = some (ampDash ++ lower g.host) := by
    rw [hostname_of_no_pct (g := { g with host := ampDash ++ g.host }) (by simp [ampDash])
      (by simp [hpct, ampDash]), lower_append]
    rfl
  have hh := hostname_of_no_pct hne hpct
  have hhost : normHost puny o (ampDash ++ lower g.host) = normHost puny o (lower g.host) := by
    rw [normHost_eq_tail, normHost_eq_tail, hcanon]
    exact norm_amp_dash puny o ha _ hdec honce
  have hfilter : ∀ q, filterQuery o (hostKey puny (some (ampDash ++ lower g.host))) q =
      filterQuery o (hostKey puny (some (lower g.host))) q := by
    intro q
    unfold filterQuery
    simp only [hdf]
  simp only [normParts_eq, UrlG.record, hh', hh, Option.map_some, hhost, hfilter]

/-- **a leading `amp-` is irrelevant on strings** (`normalize_amp`), for every pair `u`, `u'` whose
cleaned, resolved forms are `g.str` and the same with `amp-` in front of the host -/
theorem norm_amp_dash_string_rel (puny : Str → Str) (o : Normalize.Opts) (ha : o.normalizeAmp = true)
    (ir : Bool) (g : UrlG) (hne : g.host ≠ []) (hpct : '%' ∉ g.host)
    (hcanon : canonHost puny (ampDash ++ lower g.host) = ampDash ++ canonHost puny (lower g.host))
    (hdec : ∀ x ∈ splitOn (canonHost puny (lower g.host)) '.', decodePunycodeHostname puny x = x)
    (honce : startsWith (afterSub o (canonHost puny (lower g.host))) ampDash = false)
    (hdf : domainFilter (hostKey puny (some (ampDash ++ lower g.host))) =
      domainFilter (hostKey puny (some (lower g.host))))
    (u u' : Str) (hg : InClassOf ir g u) (hg' : InClassOf ir { g with host := ampDash ++ g.host } u')
    (hport : portVal g.port ≠ none) :
    normalizeUrlString puny id o ir u' = normalizeUrlString puny id o ir u :=
  string_of_grammar_rel puny o ir _ _ u u' hg hg' hport
    (normG_of_partsG puny o g _ rfl (partsG_amp_dash puny o ha g hne hpct hcanon hdec honce hdf))

/-- … and for the two strings of the grammar themselves -/
theorem norm_amp_dash_string (puny : Str → Str) (o : Normalize.Opts) (ha : o.normalizeAmp = true)
    (ir : Bool) (g : UrlG) (hne : g.host ≠ []) (hpct : '%' ∉ g.host)
    (hcanon : canonHost puny (ampDash ++ lower g.host) = ampDash ++ canonHost puny (lower g.host))
    (hdec : ∀ x ∈ splitOn (canonHost puny (lower g.host)) '.', decodePunycodeHostname puny x = x)
    (honce : startsWith (afterSub o (canonHost puny (lower g.host))) ampDash = false)
    (hdf : domainFilter (hostKey puny (some (ampDash ++ lower g.host))) =
      domainFilter (hostKey puny (some (lower g.host))))
    (hg : InClass ir g) (hg' : InClass ir { g with host := ampDash ++ g.host })
    (hport : portVal g.port ≠ none) :
    normalizeUrlString puny id o ir ({ g with host := ampDash ++ g.host } : UrlG).str =
      normalizeUrlString puny id o ir g.str :=
  norm_amp_dash_string_rel puny o ha ir g hne hpct hcanon hdec honce hdf _ _ hg.of hg'.of hport

/-- non-vacuity: `https://amp-www.a.com/p?a=1` against `https://www.a.com/p?a=1` (`exG`) -/
example : InClass false exG ∧ InClass false { exG with host := ampDash ++ exG.host } ∧
    canonHost id (ampDash ++ lower exG.host) = ampDash ++ canonHost id (lower exG.host) ∧
    (∀ x ∈ splitOn (canonHost id (lower exG.host)) '.', decodePunycodeHostname id x = x) ∧
    startsWith (afterSub {} (canonHost id (lower exG.host))) ampDash = false ∧
    domainFilter (hostKey id (some (ampDash ++ lower exG.host))) = domainFilter (hostKey id (some (lower exG.host))) ∧
    normalizeUrlString id id {} false "https://amp-www.a.com/p?a=1".toList = "a.com/p?a=1".toList := by
  unfold exG
  simp only [toList_lit]
  decide +kernel

/-! ## the case of the hex digits, on strings -/

/-- **the letter case of the hex digits of the escapes is irrelevant on strings** (`upper_quoted` on
the whole URL before it is parsed): two strings whose cleaned forms read the same token by token,
up to the case of the two hex digits of each escape, are normalized alike — every string the
modelled parser accepts, no grammar (`infer_redirection=False`; with it: `norm_*_string_rel`, whose
class is taken after `upper_quoted`) -/
theorem norm_hex_case_string (puny : Str → Str) (o : Normalize.Opts) (u v : Str)
    (h : (tokens (strip (stripControl u))).map upperTok = (tokens (strip (stripControl v))).map upperTok)
    (hparse : parseUrl (prepared id false v).1 ≠ none) :
    normalizeUrlString puny id o false u = normalizeUrlString puny id o false v := by
  rw [normalizeUrlString_eq, normalizeUrlString_eq]
  exact norm_hex_case puny parseUrl id o u v h hparse

example : (tokens (strip (stripControl "http://a.com/%c3%a9?x=%2f".toList))).map upperTok =
    (tokens (strip (stripControl "http://a.com/%C3%A9?x=%2F".toList))).map upperTok ∧
    parseUrl (prepared id false "http://a.com/%C3%A9?x=%2F".toList).1 ≠ none := by
  simp only [toList_lit]
  decide +kernel

/-! ## compositions -/

/-- **two transformations in a row**: the intermediate spelling needs no string of its own, only
its pieces `g₁` (chains of any length: compose the `normG` equalities with `Eq.trans`) -/
theorem norm_compose_string_rel (puny : Str → Str) (o : Normalize.Opts) (ir : Bool)
    (g g₁ g₂ : UrlG) (u u₂ : Str) (hg : InClassOf ir g u) (hg₂ : InClassOf ir g₂ u₂)
    (hport : portVal g.port ≠ none)
    (h₁ : normG puny o g₁ = normG puny o g) (h₂ : normG puny o g₂ = normG puny o g₁) :
    normalizeUrlString puny id o ir u₂ = normalizeUrlString puny id o ir u :=
  string_of_grammar_rel puny o ir g g₂ u u₂ hg hg₂ hport (h₂.trans h₁)

/-- **the grammar class is closed under a rewriting of path, query and fragment** (behind a
written protocol, so that "is it a protocol" does not depend on the tail): new path empty or
absolute without `? #`, new query without `#` -/
theorem wf_tail (g : UrlG) (hw : g.wf = true) (hp : g.proto ≠ .bare) (path' : Str) (Q' F' : Option Str)
    (h1 : (path'.isEmpty || startsWith path' ['/']) = true) (h2 : free ['?', '#'] path' = true)
    (h3 : freeOpt ['#'] Q' = true) :
    ({ g with path := path', query := Q', fragment := F' } : UrlG).wf = true := by
  have f := wf_facts hw
  apply wf_of_facts
  refine ⟨?_, f.ui, f.host, f.port, h1, h2, h3⟩
  have := f.proto
  cases hpr : g.proto with
  | bare => exact absurd hpr hp
  | slashes => rfl
  | scheme sc => rw [hpr] at this; exact this

/-- … and under a rewriting of userinfo, host text and port text -/
theorem wf_authority (g : UrlG) (hw : g.wf = true) (hp : g.proto ≠ .bare) (ui' : Option Str) (host' : Str)
    (port' : Option Str) (h1 : freeOpt ['/', '?', '#', '[', ']'] ui' = true)
    (h2 : (if g.br then free ['/', '?', '#', '@', '[', ']'] host' && bracketedHostOk host'
      else free ['/', '?', '#', '@', ':', '[', ']'] host') = true)
    (h3 : freeOpt ['/', '?', '#', '@', '[', ']'] port' = true) :
    ({ g with ui := ui', host := host', port := port' } : UrlG).wf = true := by
  have f := wf_facts hw
  apply wf_of_facts
  refine ⟨?_, h1, h2, h3, f.pabs, f.path, f.query⟩
  have := f.proto
  cases hpr : g.proto with
  | bare => exact absurd hpr hp
  | slashes => rfl
  | scheme sc => rw [hpr] at this; exact this

/-- a trailing slash keeps the class -/
theorem wf_trailing_slash (g : UrlG) (hw : g.wf = true) (hp : g.proto ≠ .bare) :
    ({ g with path := g.path ++ ['/'] } : UrlG).wf = true := by
  have f := wf_facts hw
  refine wf_tail g hw hp _ g.query g.fragment ?_ ?_ f.query
  · cases hx : g.path with
    | nil => rfl
    | cons c cs =>
      have := f.pabs
      rw [hx] at this
      simpa [startsWith, List.isPrefixOf] using this
  · rw [free_append]
    simp only [Bool.and_eq_true]
    exact ⟨f.path, by decide⟩

/-- **a composition spelled out: a tracking item inserted AND a trailing slash added** —
`u'` reads `g` with one more slash at the end of the path and the item `t` at any position after
the first -/
theorem norm_tracking_then_slash_string_rel (puny : Str → Str) (o : Normalize.Opts)
    (hl : o.lowercase = false) (hts : o.stripTrailingSlash = true) (ir : Bool) (g : UrlG)
    (r0 : Str) (R1 R2 : List Str) (t : Str)
    (hq : g.query = some (join ['&'] (r0 :: R1 ++ R2)))
    (hR : ∀ r ∈ r0 :: R1 ++ t :: R2, '&' ∉ r)
    (hx : keepItem o (hostKey puny g.hostname) (seenAt o (unqItem (cutFirst '=' t))) = false)
    (u u' : Str) (hg : InClassOf ir g u)
    (hg' : InClassOf ir { g with path := (g.path ++ ['/']), query := some (join ['&'] (r0 :: R1 ++ t :: R2)) } u')
    (hport : portVal g.port ≠ none) :
    normalizeUrlString puny id o ir u' = normalizeUrlString puny id o ir u :=
  norm_compose_string_rel puny o ir g { g with path := g.path ++ ['/'] } _ u u' hg hg' hport
    (normG_trailing_slash puny o hl hts g hg.wf)
    (normG_tracking_item puny o hl hts { g with path := g.path ++ ['/'] } r0 R1 R2 t hq hR hx)

/-- **… and three at once on the authority**: scheme swapped, userinfo added, `www.`-like label
in front of the host -/
theorem norm_scheme_userinfo_label_string_rel (puny : Str → Str) (hpl : PunyLaws puny) (o : Normalize.Opts)
    (hsp : o.stripProtocol = true) (hsa : o.stripAuthentication = true)
    (hs : o.stripIrrelevantSubdomains = true) (ir : Bool) (g : UrlG) (P : Proto) (ui' : Option Str)
    (lab : Str) (hne : g.host ≠ []) (hdot : '.' ∉ lab) (hlen : lab.length ≤ 6)
    (hx : lower (lab.take 4) ≠ "xn--".toList)
    (hlab : isIrrLabel o.normalizeAmp (lower lab) = true)
    (hpct : '%' ∉ g.host) (hpct' : '%' ∉ lab)
    (u u' : Str) (hg : InClassOf ir g u)
    (hg' : InClassOf ir { g with proto := P, ui := ui', host := lab ++ '.' :: g.host } u')
    (hport : portVal g.port ≠ none) :
    normalizeUrlString puny id o ir u' = normalizeUrlString puny id o ir u :=
  string_of_grammar_rel puny o ir g _ u u' hg hg' hport
    (((normG_scheme puny o hsp { g with ui := ui', host := lab ++ '.' :: g.host } P).trans
      (normG_userinfo puny o hsa { g with host := lab ++ '.' :: g.host } ui')).trans
      (normG_irrelevant_label puny hpl o hs g lab hne hdot hlen hx hlab hpct hpct'))

/-- non-vacuity of the two compositions on `https://www.a.com/p?a=1` (`exG`) -/
example :
    InClassOf false { exG with path := (exG.path ++ ['/']), query := some (join ['&'] ("a=1".toList :: [] ++ "utm_source=x".toList :: [])) }
      " https://www.a.com/p/?a=1&utm_source=x".toList ∧
    exG.query = some (join ['&'] ("a=1".toList :: [] ++ [])) ∧
    keepItem {} (hostKey id exG.hostname) (seenAt {} (unqItem (cutFirst '=' "utm_source=x".toList))) = false ∧
    InClassOf false { exG with proto := .scheme "ftp".toList, ui := some "u:p".toList, host := "m".toList ++ '.' :: exG.host } "ftp://u:p@m.www.a.com/p?a=1".toList ∧
    ({ exG with path := exG.path ++ ['/'] } : UrlG).wf = true := by
  unfold exG
  simp only [toList_lit]
  decide +kernel

end Ural.Props.C04
