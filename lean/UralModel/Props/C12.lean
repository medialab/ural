import UralModel.Lemmas.LruRoundTrip
import UralModel.Lemmas.LruHostname
import UralModel.Lemmas.LruString
import UralModel.Gen.LruPatterns
import UralModel.Gen.ProtocolRe
import UralModel.Gen.UrllibTables
import UralModel.Lemmas.StrLit
/-!
# C12 — URL → LRU conversion is lossless and serialisation is invertible

The property theorems (helper lemmas: `Lemmas/LruStems.lean`, `Lemmas/LruRoundTrip.lean`,
`Lemmas/LruHostname.lean`, `Lemmas/LruString.lean`).  `sp` is the public-suffix split (property
C08), an arbitrary function; what is needed from it is stated as an explicit hypothesis
(`SplitLaw`, derived from C08's clause `SplitRejoins` by `splitRejoins_of_c08`).

Component level (first part): the model starts from the five components `p : Parts` returned
by `urlsplit(ensure_protocol(url))` and ends at the five components `lru_to_url` hands to
`urlunsplit`.  String level (last part, "the parser inside the model"): `urlParts u` is the
Lean model of `urlsplit(ensure_protocol(u))`, and "`urlsplit(urlunsplit(t))` has the components
`t`" is `UrlRoundTrip.urlsplit_urlunsplit20` applied to the components
`lru_to_url` prints (`serialization_string`, `roundtrip_string_partial`,
`accessors_string_partial`; the class of strings is `Lru.inClass`, `Model/LruUrl.lean`).

Hypotheses: `wfParts p` — the netloc is inside the URL grammar (at most one `@`; host bracketed
or without `:[]`; port without `:[]`) and the path is empty or starts with `/` (what `urlsplit`
returns for a URL with a netloc); `noBar p` — no `|` (the property's own hypothesis).
-/
set_option linter.unusedSectionVars false
set_option linter.unusedSimpArgs false

namespace Ural.Props.C12
open Ural Ural.Py Ural.Lru

variable (sp : Str → Option (Str × Str))

/-! ## table obligations: the regexes the hand-written splitters were written for

(flags `32` is `re.UNICODE`: what a compiled `str` pattern without flags reports) -/

/-- `PORT_SPLITTER` is still the pattern `portSplit` models -/
theorem port_splitter_pattern :
    Gen.LruPatterns.portSplitter = ":(?![^\\[\\]]*\\])" ∧ Gen.LruPatterns.portSplitterFlags = 32 := by
  decide +kernel

/-- `SERIALIZED_LRU_SPLITTER_RE` is still the pattern `unserializeLru` models -/
theorem serialized_lru_splitter_pattern :
    Gen.LruPatterns.serializedLruSplitter = "\\|(?=[shtpqfuw]:)" ∧
      Gen.LruPatterns.serializedLruSplitterFlags = 32 := by
  decide +kernel

/-- the hand-written `portSplit` answers like the compiled regex on the probe list -/
theorem port_splitter_probes :
    Gen.LruPatterns.portProbes.all (fun pr => portSplit pr.1 == pr.2) = true := by
  decide +kernel

/-- the hand-written LRU splitter answers like the compiled regex on the probe list -/
theorem serialized_lru_splitter_probes :
    Gen.LruPatterns.splitterProbes.all
      (fun pr => splitBy (fun c rest => c == '|' && tagAhead rest) pr.1 == pr.2) = true := by
  decide +kernel

/-- `PROTOCOL_RE` is still the pattern `UrlParts.protoLen` (inside `urlParts`, the string-level
model of `urlsplit(ensure_protocol(u))`) was written for -/
theorem protocol_re_pattern :
    Gen.protocolRePattern = "^(?:[a-zA-Z]{1,64}:)?//" ∧ Gen.protocolReFlags = 32 := by
  decide +kernel

/-- `urllib.parse.uses_netloc` of the running interpreter is the table of both `urlunsplit`
models (`Py/Split.lean` used by `lru_to_url`, `Py/UrlSplit.lean` used by the round-trip lemma) -/
theorem urllib_uses_netloc :
    Gen.usesNetloc = Py.usesNetloc20 ∧ Gen.usesNetloc = Py.usesNetloc := by decide +kernel

/-! ## what is assumed about `split_suffix` -/

/-- **C08's clause is enough**: if the two parts returned by `split_suffix` re-join to the
lower-cased `.hostname` (`SplitRejoins`), then on every netloc of the grammar the public-suffix
split of the host (`hostSplit`) re-joins to the lower-cased host.  A bracketed literal is never
suffix-processed (nothing to show, whatever `split_suffix` finds in its text); for a plain host
`.hostname` lower-cased is the host lower-cased, `%` or not. -/
theorem splitRejoins_of_c08 (n : Str) (hwf : wfNetloc n = true)
    (h : SplitRejoins sp n) : SplitLaw sp n := by
  intro d s hds
  rcases (grammar_of_wf hwf).host with ⟨inner, hin, _⟩ | hp
  · rw [hostSplit_bracketed sp hin] at hds
    cases hds
  · rw [hostSplit_plain sp hp] at hds
    rw [← lower_pyHostname_plain hwf hp]
    exact rejoinHost_of_rejoins (h d s (splitSuffixParsed_some sp hds))

/-! ## the stems of a URL are well formed -/

/-- every output of `lru_stems` is a stem list on which serialisation is invertible, given only
that the two parts returned by `split_suffix` hold no `|` (any netloc, inside the grammar or not;
not needed when stems.py sees a bracketed literal: `split_suffix` is not called) -/
theorem stems_wellformed_of_split (sa : Bool) (p : Parts) (hb : noBar p = true)
    (hsplit : sa = true → ((portSplit (hostportOf p.netloc)).headD []).head? ≠ some '[' →
      ∀ d s, splitSuffixParsed sp p.netloc = some (d, s) → '|' ∉ d ∧ '|' ∉ s) :
    StemsOK (lruStems sp sa p) := by
  simp only [noBar, Bool.and_eq_true] at hb
  obtain ⟨⟨⟨⟨b1, b2⟩, b3⟩, b4⟩, b5⟩ := hb
  have nb : ∀ {s : Str}, noneOf ['|'] s = true → '|' ∉ s := by
    intro s h hm
    have := noneOf_iff.mp h _ hm
    simp at this
  refine ⟨?_, ?_, ?_⟩
  · simp only [lruStems, ne_eq, List.map_eq_nil_iff]
    rw [lruStemsT_groups]
    intro h
    simp only [List.append_eq_nil_iff] at h
    exact hostStems_ne_nil sp _ _ _ h.2.2.1
  · intro s hsm
    simp only [lruStems, List.mem_map] at hsm
    obtain ⟨t, ht, rfl⟩ := hsm
    have htag := tag_mem_lruStemsT sp ht
    intro hm
    simp only [render, List.mem_cons] at hm
    rcases hm with hm | hm | hm
    · rw [← hm] at htag; revert htag; decide +kernel
    · cases hm
    · rcases mem_value_lruStemsT sp ht hm with h | h | h | h | h | ⟨hsa, hnb, d, s, hds, hc⟩
      · exact nb b1 h
      · exact nb b2 h
      · exact nb b3 h
      · exact nb b4 h
      · exact nb b5 h
      · rcases hc with hc | hc
        · exact (hsplit hsa hnb d s hds).1 hc
        · exact (hsplit hsa hnb d s hds).2 hc
  · intro s hsm r
    have hsm' := List.mem_of_mem_tail hsm
    simp only [lruStems, List.mem_map] at hsm'
    obtain ⟨t, ht, rfl⟩ := hsm'
    rw [tagAhead_render]
    simpa using tag_mem_lruStemsT sp ht

/-- **every output of `lru_stems` is a stem list on which serialisation is invertible**:
non-empty, each stem starts with a tag `x:`, and no stem contains `|` when the URL has none
(suffix-aware: given C08's clause `SplitLaw`) -/
theorem stems_wellformed (sa : Bool) (p : Parts) (hb : noBar p = true)
    (hs : sa = true → SplitLaw sp p.netloc) : StemsOK (lruStems sp sa p) := by
  apply stems_wellformed_of_split sp sa p hb
  intro hsa hnb d s hds
  apply nobar_parts_of_rejoin (hn := lowerHostname p.netloc)
  have hds' : hostSplit sp p.netloc = some (d, s) := by
    unfold hostSplit
    cases hbr : (specHost p.netloc).head? == some '[' with
    | true => exact absurd (by simpa using head_portSplit_bracket hbr) hnb
    | false => simpa using hds
  rw [hs hsa d s hds']
  intro hr
  have hm := mem_of_mem_lower (by decide) hr
  simp only [noBar, Bool.and_eq_true] at hb
  have := noneOf_iff.mp hb.1.1.1.2 _ (mem_hostportOf (mem_specHost hm))
  simp at this

/-! ## serialisation -/

/-- a serialised LRU always ends with `|` (whatever the stems) -/
theorem serialize_ends_bar (stems : List Str) : (serializeLru stems).getLast? = some '|' := by
  simp [serializeLru]

/-- `unserialize_lru(serialize_lru(stems)) == stems` for every non-empty stem list without
`|` whose non-first stems start with a tag -/
theorem unserialize_serialize (stems : List Str) (h : StemsOK stems) :
    unserializeLru (serializeLru stems) = stems :=
  unserialize_serialize_ok h

/-- `serialize_lru(unserialize_lru(s)) == s` for every `s` produced by `serialize_lru` from
such a list -/
theorem serialize_unserialize (stems : List Str) (h : StemsOK stems) :
    serializeLru (unserializeLru (serializeLru stems)) = serializeLru stems := by
  rw [unserialize_serialize_ok h]

/-- … in particular for the stems of every URL without `|` -/
theorem unserialize_serialize_stems (sa : Bool) (p : Parts) (hb : noBar p = true)
    (hs : sa = true → SplitLaw sp p.netloc) :
    unserializeLru (serializeLru (lruStems sp sa p)) = lruStems sp sa p :=
  unserialize_serialize_ok (stems_wellformed sp sa p hb hs)

/-- … and for every serialised LRU `url_to_lru(u)` of a URL without `|` -/
theorem serialize_unserialize_lru (sa : Bool) (p : Parts) (hb : noBar p = true)
    (hs : sa = true → SplitLaw sp p.netloc) :
    serializeLru (unserializeLru (serializeLru (lruStems sp sa p))) =
      serializeLru (lruStems sp sa p) := by
  rw [unserialize_serialize_stems sp sa p hb hs]

/-! ## the netloc: `PORT_SPLITTER` and the `@` / `:` splits agree with the grammar -/

/-- `PORT_SPLITTER.split` returns exactly `[host]` / `[host, port]` on every host of the
grammar (bracketed literal or name) and port without `:[]` -/
theorem portSplit_spec (host : Str) (hh : hostOK host = true) :
    portSplit host = [host] ∧
    ∀ port, portOK port = true → portSplit (host ++ ':' :: port) = [host, port] := by
  have := portSplit_hostShape host (hostShape_of_hostOK hh)
  exact ⟨this.1, fun port hp => this.2 port (plain_of_noneOf hp)⟩

/-- on a well-formed netloc, what stems.py computes (`netloc[0]`, `netloc[1]`) are the host and
port of the grammar, and the netloc is `userinfo@host:port` -/
theorem netloc_components (n : Str) (h : wfNetloc n = true) :
    portSplit (hostportOf n) = specHost n :: (specPort n).toList ∧
    hostportOf n = specHost n ++ optPart ':' (specPort n) ∧
    (∀ auth, authOf n = some auth → n = auth ++ '@' :: hostportOf n) ∧
    (authOf n = none → n = hostportOf n) := by
  have e := (netloc_eq n).1
  exact ⟨portSplit_wf h, (grammar_of_wf h).hostportOf,
    fun auth ha => by rw [ha] at e; simpa [Netloc.pre] using e, fun ha => by rw [ha] at e; exact e⟩

/-! ## `lru_to_url` inverts `lru_stems` -/

/-- **re-assembly inverts emission**, whatever `split_suffix` answers: `lru_to_url` hands to
`urlunsplit` the scheme, path (with its empty segments), query and fragment of the URL, and the
netloc `userinfo@host:port` with the same user, password and port (empty and absent user /
password identified) and, as host, the host itself — or, suffix-aware, the suffix parts
re-joined (`hostSplit`: never so for a bracketed literal, which stays one stem) -/
theorem lru_to_url_stems (sa : Bool) (p : Parts) (hwf : wfParts p = true) :
    lruToUrlParts (lruStems sp sa p) = .ok { p with
      netloc := canonNetloc p.netloc
        (if sa then hostJoined (specHost p.netloc) (lowerHostname p.netloc) (hostSplit sp p.netloc)
         else specHost p.netloc) } := by
  simp only [wfParts, Bool.and_eq_true] at hwf
  obtain ⟨hn, hpath⟩ := hwf
  have hb := buildIndex_render (lruStemsT sp sa p)
    (fun t ht => by have := tag_mem_lruStemsT sp ht; intro e; rw [e] at this; revert this; decide) []
  simp only [lruToUrlParts, lruStems, hb]
  have hidx : (lruStemsT sp sa p).foldl stepT [] = indexOf sp sa p := rfl
  rw [hidx]
  simp only [partsOfIndex, child_s, child_q, child_f, child_u, child_w, child_p, child_t sp sa p hn,
    child_h sp sa p hn, path_roundtrip p.path hpath]
  refine congrArg Except.ok ?_
  have e1 : ∀ x : Str, (if x ≠ [] then some x else none).getD [] = x := by
    intro x; by_cases hx : x = [] <;> simp [hx]
  have e2 : ∀ x : Str, optPart ':' (if x ≠ [] then some x else none) = if x ≠ [] then ':' :: x else [] := by
    intro x; by_cases hx : x = [] <;> simp [hx, optPart]
  cases p
  simp only [e1, e2, hostOfStems, canonNetloc, canonAuth, Option.getD_some, List.append_assoc]

/-- **URL → stems → URL is lossless** (component level): for every well-formed `p`,
`lru_to_url(lru_stems(u))` hands to `urlunsplit` exactly the components of `u`, up to the
property's equivalence (`expectedParts`: empty and absent user / password identified, host
lower-cased when suffix-aware and the host has a public suffix) -/
theorem roundtrip_parts (sa : Bool) (p : Parts) (hwf : wfParts p = true)
    (hs : sa = true → SplitLaw sp p.netloc) :
    lruToUrlParts (lruStems sp sa p) = .ok (expectedParts sp sa p) := by
  rw [lru_to_url_stems sp sa p hwf]
  exact congrArg (fun h => Except.ok { p with netloc := canonNetloc p.netloc h })
    (hostOfStems_eq_expected sp sa p.netloc hs)

/-- the same through the serialised form: `lru_to_url(url_to_lru(u))` -/
theorem lru_to_url_serialized (sa : Bool) (p : Parts) (hwf : wfParts p = true)
    (hb : noBar p = true) (hs : sa = true → SplitLaw sp p.netloc) :
    lruToUrlStr (serializeLru (lruStems sp sa p)) = .ok (renderParts (expectedParts sp sa p)) ∧
    lruToUrl (lruStems sp sa p) = .ok (renderParts (expectedParts sp sa p)) := by
  simp [lruToUrlStr, lruToUrl, unserialize_serialize_stems sp sa p hb hs,
    roundtrip_parts sp sa p hwf hs]

/-! ## the result has the components of `u` -/

/-- **the re-assembled netloc has the components of the original one**: it is again inside the
grammar, its port, user and password are those of `u` (empty ≡ absent), its host is the host of
`u` (lower-cased when suffix-aware and the host has a public suffix) -/
theorem expected_components (sa : Bool) (p : Parts) (hwf : wfParts p = true) :
    let q := expectedParts sp sa p
    wfParts q = true ∧ q.scheme = p.scheme ∧ q.path = p.path ∧ q.query = p.query ∧
    q.fragment = p.fragment ∧
    specHost q.netloc = expectedHost sp sa p.netloc ∧ specPort q.netloc = specPort p.netloc ∧
    (userOf q.netloc).getD [] = (userOf p.netloc).getD [] ∧
    (passwordOf q.netloc).getD [] = (passwordOf p.netloc).getD [] := by
  simp only [wfParts, Bool.and_eq_true] at hwf
  obtain ⟨hn, hpath⟩ := hwf
  have g' := expected_grammar sp sa hn
  simp only [expectedParts, wfParts, Bool.and_eq_true]
  exact ⟨⟨g'.wf, hpath⟩, trivial, trivial, trivial, trivial, g'.specHost, g'.specPort,
    g'.userOf_canon, g'.passwordOf_canon⟩

/-! ## `url_to_lru` of the result is the same LRU again -/

theorem isSpecialHost_pure_literal {inner : Str} (h1 : ':' ∈ inner)
    (h2 : (lower inner).all (fun c => isHexDigit c || c == ':') = true) :
    isSpecialHost (lower inner) = true := by
  have hc : ':' ∈ lower inner := mem_lower_of_mem (by decide) h1
  simp only [isSpecialHost, specialBody, specialAlt2, Bool.or_eq_true, Bool.and_eq_true]
  left; right
  exact ⟨by simpa using hc, h2⟩

/-- core of the fixed-point theorem: all that is needed of the suffix-aware mode is that the
public-suffix split of the host is the same on the re-assembled netloc -/
theorem relru_fixed_of_split (sa : Bool) (p : Parts) (hwf : wfParts p = true)
    (hsplit1 : sa = true →
      hostSplit sp (canonNetloc p.netloc (expectedHost sp sa p.netloc)) =
        hostSplit sp p.netloc)
    (hname : sa = true → hostSplit sp p.netloc ≠ none →
      lowerHostname (canonNetloc p.netloc (expectedHost sp sa p.netloc)) = lowerHostname p.netloc) :
    lruStems sp sa (expectedParts sp sa p) = lruStems sp sa p := by
  simp only [wfParts, Bool.and_eq_true] at hwf
  have g' := expected_grammar sp sa hwf.1
  refine congrArg (List.map render) (lruStemsT_congr sp sa hwf.1 g'.wf rfl g'.specPort ?_ rfl rfl rfl
    g'.userOf_canon g'.passwordOf_canon)
  -- the host stems: same split, same lower-cased hostname where there is a split
  show hostStems sp sa (canonNetloc p.netloc (expectedHost sp sa p.netloc))
    (specHost (canonNetloc p.netloc (expectedHost sp sa p.netloc))) = _
  rw [hostStems_spec, hostStems_spec, g'.specHost]
  cases hsat : sa with
  | false => simp [expectedHost]
  | true =>
    subst hsat
    simp only [if_true, hsplit1 rfl]
    cases hsp : hostSplit sp p.netloc with
    | none => simp [hostStemsOfSplit, expectedHost, hsp]
    | some ds => rw [hname rfl (by rw [hsp]; simp)]; rfl

/-- **fixed point, `%` in a plain host included**: where `wfHostSA` fails (suffix-aware, a plain
host with `%`: `.hostname` keeps the case of what follows the `%`, the re-assembled host is
lower-cased) the public-suffix split is the same again by C08's case clause `SplitCaseInv` -/
theorem relru_fixed_caseinv (sa : Bool) (p : Parts) (hwf : wfParts p = true)
    (hci : sa = true → wfHostSA p.netloc = false → SplitCaseInv sp p.netloc) :
    lruStems sp sa (expectedParts sp sa p) = lruStems sp sa p := by
  have hwf0 := hwf
  simp only [wfParts, Bool.and_eq_true] at hwf
  obtain ⟨hn, hpath⟩ := hwf
  have g' := expected_grammar sp sa hn
  -- the public-suffix split (and the lower-cased hostname) is the same for both netlocs
  suffices key : sa = true →
      hostSplit sp (canonNetloc p.netloc (expectedHost sp sa p.netloc)) = hostSplit sp p.netloc ∧
      (hostSplit sp p.netloc ≠ none →
        lowerHostname (canonNetloc p.netloc (expectedHost sp sa p.netloc)) = lowerHostname p.netloc) from
    relru_fixed_of_split sp sa p hwf0 (fun h => (key h).1) (fun h => (key h).2)
  intro hsat
  subst hsat
  rcases expectedHost_cases sp true p.netloc (grammar_of_wf hn).host with he | ⟨hp, he⟩
  · -- the host is kept (always so for a bracketed literal): same `.hostname`, same split
    have e : specHost (canonNetloc p.netloc (expectedHost sp true p.netloc)) = specHost p.netloc := by
      rw [g'.specHost, he]
    exact ⟨hostSplit_of_specHost sp g'.wf hn e,
      fun _ => by rw [lowerHostname, pyHostname_of_specHost g'.wf hn e]⟩
  · -- a plain host, lower-cased
    have hp' : Plain (specHost (canonNetloc p.netloc (expectedHost sp true p.netloc))) := by
      rw [g'.specHost, he]; exact plain_lower hp
    have hlow : lower (pyHostname (canonNetloc p.netloc (expectedHost sp true p.netloc))) =
        lower (pyHostname p.netloc) := by
      rw [lower_pyHostname_plain g'.wf hp', g'.specHost, he, lower_idem, lower_pyHostname_plain hn hp]
    refine ⟨?_, fun _ => hlow⟩
    rw [hostSplit_plain sp hp', hostSplit_plain sp hp]
    cases hsa : wfHostSA p.netloc with
    | true =>
      -- no `%`: `.hostname` is the lower-cased host, on both sides
      have hpy' : pyHostname (canonNetloc p.netloc (expectedHost sp true p.netloc)) =
          pyHostname p.netloc := by
        rw [(reads_wf g'.wf).pyHostname, g'.specHost, lowerHost_expected sp true hn fun _ => hsa,
          (reads_wf hn).pyHostname]
      simp only [splitSuffixParsed, hpy']
    | false =>
      -- both `.hostname`s hold the `%`: not empty, not special
      have hpct : '%' ∈ specHost p.netloc :=
        Classical.not_not.1 fun h => by rw [(wfHostSA_plain_iff hp).2 h] at hsa; cases hsa
      obtain ⟨n1, s1⟩ := pyHostname_percent_plain hn hp hpct
      obtain ⟨n2, s2⟩ := pyHostname_percent_plain g'.wf hp'
        (by rw [g'.specHost, he]; exact mem_lower_of_mem (by decide) hpct)
      simp only [splitSuffixParsed, n1, n2, s1, s2, if_false, Bool.false_eq_true]
      exact hci rfl hsa _ hlow s2 s1

/-- **fixed point**: the stems (hence the serialised LRU) of the re-assembled components are the
stems of `u` — `url_to_lru(lru_to_url(url_to_lru(u))) == url_to_lru(u)` at component level.
Every bracketed literal (pure IPv6, embedded IPv4, zone id, IPvFuture — whatever its text ends
with); suffix-aware and a plain host: no `%` (`wfHostSA`). -/
theorem relru_fixed (sa : Bool) (p : Parts) (hwf : wfParts p = true)
    (hsa : sa = true → wfHostSA p.netloc = true) :
    lruStems sp sa (expectedParts sp sa p) = lruStems sp sa p :=
  relru_fixed_caseinv sp sa p hwf (fun h hf => by rw [hsa h] at hf; cases hf)

/-! ## non-vacuity -/

/-- a concrete split function for the examples: `co.uk` and `com` are suffixes -/
def demoSplit (h : Str) : Option (Str × Str) :=
  if h = "www.a.co.uk".toList then some ("www.a".toList, "co.uk".toList)
  else if h = "a.com".toList then some ("a".toList, "com".toList)
  else none

def demo1 : Parts :=
  { scheme := "http".toList, netloc := "u:p@WWW.A.CO.UK:80".toList, path := "/x//y/".toList,
    query := "q".toList, fragment := "f".toList }

def demo2 : Parts :=
  { scheme := "http".toList, netloc := ":pw@[2001:db8::1]:8080".toList, path := "/a:b@c".toList,
    query := [], fragment := [] }

example : wfParts demo1 = true ∧ noBar demo1 = true ∧ wfHostSA demo1.netloc = true := by
  unfold demo1
  simp only [toList_lit]
  decide +kernel
example : wfParts demo2 = true ∧ noBar demo2 = true ∧ wfHostSA demo2.netloc = true := by
  unfold demo2
  simp only [toList_lit]
  decide +kernel

example : lruStems demoSplit true demo1 =
    ["s:http", "t:80", "h:co.uk", "h:a", "h:www", "p:x", "p:", "p:y", "p:", "q:q", "f:f", "u:u", "w:p"].map
      String.toList := by
  unfold demoSplit demo1
  simp only [List.map, toList_lit]
  decide +kernel

example : (lruToUrl (lruStems demoSplit true demo1)).toOption =
    some "http://u:p@www.a.co.uk:80/x//y/?q#f".toList := by
  unfold demoSplit demo1
  simp only [toList_lit]
  decide +kernel

example : lruStems demoSplit false demo2 =
    ["s:http", "t:8080", "h:[2001:db8::1]", "p:a:b@c", "w:pw"].map String.toList := by
  unfold demoSplit demo2
  simp only [List.map, toList_lit]
  decide +kernel

example : (lruToUrlStr (serializeLru (lruStems demoSplit false demo2))).toOption =
    some "http://:pw@[2001:db8::1]:8080/a:b@c".toList := by
  unfold demoSplit demo2
  simp only [toList_lit]
  decide +kernel

/-- the hypothesis `SplitLaw` is satisfiable on a non-trivial input -/
example : SplitLaw demoSplit demo1.netloc := by
  refine splitLaw_of_hostSplit demoSplit (d := "www.a".toList) (s := "co.uk".toList) ?_ ?_ <;>
    decide +kernel

/-- outside `noBar` serialisation is really not invertible -/
example : unserializeLru (serializeLru ["h:a".toList, "p:x|s:y".toList]) ≠
    ["h:a".toList, "p:x|s:y".toList] := by
  simp only [toList_lit]
  decide +kernel

/-- outside `wfNetloc` the round trip really loses information (two ports) -/
example : (lruToUrlParts (lruStems demoSplit false
    { scheme := "http".toList, netloc := "a.com:80:90".toList, path := [], query := [], fragment := [] })).toOption =
    some { scheme := "http".toList, netloc := "a.com".toList, path := [], query := [], fragment := [] } := by
  unfold demoSplit
  simp only [toList_lit]
  decide +kernel


/-! ## string level: the parser inside the model

`urlParts u` is `urlsplit(ensure_protocol(u))` computed by the model of CPython's parser
(`Py/UrlSplit.lean`, compared with CPython on every URL of the stream); `lruStemsUrl` /
`urlToLru` are `lru_stems` / `url_to_lru` as functions of the URL string; `reparse` is
`urlsplit` of the output of `lru_to_url`.  The hypothesis "`urlsplit(urlunsplit t) = t`" of the
component-level theorems is discharged by `UrlRoundTrip.urlsplit_urlunsplit20`. -/

open Ural.LruString Ural.UrlRoundTrip

/-- C08's clause at the URL `u` -/
def SplitRejoinsUrl (u : Str) : Prop := ∀ p, urlParts u = some p → SplitRejoins sp p.netloc

/-- C08's case clause at the URL `u` — asked only where it is needed: suffix-aware mode and a
plain host with `%` -/
def SplitCaseInvUrl (u : Str) : Prop :=
  ∀ p, urlParts u = some p → wfHostSA p.netloc = false → SplitCaseInv sp p.netloc

/-- a URL without `|` has components without `|` -/
theorem noBar_of_url {u : Str} {p : Parts} (hp : urlParts u = some p) (hbar : '|' ∉ u) :
    noBar p = true := by
  have f := urlFacts hp
  have h : ∀ s : Str, (∀ c ∈ s, c ∈ u) → noneOf ['|'] s = true := by
    intro s hs
    apply noneOf_iff.mpr
    intro c hc
    simp only [List.mem_cons, List.not_mem_nil, or_false]
    rintro rfl; exact hbar (hs _ hc)
  simp only [noBar, Bool.and_eq_true]
  refine ⟨⟨⟨⟨?_, h _ (fun c hc => f.sub c (Or.inl hc))⟩, h _ (fun c hc => f.sub c (Or.inr (Or.inl hc)))⟩,
    h _ (fun c hc => f.sub c (Or.inr (Or.inr (Or.inl hc))))⟩,
    h _ (fun c hc => f.sub c (Or.inr (Or.inr (Or.inr hc))))⟩
  apply noneOf_iff.mpr
  intro c hc
  simp only [List.mem_cons, List.not_mem_nil, or_false]
  rintro rfl
  have := f.scheme_letters.2.1 _ hc
  revert this; decide +kernel

/-- a URL without `|` has a netloc without `|` -/
theorem netloc_nobar_of_url {u : Str} {p : Parts} (hp : urlParts u = some p) (hbar : '|' ∉ u) :
    '|' ∉ p.netloc := by
  intro hm
  have nb := noBar_of_url hp hbar
  simp only [noBar, Bool.and_eq_true] at nb
  have := noneOf_iff.mp nb.1.1.1.2 _ hm
  simp at this

/-- C08's clause is enough for "the two parts returned by `split_suffix` hold no `|`", on any
netloc (inside the grammar or not) -/
theorem split_nobar_of_c08 {n : Str} (hb : '|' ∉ n) (h : SplitRejoins sp n) :
    ∀ d s, splitSuffixParsed sp n = some (d, s) → '|' ∉ d ∧ '|' ∉ s := by
  intro d s hds
  apply nobar_parts_of_rejoin (hn := lowerHostname n)
  rw [rejoinHost_of_rejoins (h d s (splitSuffixParsed_some sp hds))]
  intro hm
  exact hb (mem_pyHostname (by decide) (mem_of_mem_lower (by decide) hm))

/-- **serialisation is invertible on the LRU of every URL string without `|`** that the parser
accepts — no grammar restriction —, and the serialised LRU ends with `|`.  All that is needed of
`split_suffix` (suffix-aware mode only) is that the two parts it returns hold no `|` -/
theorem serialization_string_of_split (sa : Bool) (u : Str) (hbar : '|' ∉ u)
    (hsplit : sa = true → ∀ p, urlParts u = some p →
      ∀ d s, splitSuffixParsed sp p.netloc = some (d, s) → '|' ∉ d ∧ '|' ∉ s)
    (stems : List Str) (hst : lruStemsUrl sp sa u = some stems) :
    StemsOK stems ∧ urlToLru sp sa u = some (serializeLru stems) ∧
    unserializeLru (serializeLru stems) = stems ∧
    serializeLru (unserializeLru (serializeLru stems)) = serializeLru stems ∧
    (serializeLru stems).getLast? = some '|' := by
  unfold lruStemsUrl at hst
  cases hp : urlParts u with
  | none => rw [hp] at hst; cases hst
  | some p =>
    rw [hp] at hst
    simp only [Option.map_some, Option.some.injEq] at hst
    subst hst
    have nb := noBar_of_url hp hbar
    have ok := stems_wellformed_of_split sp sa p nb (fun hsa _ => hsplit hsa p hp)
    refine ⟨ok, by simp [urlToLru, lruStemsUrl, hp], unserialize_serialize_ok ok, ?_,
      serialize_ends_bar _⟩
    rw [unserialize_serialize_ok ok]

/-- the same for an ARBITRARY `split_suffix`, **given C08's clause at `u`** (suffix-aware mode
only: `hs`).  The clause is more than is needed (`serialization_string_of_split`) and is false for
the real `split_suffix` on a host with a trailing dot; `C12.serialization_string_psl`
(`Props/C12Psl.lean`) is the statement without any hypothesis, for the model of suffix_trie.py -/
theorem serialization_string (sa : Bool) (u : Str) (hbar : '|' ∉ u)
    (hs : sa = true → SplitRejoinsUrl sp u) (stems : List Str)
    (hst : lruStemsUrl sp sa u = some stems) :
    StemsOK stems ∧ urlToLru sp sa u = some (serializeLru stems) ∧
    unserializeLru (serializeLru stems) = stems ∧
    serializeLru (unserializeLru (serializeLru stems)) = serializeLru stems ∧
    (serializeLru stems).getLast? = some '|' := by
  apply serialization_string_of_split sp sa u hbar _ stems hst
  intro hsa p hp
  exact split_nobar_of_c08 sp (netloc_nobar_of_url hp hbar) (hs hsa p hp)

/-! ### the class -/

theorem inClass_iff {u : Str} :
    inClass u = true ↔ ∃ p, urlParts u = some p ∧ inClassParts p = true := by
  unfold inClass
  cases urlParts u with
  | none => simp
  | some p => simp

structure ClassFacts (p : Parts) : Prop where
  nobar : noBar p = true
  wf : wfNetloc p.netloc = true
  host : specHost p.netloc ≠ []
  auth : noneOf ['[', ']'] ((authOf p.netloc).getD []) = true

theorem classFacts {p : Parts} (h : inClassParts p = true) : ClassFacts p := by
  simp only [inClassParts, Bool.and_eq_true, bne_iff_ne, ne_eq] at h
  obtain ⟨⟨⟨h1, h2⟩, h3⟩, h4⟩ := h
  exact ⟨h1, h2, h3, h4⟩

theorem wfNetloc_of_class {u : Str} (hc : inClass u = true) {p : Parts} (hp : urlParts u = some p) :
    wfNetloc p.netloc = true := by
  obtain ⟨q, hq, hcq⟩ := inClass_iff.1 hc
  rw [hp] at hq
  cases hq
  exact (classFacts hcq).wf

/-- **C08's clause is enough on the class**, and for EVERY bracketed literal — pure IPv6,
embedded IPv4, zone id, IPvFuture, whatever public suffix its text may end with —: `split_suffix`
is not consulted (stems.py never suffix-processes a bracketed literal: known finding KF-C12-1).
Same statement as `splitRejoins_of_c08`. -/
theorem splitLaw_of_class (n : Str) (hwf : wfNetloc n = true)
    (h : SplitRejoins sp n) : SplitLaw sp n :=
  splitRejoins_of_c08 sp n hwf h

/-- on a bracketed literal nothing at all is assumed about `split_suffix` -/
theorem splitLaw_bracketed (n : Str) (hb : ((specHost n).head? == some '[') = true) :
    SplitLaw sp n := by
  intro d s hds
  unfold hostSplit at hds
  rw [hb] at hds
  cases hds

/-- the fixed-point theorem on the class (component level): every bracketed literal without
consulting `split_suffix`, every plain host without `%`, and plain hosts with `%` given C08's
case clause (same statement as `relru_fixed_caseinv`) -/
theorem relru_fixed_class (sa : Bool) (p : Parts) (hwf : wfParts p = true)
    (hci : sa = true → wfHostSA p.netloc = false → SplitCaseInv sp p.netloc) :
    lruStems sp sa (expectedParts sp sa p) = lruStems sp sa p :=
  relru_fixed_caseinv sp sa p hwf hci

/-- **URL → LRU → URL is lossless, on URL strings** (the parser inside the model).  For every
string `u` of the class `inClass` (the parser accepts `ensure_protocol(u)`; no `|`; netloc in
the grammar `wfNetloc`; a host; no raw bracket in the userinfo — every bracketed literal is in,
`split_suffix` is not consulted), both modes:

* `lru_to_url(lru_stems(u))` and `lru_to_url(url_to_lru(u))` return the same string `back`;
* **`urlsplit(back)` is exactly `expectedParts`** — the scheme, path (with its empty segments),
  query, fragment of `u` and the netloc `userinfo@host:port` of `expected_components` (same
  user / password up to empty ≡ absent, same port, same host, lower-cased when suffix-aware and
  the host has a public suffix);
* `ensure_protocol` leaves `back` alone, so `lru_stems(back)` / **`url_to_lru(back)` is the same
  LRU again**.

Suffix-aware mode: given that the two parts of the public-suffix split re-join to the lower-cased
host of `u` (`SplitLaw`: follows from C08's clause, `roundtrip_string_partial`; holds for the
model of suffix_trie.py on every netloc of the grammar, `C12.roundtrip_string_psl`) and, when
the host is a plain host with `%`, C08's case clause at `u` (`SplitCaseInvUrl`; for the
fixed-point part only). -/
theorem roundtrip_string_of_law (sa : Bool) (u : Str) (hc : inClass u = true)
    (hlaw0 : sa = true → ∀ p, urlParts u = some p → SplitLaw sp p.netloc) (hci : sa = true → SplitCaseInvUrl sp u) :
    ∃ p back,
      urlParts u = some p ∧ lruStemsUrl sp sa u = some (lruStems sp sa p) ∧
      urlToLru sp sa u = some (serializeLru (lruStems sp sa p)) ∧
      lruToUrl (lruStems sp sa p) = .ok back ∧
      lruToUrlStr (serializeLru (lruStems sp sa p)) = .ok back ∧
      reparse back = some (expectedParts sp sa p) ∧
      urlParts back = some (expectedParts sp sa p) ∧
      lruStemsUrl sp sa back = lruStemsUrl sp sa u ∧
      urlToLru sp sa back = urlToLru sp sa u := by
  obtain ⟨p, hp, hcp⟩ := inClass_iff.1 hc
  have f := urlFacts hp
  have c := classFacts hcp
  have hwfp : wfParts p = true := by
    simp only [wfParts, Bool.and_eq_true]
    refine ⟨c.wf, ?_⟩
    rcases f.path_abs with h | ⟨q, h⟩ <;> simp [h]
  have hlaw : sa = true → SplitLaw sp p.netloc := fun h => hlaw0 h p hp
  obtain ⟨h1, h2⟩ := lru_to_url_serialized sp sa p hwfp c.nobar hlaw
  have hok := netlocOk_canon c.wf c.auth f.ok (expectedHost_cases sp sa p.netloc (grammar_of_wf c.wf).host)
  have hWF := wf_expected sp sa f c.wf c.host hok
  have hre : urlsplit (renderParts (expectedParts sp sa p)) [] =
      some (splitOfParts (expectedParts sp sa p)) := by
    rw [renderParts_eq20]
    exact urlsplit_urlunsplit20 _ _ _ _ _ hWF
  obtain ⟨rest, hprinted⟩ := printed_shape (expectedParts sp sa p) f.scheme_letters
    (expected_netloc_ne_nil sp sa c.host) f.path_abs
  have hens : UrlParts.ensureProtocol (renderParts (expectedParts sp sa p)) httpProto =
      renderParts (expectedParts sp sa p) := by
    rw [hprinted]; exact UrlParts.ensureProtocol_letters f.scheme_letters _ _
  have hparts : urlParts (renderParts (expectedParts sp sa p)) = some (expectedParts sp sa p) := by
    unfold urlParts
    rw [hens, hre]
    rfl
  have hstems : lruStemsUrl sp sa (renderParts (expectedParts sp sa p)) = lruStemsUrl sp sa u := by
    unfold lruStemsUrl
    rw [hparts, hp]
    simp only [Option.map_some]
    rw [relru_fixed_class sp sa p hwfp (fun h => hci h p hp)]
  refine ⟨p, renderParts (expectedParts sp sa p), hp, by simp [lruStemsUrl, hp],
    by simp [urlToLru, lruStemsUrl, hp], h2, h1, ?_, hparts, hstems, ?_⟩
  · unfold reparse
    rw [hre]; rfl
  · unfold urlToLru
    rw [hstems]

/-- `roundtrip_string_of_law` for an arbitrary `split_suffix` **given C08's clause at `u`**
(`SplitRejoinsUrl`; suffix-aware mode only).  For the real `split_suffix` the clause is false on
a host with a trailing dot (`a.co.uk.`) or made of a dot and a public suffix (`.co.uk`):
`C12.roundtrip_string_psl` (`Props/C12Psl.lean`) states the round trip with suffix_trie.py inside,
where `SplitLaw` is a theorem and no hypothesis about the split is left -/
theorem roundtrip_string_partial (sa : Bool) (u : Str) (hc : inClass u = true)
    (hs : sa = true → SplitRejoinsUrl sp u) (hci : sa = true → SplitCaseInvUrl sp u) :
    ∃ p back,
      urlParts u = some p ∧ lruStemsUrl sp sa u = some (lruStems sp sa p) ∧
      urlToLru sp sa u = some (serializeLru (lruStems sp sa p)) ∧
      lruToUrl (lruStems sp sa p) = .ok back ∧
      lruToUrlStr (serializeLru (lruStems sp sa p)) = .ok back ∧
      reparse back = some (expectedParts sp sa p) ∧
      urlParts back = some (expectedParts sp sa p) ∧
      lruStemsUrl sp sa back = lruStemsUrl sp sa u ∧
      urlToLru sp sa back = urlToLru sp sa u :=
  roundtrip_string_of_law sp sa u hc
    (fun h p hp => splitLaw_of_class sp _ (wfNetloc_of_class hc hp) (hs h p hp)) hci

/-- **the round trip in terms of CPython's own accessors** (component level): the re-assembled
netloc has the same `.hostname` (CPython lower-cases it), the same `.port` (and the same port
text), and the same `.username` / `.password` up to empty ≡ absent, as the netloc of `u` -/
theorem accessors_roundtrip (sa : Bool) (p : Parts) (hwf : wfNetloc p.netloc = true)
    (hsa : sa = true → wfHostSA p.netloc = true) :
    Py.hostname (expectedParts sp sa p).netloc = Py.hostname p.netloc ∧
    Py.port (expectedParts sp sa p).netloc = Py.port p.netloc ∧
    (Py.hostinfo (expectedParts sp sa p).netloc).2 = (Py.hostinfo p.netloc).2 ∧
    (Py.username (expectedParts sp sa p).netloc).getD [] = (Py.username p.netloc).getD [] ∧
    (Py.password (expectedParts sp sa p).netloc).getD [] = (Py.password p.netloc).getD [] := by
  have g' := expected_grammar sp sa hwf
  have r := reads_wf hwf
  have r' := g'.reads
  obtain ⟨a1, a2, _⟩ := accessors_grammar hwf
  obtain ⟨b1, b2, _⟩ := accessors_grammar g'.wf
  have hq : (expectedParts sp sa p).netloc = canonNetloc p.netloc (expectedHost sp sa p.netloc) := rfl
  -- the host without brackets, lower-cased by `.hostname`, is the same
  have hhost := lowerHost_expected sp sa hwf hsa
  refine ⟨?_, by rw [hq, r'.port, r.port], by rw [hq, r'.hostinfo, r.hostinfo],
    by rw [hq, b1, a1, g'.userOf_canon], by rw [hq, b2, a2, g'.passwordOf_canon]⟩
  rw [hq, r'.hostname, r.hostname, hhost]
  have h0 : unbracket (expectedHost sp sa p.netloc) = [] ↔ unbracket (specHost p.netloc) = [] := by
    rw [← Netloc.lowerHost_eq_nil, hhost, Netloc.lowerHost_eq_nil]
  simp only [h0]

/-- **"re-parse to exactly the components of u", on URL strings, in CPython's vocabulary**: for
every `u` of the class, `B = urlsplit(lru_to_url(url_to_lru(u)))` has the scheme, path, query
and fragment of `A = urlsplit(ensure_protocol(u))`, `B.hostname == A.hostname`,
`B.port == A.port`, `B.username` / `B.password` those of `A` up to empty ≡ absent; the host as
written is kept (lower-cased when suffix-aware and the host has a public suffix).  Suffix-aware
mode: a plain host has no `%` (`hpct`; outside it `B.hostname == A.hostname` really fails, see
the example below — CPython does not lower-case what follows a `%`) -/
theorem accessors_string_of_law (sa : Bool) (u : Str) (hc : inClass u = true)
    (hlaw0 : sa = true → ∀ p, urlParts u = some p → SplitLaw sp p.netloc)
    (hpct : sa = true → ∀ p, urlParts u = some p → wfHostSA p.netloc = true) :
    ∃ A B back,
      urlParts u = some A ∧ lruToUrlStr (serializeLru (lruStems sp sa A)) = .ok back ∧
      reparse back = some B ∧
      B.scheme = A.scheme ∧ B.path = A.path ∧ B.query = A.query ∧ B.fragment = A.fragment ∧
      Py.hostname B.netloc = Py.hostname A.netloc ∧ Py.port B.netloc = Py.port A.netloc ∧
      (Py.username B.netloc).getD [] = (Py.username A.netloc).getD [] ∧
      (Py.password B.netloc).getD [] = (Py.password A.netloc).getD [] ∧
      specHost B.netloc = expectedHost sp sa A.netloc ∧ specPort B.netloc = specPort A.netloc := by
  obtain ⟨p, back, hp, _, _, _, h5, h6, _⟩ := roundtrip_string_of_law sp sa u hc hlaw0
    (fun hsat q hq hf => by rw [hpct hsat q hq] at hf; cases hf)
  obtain ⟨q, hq, hcp⟩ := inClass_iff.1 hc
  rw [hp] at hq
  cases hq
  have c := classFacts hcp
  obtain ⟨e1, e2, _, e4, e5⟩ := accessors_roundtrip sp sa p c.wf (fun h => hpct h p hp)
  have g' := expected_grammar sp sa c.wf
  exact ⟨p, expectedParts sp sa p, back, hp, h5, h6, rfl, rfl, rfl, rfl, e1, e2, e4, e5,
    g'.specHost, g'.specPort⟩

/-- `accessors_string_of_law` for an arbitrary `split_suffix` given C08's clause at `u`
(`C12.accessors_string_psl` is the statement with suffix_trie.py inside) -/
theorem accessors_string_partial (sa : Bool) (u : Str) (hc : inClass u = true)
    (hs : sa = true → SplitRejoinsUrl sp u)
    (hpct : sa = true → ∀ p, urlParts u = some p → wfHostSA p.netloc = true) :
    ∃ A B back,
      urlParts u = some A ∧ lruToUrlStr (serializeLru (lruStems sp sa A)) = .ok back ∧
      reparse back = some B ∧
      B.scheme = A.scheme ∧ B.path = A.path ∧ B.query = A.query ∧ B.fragment = A.fragment ∧
      Py.hostname B.netloc = Py.hostname A.netloc ∧ Py.port B.netloc = Py.port A.netloc ∧
      (Py.username B.netloc).getD [] = (Py.username A.netloc).getD [] ∧
      (Py.password B.netloc).getD [] = (Py.password A.netloc).getD [] ∧
      specHost B.netloc = expectedHost sp sa A.netloc ∧ specPort B.netloc = specPort A.netloc :=
  accessors_string_of_law sp sa u hc
    (fun h p hp => splitLaw_of_class sp _ (wfNetloc_of_class hc hp) (hs h p hp)) hpct

/-! ### non-vacuity, and what happens outside the class -/

def demoUrl : Str := "HTTP://u:p@WWW.A.CO.UK:80/x//y/?q#f".toList

example : inClass demoUrl = true := by
  unfold demoUrl
  simp only [toList_lit]
  decide +kernel

/-- the hypotheses of the suffix-aware theorems hold at `demoUrl` for `demoSplit` -/
example : SplitRejoinsUrl demoSplit demoUrl ∧ SplitCaseInvUrl demoSplit demoUrl := by
  have hp : urlParts demoUrl = some demo1 := by
    unfold demoUrl demo1
    simp only [toList_lit]
    decide +kernel
  constructor
  · intro p h
    rw [hp] at h
    cases h
    intro d s hds
    have e : pyHostname demo1.netloc = "www.a.co.uk".toList := by
      unfold demo1
      simp only [toList_lit]
      decide +kernel
    rw [e] at hds
    have : demoSplit "www.a.co.uk".toList = some ("www.a".toList, "co.uk".toList) := by
      unfold demoSplit
      simp only [toList_lit]
      decide +kernel
    rw [this] at hds
    simp only [Option.some.injEq, Prod.mk.injEq] at hds
    obtain ⟨rfl, rfl⟩ := hds
    unfold demo1
    simp only [toList_lit]
    decide +kernel
  · intro p h hf
    rw [hp] at h
    cases h
    have : wfHostSA demo1.netloc = true := by
      unfold demo1
      simp only [toList_lit]
      decide +kernel
    rw [this] at hf
    cases hf

example : urlToLru demoSplit true demoUrl =
    some "s:http|t:80|h:co.uk|h:a|h:www|p:x|p:|p:y|p:|q:q|f:f|u:u|w:p|".toList := by
  unfold demoSplit demoUrl
  simp only [toList_lit]
  decide +kernel

example : (urlToLru demoSplit true demoUrl).bind (fun l => (lruToUrlStr l).toOption) =
    some "http://u:p@www.a.co.uk:80/x//y/?q#f".toList := by
  unfold demoSplit demoUrl
  simp only [toList_lit]
  decide +kernel

/-- scheme-less input, `:` and `@` in the path, password without user, bracketed IPv6 with a port,
zone id, tab inside, empty user -/
example : inClass "localhost:8080/a:b@c".toList = true ∧
    inClass "//:pw@[2001:db8::1]:8080/a".toList = true ∧
    inClass "http://[fe80::1%25eth0]:22/".toList = true ∧
    inClass "ht\ttp://a.com/x".toList = true ∧
    inClass "http://@A.COM:/".toList = true := by
  simp only [toList_lit]
  decide +kernel

/-- the full statement: every `|`-free URL string the parser accepts (C08's clause granted) -/
def FullRoundtripString : Prop :=
  ∀ (sa : Bool) (u : Str) (p : Parts), '|' ∉ u → urlParts u = some p →
    (sa = true → SplitRejoins sp p.netloc) →
    ∃ back, lruToUrl (lruStems sp sa p) = .ok back ∧ reparse back = some (expectedParts sp sa p)

def noHostParts : Parts :=
  { scheme := "http".toList, netloc := [], path := "//x".toList, query := [], fragment := [] }

/-- **outside the class the statement fails** — no host: `http:////x` comes back as `http://x`,
whose netloc is `x` (CPython's `urlunsplit` drops an empty netloc in front of `//`) -/
theorem fullRoundtripString_false : ¬ FullRoundtripString demoSplit := by
  intro h
  obtain ⟨back, h1, h2⟩ := h false "http:////x".toList noHostParts (by decide +kernel)
    (by decide +kernel) (fun h => by cases h)
  have e : (lruToUrl (lruStems demoSplit false noHostParts)).toOption = some "http://x".toList := by
    decide +kernel
  rw [h1] at e
  simp only [Except.toOption, Option.some.injEq] at e
  subst e
  revert h2
  decide +kernel

/-- outside `wfNetloc` (two ports): the second port is lost -/
example : ((lruStemsUrl demoSplit false "http://a.com:80:90/".toList).bind
      (fun st => (lruToUrl st).toOption)).bind reparse =
    some { scheme := "http".toList, netloc := "a.com".toList, path := "/".toList, query := [],
           fragment := [] } := by
  unfold demoSplit
  simp only [toList_lit]
  decide +kernel

/-- a split function answering like the real trie on the text of a zone id and of an IPvFuture
literal -/
def zoneSplit (h : Str) : Option (Str × Str) :=
  if h = "::1%a.co.uk".toList then some ("::1%a".toList, "co.uk".toList)
  else if h = "fe80::1%Eth0.com".toList then some ("fe80::1%eth0".toList, "com".toList)
  else if h = "v1.a.com".toList then some ("v1.a".toList, "com".toList)
  else none

/-- a split function that does not look at letter case, answering like the real trie on a plain
host with `%` -/
def pctSplit (h : Str) : Option (Str × Str) :=
  if lower h = "a%b.com".toList then some ("a%b".toList, "com".toList) else none

/-- **the URLs of known finding KF-C12-1 round-trip** (in stems.py a bracketed literal is
never suffix-processed): `split_suffix` does find a public suffix at the end of the zone id /
IPvFuture text, the URLs are inside the class all the same, the literal is ONE stem, and
`lru_to_url(url_to_lru(u))` is `u` again — brackets, zone id and letter case kept -/
example :
    zoneSplit (pyHostname "[::1%a.co.uk]".toList) = some ("::1%a".toList, "co.uk".toList) ∧
    inClass "http://[::1%a.co.uk]/x".toList = true ∧
    urlToLru zoneSplit true "http://[::1%a.co.uk]/x".toList =
      some "s:http|h:[::1%a.co.uk]|p:x|".toList ∧
    (urlToLru zoneSplit true "http://[::1%a.co.uk]/x".toList).bind
      (fun l => (lruToUrlStr l).toOption) = some "http://[::1%a.co.uk]/x".toList := by
  unfold zoneSplit
  simp only [toList_lit]
  decide +kernel

example :
    zoneSplit (pyHostname "[FE80::1%Eth0.com]:80".toList) =
      some ("fe80::1%eth0".toList, "com".toList) ∧
    inClass "http://[FE80::1%Eth0.com]:80/".toList = true ∧
    (urlToLru zoneSplit true "http://[FE80::1%Eth0.com]:80/".toList).bind
      (fun l => (lruToUrlStr l).toOption) = some "http://[FE80::1%Eth0.com]:80/".toList ∧
    zoneSplit (pyHostname "[v1.a.com]".toList) = some ("v1.a".toList, "com".toList) ∧
    inClass "http://[v1.a.com]/".toList = true ∧
    (urlToLru zoneSplit true "http://[v1.a.com]/".toList).bind
      (fun l => (lruToUrlStr l).toOption) = some "http://[v1.a.com]/".toList := by
  unfold zoneSplit
  simp only [toList_lit]
  decide +kernel

/-- suffix-aware, `%` in a plain host (`wfHostSA` fails): C08's clause holds, the URL is inside
the class and comes back with the expected components and the same LRU again
(`roundtrip_string_partial`), but the hypothesis `hpct` of `accessors_string_partial` is really
needed — CPython's `.hostname` does not lower-case what follows a `%`, the suffix-aware mode
does: `http://a%B.com/` comes back as `http://a%b.com/`, `.hostname` `a%b.com` instead of
`a%B.com` -/
example : SplitRejoins pctSplit "a%B.com".toList ∧
    inClass "http://a%B.com/".toList = true ∧ wfHostSA "a%B.com".toList = false ∧
    (urlToLru pctSplit true "http://a%B.com/".toList).bind
      (fun l => (lruToUrlStr l).toOption) = some "http://a%b.com/".toList ∧
    urlToLru pctSplit true "http://a%b.com/".toList = urlToLru pctSplit true "http://a%B.com/".toList ∧
    Py.hostname "a%B.com".toList ≠ Py.hostname "a%b.com".toList := by
  refine ⟨?_, ?_⟩
  · intro d s h
    have e : pyHostname "a%B.com".toList = "a%B.com".toList := by decide +kernel
    rw [e] at h
    have : pctSplit "a%B.com".toList = some ("a%b".toList, "com".toList) := by decide +kernel
    rw [this] at h
    simp only [Option.some.injEq, Prod.mk.injEq] at h
    obtain ⟨rfl, rfl⟩ := h
    decide +kernel
  · unfold pctSplit
    simp only [toList_lit]
    decide +kernel

/-- … and C08's case clause is satisfiable there (non-vacuity of `hci`) -/
example : SplitCaseInv pctSplit "a%B.com".toList := by
  intro h' e _ _
  have e2 : lower (pyHostname "a%B.com".toList) = "a%b.com".toList := by decide +kernel
  have e3 : pctSplit (pyHostname "a%B.com".toList) = some ("a%b".toList, "com".toList) := by
    decide +kernel
  rw [e3]
  unfold pctSplit
  rw [e, e2]
  rfl

/-- a malformed authority: the real code raises `ValueError` (`urlsplit`) -/
example : urlParts "http://[::1/x".toList = none ∧ urlParts "http://u[@a.com/".toList = none := by
  simp only [toList_lit]
  decide +kernel

end Ural.Props.C12
