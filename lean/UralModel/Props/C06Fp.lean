import UralModel.Props.C06Whole
import UralModel.Props.C04Spec
/-!
# C06 — "fingerprint_url ignores everything normalize_url ignores", as theorems `fp (T u) = fp u`

`fp_factor` / `fp_of_norm_eq` (`Props/C06.lean`) only say that `fingerprint_url` reads its argument
through `normalize_url(url.lower(), query_item_filter=lang, lowercase=True, unsplit=False)`: their
hypothesis is the equality of that very call.  Here the hypothesis is discharged for the
documented-irrelevant family of C04: for every transformation `T` of the family,

    fingerprintUrlString (T u) = fingerprintUrlString u      (tuple and string, both `strip_suffix`)

on the grammar class of `Lemmas/NormBridge.lean`, in the relational form of `Props/C06Whole.lean`:
`u`, `u'` are ANY two strings such that the cleaned, resolved forms of `u.lower()` and `u'.lower()`
are the strings of `g` and of `T g` (`InClassOf true · (lower ·)`: white space / control characters
around, lower-case escapes, letter case anywhere, a redirect that is followed).  The proofs are
`Props/C04Lower.lean` (`partsG_*`: C04's theorems for **both** values of `lowercase`, on the tuple)
at `fpOpts` (`lowercase := true`, the language filter) + the bridge `fp_string_of_partsG`.

Explicit default port and letter case of the host are instances of `fp_port_string` and
`fp_case_string` (`Props/C06Whole.lean`); the leading `amp-`: `fp_amp_dash_string`; surrounding
white space / control characters need no grammar (`fp_clean_string`).  Outside C04's family: the
public suffix under `strip_suffix=True` (`fp_suffix_swap_string_partial`).  `platform_aware` is off.
-/
namespace Ural.Props.C06
open Ural Ural.Py Ural.UrlParts Ural.Quote Ural.Canonicalize Ural.Normalize Ural.Normpath Ural.Fingerprint Ural.NormBridge
open Ural.Props.C04 (partsG DroppedFragment seenAt)

/-- `s.lower()`: what `lcStr` is under the options of `fingerprint_url` -/
theorem lcStr_fp (s : Str) : lcStr fpOpts s = lower s := rfl

/-- key and value lower-cased: what `lcItem` is under the options of `fingerprint_url` -/
def lowerItem (it : QItem) : QItem := (lower it.1, it.2.map lower)

theorem lcItem_fp (it : QItem) : lcItem fpOpts it = lowerItem it := rfl

/-- **from `normalize_url`'s tuple on the pieces to `fingerprint_url` on the strings**: if the
cleaned, resolved forms of `u.lower()` and `u'.lower()` are the strings of `g` and `g'`, on whose
pieces `normalize_url` (with the options `fingerprint_url` passes) returns the same tuple — the base
one being parseable —, then `u` and `u'` have the same fingerprint, tuple and string, whatever
`strip_suffix`, the suffix trie and the idna decoder -/
theorem fp_string_of_partsG (puny : Str → Str) (trie : SNode Str) (s : Bool) (g g' : UrlG) (u u' : Str)
    (hg : InClassOf true g (lower u)) (hg' : InClassOf true g' (lower u'))
    (hport : portVal g.port ≠ none)
    (h : partsG puny fpOpts g' = partsG puny fpOpts g) :
    fingerprintUrlStringSplit puny id trie s u' = fingerprintUrlStringSplit puny id trie s u ∧
    fingerprintUrlString puny id trie s u' = fingerprintUrlString puny id trie s u := by
  apply fp_string_of_norm
  rw [normalizeUrlStringSplit_eq, normalizeUrlStringSplit_eq,
    C04.normalizeUrlSplit_partsG puny fpOpts true g _ hg,
    C04.normalizeUrlSplit_partsG puny fpOpts true g' _ hg', h]
  -- the base parses, so the value is the tuple and not the argument
  cases hx : partsG puny fpOpts g with
  | some r => rfl
  | none =>
    unfold partsG UrlG.parsed at hx
    cases hp : portVal g.port with
    | none => exact absurd hp hport
    | some po => rw [hp] at hx; cases hx

/-- **scheme swap / scheme removal is ignored**: `https://…`, `ftp://…`, `//…` and the bare
spelling of the same rest have one fingerprint -/
theorem fp_scheme_string (puny : Str → Str) (trie : SNode Str) (s : Bool) (g : UrlG) (P : Proto)
    (u u' : Str) (hg : InClassOf true g (lower u))
    (hg' : InClassOf true { g with proto := P } (lower u')) (hport : portVal g.port ≠ none) :
    fingerprintUrlStringSplit puny id trie s u' = fingerprintUrlStringSplit puny id trie s u ∧
    fingerprintUrlString puny id trie s u' = fingerprintUrlString puny id trie s u :=
  fp_string_of_partsG puny trie s g _ u u' hg hg' hport (C04.partsG_scheme puny fpOpts rfl g P)

/-- **userinfo is ignored**: inserted, replaced, removed -/
theorem fp_userinfo_string (puny : Str → Str) (trie : SNode Str) (s : Bool) (g : UrlG)
    (ui' : Option Str) (u u' : Str) (hg : InClassOf true g (lower u))
    (hg' : InClassOf true { g with ui := ui' } (lower u')) (hport : portVal g.port ≠ none) :
    fingerprintUrlStringSplit puny id trie s u' = fingerprintUrlStringSplit puny id trie s u ∧
    fingerprintUrlString puny id trie s u' = fingerprintUrlString puny id trie s u :=
  fp_string_of_partsG puny trie s g _ u u' hg hg' hport (C04.partsG_userinfo puny fpOpts rfl g ui')

/-- **a documented irrelevant label in front of the host is ignored**: `www.`, `www2.`, `m.`,
`mobile.`, `amp.` (`C04.documented_labels`) in front of a non-empty host -/
theorem fp_irrelevant_label_string (puny : Str → Str) (hpl : PunyLaws puny) (trie : SNode Str) (s : Bool)
    (g : UrlG) (lab : Str) (hne : g.host ≠ []) (hdot : '.' ∉ lab) (hlen : lab.length ≤ 6)
    (hx : lower (lab.take 4) ≠ "xn--".toList)
    (hlab : isIrrLabel true (lower lab) = true)
    (hpct : '%' ∉ g.host) (hpct' : '%' ∉ lab)
    (u u' : Str) (hg : InClassOf true g (lower u))
    (hg' : InClassOf true { g with host := lab ++ '.' :: g.host } (lower u'))
    (hport : portVal g.port ≠ none) :
    fingerprintUrlStringSplit puny id trie s u' = fingerprintUrlStringSplit puny id trie s u ∧
    fingerprintUrlString puny id trie s u' = fingerprintUrlString puny id trie s u :=
  fp_string_of_partsG puny trie s g _ u u' hg hg' hport
    (C04.partsG_irrelevant_label puny hpl fpOpts rfl g lab hne hdot hlen hx hlab hpct hpct')

/-- **a leading `amp-` is ignored**, under the hypotheses of `C04.norm_amp_dash_string`: `hcanon` (the
idna step does not treat the prefixed first label differently: first label not punycode, D20),
`hdec` / `honce` (the host behind the prefix is decoded and does not itself start with `amp-` once
its irrelevant labels are gone: the prefix is cut once, D19), `hdf` (per-domain filter chosen alike) -/
theorem fp_amp_dash_string (puny : Str → Str) (trie : SNode Str) (s : Bool) (g : UrlG)
    (hne : g.host ≠ []) (hpct : '%' ∉ g.host)
    (hcanon : canonHost puny (ampDash ++ lower g.host) = ampDash ++ canonHost puny (lower g.host))
    (hdec : ∀ x ∈ splitOn (canonHost puny (lower g.host)) '.', decodePunycodeHostname puny x = x)
    (honce : startsWith (afterSub fpOpts (canonHost puny (lower g.host))) ampDash = false)
    (hdf : domainFilter (hostKey puny (some (ampDash ++ lower g.host))) =
      domainFilter (hostKey puny (some (lower g.host))))
    (u u' : Str) (hg : InClassOf true g (lower u))
    (hg' : InClassOf true { g with host := ampDash ++ g.host } (lower u')) (hport : portVal g.port ≠ none) :
    fingerprintUrlStringSplit puny id trie s u' = fingerprintUrlStringSplit puny id trie s u ∧
    fingerprintUrlString puny id trie s u' = fingerprintUrlString puny id trie s u :=
  fp_string_of_partsG puny trie s g _ u u' hg hg' hport
    (C04.partsG_amp_dash puny fpOpts rfl g hne hpct hcanon hdec honce hdf)

/-- **a trailing slash is ignored**, also after an empty path -/
theorem fp_trailing_slash_string (puny : Str → Str) (trie : SNode Str) (s : Bool) (g : UrlG)
    (u u' : Str) (hg : InClassOf true g (lower u))
    (hg' : InClassOf true { g with path := g.path ++ ['/'] } (lower u')) (hport : portVal g.port ≠ none) :
    fingerprintUrlStringSplit puny id trie s u' = fingerprintUrlStringSplit puny id trie s u ∧
    fingerprintUrlString puny id trie s u' = fingerprintUrlString puny id trie s u :=
  fp_string_of_partsG puny trie s g _ u u' hg hg' hport (C04.partsG_trailing_slash puny fpOpts rfl g hg.wf)

/-- **a trailing `index.*` / `default.*` file name is ignored**, under the hypotheses of
`C04.norm_index` read on the unescaped, **lower-cased** name and base path (what `normalize_url`
looks at under `lowercase`: `/%49ndex.html` is an index file name here) -/
theorem fp_index_string (puny : Str → Str) (trie : SNode Str) (s : Bool) (g : UrlG) (name : Str)
    (hn : '/' ∉ lower (unquotePath name))
    (hroot : splitextRoot (lower (unquotePath name)) = "index".toList ∨
      splitextRoot (lower (unquotePath name)) = "default".toList)
    (hnamp : ampSuffixSubFrom (lower (unquotePath name)) true 0 = lower (unquotePath name))
    (hbamp : ampSuffixSub (resolveUnquoted true (lower (unquotePath g.path))) =
      resolveUnquoted true (lower (unquotePath g.path)))
    (hbidx : stripIndex (resolveUnquoted true (lower (unquotePath g.path))) =
      resolveUnquoted true (lower (unquotePath g.path)))
    (u u' : Str) (hg : InClassOf true g (lower u))
    (hg' : InClassOf true { g with path := g.path ++ '/' :: name } (lower u'))
    (hport : portVal g.port ≠ none) :
    fingerprintUrlStringSplit puny id trie s u' = fingerprintUrlStringSplit puny id trie s u ∧
    fingerprintUrlString puny id trie s u' = fingerprintUrlString puny id trie s u :=
  fp_string_of_partsG puny trie s g _ u u' hg hg' hport
    (C04.partsG_index puny fpOpts rfl rfl g name hn hroot (fun _ => hnamp) (fun _ => hbamp) hbidx hg.wf)

/-- **a non-routing fragment is ignored**: added, replaced by another one, removed -/
theorem fp_fragment_string (puny : Str → Str) (trie : SNode Str) (s : Bool) (g : UrlG)
    (f' : Option Str) (hf : DroppedFragment fpOpts g.fragment) (hf' : DroppedFragment fpOpts f')
    (u u' : Str) (hg : InClassOf true g (lower u))
    (hg' : InClassOf true { g with fragment := f' } (lower u')) (hport : portVal g.port ≠ none) :
    fingerprintUrlStringSplit puny id trie s u' = fingerprintUrlStringSplit puny id trie s u ∧
    fingerprintUrlString puny id trie s u' = fingerprintUrlString puny id trie s u :=
  fp_string_of_partsG puny trie s g _ u u' hg hg' hport (C04.partsG_fragment puny fpOpts g f' hf hf')

/-- **a tracking / session / AMP item inserted at any position after the first is ignored**: the
filter strips `t` as it sees it (after the `&amp;` repair, unescaped, lower-cased) -/
theorem fp_tracking_item_string (puny : Str → Str) (trie : SNode Str) (s : Bool) (g : UrlG)
    (r0 : Str) (R1 R2 : List Str) (t : Str)
    (hq : g.query = some (join ['&'] (r0 :: R1 ++ R2)))
    (hR : ∀ r ∈ r0 :: R1 ++ t :: R2, '&' ∉ r)
    (hx : keepItem fpOpts (hostKey puny g.hostname)
      (lowerItem (seenAt fpOpts (unqItem (cutFirst '=' t)))) = false)
    (u u' : Str) (hg : InClassOf true g (lower u))
    (hg' : InClassOf true { g with query := some (join ['&'] (r0 :: R1 ++ t :: R2)) } (lower u'))
    (hport : portVal g.port ≠ none) :
    fingerprintUrlStringSplit puny id trie s u' = fingerprintUrlStringSplit puny id trie s u ∧
    fingerprintUrlString puny id trie s u' = fingerprintUrlString puny id trie s u :=
  fp_string_of_partsG puny trie s g _ u u' hg hg' hport
    (C04.partsG_tracking_item puny fpOpts rfl g r0 R1 R2 t hq hR hx)

/-- **… in front of the first item**, when the item that becomes second does not start with `amp;` -/
theorem fp_tracking_item_first_string (puny : Str → Str) (trie : SNode Str) (s : Bool) (g : UrlG)
    (q q' : Str) (b : QItem) (L2 : List QItem) (x : QItem) (hqg : g.query = some q')
    (hq : decoded q = x :: b :: L2) (hq' : decoded q' = b :: L2)
    (hb : dropAmp (serializeItem b) = serializeItem b)
    (hx : keepItem fpOpts (hostKey puny g.hostname) (lowerItem (seenHead x)) = false)
    (u u' : Str) (hg : InClassOf true g (lower u))
    (hg' : InClassOf true { g with query := some q } (lower u')) (hport : portVal g.port ≠ none) :
    fingerprintUrlStringSplit puny id trie s u' = fingerprintUrlStringSplit puny id trie s u ∧
    fingerprintUrlString puny id trie s u' = fingerprintUrlString puny id trie s u :=
  fp_string_of_partsG puny trie s g _ u u' hg hg' hport
    (C04.partsG_tracking_item_first puny fpOpts rfl g q q' b L2 x hqg hq hq' (fun _ => hb) hx)

/-- **… and alone**: `…/p?utm_source=x` and `…/p` (or `…/p?`) -/
theorem fp_tracking_item_alone_string (puny : Str → Str) (trie : SNode Str) (s : Bool) (g : UrlG)
    (q : Str) (x : QItem) (hqg : g.query.getD [] = []) (hq : decoded q = [x])
    (hx : keepItem fpOpts (hostKey puny g.hostname) (lowerItem (seenHead x)) = false)
    (u u' : Str) (hg : InClassOf true g (lower u))
    (hg' : InClassOf true { g with query := some q } (lower u')) (hport : portVal g.port ≠ none) :
    fingerprintUrlStringSplit puny id trie s u' = fingerprintUrlStringSplit puny id trie s u ∧
    fingerprintUrlString puny id trie s u' = fingerprintUrlString puny id trie s u :=
  fp_string_of_partsG puny trie s g _ u u' hg hg' hport
    (C04.partsG_tracking_item_alone puny fpOpts rfl g q x hqg hq hx)

/-- **the order of the query items is ignored** (no item starting with `amp;`: the repair treats
the first item differently) -/
theorem fp_query_permutation_string (puny : Str → Str) (trie : SNode Str) (s : Bool) (g : UrlG)
    (q q' : Str) (hq : g.query = some q) (hperm : (decoded q').Perm (decoded q))
    (hamp : ∀ kv ∈ decoded q', dropAmp (serializeItem kv) = serializeItem kv)
    (u u' : Str) (hg : InClassOf true g (lower u))
    (hg' : InClassOf true { g with query := some q' } (lower u')) (hport : portVal g.port ≠ none) :
    fingerprintUrlStringSplit puny id trie s u' = fingerprintUrlStringSplit puny id trie s u ∧
    fingerprintUrlString puny id trie s u' = fingerprintUrlString puny id trie s u :=
  fp_string_of_partsG puny trie s g _ u u' hg hg' hport
    (C04.partsG_query_permutation puny fpOpts rfl rfl g q q' hq hperm (fun _ => hamp))

/-- **`&amp;` written for `&` is ignored**, under the hypotheses of `C04.norm_amp_semicolon_partial`
(not in front of an item that itself starts with `amp;`: `C04.fullAmpSemicolon_fails`) -/
theorem fp_amp_semicolon_string_partial (puny : Str → Str) (trie : SNode Str) (s : Bool) (g : UrlG)
    (q q' : Str) (hq : g.query = some q) (a : QItem) (L1 L2 : List QItem) (x y : QItem)
    (hd' : decoded q' = a :: L1 ++ y :: L2) (hd : decoded q = a :: L1 ++ x :: L2)
    (hy : ampRest (serializeItem y) = some (serializeItem x))
    (hx : dropAmp (serializeItem x) = serializeItem x)
    (u u' : Str) (hg : InClassOf true g (lower u))
    (hg' : InClassOf true { g with query := some q' } (lower u')) (hport : portVal g.port ≠ none) :
    fingerprintUrlStringSplit puny id trie s u' = fingerprintUrlStringSplit puny id trie s u ∧
    fingerprintUrlString puny id trie s u' = fingerprintUrlString puny id trie s u :=
  fp_string_of_partsG puny trie s g _ u u' hg hg' hport
    (C04.partsG_amp_semicolon_partial puny fpOpts rfl rfl g q q' hq a L1 L2 x y hd' hd hy hx)

/-- **the spelling of percent-escapes in path, query and fragment is ignored**: the three texts
agree after unescaping -/
theorem fp_escape_spelling_string (puny : Str → Str) (trie : SNode Str) (s : Bool) (g : UrlG)
    (path' : Str) (Q' F' : Option Str)
    (hpath : unquotePath path' = unquotePath g.path)
    (hq : decoded (Q'.getD []) = decoded (g.query.getD []))
    (hf : unquoteFragment (F'.getD []) = unquoteFragment (g.fragment.getD []))
    (u u' : Str) (hg : InClassOf true g (lower u))
    (hg' : InClassOf true { g with path := path', query := Q', fragment := F' } (lower u'))
    (hport : portVal g.port ≠ none) :
    fingerprintUrlStringSplit puny id trie s u' = fingerprintUrlStringSplit puny id trie s u ∧
    fingerprintUrlString puny id trie s u' = fingerprintUrlString puny id trie s u :=
  fp_string_of_partsG puny trie s g _ u u' hg hg' hport
    (C04.partsG_escape_spelling puny fpOpts rfl g path' Q' F' hpath hq hf)

/-- **an escaped capital is ignored like a written one** (D25): path, query and fragment
of the two strings agree after unescaping **and** `str.lower` — `/%41`, `/%61`, `/a` (and `/A`,
which `url.lower()` has already turned into `/a`) have one fingerprint.  The query is compared
item by item as the filter sees it (`seenItems`: after the `&amp;` repair) -/
theorem fp_escape_case_string (puny : Str → Str) (trie : SNode Str) (s : Bool) (g : UrlG)
    (path' : Str) (Q' F' : Option Str)
    (hpath : lower (unquotePath path') = lower (unquotePath g.path))
    (hq : (seenItems true (decoded (Q'.getD []))).map lowerItem =
      (seenItems true (decoded (g.query.getD []))).map lowerItem)
    (hf : lower (unquoteFragment (F'.getD [])) = lower (unquoteFragment (g.fragment.getD [])))
    (u u' : Str) (hg : InClassOf true g (lower u))
    (hg' : InClassOf true { g with path := path', query := Q', fragment := F' } (lower u'))
    (hport : portVal g.port ≠ none) :
    fingerprintUrlStringSplit puny id trie s u' = fingerprintUrlStringSplit puny id trie s u ∧
    fingerprintUrlString puny id trie s u' = fingerprintUrlString puny id trie s u :=
  fp_string_of_partsG puny trie s g _ u u' hg hg' hport
    (C04.partsG_escape_fold puny fpOpts rfl g path' Q' F' hpath hq hf)

/-- **with `strip_suffix=True` the public suffix is ignored, on strings**: `u`, `u'` are any two
strings whose lower-cased, cleaned, resolved forms are `g.str` and `{g with host := h₂}.str` — the
same URL but for the host —, the two hosts having, as the second pass reads them once the language
label is gone (`g₁`, `g₂`), the labels `D ++ S₁` and `D ++ S₂` with `Sᵢ` the public suffix of each
under the rule list `lines` (any list; C08's `hostLen`).  Side conditions of
`fp_suffix_swap_partial` (each excluded region really differs: KF-C06-2, KF-C06-3), plain hosts
(no `:`, `%`, brackets: what `safe_urlsplit(host).hostname` returns is then `host.lower()`). -/
theorem fp_suffix_swap_string_partial (puny : Str → Str) (lines : List Str) (g : UrlG) (h₂ : Str)
    (po : Option Nat) (hpo : portVal g.port = some po)
    (hs₁ : HostSafe (g.hostname.map (normHost puny fpOpts)))
    (hs₂ : HostSafe (({ g with host := h₂ } : UrlG).hostname.map (normHost puny fpOpts)))
    (hdf : domainFilter (filterHost puny g.hostname) =
      domainFilter (filterHost puny ({ g with host := h₂ } : UrlG).hostname))
    (x₁ x₂ g₁ g₂ : Str) (D S₁ S₂ : List Str)
    (hx₁ : accHost (g.hostname.map (normHost puny fpOpts)) = some x₁)
    (hx₂ : accHost (({ g with host := h₂ } : UrlG).hostname.map (normHost puny fpOpts)) = some x₂)
    (hg₁ : stripLangSubdomainsFromHostname isCountry x₁ = g₁)
    (hg₂ : stripLangSubdomainsFromHostname isCountry x₂ = g₂)
    (hpl₁ : PlainHost g₁) (hpl₂ : PlainHost g₂)
    (hsp₁ : Ural.isSpecialHost (lower g₁) = false) (hsp₂ : Ural.isSpecialHost (lower g₂) = false)
    (hparts₁ : SuffixTrie.hostParts (lower g₁) = D ++ S₁) (hparts₂ : SuffixTrie.hostParts (lower g₂) = D ++ S₂)
    (hlen₁ : C08.hostLen lines (lower g₁) = some S₁.length)
    (hlen₂ : C08.hostLen lines (lower g₂) = some S₂.length)
    (u u' : Str) (hg : InClassOf true g (lower u))
    (hg' : InClassOf true { g with host := h₂ } (lower u')) :
    fingerprintUrlStringSplit puny id (SuffixTrie.build lines) true u' =
      fingerprintUrlStringSplit puny id (SuffixTrie.build lines) true u ∧
    fingerprintUrlString puny id (SuffixTrie.build lines) true u' =
      fingerprintUrlString puny id (SuffixTrie.build lines) true u :=
  fp_string_of_parsed puny _ true g _ po po u u' hg hg' hpo hpo
    { g.record po with hostname := ({ g with host := h₂ } : UrlG).hostname } rfl
    (fp_suffix_swap_plain (stringEnv puny id (SuffixTrie.build lines)) (stringEnv_acc puny _)
      (stringEnv_walk puny id _) lines rfl _ (g.record po) _ hs₁ hs₂ (portVal_ok hpo) hdf x₁ x₂ g₁ g₂ D S₁ S₂
      hx₁ hx₂ hg₁ hg₂ hpl₁ hpl₂ hsp₁ hsp₂ hparts₁ hparts₂ hlen₁ hlen₂)

/-- **control characters anywhere, white space at the ends**: two strings whose lower-cased forms
have the same cleaned form (`CONTROL_CHARS_RE.sub("", ·).strip()`) have the same fingerprint —
every string that parses, any `platform_aware` rewriting (no grammar) -/
theorem fp_clean_string (puny : Str → Str) (platform : Str → Str) (trie : SNode Str) (s : Bool)
    (a b : Str) (h : cleanedUrl (lower a) = cleanedUrl (lower b))
    (hparse : parseUrl (prepared platform true (lower b)).1 ≠ none) :
    fingerprintUrlStringSplit puny platform trie s a = fingerprintUrlStringSplit puny platform trie s b ∧
    fingerprintUrlString puny platform trie s a = fingerprintUrlString puny platform trie s b := by
  have e0 : prepared platform true (lower a) = prepared platform true (lower b) :=
    (C04.norm_clean_congr puny parseUrl platform fpOpts true (lower a) (lower b)
      (by simpa using C04.infer_clean_irrelevant _ _ h)).1
  apply fp_string_of_norm
  rw [normalizeUrlStringSplit_eq, normalizeUrlStringSplit_eq]
  unfold normalizeUrlSplit
  simp only [e0]
  cases hp : parseUrl (prepared platform true (lower b)).1 with
  | none => exact absurd hp hparse
  | some p => rfl

/-- a character the cleaning pass removes at the ends is no capital letter -/
theorem lowerChar_of_surrounding {c : Char} (h : C04.isSurrounding c = true) : lowerChar c = c := by
  unfold lowerChar
  split
  · rename_i hr
    exfalso
    rw [upperRange_iff] at hr
    have hsp : ∀ n ∈ spaceCodes, ¬ (65 ≤ n ∧ n ≤ 90) := by decide
    unfold C04.isSurrounding isSpace isControlChar at h
    simp only [Bool.or_eq_true, List.contains_iff_mem, Bool.and_eq_true, decide_eq_true_eq] at h
    rcases h with h | h | h
    · exact hsp _ h hr
    · omega
    · omega
  · rfl

theorem lower_surrounding {w : Str} (h : w.all C04.isSurrounding = true) : lower w = w := by
  induction w with
  | nil => rfl
  | cons c cs ih =>
    simp only [List.all_cons, Bool.and_eq_true] at h
    simp only [lower, List.map_cons] at ih ⊢
    rw [lowerChar_of_surrounding h.1, ih h.2]

/-- **white space and control characters around the URL are ignored**, for every `u` whose
lower-cased, resolved, cleaned form the modelled parser accepts -/
theorem fp_surrounding_ws_string (puny : Str → Str) (platform : Str → Str) (trie : SNode Str) (s : Bool)
    (w1 w2 u : Str) (h1 : w1.all C04.isSurrounding = true) (h2 : w2.all C04.isSurrounding = true)
    (hparse : parseUrl (prepared platform true (lower u)).1 ≠ none) :
    fingerprintUrlStringSplit puny platform trie s (w1 ++ u ++ w2) = fingerprintUrlStringSplit puny platform trie s u ∧
    fingerprintUrlString puny platform trie s (w1 ++ u ++ w2) = fingerprintUrlString puny platform trie s u := by
  apply fp_clean_string puny platform trie s _ _ _ hparse
  have : lower (w1 ++ u ++ w2) = w1 ++ lower u ++ w2 := by
    simp only [lower, List.map_append] at *
    have e1 := lower_surrounding h1
    have e2 := lower_surrounding h2
    simp only [lower] at e1 e2
    rw [e1, e2]
  rw [this]
  exact C04.cleanedUrl_surrounding w1 w2 (lower u) h1 h2

/-- the strings of the family around `http://shop.a.com/p?x=1` (`exG`) are in the class — through
`.lower()` and the cleaning pass —, and the hypotheses of the theorems above hold on them -/
example :
    InClassOf true exG (lower "http://shop.a.com/p?x=1".toList) ∧
    InClassOf true { exG with proto := .bare } (lower "Shop.A.com/p?x=1".toList) ∧
    InClassOf true { exG with proto := .scheme "ftp".toList } (lower " FTP://shop.a.com/p?x=1".toList) ∧
    InClassOf true { exG with ui := some "user:pw".toList } (lower "http://User:PW@shop.a.com/p?x=1".toList) ∧
    InClassOf true { exG with host := "www".toList ++ '.' :: exG.host } (lower "http://WWW.shop.a.com/p?x=1".toList) ∧
    InClassOf true { exG with path := exG.path ++ ['/'] } (lower "http://shop.a.com/p/?x=1".toList) ∧
    InClassOf true { exG with host := ampDash ++ exG.host } (lower "http://AMP-shop.a.com/p?x=1".toList) ∧
    InClassOf true { exG with path := exG.path ++ '/' :: "%49ndex.html".toList }
      (lower "http://shop.a.com/p/%49ndex.HTML?x=1".toList) ∧
    InClassOf true { exG with fragment := some "top".toList } (lower "http://shop.a.com/p?x=1#Top".toList) ∧
    InClassOf true { exG with query := some (join ['&'] ("x=1".toList :: [] ++ "utm_source=x".toList :: [])) }
      (lower "http://shop.a.com/p?x=1&UTM_Source=X".toList) ∧
    InClassOf true { exG with path := "/%50".toList, query := some "%58=1".toList, fragment := none }
      (lower "http://shop.a.com/%50?%58=1".toList) := by
  unfold exG
  simp only [toList_lit]
  decide +kernel

example :
    isIrrLabel true (lower "www".toList) = true ∧
    canonHost id (ampDash ++ lower exG.host) = ampDash ++ canonHost id (lower exG.host) ∧
    (∀ x ∈ splitOn (canonHost id (lower exG.host)) '.', decodePunycodeHostname id x = x) ∧
    startsWith (afterSub fpOpts (canonHost id (lower exG.host))) ampDash = false ∧
    domainFilter (hostKey id (some (ampDash ++ lower exG.host))) = domainFilter (hostKey id (some (lower exG.host))) ∧
    ('/' ∉ lower (unquotePath "%49ndex.html".toList)) ∧
    splitextRoot (lower (unquotePath "%49ndex.html".toList)) = "index".toList ∧
    splitextRoot (unquotePath "%49ndex.html".toList) ≠ "index".toList ∧
    ampSuffixSubFrom (lower (unquotePath "%49ndex.html".toList)) true 0 = lower (unquotePath "%49ndex.html".toList) ∧
    ampSuffixSub (resolveUnquoted true (lower (unquotePath exG.path))) = resolveUnquoted true (lower (unquotePath exG.path)) ∧
    stripIndex (resolveUnquoted true (lower (unquotePath exG.path))) = resolveUnquoted true (lower (unquotePath exG.path)) ∧
    DroppedFragment fpOpts (some "top".toList) ∧ DroppedFragment fpOpts exG.fragment ∧
    keepItem fpOpts (hostKey id exG.hostname)
      (lowerItem (seenAt fpOpts (unqItem (cutFirst '=' "utm_source=x".toList)))) = false ∧
    lower (unquotePath "/%50".toList) = lower (unquotePath exG.path) ∧
    unquotePath "/%50".toList ≠ unquotePath exG.path ∧
    (seenItems true (decoded "%58=1".toList)).map lowerItem =
      (seenItems true (decoded (exG.query.getD []))).map lowerItem := by
  unfold exG
  simp only [toList_lit]
  decide +kernel

/-- the suffix swap on strings: `http://www.example.com/p?x=1` / `HTTP://example.CO.UK/p?x=1` under
the rule list `linesS` of `Props/C06.lean` — classes, hypotheses, one fingerprint -/
def exS : UrlG := { exG with host := "www.example.com".toList }

example :
    InClassOf true exS (lower "http://www.example.com/p?x=1".toList) ∧
    InClassOf true { exS with host := "example.co.uk".toList } (lower "HTTP://example.CO.UK/p?x=1".toList) := by
  unfold exS exG
  simp only [toList_lit]
  decide +kernel

example :
    accHost (exS.hostname.map (normHost id fpOpts)) = some "example.com".toList ∧
    accHost (({ exS with host := "example.co.uk".toList } : UrlG).hostname.map (normHost id fpOpts)) =
      some "example.co.uk".toList ∧
    stripLangSubdomainsFromHostname isCountry "example.com".toList = "example.com".toList ∧
    stripLangSubdomainsFromHostname isCountry "example.co.uk".toList = "example.co.uk".toList ∧
    Ural.isSpecialHost (lower "example.co.uk".toList) = false ∧
    SuffixTrie.hostParts (lower "example.com".toList) = ["example".toList] ++ ["com".toList] ∧
    SuffixTrie.hostParts (lower "example.co.uk".toList) = ["example".toList] ++ ["co".toList, "uk".toList] ∧
    C08.hostLen linesS (lower "example.com".toList) = some 1 ∧
    C08.hostLen linesS (lower "example.co.uk".toList) = some 2 ∧
    domainFilter (filterHost id exS.hostname) =
      domainFilter (filterHost id ({ exS with host := "example.co.uk".toList } : UrlG).hostname) := by
  unfold exS exG linesS
  simp only [toList_lit]
  decide +kernel

example : fingerprintUrlString id id (SuffixTrie.build linesS) true "http://www.example.com/p?x=1".toList =
    fingerprintUrlString id id (SuffixTrie.build linesS) true "HTTP://example.CO.UK/p?x=1".toList := by
  unfold linesS
  simp only [toList_lit]
  decide +kernel

/-- through the whole function, string in, string out: every transformation of C04's family at
once (scheme, userinfo, `www.`, default port, escaped capital, index file, tracking item, order,
fragment, white space) — one fingerprint -/
example : fingerprintUrlString id id SNode.empty false
      " FTP://User:Pw@WWW.Shop.A.com:80/%50/Index.HTML?utm_source=X&X=1#Top\n".toList =
    fingerprintUrlString id id SNode.empty false "shop.a.com/p?x=1".toList := by
  simp only [toList_lit]
  decide +kernel

end Ural.Props.C06
