import UralModel.Props.C13Psl
import UralModel.Lemmas.StrLit
/-!
# C12 with suffix_trie.py inside — nothing assumed about `split_suffix`

`Props/C12.lean` states the suffix-aware clauses for an arbitrary `split_suffix` under C08's
clause "the two parts re-join to the lower-cased hostname without its trailing dots"
(`SplitRejoinsUrl`).  Here `split_suffix` is the model of suffix_trie.py itself (`pslSplit lines`,
`Model/LruPsl.lean`: the trie walk of the C08 development on the trie built from any suffix list),
the clause is a theorem (`C13.splitRejoins_psl`) and the hypothesis disappears:

* `serialization_string_psl` — serialisation is invertible on the LRU of EVERY `|`-free URL
  string the parser accepts, both modes, **no hypothesis**;
* `roundtrip_string_psl`, `accessors_string_psl` — URL → LRU → URL on the class `inClass`, both
  modes, **no host condition**: hosts with leading or trailing dots are included, since stems.py
  emits the empty labels `split_suffix` does not return (`KNOWN_FINDINGS.json`:
  FX-C12-ed8ae90); C08's case clause for hosts with `%` is discharged too
  (`C13.splitCaseInv_psl`);
* `fullRoundtripStringPsl` — the full statement on the class; the hosts of KF-C12-2
  (`http://a.co.uk./`, …) are `example`s of the round trip.
-/
set_option linter.unusedSectionVars false
set_option linter.unusedSimpArgs false

namespace Ural.Props.C12
open Ural Ural.Py Ural.Lru Ural.LruString Ural.Props.C13

/-- **serialisation is invertible on the LRU of EVERY URL string without `|`** that the parser
accepts, both modes, `split_suffix` being suffix_trie.py on any suffix list — no grammar
restriction, no hypothesis about the split (a host with trailing dots, a leading dot, `%`, … :
the two parts are made of dots and of characters of the hostname, `C13.mem_pslSplit`) -/
theorem serialization_string_psl (lines : List Str) (sa : Bool) (u : Str) (hbar : '|' ∉ u)
    (stems : List Str) (hst : lruStemsUrl (pslSplit lines) sa u = some stems) :
    StemsOK stems ∧ urlToLru (pslSplit lines) sa u = some (serializeLru stems) ∧
    unserializeLru (serializeLru stems) = stems ∧
    serializeLru (unserializeLru (serializeLru stems)) = serializeLru stems ∧
    (serializeLru stems).getLast? = some '|' :=
  serialization_string_of_split (pslSplit lines) sa u hbar
    (fun _ _ hp => split_nobar_psl lines (netloc_nobar_of_url hp hbar)) stems hst

/-- the same at component level: the stems of every 5-tuple without `|` are well formed -/
theorem stems_wellformed_psl (lines : List Str) (sa : Bool) (p : Parts) (hb : noBar p = true) :
    StemsOK (lruStems (pslSplit lines) sa p) :=
  stems_ok_psl lines sa p hb

theorem splitLaw_psl_class (lines : List Str) (n : Str) (hwf : wfNetloc n = true) :
    SplitLaw (pslSplit lines) n :=
  splitLaw_psl lines n hwf

/-- **URL → LRU → URL is lossless, on URL strings, with suffix_trie.py inside** (any suffix
list).  For every string `u` of the class `inClass`, both modes, EVERY host of the grammar —
trailing dots, a leading dot, `%`, bracketed literals —: the conclusions of
`roundtrip_string_partial` (same `back` from the stems and from the serialised LRU;
`urlsplit(back)` is exactly `expectedParts`; `url_to_lru(back) = url_to_lru(u)`), with NOTHING
assumed about `split_suffix`: C08's re-join clause is `splitLaw_psl_class`, C08's case clause
(plain hosts with `%`) is `C13.splitCaseInv_psl`.  There is no host condition. -/
theorem roundtrip_string_psl (lines : List Str) (sa : Bool) (u : Str) (hc : inClass u = true) :
    ∃ p back,
      urlParts u = some p ∧
      lruStemsUrl (pslSplit lines) sa u = some (lruStems (pslSplit lines) sa p) ∧
      urlToLru (pslSplit lines) sa u = some (serializeLru (lruStems (pslSplit lines) sa p)) ∧
      lruToUrl (lruStems (pslSplit lines) sa p) = .ok back ∧
      lruToUrlStr (serializeLru (lruStems (pslSplit lines) sa p)) = .ok back ∧
      reparse back = some (expectedParts (pslSplit lines) sa p) ∧
      urlParts back = some (expectedParts (pslSplit lines) sa p) ∧
      lruStemsUrl (pslSplit lines) sa back = lruStemsUrl (pslSplit lines) sa u ∧
      urlToLru (pslSplit lines) sa back = urlToLru (pslSplit lines) sa u :=
  roundtrip_string_of_law (pslSplit lines) sa u hc
    (fun _ _ hp => splitLaw_psl_class lines _ (wfNetloc_of_class hc hp))
    (fun _ _ _ _ => splitCaseInv_psl lines _)

/-- the same in CPython's vocabulary (`accessors_string_partial` with suffix_trie.py inside):
`B.hostname == A.hostname`, same port, user / password up to empty ≡ absent.  The only hypothesis
left, suffix-aware: a plain host has no `%` (`hpct`) — really needed: CPython's `.hostname` keeps
the letter case of what follows a `%`, the suffix-aware mode lower-cases the whole host
(`http://a%B.com/` comes back as `http://a%b.com/`, witness below and in `Props/C12.lean`) -/
theorem accessors_string_psl (lines : List Str) (sa : Bool) (u : Str) (hc : inClass u = true)
    (hpct : sa = true → ∀ p, urlParts u = some p → wfHostSA p.netloc = true) :
    ∃ A B back,
      urlParts u = some A ∧
      lruToUrlStr (serializeLru (lruStems (pslSplit lines) sa A)) = .ok back ∧
      reparse back = some B ∧
      B.scheme = A.scheme ∧ B.path = A.path ∧ B.query = A.query ∧ B.fragment = A.fragment ∧
      Py.hostname B.netloc = Py.hostname A.netloc ∧ Py.port B.netloc = Py.port A.netloc ∧
      (Py.username B.netloc).getD [] = (Py.username A.netloc).getD [] ∧
      (Py.password B.netloc).getD [] = (Py.password A.netloc).getD [] ∧
      specHost B.netloc = expectedHost (pslSplit lines) sa A.netloc ∧
      specPort B.netloc = specPort A.netloc :=
  accessors_string_of_law (pslSplit lines) sa u hc
    (fun _ _ hp => splitLaw_psl_class lines _ (wfNetloc_of_class hc hp)) hpct

/-- the full statement: the suffix-aware round trip on the whole class, without any host
condition -/
def FullRoundtripStringPsl (lines : List Str) : Prop :=
  ∀ (u : Str) (p : Parts), inClass u = true → urlParts u = some p →
    ∃ back, lruToUrl (lruStems (pslSplit lines) true p) = .ok back ∧
      reparse back = some (expectedParts (pslSplit lines) true p)

/-- **the full statement holds**, `http://a.co.uk./` (known finding KF-C12-2) included -/
theorem fullRoundtripStringPsl (lines : List Str) : FullRoundtripStringPsl lines := by
  intro u p hc hp
  obtain ⟨q, back, hq, _, _, h4, _, h6, _⟩ := roundtrip_string_psl lines true u hc
  rw [hp] at hq
  cases hq
  exact ⟨back, h4, h6⟩

/-- the class holds a non-trivial URL, and the round trip is what the real code returns -/
example : inClass "HTTP://u:p@WWW.A.CO.UK:80/x//y/?q#f".toList = true ∧
    urlToLru (pslSplit demoLines) true "HTTP://u:p@WWW.A.CO.UK:80/x//y/?q#f".toList =
      some "s:http|t:80|h:co.uk|h:a|h:www|p:x|p:|p:y|p:|q:q|f:f|u:u|w:p|".toList ∧
    (urlToLru (pslSplit demoLines) true "HTTP://u:p@WWW.A.CO.UK:80/x//y/?q#f".toList).bind
      (fun l => (lruToUrlStr l).toOption) = some "http://u:p@www.a.co.uk:80/x//y/?q#f".toList := by
  simp only [demoLines, List.map, toList_lit]
  decide +kernel

/-- **the hosts of KF-C12-2 round-trip**: trailing dot ×1, ×2, a lone leading dot, leading AND trailing, a bare suffix plus a dot,
two leading dots, a leading dot under a wildcard (`.ck` is itself the suffix: one stem) — the
suffix-aware stems hold the empty labels (`h:` before the suffix stem for each trailing dot, after
it for the leading dot), `lru_to_url(url_to_lru(u)) = u`, like `suffix_aware=False` -/
example :
    pslSplit demoLines "a.co.uk.".toList = some ("a".toList, "co.uk".toList) ∧
    urlToLru (pslSplit demoLines) true "http://a.co.uk./".toList =
      some "s:http|h:|h:co.uk|h:a|p:|".toList ∧
    (urlToLru (pslSplit demoLines) true "http://a.co.uk./".toList).bind
      (fun l => (lruToUrlStr l).toOption) = some "http://a.co.uk./".toList ∧
    urlToLru (pslSplit demoLines) false "http://a.co.uk./".toList =
      some "s:http|h:|h:uk|h:co|h:a|p:|".toList ∧
    urlToLru (pslSplit demoLines) true "http://A.co.uk../x".toList =
      some "s:http|h:|h:|h:co.uk|h:a|p:x|".toList ∧
    (urlToLru (pslSplit demoLines) true "http://A.co.uk../x".toList).bind
      (fun l => (lruToUrlStr l).toOption) = some "http://a.co.uk../x".toList ∧
    pslSplit demoLines ".co.uk".toList = some ([], "co.uk".toList) ∧
    urlToLru (pslSplit demoLines) true "http://.co.uk/".toList =
      some "s:http|h:co.uk|h:|p:|".toList ∧
    (urlToLru (pslSplit demoLines) true "http://.co.uk/".toList).bind
      (fun l => (lruToUrlStr l).toOption) = some "http://.co.uk/".toList ∧
    (urlToLru (pslSplit demoLines) true "http://.co.uk./".toList).bind
      (fun l => (lruToUrlStr l).toOption) = some "http://.co.uk./".toList ∧
    urlToLru (pslSplit demoLines) true "http://co.uk./".toList =
      some "s:http|h:|h:co.uk|p:|".toList ∧
    (urlToLru (pslSplit demoLines) true "http://co.uk./".toList).bind
      (fun l => (lruToUrlStr l).toOption) = some "http://co.uk./".toList ∧
    (urlToLru (pslSplit demoLines) true "http://..co.uk/".toList).bind
      (fun l => (lruToUrlStr l).toOption) = some "http://..co.uk/".toList ∧
    pslSplit demoLines ".ck".toList = some ([], ".ck".toList) ∧
    urlToLru (pslSplit demoLines) true "http://.ck./".toList = some "s:http|h:|h:.ck|p:|".toList ∧
    (urlToLru (pslSplit demoLines) true "http://.ck./".toList).bind
      (fun l => (lruToUrlStr l).toOption) = some "http://.ck./".toList := by
  simp only [demoLines, List.map, toList_lit]
  decide +kernel

/-- they are inside the class, so `roundtrip_string_psl` speaks about them -/
example : inClass "http://a.co.uk./".toList = true ∧ inClass "http://.co.uk/".toList = true ∧
    inClass "http://.co.uk./".toList = true ∧ inClass "http://a.co.uk../x".toList = true := by
  simp only [toList_lit]
  decide +kernel

/-- serialisation is invertible there (`serialization_string_psl` has no hypothesis) -/
example : unserializeLru "s:http|h:|h:co.uk|h:a|p:|".toList =
    ["s:http", "h:", "h:co.uk", "h:a", "p:"].map String.toList := by
  simp only [List.map, toList_lit]
  decide +kernel

/-- the hypothesis `hpct` of `accessors_string_psl` is really needed, with suffix_trie.py inside
too: `http://a%B.co.uk/` is in the class, comes back as `http://a%b.co.uk/` (the round trip of
`roundtrip_string_psl`: hosts compared lower-cased), and CPython's `.hostname` differs -/
example : inClass "http://a%B.co.uk/".toList = true ∧ wfHostSA "a%B.co.uk".toList = false ∧
    (urlToLru (pslSplit demoLines) true "http://a%B.co.uk/".toList).bind
      (fun l => (lruToUrlStr l).toOption) = some "http://a%b.co.uk/".toList ∧
    Py.hostname "a%B.co.uk".toList ≠ Py.hostname "a%b.co.uk".toList := by
  simp only [demoLines, List.map, toList_lit]
  decide +kernel

end Ural.Props.C12
