import UralModel.Py.Str
/-!
# Python `re` — the fragment ural uses in a purely "regular" way

Shared regular-expression framework (DESIGN.md §4 "Regular expressions").

* `CharClass`: a list of inclusive code-point ranges plus a negation flag.  The translator
  (`harness/gen_tables/regex.py`) computes, for every leaf of the pattern that CPython's own
  `re._parser` produced (literal, `[...]`, `.`, `\s`, `\S`, `\d`, `\w`, negations, all under
  the pattern's flags, so `IGNORECASE`/`UNICODE` are already expanded), the exact set of code
  points the leaf matches on the running interpreter and prints it as ranges.
* `Re`: the AST.  `star`, `plus`, `opt` are abbreviations of the single repetition constructor
  `rep p lo hi greedy` (`hi = none` is "unbounded").
* `Re.Match n r s t`: *denotational* semantics. "`r` matches at the position of the subject
  where `s` is what is left to read, and leaves `t`", `n` being the length of the whole
  subject (needed by `^`).  `Lang r w := Match w.length r w []` is the language of `r` as a
  full match.  `$` is Python's: at the very end or just before a final `\n`.
* `Re.matchEnds n r s`: *executable* matcher: all remainders `t`, **in the order in which a
  backtracking matcher would find them** (so the head of the list is what `re` reports for
  `match`/`search`/`finditer` — used by `Re.finditer` below — and non-emptiness is the boolean
  result of `pattern.match`).  It is proved sound for every `r` and complete for every `r`
  whose repetition bodies cannot match the empty string (`Re.noNullRep`, a syntactic check
  done by `decide` on each generated pattern) in `Lemmas/Re.lean`.

Not covered: look-around, back-references, `\b`, `MULTILINE`/`DOTALL` (the translator refuses
them).  Capturing groups are transparent (only group 0 is modelled).
-/
namespace Ural.Py

/-- a set of code points: union of inclusive ranges, possibly complemented -/
structure CharClass where
  neg : Bool
  ranges : List (Nat × Nat)
deriving DecidableEq, Repr

namespace CharClass

def inRanges (rs : List (Nat × Nat)) (n : Nat) : Bool :=
  rs.any fun r => r.1 ≤ n && n ≤ r.2

/-- membership of a character -/
def mem (C : CharClass) (c : Char) : Bool :=
  C.neg != inRanges C.ranges c.toNat

/-- the class of one character -/
def single (c : Char) : CharClass := ⟨false, [(c.toNat, c.toNat)]⟩

/-- a *sufficient* syntactic test for inclusion `C ⊆ D` (complete when ranges are
normalised, as the translator prints them, except for the mixed case ¬C ⊆ D) -/
def sub (C D : CharClass) : Bool :=
  match C.neg, D.neg with
  | false, false => C.ranges.all fun r => D.ranges.any fun r' => r'.1 ≤ r.1 && r.2 ≤ r'.2
  | true, true => D.ranges.all fun r' => C.ranges.any fun r => r.1 ≤ r'.1 && r'.2 ≤ r.2
  | false, true => C.ranges.all fun r => D.ranges.all fun r' => r.2 < r'.1 || r'.2 < r.1
  | true, false => false

/-- a *sufficient and necessary* test that no code point of the list `ns` is in the class -/
def avoids (C : CharClass) (ns : List Nat) : Bool :=
  ns.all fun n => (C.neg != inRanges C.ranges n) == false

end CharClass

/-- regular expressions (see the header) -/
inductive Re where
  | empty                       -- matches nothing
  | eps                         -- matches the empty string
  | cls (C : CharClass)         -- one character of the class
  | seq (p q : Re)
  | alt (p q : Re)              -- `p|q`, `p` tried first
  | rep (p : Re) (lo : Nat) (hi : Option Nat) (greedy : Bool)   -- `p{lo,hi}` / `p{lo,hi}?`
  | bos                         -- `^` (no MULTILINE)
  | eos                         -- `$` (no MULTILINE): at end, or before a final `\n`
deriving DecidableEq, Repr

namespace Re

@[match_pattern] abbrev star (p : Re) : Re := rep p 0 none true
@[match_pattern] abbrev plus (p : Re) : Re := rep p 1 none true
@[match_pattern] abbrev opt (p : Re) : Re := rep p 0 (some 1) true
/-- one given character -/
abbrev chr (c : Char) : Re := cls (CharClass.single c)

/-- `hi - 1` for the bound of a repetition -/
def decHi (hi : Option Nat) : Option Nat := hi.map (· - 1)

/-! ## denotational semantics -/

/-- `Match n r s t`: with a subject of length `n`, at the position where `s` remains, `r` can
match and leave `t` -/
inductive Match (n : Nat) : Re → List Char → List Char → Prop
  | eps (s) : Match n .eps s s
  | cls (C c s) : C.mem c = true → Match n (.cls C) (c :: s) s
  | seq {p q s t u} : Match n p s t → Match n q t u → Match n (.seq p q) s u
  | altL {p q s t} : Match n p s t → Match n (.alt p q) s t
  | altR {p q s t} : Match n q s t → Match n (.alt p q) s t
  | repStop {p hi g} (s) : Match n (.rep p 0 hi g) s s
  | repStep {p lo hi g s t u} : hi ≠ some 0 → Match n p s t →
      Match n (.rep p (lo - 1) (decHi hi) g) t u → Match n (.rep p lo hi g) s u
  | bos (s) : s.length = n → Match n .bos s s
  | eosEnd : Match n .eos [] []
  | eosNl : Match n .eos ['\n'] ['\n']

/-- the language of `r` as a full match (`pattern.fullmatch(w) is not None`) -/
def Lang (r : Re) (w : List Char) : Prop := Match w.length r w []

/-- `pattern.match(s) is not None`, as a proposition -/
def Accepts (r : Re) (s : List Char) : Prop := ∃ t, Match s.length r s t

/-! ## executable matcher -/

/-- iteration of a repetition.  `step s` = remainders after one match of the body at `s`.
Only iterations that consume something are followed (so the recursion is on `fuel`, the
length of what is left); `greedy` decides whether "one more" or "stop" is tried first. -/
def repEnds (step : List Char → List (List Char)) (greedy : Bool) :
    Nat → Nat → Option Nat → List Char → List (List Char)
  | 0, lo, _, s => if lo = 0 then [s] else []
  | fuel + 1, lo, hi, s =>
    let stop := if lo = 0 then [s] else []
    if hi = some 0 then stop
    else
      let more := ((step s).filter fun t => t.length < s.length).flatMap
        fun t => repEnds step greedy fuel (lo - 1) (decHi hi) t
      if greedy then more ++ stop else stop ++ more

/-- all remainders after a match of `r` at `s`, in backtracking order -/
def matchEnds (n : Nat) : Re → List Char → List (List Char)
  | .empty, _ => []
  | .eps, s => [s]
  | .cls C, s =>
    match s with
    | c :: t => if C.mem c then [t] else []
    | [] => []
  | .seq p q, s => (matchEnds n p s).flatMap (matchEnds n q)
  | .alt p q, s => matchEnds n p s ++ matchEnds n q s
  | .rep p lo hi g, s => repEnds (matchEnds n p) g s.length lo hi s
  | .bos, s => if s.length = n then [s] else []
  | .eos, s => if s = [] ∨ s = ['\n'] then [s] else []

/-- `pattern.match(s) is not None` -/
def pyMatch (r : Re) (s : List Char) : Bool := !(matchEnds s.length r s).isEmpty

/-- `pattern.fullmatch(s) is not None` -/
def fullmatch (r : Re) (s : List Char) : Bool := (matchEnds s.length r s).contains []

/-! ## syntactic checks (all decidable on the generated terms) -/

/-- may `r` match the empty string?  (over-approximation: anchors count as nullable) -/
def nullable : Re → Bool
  | .empty => false
  | .eps => true
  | .cls _ => false
  | .seq p q => nullable p && nullable q
  | .alt p q => nullable p || nullable q
  | .rep p lo _ _ => lo == 0 || nullable p
  | .bos => true
  | .eos => true

/-- no repetition has a body that may match the empty string (the fragment on which `matchEnds`
is complete) -/
def noNullRep : Re → Bool
  | .seq p q => noNullRep p && noNullRep q
  | .alt p q => noNullRep p && noNullRep q
  | .rep p _ _ _ => !nullable p && noNullRep p
  | _ => true

/-- no `^`/`$` inside -/
def anchorFree : Re → Bool
  | .seq p q => anchorFree p && anchorFree q
  | .alt p q => anchorFree p && anchorFree q
  | .rep p _ _ _ => anchorFree p
  | .bos => false
  | .eos => false
  | _ => true

/-- every character class occurring in `r` satisfies `P` -/
def allCls (P : CharClass → Bool) : Re → Bool
  | .cls C => P C
  | .seq p q => allCls P p && allCls P q
  | .alt p q => allCls P p && allCls P q
  | .rep p _ _ _ => allCls P p
  | _ => true

/-- `r'` is `r` with some classes widened (same shape otherwise): a sufficient syntactic
test for "every match of `r` is a match of `r'`" -/
def sub : Re → Re → Bool
  | .empty, .empty => true
  | .eps, .eps => true
  | .cls C, .cls D => C.sub D
  | .seq p q, .seq p' q' => sub p p' && sub q q'
  | .alt p q, .alt p' q' => sub p p' && sub q q'
  | .rep p lo hi _, .rep p' lo' hi' _ => sub p p' && lo == lo' && hi == hi'
  | .bos, .bos => true
  | .eos, .eos => true
  | _, _ => false

/-- the top-level concatenation of `r` as a flat list (CPython's parser flattens
non-capturing groups, the translator nests sequences to the right; comparing spines makes
shape lemmas independent of the nesting) -/
def spine : Re → List Re
  | .seq p q => spine p ++ spine q
  | .eps => []
  | r => [r]

/-- sequence of a list -/
def ofList : List Re → Re
  | [] => .eps
  | [r] => r
  | r :: rs => .seq r (ofList rs)

/-- matching a list of regexes one after the other -/
inductive MatchL (n : Nat) : List Re → List Char → List Char → Prop
  | nil (s) : MatchL n [] s s
  | cons {r rs s t u} : Match n r s t → MatchL n rs t u → MatchL n (r :: rs) s u

/-! ## search (executable; `finditer` is what `urls_from_text` is built on) -/

/-- the match `re` reports at the position where `s` remains (`mustAdvance`: an empty match is
not acceptable there, CPython's rule after an empty match): the remainder after it -/
def firstEnd (n : Nat) (r : Re) (s : List Char) (mustAdvance : Bool) : Option (List Char) :=
  (matchEnds n r s).find? fun t => !mustAdvance || t.length < s.length

/-- the part of `s` that is read when `t` is left (`match.group(0)`) -/
def consumed (s t : List Char) : List Char := s.take (s.length - t.length)

/-- the scanner behind `re.finditer(r, text)`: the successive non-overlapping matches from left
to right, each as the pair (what remained at its start, what remained at its end).  `s` is what
remains, `fuel` bounds the number of scanner steps (`2 * length + 2` is always enough). -/
def scanAux (n : Nat) (r : Re) : Nat → List Char → Bool → List (List Char × List Char)
  | 0, _, _ => []
  | fuel + 1, s, mustAdvance =>
    match firstEnd n r s mustAdvance with
    | some t =>
      if t.length < s.length then (s, t) :: scanAux n r fuel t false
      else (s, t) :: scanAux n r fuel s true        -- empty match: retry here, non-empty
    | none =>
      match s with
      | [] => []
      | _ :: s' => scanAux n r fuel s' false

def scan (r : Re) (text : List Char) : List (List Char × List Char) :=
  scanAux text.length r (2 * text.length + 2) text false

/-- `[(m.start(), m.end()) for m in re.finditer(r, text)]` -/
def finditer (r : Re) (text : List Char) : List (Nat × Nat) :=
  (scan r text).map fun st => (text.length - st.1.length, text.length - st.2.length)

/-- `pattern.search(text)` as offsets -/
def search (r : Re) (text : List Char) : Option (Nat × Nat) := (finditer r text).head?

end Re
end Ural.Py
