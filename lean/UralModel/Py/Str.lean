/-!
# Python `str` prelude

A Python `str` is modelled as `List Char` (`Str`).  Only what ural uses is here; every
function has the name of the `str` method it models and is exercised against CPython through the
correspondence streams of the properties that use it (`harness/props/Cxx.py`).  ASCII behaviour is exact;
for non-ASCII code points only `isspace` (the explicit CPython set) is modelled, case
mapping is the identity outside ASCII (the generators only use non-ASCII characters on
which `str.lower`/`str.upper` are the identity, DESIGN.md §4).
-/
namespace Ural.Py

abbrev Str := List Char

/-- ASCII `A`–`Z` → `a`–`z`, identity elsewhere (`str.lower` on the model alphabet) -/
def lowerChar (c : Char) : Char :=
  if 'A' ≤ c ∧ c ≤ 'Z' then Char.ofNat (c.toNat + 32) else c

def upperChar (c : Char) : Char :=
  if 'a' ≤ c ∧ c ≤ 'z' then Char.ofNat (c.toNat - 32) else c

def lower (s : Str) : Str := s.map lowerChar
def upper (s : Str) : Str := s.map upperChar

def isAsciiAlpha (c : Char) : Bool := ('a' ≤ c ∧ c ≤ 'z') || ('A' ≤ c ∧ c ≤ 'Z')
def isAsciiDigit (c : Char) : Bool := '0' ≤ c ∧ c ≤ '9'
def isHexDigit (c : Char) : Bool :=
  isAsciiDigit c || ('a' ≤ c ∧ c ≤ 'f') || ('A' ≤ c ∧ c ≤ 'F')

/-- CPython's `str.isspace` set (29 code points; re-derived from the running interpreter
by the translator and compared with this list on every run) -/
def spaceCodes : List Nat :=
  [9, 10, 11, 12, 13, 28, 29, 30, 31, 32, 133, 160, 5760, 8192, 8193, 8194, 8195, 8196, 8197,
   8198, 8199, 8200, 8201, 8202, 8232, 8233, 8239, 8287, 12288]

def isSpace (c : Char) : Bool := spaceCodes.contains c.toNat

/-- `s.lstrip()` -/
def lstrip (s : Str) : Str := s.dropWhile isSpace
/-- `s.rstrip()` -/
def rstrip (s : Str) : Str := (s.reverse.dropWhile isSpace).reverse
/-- `s.strip()` -/
def strip (s : Str) : Str := rstrip (lstrip s)

/-- `s.lstrip(chars)` / `s.rstrip(chars)` / `s.strip(chars)` -/
def lstripChars (s : Str) (cs : List Char) : Str := s.dropWhile (cs.contains ·)
def rstripChars (s : Str) (cs : List Char) : Str := (s.reverse.dropWhile (cs.contains ·)).reverse
def stripChars (s : Str) (cs : List Char) : Str := rstripChars (lstripChars s cs) cs

/-- `s.startswith(p)` -/
def startsWith (s p : Str) : Bool := p.isPrefixOf s
/-- `s.endswith(p)` -/
def endsWith (s p : Str) : Bool := p.reverse.isPrefixOf s.reverse

/-- `s.split(c)` for a one-character separator: always at least one piece -/
def splitOn (s : Str) (sep : Char) : List Str :=
  go s []
where
  go : Str → Str → List Str
    | [], acc => [acc.reverse]
    | c :: cs, acc => if c = sep then acc.reverse :: go cs [] else go cs (c :: acc)

/-- `sep.join(parts)` -/
def join (sep : Str) : List Str → Str
  | [] => []
  | [p] => p
  | p :: ps => p ++ sep ++ join sep ps

/-- `s.split(c, 1)`: split at the first occurrence -/
def splitFirst (s : Str) (sep : Char) : Str × Option Str :=
  match s.span (· ≠ sep) with
  | (a, []) => (a, none)
  | (a, _ :: b) => (a, some b)

/-- `s.rsplit(c, 1)`: split at the last occurrence -/
def splitLast (s : Str) (sep : Char) : Option Str × Str :=
  match s.reverse.span (· ≠ sep) with
  | (b, []) => (none, b.reverse)
  | (b, _ :: a) => (some a.reverse, b.reverse)

/-- index of the first occurrence of `p` in `s` (`s.find(p)`, `none` for -1) -/
def find (s p : Str) : Option Nat :=
  go s 0 (s.length + 1)
where
  go (s : Str) (i : Nat) : Nat → Option Nat
    | 0 => none
    | fuel + 1 =>
      if p.isPrefixOf s then some i
      else match s with
        | [] => none
        | _ :: cs => go cs (i + 1) fuel

/-- `p in s` -/
def contains (s p : Str) : Bool := (find s p).isSome

/-- `s.replace(a, b)` for non-empty `a` -/
def replace (s a b : Str) : Str :=
  go s (s.length + 1)
where
  go (s : Str) : Nat → Str
    | 0 => s
    | fuel + 1 =>
      if a ≠ [] ∧ a.isPrefixOf s then b ++ go (s.drop a.length) fuel
      else match s with
        | [] => []
        | c :: cs => c :: go cs fuel

/-- `str(n)` for a natural number -/
def natToStr (n : Nat) : Str := (toString n).toList

/-- `int(s)` for a string of ASCII digits (no sign, no spaces, no underscores) -/
def strToNat? (s : Str) : Option Nat :=
  if s ≠ [] ∧ s.all isAsciiDigit then
    some (s.foldl (fun n c => n * 10 + (c.toNat - '0'.toNat)) 0)
  else none

end Ural.Py
