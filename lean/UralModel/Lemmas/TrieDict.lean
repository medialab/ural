import UralModel.Model.TrieDict
/-!
Helper lemmas about the `TrieDict` model (the property theorems are in `Props/C10.lean`,
`Props/C09.lean`, `Props/C11.lean`): the representation invariant `Wf` (every counter is `count`
of the subtree, child keys distinct), the induction principle `ind`, the listing `items` as the
graph of `get` — under `Wf` the lookup function determines `len` and the three generators (section
"a well-formed trie is its graph") —, and `lmpvSpec`, the longest-prefix lookup of any lookup function.
-/
set_option linter.unusedSectionVars false
set_option linter.unusedSimpArgs false

namespace Ural

section Values
variable {κ β : Type} [DecidableEq κ]

theorem mem_of_child_some {cs : List (κ × β)} {l : κ} {c : β} (h : child cs l = some c) :
    (l, c) ∈ cs := by
  induction cs with
  | nil => cases h
  | cons hd tl ih =>
    obtain ⟨k, n⟩ := hd
    simp only [child] at h
    split at h
    · next hk => cases h; subst hk; exact List.mem_cons_self
    · exact List.mem_cons_of_mem _ (ih h)

theorem mem_setChild {cs : List (κ × β)} {l : κ} {n : β} {kc : κ × β}
    (h : kc ∈ setChild cs l n) : kc ∈ cs ∨ kc = (l, n) := by
  induction cs with
  | nil => exact Or.inr (by simpa [setChild] using h)
  | cons hd tl ih =>
    obtain ⟨k, c⟩ := hd
    simp only [setChild] at h
    split at h
    · next hk =>
      rcases List.mem_cons.1 h with e | h
      · exact Or.inr (by rw [e, hk])
      · exact Or.inl (List.mem_cons_of_mem _ h)
    · rcases List.mem_cons.1 h with e | h
      · exact Or.inl (by rw [e]; exact List.mem_cons_self)
      · exact (ih h).imp (List.mem_cons_of_mem _) id

variable {P : β → Prop} {cs : List (κ × β)}

theorem forall_child (h : ∀ kc ∈ cs, P kc.2) {l : κ} {c : β} (hc : child cs l = some c) : P c :=
  h _ (mem_of_child_some hc)

theorem forall_getD_child (h : ∀ kc ∈ cs, P kc.2) {d : β} (hd : P d) (l : κ) :
    P ((child cs l).getD d) := by
  cases hc : child cs l with
  | none => exact hd
  | some c => exact forall_child h hc

theorem forall_setChild (h : ∀ kc ∈ cs, P kc.2) (l : κ) {n : β} (hn : P n) :
    ∀ kc ∈ setChild cs l n, P kc.2 :=
  fun kc hkc => (mem_setChild hkc).elim (h kc) (fun e => e ▸ hn)

end Values

/-! ### association lists with distinct keys as sets of pairs -/

theorem nodup_of_nodup_map {γ δ : Type} (f : γ → δ) {l : List γ} (h : (l.map f).Nodup) :
    l.Nodup := by
  rw [List.nodup_iff_pairwise_ne] at h ⊢
  rw [List.pairwise_map] at h
  exact List.Pairwise.imp (fun hab e => hab (by rw [e])) h

/-- in a dictionary (distinct keys) the pairs are the graph of the lookup -/
theorem mem_iff_child {κ β : Type} [DecidableEq κ] (m : List (κ × β)) (h : (keys m).Nodup)
    (k : κ) (v : β) : (k, v) ∈ m ↔ child m k = some v := by
  induction m with
  | nil => simp
  | cons hd tl ih =>
    obtain ⟨k', v'⟩ := hd
    simp only [keys, List.map_cons, List.nodup_cons] at h
    simp only [List.mem_cons, Prod.mk.injEq, child]
    by_cases hk : k' = k
    · subst hk
      simp only [if_true, Option.some.injEq, true_and]
      constructor
      · rintro (h1 | h1)
        · exact h1.symm
        · exact absurd (List.mem_map.2 ⟨(k', v), h1, rfl⟩) h.1
      · intro h1; exact Or.inl h1.symm
    · simp only [hk, if_false]
      rw [← ih h.2]
      constructor
      · rintro (h1 | h1)
        · exact absurd h1.1.symm hk
        · exact h1
      · intro h1; exact Or.inr h1

namespace TNode
variable {τ α : Type} [DecidableEq τ]

/-! ### get -/

@[simp] theorem walk_nil (t : TNode τ α) : t.walk [] = some t := by
  cases t; rfl

theorem get_nil (t : TNode τ α) : t.get [] = t.value := by
  simp [get]

theorem get_cons (val : Option α) (c : Nat) (ks : List (τ × TNode τ α)) (tok : τ) (rest : List τ) :
    (TNode.mk val c ks).get (tok :: rest) =
      match child ks tok with
      | some n => n.get rest
      | none => none := by
  simp only [get, walk]
  cases child ks tok <;> rfl

@[simp] theorem get_empty (q : List τ) : (empty : TNode τ α).get q = none := by
  cases q <;> simp [empty, get, walk, value]

theorem get_cons_getD (val : Option α) (c : Nat) (ks : List (τ × TNode τ α)) (a : τ) (p : List τ) :
    (TNode.mk val c ks).get (a :: p) = ((child ks a).getD empty).get p := by
  rw [get_cons]; cases child ks a <;> simp

theorem get_ins (inc : Bool) (t : TNode τ α) (k q : List τ) (v : α) :
    (ins inc t k v).get q = if q = k then some v else t.get q := by
  induction k generalizing t q with
  | nil =>
    obtain ⟨val, c, ks⟩ := t
    cases q with
    | nil => simp [ins, get_nil, value]
    | cons u us => simp [ins, get_cons]
  | cons a as ih =>
    obtain ⟨val, c, ks⟩ := t
    cases q with
    | nil => simp [ins, get_nil, value]
    | cons u us =>
      simp only [ins, get_cons, child_setChild]
      by_cases h : u = a
      · subst h
        simp only [if_true, ih]
        cases hc : child ks u <;> simp
      · simp [h]

/-! ### counting valued nodes -/

mutual
/-- number of valued nodes in the subtree, the node itself included -/
def count : TNode τ α → Nat
  | .mk val _ ks => (if val.isSome then 1 else 0) + countKids ks
def countKids : List (τ × TNode τ α) → Nat
  | [] => 0
  | (_, c) :: rest => count c + countKids rest
end

mutual
/-- the representation invariant: every counter is the number of valued nodes strictly
below its node, and the keys of every children table are pairwise distinct -/
def Wf : TNode τ α → Prop
  | .mk _ c ks => c = countKids ks ∧ (keys ks).Nodup ∧ WfKids ks
def WfKids : List (τ × TNode τ α) → Prop
  | [] => True
  | (_, c) :: rest => Wf c ∧ WfKids rest
end

@[simp] theorem count_empty : count (empty : TNode τ α) = 0 := by
  simp [empty, count, countKids]

theorem wf_empty : Wf (empty : TNode τ α) := by
  simp [empty, Wf, countKids, WfKids, keys]

theorem wfKids_iff {ks : List (τ × TNode τ α)} : WfKids ks ↔ ∀ kc ∈ ks, Wf kc.2 := by
  induction ks with
  | nil => simp [WfKids]
  | cons hd tl ih => obtain ⟨k, c⟩ := hd; simp [WfKids, ih]

/-- replacing a child changes the count by the difference of the two subtrees -/
theorem countKids_setChild (ks : List (τ × TNode τ α)) (tok : τ) (n : TNode τ α) :
    countKids (setChild ks tok n) + count ((child ks tok).getD empty)
      = countKids ks + count n := by
  induction ks with
  | nil => simp [setChild, countKids]
  | cons hd tl ih =>
    obtain ⟨k, c⟩ := hd
    by_cases hk : k = tok
    · simp only [setChild, child, hk, if_true, countKids, Option.getD_some]; omega
    · simp only [setChild, child, hk, if_false, countKids]; omega

theorem count_ins (inc : Bool) (t : TNode τ α) (k : List τ) (v : α) :
    count (ins inc t k v) = count t + (if (t.get k).isNone then 1 else 0) := by
  induction k generalizing t with
  | nil =>
    obtain ⟨val, c, ks⟩ := t
    cases val <;> simp [ins, count, get_nil, value]
    omega
  | cons a as ih =>
    obtain ⟨val, c, ks⟩ := t
    simp only [ins, count, get_cons]
    have h1 := countKids_setChild ks a (ins inc ((child ks a).getD empty) as v)
    rw [ih] at h1
    cases hc : child ks a with
    | none => simp [hc] at h1 ⊢; omega
    | some n => simp [hc] at h1 ⊢; omega

theorem wf_ins (t : TNode τ α) (k : List τ) (v : α) (h : Wf t) :
    Wf (ins (t.get k).isNone t k v) := by
  induction k generalizing t with
  | nil =>
    obtain ⟨val, c, ks⟩ := t
    simpa [ins, Wf] using h
  | cons a as ih =>
    obtain ⟨val, c, ks⟩ := t
    simp only [Wf] at h
    obtain ⟨hc, hnd, hk⟩ := h
    have hsub : Wf ((child ks a).getD empty) := forall_getD_child (wfKids_iff.1 hk) wf_empty a
    have hget := get_cons_getD val c ks a as
    have h1 := countKids_setChild ks a
      (ins (((child ks a).getD empty).get as).isNone
        ((child ks a).getD empty) as v)
    rw [count_ins] at h1
    simp only [ins, Wf, hget]
    generalize ((child ks a).getD empty) = sub at hsub h1 ⊢
    refine ⟨?_, nodup_keys_setChild _ _ _ hnd, wfKids_iff.2 (forall_setChild (wfKids_iff.1 hk) a (ih _ hsub))⟩
    cases hb : (sub.get as).isNone <;> simp only [hb] at h1 ⊢ <;> simp at h1 ⊢ <;> omega

/-! ### items

The `…Kids` twin of each recursive function is a map over the children table (`itemsKids_eq`,
`countKids_eq`, `wfKids_iff`), so one induction principle (`ind`) serves instead of a mutual
block per fact. -/

mutual
theorem ind {P : TNode τ α → Prop} (h : ∀ v c ks, (∀ kc ∈ ks, P kc.2) → P (.mk v c ks)) :
    ∀ t, P t
  | .mk v c ks => h v c ks (indKids h ks)
theorem indKids {P : TNode τ α → Prop} (h : ∀ v c ks, (∀ kc ∈ ks, P kc.2) → P (.mk v c ks)) :
    ∀ ks : List (τ × TNode τ α), ∀ kc ∈ ks, P kc.2
  | [], _, hkc => by cases hkc
  | (_, c) :: rest, kc, hkc => by
    rcases List.mem_cons.1 hkc with rfl | h'
    · exact ind h c
    · exact indKids h rest kc h'
end

theorem itemsKids_eq (ks : List (τ × TNode τ α)) :
    itemsKids ks = ks.flatMap fun kc => (items kc.2).map fun pv => (kc.1 :: pv.1, pv.2) := by
  induction ks with
  | nil => simp [itemsKids]
  | cons hd tl ih => obtain ⟨k, c⟩ := hd; simp [itemsKids, ih]

theorem countKids_eq (ks : List (τ × TNode τ α)) :
    countKids ks = (ks.map fun kc => count kc.2).sum := by
  induction ks with
  | nil => simp [countKids]
  | cons hd tl ih => obtain ⟨k, c⟩ := hd; simp [countKids, ih]

theorem items_length (t : TNode τ α) : (items t).length = count t := by
  induction t using ind with
  | h val c ks ih =>
    simp only [items, count, List.length_append, itemsKids_eq, countKids_eq, List.length_flatMap,
      List.length_map]
    rw [List.map_congr_left ih]
    cases val <;> simp

theorem itemsKids_length (ks : List (τ × TNode τ α)) : (itemsKids ks).length = countKids ks := by
  simpa [items, count] using items_length (.mk (none : Option α) 0 ks)

theorem len_eq_items_length (t : TNode τ α) (h : Wf t) : t.len = t.items.length := by
  obtain ⟨val, c, ks⟩ := t
  simp only [Wf] at h
  rw [items_length]
  cases val <;> simp [len, counter, value, count, h.1] <;> omega

theorem mem_items (t : TNode τ α) (h : Wf t) (q : List τ) (v : α) :
    (q, v) ∈ items t ↔ t.get q = some v := by
  induction t using ind generalizing q with
  | h val c ks ih =>
    simp only [Wf] at h
    have hk := wfKids_iff.1 h.2.2
    simp only [items, itemsKids_eq, List.mem_append, List.mem_map, Option.mem_toList,
      List.mem_flatMap, Prod.mk.injEq]
    cases q with
    | nil => simp [get_nil, value, eq_comm]
    | cons tok rest =>
      rw [get_cons]
      simp only [reduceCtorEq, false_and, and_false, exists_false, false_or, List.cons.injEq]
      constructor
      · rintro ⟨⟨k, n⟩, hkn, ⟨p, w⟩, hpv, ⟨rfl, rfl⟩, rfl⟩
        rw [(mem_iff_child ks h.2.1 k n).1 hkn]
        exact (ih _ hkn (hk _ hkn) _).1 hpv
      · intro hg
        cases hc : child ks tok with
        | none => rw [hc] at hg; cases hg
        | some n =>
          rw [hc] at hg
          have hkn := mem_of_child_some hc
          exact ⟨(tok, n), hkn, (rest, v), (ih _ hkn (hk _ hkn) _).2 hg, ⟨rfl, rfl⟩, rfl⟩

theorem nodup_items_keys (t : TNode τ α) (h : Wf t) : ((items t).map Prod.fst).Nodup := by
  induction t using ind with
  | h val c ks ih =>
    simp only [Wf] at h
    have hk := wfKids_iff.1 h.2.2
    have hnd := h.2.1
    rw [keys, List.Nodup, List.pairwise_map] at hnd
    simp only [items, itemsKids_eq, List.map_append, List.map_flatMap, List.map_map,
      Function.comp_def]
    rw [List.nodup_append]
    refine ⟨by cases val <;> simp, ?_, ?_⟩
    · -- keys below one child: distinct by induction; below two children: different first tokens
      rw [List.Nodup, List.pairwise_flatMap]
      refine ⟨fun kc hkc => ?_, hnd.imp fun hne x hx y hy e => ?_⟩
      · have := nodup_map_of_injective (fun p => kc.1 :: p) (fun a b hab => by simpa using hab)
          (ih kc hkc (hk kc hkc))
        change List.Nodup _
        simpa [List.map_map, Function.comp_def] using this
      · obtain ⟨_, _, rfl⟩ := List.mem_map.1 hx
        obtain ⟨_, _, rfl⟩ := List.mem_map.1 hy
        exact hne (List.cons.inj e).1
    · intro a ha b hb e
      subst e
      obtain ⟨kc, _, hb⟩ := List.mem_flatMap.1 hb
      obtain ⟨_, _, rfl⟩ := List.mem_map.1 hb
      cases val <;> simp at ha

theorem nodup_itemsKids_keys (ks : List (τ × TNode τ α)) (hnd : (keys ks).Nodup) (h : WfKids ks) :
    ((itemsKids ks).map Prod.fst).Nodup := by
  simpa [items] using nodup_items_keys (.mk (none : Option α) (countKids ks) ks) ⟨rfl, hnd, h⟩

/-! ### the explicit-stack generators `items()` / `prefixes()` / `values()` -/

/-- number of nodes on a stack -/
def stackSize : List (TNode τ α × List τ) → Nat
  | [] => 0
  | np :: rest => size np.1 + stackSize rest

theorem stackSize_append (a b : List (TNode τ α × List τ)) :
    stackSize (a ++ b) = stackSize a + stackSize b := by
  induction a with
  | nil => simp [stackSize]
  | cons x xs ih => simp [stackSize, ih]; omega

theorem stackSize_reverse (a : List (TNode τ α × List τ)) :
    stackSize a.reverse = stackSize a := by
  induction a with
  | nil => rfl
  | cons x xs ih => simp [stackSize_append, stackSize, ih]; omega

theorem stackSize_kids (ks : List (τ × TNode τ α)) (pre : List τ) :
    stackSize (ks.map fun tc => (tc.2, pre ++ [tc.1])) = sizeKids ks := by
  induction ks with
  | nil => rfl
  | cons x xs ih => obtain ⟨tok, c⟩ := x; simp [stackSize, sizeKids, ih]

/-- what one stack entry (node, prefix of the node) contributes: the listing of the node with
the prefix put in front of every key -/
def entryItems (np : TNode τ α × List τ) : List (List τ × α) :=
  (items np.1).map fun kv => (np.2 ++ kv.1, kv.2)

theorem flatMap_entryItems_kids (ks : List (τ × TNode τ α)) (pre : List τ) :
    (ks.map fun tc => (tc.2, pre ++ [tc.1])).flatMap entryItems
      = (itemsKids ks).map fun kv => (pre ++ kv.1, kv.2) := by
  simp [itemsKids_eq, List.flatMap_map, List.map_flatMap, entryItems, Function.comp_def]

/-- the loop of `items()`, run with enough fuel, yields a permutation of the listings of the
nodes on its stack -/
theorem itemsLoop_perm (fuel : Nat) (stack : List (TNode τ α × List τ))
    (h : stackSize stack ≤ fuel) :
    (itemsLoop fuel stack).Perm (stack.flatMap entryItems) := by
  induction fuel generalizing stack with
  | zero =>
    cases stack with
    | nil => simp [itemsLoop]
    | cons np rest =>
      obtain ⟨⟨val, c, ks⟩, pre⟩ := np
      simp [stackSize, size] at h
  | succ fuel ih =>
    cases stack with
    | nil => simp [itemsLoop]
    | cons np rest =>
      obtain ⟨⟨val, c, ks⟩, pre⟩ := np
      simp only [stackSize, size] at h
      have hsz : stackSize ((ks.map fun tc => (tc.2, pre ++ [tc.1])).reverse ++ rest) ≤ fuel := by
        rw [stackSize_append, stackSize_reverse, stackSize_kids]; omega
      have h1 := ih _ hsz
      simp only [itemsLoop, List.flatMap_cons]
      have h2 : (((ks.map fun tc => (tc.2, pre ++ [tc.1])).reverse ++ rest).flatMap entryItems).Perm
          (((itemsKids ks).map fun kv => (pre ++ kv.1, kv.2)) ++ rest.flatMap entryItems) := by
        rw [List.flatMap_append, ← flatMap_entryItems_kids]
        exact List.Perm.append_right _ ((List.reverse_perm _).flatMap_right _)
      have h3 : entryItems (TNode.mk val c ks, pre)
          = val.toList.map (fun v => (pre, v)) ++ (itemsKids ks).map fun kv => (pre ++ kv.1, kv.2) := by
        simp [entryItems, items, Function.comp_def]
      rw [h3, List.append_assoc]
      exact List.Perm.append_left _ (h1.trans h2)

/-- **`items()`** (the stack generator) yields a permutation of the specification listing -/
theorem itemsIter_perm (t : TNode τ α) : t.itemsIter.Perm t.items := by
  have h := itemsLoop_perm t.size [(t, [])] (by simp [stackSize])
  simpa [itemsIter, entryItems] using h

/-- the loop of `prefixes()` yields the first components of what the loop of `items()` yields,
in the same order -/
theorem prefixesLoop_eq (fuel : Nat) (stack : List (TNode τ α × List τ)) :
    prefixesLoop fuel stack = (itemsLoop fuel stack).map Prod.fst := by
  induction fuel generalizing stack with
  | zero => simp [prefixesLoop, itemsLoop]
  | succ fuel ih =>
    cases stack with
    | nil => simp [prefixesLoop, itemsLoop]
    | cons np rest =>
      obtain ⟨⟨val, c, ks⟩, pre⟩ := np
      simp [prefixesLoop, itemsLoop, ih, Function.comp_def]

/-- the loop of `values()` (a stack of bare nodes) yields the second components of what the
loop of `items()` yields, in the same order -/
theorem valuesLoop_eq (fuel : Nat) (stack : List (TNode τ α × List τ)) :
    valuesLoop fuel (stack.map Prod.fst) = (itemsLoop fuel stack).map Prod.snd := by
  induction fuel generalizing stack with
  | zero => simp [valuesLoop, itemsLoop]
  | succ fuel ih =>
    cases stack with
    | nil => simp [valuesLoop, itemsLoop]
    | cons np rest =>
      obtain ⟨⟨val, c, ks⟩, pre⟩ := np
      have hst : (ks.map Prod.snd).reverse ++ rest.map Prod.fst
          = (((ks.map fun tc => (tc.2, pre ++ [tc.1])).reverse ++ rest).map Prod.fst) := by
        simp [List.map_reverse, Function.comp_def]
      simp only [List.map_cons, valuesLoop, itemsLoop]
      rw [hst, ih, List.map_append, List.map_map]
      congr 1
      cases val <;> simp

theorem prefixes_eq (t : TNode τ α) : t.prefixes = t.itemsIter.map Prod.fst :=
  prefixesLoop_eq _ _

theorem values_eq (t : TNode τ α) : t.values = t.itemsIter.map Prod.snd :=
  valuesLoop_eq t.size [(t, [])]

/-- **`prefixes()`** yields a permutation of the keys of the listing -/
theorem prefixes_perm (t : TNode τ α) : t.prefixes.Perm (t.items.map Prod.fst) := by
  rw [prefixes_eq]; exact (itemsIter_perm t).map _

/-- **`values()`** yields a permutation of the values of the listing -/
theorem values_perm (t : TNode τ α) : t.values.Perm (t.items.map Prod.snd) := by
  rw [values_eq]; exact (itemsIter_perm t).map _

theorem nodup_prefixes (t : TNode τ α) (h : Wf t) : t.prefixes.Nodup :=
  (prefixes_perm t).nodup_iff.2 (nodup_items_keys t h)

/-! ### a well-formed trie is its graph

Everything `TrieDict` can be asked besides `get` — `len`, `items()`, `prefixes()`, `values()` — is
determined, under `Wf`, by the lookup function: whoever knows a duplicate-free listing `m` of the
graph of `t.get` knows them all.  The histories of C10 (`specRun`), C11 (`lastEntries`) and C09
(`minimalKeys`) are three such listings. -/

section Graph
variable {t : TNode τ α} {m : List (List τ × α)}

theorem items_perm_of_graph (h : Wf t) (hm : (keys m).Nodup)
    (hg : ∀ q v, (q, v) ∈ m ↔ t.get q = some v) : t.items.Perm m := by
  rw [List.perm_ext_iff_of_nodup (nodup_of_nodup_map Prod.fst (nodup_items_keys t h))
    (nodup_of_nodup_map Prod.fst hm)]
  rintro ⟨q, v⟩
  rw [mem_items t h, hg]

theorem len_of_graph (h : Wf t) (hm : (keys m).Nodup)
    (hg : ∀ q v, (q, v) ∈ m ↔ t.get q = some v) : t.len = m.length := by
  rw [len_eq_items_length t h, (items_perm_of_graph h hm hg).length_eq]

theorem itemsIter_perm_of_graph (h : Wf t) (hm : (keys m).Nodup)
    (hg : ∀ q v, (q, v) ∈ m ↔ t.get q = some v) : t.itemsIter.Perm m :=
  (itemsIter_perm t).trans (items_perm_of_graph h hm hg)

theorem prefixes_perm_of_graph (h : Wf t) (hm : (keys m).Nodup)
    (hg : ∀ q v, (q, v) ∈ m ↔ t.get q = some v) : t.prefixes.Perm (keys m) :=
  (prefixes_perm t).trans ((items_perm_of_graph h hm hg).map _)

theorem values_perm_of_graph (h : Wf t) (hm : (keys m).Nodup)
    (hg : ∀ q v, (q, v) ∈ m ↔ t.get q = some v) : t.values.Perm (m.map Prod.snd) :=
  (values_perm t).trans ((items_perm_of_graph h hm hg).map _)

theorem items_perm_of_get_eq {t' : TNode τ α} (h : Wf t) (h' : Wf t')
    (e : ∀ q, t'.get q = t.get q) : t.items.Perm t'.items :=
  items_perm_of_graph h (nodup_items_keys t' h') (fun q v => by rw [mem_items t' h', e])

end Graph

/-! ### longest matching prefix -/

/-- "value of the longest prefix of `q` on which `g` is defined", for a lookup function `g` -/
def lmpvSpec (g : List τ → Option α) : List τ → Option α
  | [] => g []
  | tok :: rest =>
    (lmpvSpec (fun p => g (tok :: p)) rest).or (g [])

theorem lmpvSpec_none (q : List τ) : lmpvSpec (fun _ => (none : Option α)) q = none := by
  induction q with
  | nil => rfl
  | cons a as ih => simp [lmpvSpec, ih]

theorem lmpvAux_eq (t : TNode τ α) (q : List τ) (last : Option α) :
    lmpvAux t q last = (lmpvSpec t.get q).or last := by
  induction q generalizing t last with
  | nil =>
    obtain ⟨val, c, ks⟩ := t
    simp only [lmpvAux, lmpvSpec, get_nil, value]
  | cons a as ih =>
    obtain ⟨val, c, ks⟩ := t
    simp only [lmpvAux, lmpvSpec, get_nil, value]
    cases hc : child ks a with
    | none =>
      have : (fun p => (TNode.mk val c ks).get (a :: p)) = fun _ => none := by
        funext p; simp [get_cons, hc]
      simp [this, lmpvSpec_none]
    | some n =>
      have : (fun p => (TNode.mk val c ks).get (a :: p)) = n.get := by
        funext p; simp [get_cons, hc]
      simp [this, ih, Option.or_assoc]

theorem lmpv_eq (t : TNode τ α) (q : List τ) : t.lmpv q = lmpvSpec t.get q := by
  simp [lmpv, lmpvAux_eq]

theorem lmpvSpec_eq_none (g : List τ → Option α) (q : List τ) :
    lmpvSpec g q = none ↔ ∀ p, p <+: q → g p = none := by
  induction q generalizing g with
  | nil => simp [lmpvSpec]
  | cons a as ih =>
    simp only [lmpvSpec, Option.or_eq_none_iff, ih, List.prefix_cons_iff]
    constructor
    · rintro ⟨h1, h2⟩ p (rfl | ⟨p', rfl, hp'⟩)
      · exact h2
      · exact h1 p' hp'
    · intro h
      exact ⟨fun p hp => h _ (Or.inr ⟨p, rfl, hp⟩), h [] (Or.inl rfl)⟩

/-- relational reading of `lmpvSpec`: the answer is `g p` for the longest prefix `p` of `q`
with `g p ≠ none` -/
theorem lmpvSpec_some (g : List τ → Option α) (q : List τ) (v : α) :
    lmpvSpec g q = some v ↔
      ∃ p, p <+: q ∧ g p = some v ∧ ∀ p', p' <+: q → p.length < p'.length → g p' = none := by
  induction q generalizing g v with
  | nil =>
    simp only [lmpvSpec, List.prefix_nil]
    constructor
    · intro h; exact ⟨[], rfl, h, by intro p' hp' hl; subst hp'; simp at hl⟩
    · rintro ⟨p, rfl, h, _⟩; exact h
  | cons a as ih =>
    simp only [lmpvSpec]
    cases hrec : lmpvSpec (fun p => g (a :: p)) as with
    | some w =>
      obtain ⟨p0, hp0, hg0, hmax0⟩ := (ih (fun p => g (a :: p)) w).1 hrec
      simp only [Option.some_or, Option.some.injEq]
      constructor
      · rintro rfl
        refine ⟨a :: p0, by simpa using hp0, hg0, ?_⟩
        intro p' hp' hl
        rcases List.prefix_cons_iff.1 hp' with rfl | ⟨p'', rfl, hp''⟩
        · simp at hl
        · exact hmax0 p'' hp'' (by simpa using hl)
      · rintro ⟨p, hp, hg, hmax⟩
        rcases List.prefix_cons_iff.1 hp with rfl | ⟨p1, rfl, hp1⟩
        · have := hmax (a :: p0) (by simpa using hp0) (by simp)
          rw [hg0] at this; cases this
        · have : lmpvSpec (fun p => g (a :: p)) as = some v :=
            (ih (fun p => g (a :: p)) v).2 ⟨p1, hp1, hg, fun p' hp' hl =>
              hmax (a :: p') (by simpa using hp') (by simpa using hl)⟩
          rw [hrec] at this; cases this; rfl
    | none =>
      have hnone := (lmpvSpec_eq_none _ _).1 hrec
      simp only [Option.none_or]
      constructor
      · intro h
        refine ⟨[], List.nil_prefix, h, ?_⟩
        intro p' hp' hl
        rcases List.prefix_cons_iff.1 hp' with rfl | ⟨p'', rfl, hp''⟩
        · simp at hl
        · exact hnone p'' hp''
      · rintro ⟨p, hp, hg, _⟩
        rcases List.prefix_cons_iff.1 hp with rfl | ⟨p1, rfl, hp1⟩
        · exact hg
        · rw [hnone p1 hp1] at hg; cases hg

end TNode
end Ural
