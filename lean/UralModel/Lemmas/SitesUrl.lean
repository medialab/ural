import UralModel.Model.Sites
import UralModel.Lemmas.Sites
import UralModel.Lemmas.StrSplit
import UralModel.Lemmas.Protocol
import UralModel.Lemmas.UrlSplit
import UralModel.Lemmas.Split
import UralModel.Lemmas.NetlocSplit
import UralModel.Lemmas.Builders
import UralModel.Lemmas.StrLit
/-!
Lemmas about the models of `urlsplit` / `safe_urlsplit` / `SplitResult.hostname` used by C18.  `safe_urlsplit` of
`http://rest`, `https://rest`, `//rest` and of a scheme-less `rest` is one function, `authSplit`, of the cleaned
`rest`, up to the scheme field; the hostname of an authority `[userinfo@]host[:port]` followed by nothing or by
something that starts with `/`, `?`, `#` is the lower-cased host, whatever the userinfo, the port and what follows;
the hostname of ANY url holds no newline, hence a site predicate is whole-label membership of the parsed hostname.
-/

namespace Ural.Sites
open Ural Ural.Py Ural.Py.Re

/-- what `urlsplit` does once the scheme is known and `//` was seen: `y` is what follows `//` -/
def authSplit (scheme y : Str) : Option SplitResult :=
  if !netlocOk (y.takeWhile (fun c => !isNetlocDelim c)) then none
  else
    some ⟨scheme, y.takeWhile (fun c => !isNetlocDelim c),
      (splitFirst (splitFirst (y.dropWhile (fun c => !isNetlocDelim c)) '#').1 '?').1,
      ((splitFirst (splitFirst (y.dropWhile (fun c => !isNetlocDelim c)) '#').1 '?').2).getD [],
      ((splitFirst (y.dropWhile (fun c => !isNetlocDelim c)) '#').2).getD []⟩

theorem authSplit_eq (sch y : Str) : authSplit sch y = splitRest sch ('/' :: '/' :: y) := by
  rw [splitRest_slashes]
  unfold authSplit withTail
  cases netlocOk (y.takeWhile fun c => !isNetlocDelim c) <;> rfl

theorem safe_urlsplit_http (rest : Str) :
    safe_urlsplit ("http://".toList ++ rest) = authSplit "http".toList (dropUnsafe rest) := by
  simp only [toList_lit, authSplit_eq]
  exact safe_urlsplit_of_scheme (l := ['h', 't', 't', 'p']) (by decide) rest

theorem safe_urlsplit_https (rest : Str) :
    safe_urlsplit ("https://".toList ++ rest) = authSplit "https".toList (dropUnsafe rest) := by
  simp only [toList_lit, authSplit_eq]
  exact safe_urlsplit_of_scheme (l := ['h', 't', 't', 'p', 's']) (by decide) rest

theorem safe_urlsplit_slashes (rest : Str) :
    safe_urlsplit ("//".toList ++ rest) = authSplit [] (dropUnsafe rest) := by
  simp only [toList_lit, authSplit_eq]
  exact safe_urlsplit_of_slashes rest

theorem safe_urlsplit_bare (rest : Str) (h : protoLen rest = none) :
    safe_urlsplit rest = authSplit "http".toList (dropUnsafe rest) := by
  simp only [toList_lit, authSplit_eq]
  exact safe_urlsplit_of_none h

/-- hostname and path do not depend on the scheme field -/
theorem partsOf_authSplit (s1 s2 y : Str) :
    (authSplit s1 y).map partsOf = (authSplit s2 y).map partsOf := by
  unfold authSplit
  split <;> rfl

theorem parts_forms (rest : Str) :
    parts ("https://".toList ++ rest) = parts ("http://".toList ++ rest) ∧
    parts ("//".toList ++ rest) = parts ("http://".toList ++ rest) ∧
    (protoLen rest = none → parts rest = parts ("http://".toList ++ rest)) := by
  unfold parts
  refine ⟨?_, ?_, fun h => ?_⟩
  · rw [safe_urlsplit_https, safe_urlsplit_http]; exact partsOf_authSplit _ _ _
  · rw [safe_urlsplit_slashes, safe_urlsplit_http]; exact partsOf_authSplit _ _ _
  · rw [safe_urlsplit_bare rest h, safe_urlsplit_http]

/-! ## the hostname of an authority -/

/-- a character that may stand in an authority without ending it, without brackets, and that
`urlsplit` does not remove -/
def authChar (c : Char) : Bool :=
  !isNetlocDelim c && c != '[' && c != ']' && !isUnsafeUrlChar c

/-- a character of a plain host name: additionally no `@`, `:`, `%` -/
def hostChar (c : Char) : Bool := authChar c && c != '@' && c != ':' && c != '%'

/-- `:port`, if any -/
def portPart (port : Option Str) : Str :=
  match port with
  | some p => ':' :: p
  | none => []

/-- `userinfo@`, if any -/
def uiPart (ui : Option Str) : Str :=
  match ui with
  | some u => u ++ ['@']
  | none => []

/-- the authority `[userinfo@]host[:port]` -/
def authority (ui : Option Str) (h : Str) (port : Option Str) : Str :=
  uiPart ui ++ h ++ portPart port

theorem authChar_of_hostChar {c : Char} (h : hostChar c = true) : authChar c = true := by
  simp only [hostChar, Bool.and_eq_true] at h
  exact h.1.1.1

theorem authChar_facts {s : Str} (hs : ∀ c ∈ s, authChar c = true) :
    (∀ c ∈ s, (!isNetlocDelim c) = true) ∧ '[' ∉ s ∧ ']' ∉ s ∧ (∀ c ∈ s, (!isUnsafeUrlChar c) = true) := by
  refine ⟨fun c hc => ?_, fun hm => ?_, fun hm => ?_, fun c hc => ?_⟩
  · have := hs c hc
    simp only [authChar, Bool.and_eq_true] at this
    exact this.1.1.1
  · exact absurd (hs _ hm) (by decide)
  · exact absurd (hs _ hm) (by decide)
  · have := hs c hc
    simp only [authChar, Bool.and_eq_true] at this
    exact this.2

theorem authority_eq (ui : Option Str) (h : Str) (port : Option Str) :
    authority ui h port = Netloc.pre ui ++ (Netloc.hostB false h ++ Netloc.colon port) :=
  List.append_assoc _ _ _

theorem authority_chars (ui : Option Str) (h : Str) (port : Option Str)
    (hui : ∀ u, ui = some u → ∀ c ∈ u, authChar c = true)
    (hh : ∀ c ∈ h, hostChar c = true)
    (hport : ∀ p, port = some p → ∀ c ∈ p, (authChar c && c != '@') = true) :
    ∀ c ∈ authority ui h port, authChar c = true := by
  rw [authority_eq]
  exact Netloc.forall_mem_authority (fun u e => ⟨by decide, hui u e⟩) (fun c hc => authChar_of_hostChar (hh c hc)) (fun e => by cases e)
    fun p e => ⟨by decide, fun c hc => (Bool.and_eq_true _ _ ▸ hport p e c hc).1⟩

theorem reads_authority (ui : Option Str) (h : Str) (port : Option Str)
    (hh : ∀ c ∈ h, hostChar c = true)
    (hport : ∀ p, port = some p → ∀ c ∈ p, (authChar c && c != '@') = true) :
    Netloc.Reads (authority ui h port) ui false h port := by
  have hp : ∀ p, port = some p → '@' ∉ p ∧ '[' ∉ p := fun p e =>
    ⟨fun hm => absurd (hport p e _ hm) (by decide), fun hm => absurd (hport p e _ hm) (by decide)⟩
  rw [authority_eq]
  exact .of_plain ui port ⟨fun hm => absurd (hh _ hm) (by decide),
    fun hm => absurd (hh _ hm) (by decide), fun hm => absurd (hh _ hm) (by decide)⟩ hp

theorem pyHostname_authority (ui : Option Str) (h : Str) (port : Option Str)
    (hh : ∀ c ∈ h, hostChar c = true)
    (hport : ∀ p, port = some p → ∀ c ∈ p, (authChar c && c != '@') = true) :
    pyHostname (authority ui h port) = lower h :=
  (reads_authority ui h port hh hport).pyHostname_lower fun hm => absurd (hh _ hm) (by decide)

/-- what may follow the authority: nothing, or something starting with `/`, `?` or `#` -/
def TailOK (tail : Str) : Prop := tail = [] ∨ ∃ c t, tail = c :: t ∧ isNetlocDelim c = true

theorem TailOK.head {tail : Str} (ht : TailOK tail) : ∀ c, tail.head? = some c → isNetlocDelim c = true := by
  rcases ht with rfl | ⟨c, t, rfl, hc⟩
  · intro c h; cases h
  · intro d h; cases h; exact hc

theorem authSplit_append (sch a tail : Str) (ha : ∀ c ∈ a, authChar c = true) (ht : TailOK tail) :
    authSplit sch (dropUnsafe (a ++ tail)) = some (withTail sch a (dropUnsafe tail)) := by
  obtain ⟨hnd, hlb, hrb, hsafe⟩ := authChar_facts ha
  rw [authSplit_eq, dropUnsafe_append, dropUnsafe_eq_self (fun c hc => by simpa using hsafe c hc),
    splitRest_auth sch (fun c hc => by simpa using hnd c hc) (dropUnsafe_head_delim ht.head),
    netlocOk_of_no_bracket hlb hrb]
  rfl

/-- a path that `urlsplit` keeps whole: empty, or `/` followed by text without `?`, `#`, TAB,
CR, LF -/
def PathOK (tail : Str) : Prop :=
  tail = [] ∨ ∃ t, tail = '/' :: t ∧ '?' ∉ t ∧ '#' ∉ t ∧ ∀ c ∈ t, (!isUnsafeUrlChar c) = true

theorem PathOK.tailOK {tail : Str} (h : PathOK tail) : TailOK tail := by
  rcases h with rfl | ⟨t, rfl, _⟩
  · exact Or.inl rfl
  · exact Or.inr ⟨'/', t, rfl, by decide⟩

theorem PathOK.withTail_path (sch nl : Str) {tail : Str} (h : PathOK tail) :
    (withTail sch nl (dropUnsafe tail)).path = tail := by
  have hsafe : dropUnsafe tail = tail ∧ '?' ∉ tail ∧ '#' ∉ tail := by
    rcases h with rfl | ⟨t, rfl, hq, hf, hs⟩
    · exact ⟨rfl, by simp, by simp⟩
    · refine ⟨dropUnsafe_eq_self fun c hc => ?_, by simp [hq], by simp [hf]⟩
      rcases List.mem_cons.1 hc with rfl | hc
      · decide
      · simpa using hs c hc
  rw [hsafe.1]
  exact congrArg SplitResult.path
    (by simpa [UrlRoundTrip.queryPart, UrlRoundTrip.fragPart] using withTail_parts sch nl (q := []) [] hsafe.2.1 hsafe.2.2 (by simp))

theorem parts_authority (ui : Option Str) (h : Str) (port : Option Str) (tail : Str)
    (hui : ∀ u, ui = some u → ∀ c ∈ u, authChar c = true)
    (hh : ∀ c ∈ h, hostChar c = true)
    (hport : ∀ p, port = some p → ∀ c ∈ p, (authChar c && c != '@') = true)
    (ht : TailOK tail) :
    ∃ path, parts ("http://".toList ++ (authority ui h port ++ tail)) =
        some ⟨if lower h = [] then none else some (lower h), path⟩ ∧ (PathOK tail → path = tail) := by
  refine ⟨_, ?_, PathOK.withTail_path "http".toList (authority ui h port)⟩
  rw [parts, safe_urlsplit_http,
    authSplit_append _ _ tail (authority_chars ui h port hui hh hport) ht, Option.map_some, partsOf,
    hostnameOf, show (withTail "http".toList (authority ui h port) (dropUnsafe tail)).netloc =
      authority ui h port from rfl, pyHostname_authority ui h port hh hport]

theorem get_hostname_authority (ui : Option Str) (h : Str) (port : Option Str) (tail : Str)
    (hui : ∀ u, ui = some u → ∀ c ∈ u, authChar c = true)
    (hh : ∀ c ∈ h, hostChar c = true) (hne : h ≠ [])
    (hport : ∀ p, port = some p → ∀ c ∈ p, (authChar c && c != '@') = true)
    (ht : TailOK tail) :
    get_hostname ("http://".toList ++ (authority ui h port ++ tail)) = some (lower h) := by
  have hl : lower h ≠ [] := fun e => hne (lower_eq_nil.1 e)
  obtain ⟨_, hp, _⟩ := parts_authority ui h port tail hui hh hport ht
  simp only [get_hostname, hp, get_hostname_o, hl, if_false]

/-! ## the hostname of ANY url: no newline, hence search = whole-label membership -/

theorem pyHostname_no_nl {n : Str} (h : '\n' ∉ n) : '\n' ∉ pyHostname n :=
  (Netloc.lowerOf_pyHostname n).not_mem h (by decide)

/-- the netloc `urlsplit` returns contains no newline (nor TAB, CR): it is made of characters of
the cleaned url -/
theorem urlsplit_netloc_no_nl (url dflt : Str) (r : SplitResult) (h : urlsplit url dflt = some r) :
    '\n' ∉ r.netloc :=
  fun hm => absurd (Py.mem_cleanUrl ((urlsplit_subset h).1 hm)).1 (by decide)

theorem get_hostname_no_nl {url h : Str} (hh : get_hostname url = some h) : '\n' ∉ h := by
  unfold get_hostname parts at hh
  cases hs : safe_urlsplit url with
  | none => rw [hs] at hh; cases hh
  | some sr =>
    have hnl : '\n' ∉ pyHostname sr.netloc := pyHostname_no_nl (urlsplit_netloc_no_nl _ _ sr hs)
    simp only [hs, Option.map_some, partsOf, hostnameOf, get_hostname_o] at hh
    by_cases he : pyHostname sr.netloc = [] <;> simp only [he, if_true, if_false] at hh
    · cases hh
    · cases hh; exact hnl

theorem site_url_spec {r : Re} {P : List DomPat} (hok : SiteTableOK r P = true) (url : Str) :
    hostSearch r (get_hostname url) = true ↔
      ∃ h, get_hostname url = some h ∧ ∃ p ∈ P, UnderPattern p (lower h) := by
  cases hh : get_hostname url with
  | none => simp [hostSearch]
  | some h =>
    simp only [hostSearch, Option.some.injEq, exists_eq_left']
    exact site_search_spec_nl hok h (get_hostname_no_nl hh)

end Ural.Sites
