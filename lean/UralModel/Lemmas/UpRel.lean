import UralModel.Model.Normalize
import UralModel.Lemmas.QuoteUpper
import UralModel.Lemmas.Protocol
import UralModel.Lemmas.UrlRoundTrip
/-!
# A string up to the upper-casing of some of its characters (`UpRel`)

`upper_quoted` only upper-cases the hex digits of escapes (`upRel_upperQuoted`); `UpRel s t` says that
much of two strings and no more.  It keeps lengths, `lower`, every character that is no ASCII letter
where it stands (hence splits at separators, `startsWith` of a letter-free prefix, the match of
`PROTOCOL_RE`) and digit strings.  C07 compares with it the string the hostname helpers clean and the
one `normalize_url` cleans (`Lemmas/C07Whole.lean`).
-/
namespace Ural.C07
open Ural Ural.Py Ural.UrlParts Ural.Quote Ural.Normalize Ural.UrlRoundTrip Ural.QuoteUpper

/-- `d` is `c`, possibly upper-cased -/
def UpChar (c d : Char) : Prop := d = c ∨ d = upperChar c

/-- `t` is `s` with some characters upper-cased (what `upper_quoted` does to the hex digits of
escapes) -/
inductive UpRel : Str → Str → Prop
  | nil : UpRel [] []
  | cons {c d : Char} {s t : Str} : UpChar c d → UpRel s t → UpRel (c :: s) (d :: t)

theorem UpChar.alpha {c d : Char} (h : UpChar c d) : isAsciiAlpha d = isAsciiAlpha c := by
  rcases h with rfl | rfl
  · rfl
  · by_cases hl : 97 ≤ c.toNat ∧ c.toNat ≤ 122
    · have h1 : isAsciiAlpha c = true := (isAsciiAlpha_iff c).2 (Or.inl hl)
      have h2 : isAsciiAlpha (upperChar c) = true := by
        rw [isAsciiAlpha_iff, UrlRoundTrip.upperChar_toNat, if_pos hl]; omega
      rw [h1, h2]
    · rw [(upperChar_eq_self_iff _).2 hl]

/-- a character that is no ASCII letter is left alone -/
theorem UpChar.eq_left {c d : Char} (h : UpChar c d) (hd : isAsciiAlpha d = false) : c = d := by
  rcases h with rfl | rfl
  · rfl
  · by_cases hl : 97 ≤ c.toNat ∧ c.toNat ≤ 122
    · have : isAsciiAlpha c = true := (isAsciiAlpha_iff c).2 (Or.inl hl)
      rw [UpChar.alpha (c := c) (Or.inr rfl), this] at hd; cases hd
    · exact ((upperChar_eq_self_iff _).2 hl).symm

theorem UpChar.eq_right {c d : Char} (h : UpChar c d) (hc : isAsciiAlpha c = false) : d = c := by
  have := h.alpha
  rw [hc] at this
  exact (h.eq_left this).symm

theorem UpChar.lower {c d : Char} (h : UpChar c d) : lowerChar d = lowerChar c := by
  rcases h with rfl | rfl
  · rfl
  · exact Ural.Py.lowerChar_upperChar c

theorem UpRel.refl (s : Str) : UpRel s s := by
  induction s with
  | nil => exact UpRel.nil
  | cons c cs ih => exact UpRel.cons (Or.inl rfl) ih

theorem UpRel.length {s t : Str} (h : UpRel s t) : s.length = t.length := by
  induction h with
  | nil => rfl
  | cons _ _ ih => simp [ih]

theorem UpRel.lower {s t : Str} (h : UpRel s t) : lower t = lower s := by
  induction h with
  | nil => rfl
  | cons hc _ ih => simp only [Py.lower, List.map_cons] at ih ⊢; rw [hc.lower, ih]

theorem UpRel.isEmpty {s t : Str} (h : UpRel s t) : s.isEmpty = t.isEmpty := by cases h <;> rfl

theorem UpRel.nil_right {s : Str} (h : UpRel s []) : s = [] := by cases h; rfl

theorem UpRel.nil_left {t : Str} (h : UpRel [] t) : t = [] := by cases h; rfl

theorem UpRel.eq_nil_iff {s t : Str} (h : UpRel s t) : s = [] ↔ t = [] :=
  ⟨fun e => by subst e; exact h.nil_left, fun e => by subst e; exact h.nil_right⟩

theorem UpRel.cons_right {s : Str} {d : Char} {y : Str} (h : UpRel s (d :: y)) :
    ∃ c s2, s = c :: s2 ∧ UpChar c d ∧ UpRel s2 y := by
  cases h with
  | cons hc hr => exact ⟨_, _, rfl, hc, hr⟩

theorem UpRel.append_right {s x y : Str} (h : UpRel s (x ++ y)) :
    ∃ s1 s2, s = s1 ++ s2 ∧ UpRel s1 x ∧ UpRel s2 y := by
  induction x generalizing s with
  | nil => exact ⟨[], s, rfl, UpRel.nil, h⟩
  | cons a x ih =>
    obtain ⟨c, s', rfl, hc, hr⟩ := UpRel.cons_right h
    obtain ⟨s1, s2, rfl, h1, h2⟩ := ih hr
    exact ⟨c :: s1, s2, rfl, UpRel.cons hc h1, h2⟩

theorem UpRel.append {s1 s2 x y : Str} (h1 : UpRel s1 x) (h2 : UpRel s2 y) : UpRel (s1 ++ s2) (x ++ y) := by
  induction h1 with
  | nil => exact h2
  | cons hc _ ih => exact UpRel.cons hc ih

/-- a separator (no ASCII letter) stands where it stood -/
theorem UpRel.sep_right {s : Str} {d : Char} {y : Str} (hd : isAsciiAlpha d = false)
    (h : UpRel s (d :: y)) : ∃ s2, s = d :: s2 ∧ UpRel s2 y := by
  obtain ⟨c, s2, rfl, hc, hr⟩ := UpRel.cons_right h
  rw [hc.eq_left hd]
  exact ⟨s2, rfl, hr⟩

theorem UpRel.mem_right {s t : Str} (h : UpRel s t) {c : Char} (hc : c ∈ s) : ∃ d ∈ t, UpChar c d := by
  induction h with
  | nil => simp at hc
  | cons hcd _ ih =>
    rcases List.mem_cons.1 hc with rfl | hc
    · exact ⟨_, by simp, hcd⟩
    · obtain ⟨d, hd, hu⟩ := ih hc
      exact ⟨d, List.mem_cons_of_mem _ hd, hu⟩

/-- a character that is no ASCII letter occurs on both sides or on neither -/
theorem UpRel.not_mem {s t : Str} (h : UpRel s t) {c : Char} (hc : isAsciiAlpha c = false)
    (ht : c ∉ t) : c ∉ s := by
  intro hm
  obtain ⟨d, hd, hu⟩ := h.mem_right hm
  rw [hu.eq_right hc] at hd
  exact ht hd

theorem UpRel.all_alpha {s t : Str} (h : UpRel s t) : s.all isAsciiAlpha = t.all isAsciiAlpha := by
  induction h with
  | nil => rfl
  | cons hc _ ih => simp only [List.all_cons, hc.alpha, ih]

theorem UpRel.eq_of_digits {s t : Str} (h : UpRel s t) (ht : t.all isAsciiDigit = true) : s = t := by
  induction h with
  | nil => rfl
  | cons hc _ ih =>
    simp only [List.all_cons, Bool.and_eq_true] at ht
    rw [hc.eq_left (digit_not_alpha ht.1), ih ht.2]

/-- the mask of `upper_quoted` -/
theorem upRel_applyMask : ∀ (s : Str) (m : List Bool), m.length = s.length → UpRel s (applyMask s m)
  | [], [], _ => UpRel.nil
  | [], _ :: _, h => by simp at h
  | _ :: _, [], h => by simp at h
  | c :: cs, b :: bs, h => by
    have ih := upRel_applyMask cs bs (by simpa using h)
    unfold applyMask at ih ⊢
    simp only [List.zipWith_cons_cons]
    refine UpRel.cons ?_ ih
    cases b
    · exact Or.inl rfl
    · exact Or.inr rfl

/-- **`upper_quoted` only upper-cases characters** -/
theorem upRel_upperQuoted (s : Str) : UpRel s (upperQuoted s) := by
  have e : upperQuoted s = applyMask s (upMask (tokens s)) := by
    unfold upperQuoted
    rw [render_map_upperTok, render_tokens]
  rw [e]
  apply upRel_applyMask
  rw [length_upMask, render_tokens]


theorem UpRel.startsWith {s t : Str} (h : UpRel s t) (p : Str) (hp : ∀ x ∈ p, isAsciiAlpha x = false) :
    startsWith s p = startsWith t p := by
  induction p generalizing s t with
  | nil => simp [startsWith_nil]
  | cons x p ih =>
    cases h with
    | nil => simp [startsWith_nil_cons]
    | cons hc hr =>
      rename_i c d s' t'
      rw [startsWith_cons_cons, startsWith_cons_cons, ih hr (fun y hy => hp y (List.mem_cons_of_mem _ hy))]
      have hx := hp x (by simp)
      have : (c == x) = (d == x) := by
        by_cases h1 : c = x
        · subst h1; rw [hc.eq_right hx]
        · have h2 : d ≠ x := by
            intro e; subst e; exact h1 (hc.eq_left hx)
          rw [beq_eq_false_iff_ne.2 h1, beq_eq_false_iff_ne.2 h2]
      rw [this]

theorem UpRel.takeWhile_alpha {s t : Str} (h : UpRel s t) :
    (s.takeWhile isAsciiAlpha).length = (t.takeWhile isAsciiAlpha).length ∧
    UpRel (s.dropWhile isAsciiAlpha) (t.dropWhile isAsciiAlpha) := by
  induction h with
  | nil => exact ⟨rfl, .nil⟩
  | cons hc hr ih =>
    rename_i c d s' t'
    simp only [List.takeWhile_cons, List.dropWhile_cons, hc.alpha]
    cases isAsciiAlpha c with
    | true => simp only [if_true, List.length_cons, ih.1]; exact ⟨trivial, ih.2⟩
    | false => simp only [Bool.false_eq_true, if_false]; exact ⟨trivial, .cons hc hr⟩

theorem UpRel.hasProtocol {s t : Str} (h : UpRel s t) : hasProtocol s = hasProtocol t := by
  unfold Normalize.hasProtocol Ural.protoLen
  obtain ⟨h1, h2⟩ := h.takeWhile_alpha
  simp only [h1]
  rw [h.startsWith ['/', '/'] (by decide), h2.startsWith [':', '/', '/'] (by decide)]

end Ural.C07
