import UralModel.Model.TldUrl
import UralModel.Lemmas.UrlRoundTrip
import UralModel.Lemmas.Protocol
import UralModel.Lemmas.StrSplit
import UralModel.Lemmas.Netloc
import UralModel.Lemmas.Builders
import UralModel.Lemmas.StrLit
/-!
# The string-level entry points (`Model/TldUrl.lean`): hypotheses and parser lemmas

The URL-string theorems of C08 and C09 speak of a URL *assembled* from a lead (`scheme://`, `//`
or nothing), an authority `userinfo@host:port` and an arbitrary rest.  Their hypotheses are
defined here, and what the modelled parser extracts from such a URL: the authority is found again
whatever the lead and the rest are, the bracket check and the NFKC check being the only sources of
`ValueError`, and its `.hostname` is the lower-cased host.
-/

namespace Ural.TldUrl
open Ural Ural.Py Ural.UrlRoundTrip

/-- equality of results is decidable (for the `decide`d examples) -/
instance instDecEqExceptTldUrl {ε α : Type} [DecidableEq ε] [DecidableEq α] :
    DecidableEq (Except ε α) := fun a b =>
  match a, b with
  | .ok x, .ok y => if h : x = y then isTrue (by rw [h]) else isFalse (by intro e; cases e; exact h rfl)
  | .error x, .error y =>
    if h : x = y then isTrue (by rw [h]) else isFalse (by intro e; cases e; exact h rfl)
  | .ok _, .error _ => isFalse (by intro e; cases e)
  | .error _, .ok _ => isFalse (by intro e; cases e)

/-! ## the hypotheses on the pieces -/

/-- an authority text as far as `_splitnetloc` is concerned: none of `/ ? #` (it would end the
authority), no tab / CR / LF (`urlsplit` deletes them) -/
def NetlocSyntax (nl : Str) : Prop :=
  ∀ c ∈ nl, isNetlocDelim c = false ∧ isUnsafeUrlChar c = false

/-- an authority text that `urlsplit` accepts as it stands: `NetlocSyntax`, and no character
whose NFKC form holds one of `/ ? # @ :` (`_checknetloc` raises `ValueError` on those:
`urlHost_lead_nfkc`) -/
def NetlocChars (nl : Str) : Prop :=
  ∀ c ∈ nl, isNetlocDelim c = false ∧ isUnsafeUrlChar c = false ∧ nfkcDelim c = false

theorem NetlocChars.syntax {nl : Str} (h : NetlocChars nl) : NetlocSyntax nl :=
  fun c hc => ⟨(h c hc).1, (h c hc).2.1⟩

theorem NetlocChars.nfkc {nl : Str} (h : NetlocChars nl) : nfkcRejects nl = false := by
  unfold nfkcRejects
  rw [List.any_eq_false]
  intro c hc
  simp [(h c hc).2.2]

/-- what follows the authority: nothing, or something starting with `/`, `?` or `#` -/
def RestOk (rest : Str) : Prop := ∀ c, rest.head? = some c → isNetlocDelim c = true

instance (nl : Str) : Decidable (NetlocChars nl) := by unfold NetlocChars; infer_instance
instance (nl : Str) : Decidable (NetlocSyntax nl) := by unfold NetlocSyntax; infer_instance
instance (rest : Str) : Decidable (RestOk rest) := by
  unfold RestOk
  cases rest with
  | nil => exact isTrue (by simp)
  | cons c r =>
    exact decidable_of_iff (isNetlocDelim c = true)
      ⟨fun h x hx => by simp at hx; rw [← hx]; exact h, fun h => h c rfl⟩

/-- the lead is well formed: a scheme is 1–64 ASCII letters (what `PROTOCOL_RE` recognises);
a scheme-less URL must not be mistaken for one with a scheme -/
def Lead.Ok (l : Lead) (tail : Str) : Prop :=
  match l with
  | .scheme sc => AlphaProto sc
  | .relative => True
  | .bare => protoLen tail = none

instance (l : Lead) (tail : Str) : Decidable (l.Ok tail) := by
  cases l <;> unfold Lead.Ok <;> infer_instance

/-! ## `urlsplit` finds the authority again -/

theorem netloc_of_some {o : Option SplitResult} {r : SplitResult} (h : o = some r) :
    o.map (·.netloc) = some r.netloc := by subst h; rfl

theorem netloc_of_auth (sch : Str) {nl rest : Str} (hnl : NetlocSyntax nl) (hrest : RestOk rest) :
    (splitRest sch ('/' :: '/' :: Sites.dropUnsafe (nl ++ rest))).map (·.netloc) =
      if netlocOk nl then some nl else none := by
  rw [splitRest_auth_unsafe sch hnl hrest]
  cases netlocOk nl <;> rfl

/-! ## `safe_urlsplit(url).hostname` on an assembled URL -/

theorem urlsplit_safeArg (url : Str) : urlsplit (safeArg url) [] = safe_urlsplit url := by
  unfold safeArg safe_urlsplit httpSep
  cases protoLen url <;> simp only [toList_lit] <;> rfl

theorem urlHost_of_netloc {url nl : Str}
    (h : (urlsplit (safeArg url) []).map (·.netloc) = if netlocOk nl then some nl else none) :
    urlHost url =
      if netlocOk nl && !nfkcRejects nl then .ok (hostname nl) else .error .valueError := by
  unfold urlHost safeUrlsplit
  cases hu : urlsplit (safeArg url) [] with
  | none =>
    rw [hu] at h
    cases hok : netlocOk nl
    · simp
    · rw [hok] at h; simp at h
  | some r =>
    rw [hu] at h
    cases hok : netlocOk nl
    · rw [hok] at h; simp at h
    · rw [hok] at h
      simp only [Option.map_some, if_true, Option.some.injEq] at h
      cases hn : nfkcRejects nl <;> simp [hostOf, h, hn]

/-- **The authority is found again.**  Whatever the lead (`scheme://` with an alphabetic
scheme, `//`, nothing) and whatever follows the authority, the hostname that
`safe_urlsplit(url).hostname` yields is `.hostname` of the authority text; the bracket check
and the NFKC check of `urlsplit` on that text are the only sources of `ValueError`. -/
theorem urlHost_lead' (l : Lead) (nl rest : Str) (hl : l.Ok (nl ++ rest)) (hnl : NetlocSyntax nl)
    (hrest : RestOk rest) :
    urlHost (l.str ++ nl ++ rest) =
      if netlocOk nl && !nfkcRejects nl then .ok (hostname nl) else .error .valueError := by
  apply urlHost_of_netloc
  rw [urlsplit_safeArg]
  cases l with
  | scheme sc =>
    have e : Lead.str (.scheme sc) ++ nl ++ rest = sc ++ ':' :: '/' :: '/' :: (nl ++ rest) := by simp [Lead.str]
    rw [e, safe_urlsplit_of_scheme hl]
    exact netloc_of_auth _ hnl hrest
  | relative =>
    have e : Lead.str .relative ++ nl ++ rest = '/' :: '/' :: (nl ++ rest) := by simp [Lead.str]
    rw [e, safe_urlsplit_of_slashes]
    exact netloc_of_auth _ hnl hrest
  | bare =>
    have e : Lead.str .bare ++ nl ++ rest = nl ++ rest := by simp [Lead.str]
    rw [e, safe_urlsplit_of_none hl]
    exact netloc_of_auth _ hnl hrest

theorem urlHost_lead (l : Lead) (nl rest : Str) (hl : l.Ok (nl ++ rest)) (hnl : NetlocChars nl)
    (hrest : RestOk rest) :
    urlHost (l.str ++ nl ++ rest) =
      if netlocOk nl then .ok (hostname nl) else .error .valueError := by
  rw [urlHost_lead' l nl rest hl hnl.syntax hrest, hnl.nfkc]
  simp

/-- an authority that holds an NFKC look-alike of a delimiter makes `urlsplit` raise, whatever
else it holds:
`http://ａ／b.com/` (U+FF0F FULLWIDTH SOLIDUS) is a `ValueError`, not the host `ａ／b.com` -/
theorem urlHost_lead_nfkc (l : Lead) (nl rest : Str) (hl : l.Ok (nl ++ rest))
    (hnl : NetlocSyntax nl) (hrest : RestOk rest) (hx : nfkcRejects nl = true) :
    urlHost (l.str ++ nl ++ rest) = .error .valueError := by
  rw [urlHost_lead' l nl rest hl hnl hrest, hx]
  simp

/-! ## `.hostname` of `userinfo@host:port` -/

/-- a host text as it stands between `@` and `:port`: non-empty, none of `@ : [ ] %` -/
def HostChars (host : Str) : Prop :=
  host ≠ [] ∧ '@' ∉ host ∧ ':' ∉ host ∧ '[' ∉ host ∧ ']' ∉ host ∧ '%' ∉ host

/-- a port text: no `@`, no brackets (digits or not: `.hostname` does not look) -/
def PortChars (port : Option Str) : Prop := ∀ p, port = some p → '@' ∉ p ∧ '[' ∉ p ∧ ']' ∉ p

/-- a userinfo text: no brackets (`@` and `:` are allowed) -/
def UiChars (ui : Option Str) : Prop := ∀ u, ui = some u → '[' ∉ u ∧ ']' ∉ u

instance (host : Str) : Decidable (HostChars host) := by unfold HostChars; infer_instance
instance (port : Option Str) : Decidable (PortChars port) := by
  unfold PortChars
  cases port with
  | none => exact isTrue (by simp)
  | some p =>
    exact decidable_of_iff ('@' ∉ p ∧ '[' ∉ p ∧ ']' ∉ p)
      ⟨fun h q hq => by cases hq; exact h, fun h => h p rfl⟩
instance (ui : Option Str) : Decidable (UiChars ui) := by
  unfold UiChars
  cases ui with
  | none => exact isTrue (by simp)
  | some p =>
    exact decidable_of_iff ('[' ∉ p ∧ ']' ∉ p)
      ⟨fun h q hq => by cases hq; exact h, fun h => h p rfl⟩

theorem netlocOf_none (host : Str) : netlocOf none host none = host := by
  simp [netlocOf, uiPart, portPart]

theorem reads_netlocOf (ui : Option Str) (host : Str) (port : Option Str)
    (hh : HostChars host) (hp : PortChars port) :
    Netloc.Reads (netlocOf ui host port) ui false host port := by
  have e : netlocOf ui host port = Netloc.pre ui ++ (host ++ Netloc.colon port) :=
    List.append_assoc _ _ _
  obtain ⟨_, hat, hcolon, hlbr, _, _⟩ := hh
  rw [e]
  exact .of_plain ui port ⟨hat, hcolon, hlbr⟩ fun p e => ⟨(hp p e).1, (hp p e).2.1⟩

/-- **`.hostname` of `userinfo@host:port` is the lower-cased host** -/
theorem hostname_netlocOf (ui : Option Str) (host : Str) (port : Option Str)
    (hh : HostChars host) (hp : PortChars port) :
    hostname (netlocOf ui host port) = some (lower host) := by
  have ⟨hne, _, _, _, _, hpct⟩ := hh
  rw [(reads_netlocOf ui host port hh hp).hostname, if_neg hne, Netloc.lowerHost_of_no_pct hpct]

theorem contains_false_of_not_mem {c : Char} {s : Str} (h : c ∉ s) : s.contains c = false :=
  Py.contains_false_of_not_mem h

/-- without brackets the bracket check of `urlsplit` passes -/
theorem netlocOk_netlocOf (ui : Option Str) (host : Str) (port : Option Str)
    (hu : UiChars ui) (hh : HostChars host) (hp : PortChars port) :
    netlocOk (netlocOf ui host port) = true :=
  have ⟨_, _, _, _, hrbr, _⟩ := hh
  (reads_netlocOf ui host port hh hp).netlocOk_plain rfl hu hrbr fun p e => (hp p e).2.2

theorem urlHost_assemble (l : Lead) (ui : Option Str) (host : Str) (port : Option Str)
    (rest : Str) (hl : l.Ok (netlocOf ui host port ++ rest)) (hu : UiChars ui)
    (hh : HostChars host) (hp : PortChars port) (hc : NetlocChars (netlocOf ui host port))
    (hr : RestOk rest) :
    urlHost (assemble l ui host port rest) = .ok (some (lower host)) := by
  unfold assemble
  rw [urlHost_lead l _ rest hl hc hr, netlocOk_netlocOf ui host port hu hh hp,
    hostname_netlocOf ui host port hh hp]
  rfl

/-! ## a bracketed host (IP literal): `userinfo@[h]:port` -/

/-- `userinfo@[h]:port` -/
def netlocBr (ui : Option Str) (h : Str) (port : Option Str) : Str :=
  uiPart ui ++ '[' :: (h ++ ']' :: portPart port)

/-- the text between the brackets: none of `@ [ ]` -/
def BrChars (h : Str) : Prop := '@' ∉ h ∧ '[' ∉ h ∧ ']' ∉ h

instance (h : Str) : Decidable (BrChars h) := by unfold BrChars; infer_instance

theorem reads_netlocBr (ui : Option Str) (h : Str) (port : Option Str)
    (hh : BrChars h) (hp : PortChars port) : Netloc.Reads (netlocBr ui h port) ui true h port := by
  have e : netlocBr ui h port = Netloc.pre ui ++ ('[' :: (h ++ [']']) ++ Netloc.colon port) := by
    simp [netlocBr]; rfl
  rw [e]
  exact .of_bracketed ui port ⟨hh.1, hh.2.2⟩ fun p e => (hp p e).1

/-- `.hostname` of `userinfo@[h]:port` is `h` (lower-cased up to a `%zone`), `None` for `[]` -/
theorem hostname_netlocBr (ui : Option Str) (h : Str) (port : Option Str)
    (hh : BrChars h) (hp : PortChars port) :
    hostname (netlocBr ui h port) = if h = [] then none else some (lowerHost h) :=
  (reads_netlocBr ui h port hh hp).hostname

/-- the bracket check of `urlsplit` on `userinfo@[h]:port` is the check of `h` -/
theorem netlocOk_netlocBr (ui : Option Str) (h : Str) (port : Option Str)
    (hu : UiChars ui) (hh : BrChars h) (hp : PortChars port) :
    netlocOk (netlocBr ui h port) = bracketedHostOk h :=
  (reads_netlocBr ui h port hh hp).netlocOk_bracketed rfl fun u e => (hu u e).1

/-! ## when a scheme-less URL is not mistaken for one with a scheme -/

/-- **A scheme-less `authority rest` is not mistaken for a URL with a scheme** as soon as the
authority is not empty and the rest does not start with `//` (the one ambiguous spelling is
`letters://…`, i.e. an authority `letters:` followed by a path `//…`). -/
theorem protoLen_bare (nl rest : Str) (hne : nl ≠ []) (hnl : ∀ c ∈ nl, isNetlocDelim c = false)
    (hrest : RestOk rest) (h2 : startsWith rest ['/', '/'] = false) :
    protoLen (nl ++ rest) = none :=
  (protoLen_urlParts _).symm.trans (UrlParts.protoLen_netloc_none hne hnl hrest (Or.inr h2))

/-- a host text (no `/`, `:` …) given bare is not mistaken for a URL with a scheme -/
theorem bare_host_ok (host : Str) (hh : HostChars host) (hc : NetlocChars host) :
    Lead.Ok .bare (netlocOf none host none ++ []) := by
  rw [netlocOf_none]
  exact protoLen_bare host [] hh.1 (fun c h => (hc c h).1) (fun _ h => nomatch h) rfl

/-- `HostChars` survives a trailing dot -/
theorem hostChars_dot (host : Str) (hh : HostChars host) : HostChars (host ++ ['.']) := by
  obtain ⟨h0, h1, h2, h3, h4, h5⟩ := hh
  refine ⟨by simp, ?_, ?_, ?_, ?_, ?_⟩ <;>
    (simp only [List.mem_append, List.mem_cons, List.not_mem_nil, or_false, not_or]
     refine ⟨by assumption, by decide⟩)

end Ural.TldUrl
