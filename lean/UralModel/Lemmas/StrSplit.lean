import UralModel.Lemmas.Str
/-!
# `s.split(c, 1)` / `s.rsplit(c, 1)`, `strip(chars)`, and the dot-directed operations

`splitFirst` and `splitLast` each have a case principle (`splitFirst_cases`, `splitLast_cases`) from which their other
facts follow; the section "dots and `lower`" is what C08 needs of the `str` prelude: `lower` versus `lstrip(".")`,
`rstrip(".")`, `rsplit(".", 1)`.  The file closes with `Props.C13.head_lower`, stated in the namespace of `Props/C13`.
-/
namespace Ural.Py

/-! ## `splitFirst` (`s.split(c, 1)` / `s.partition(c)`) -/

theorem splitFirst_nil (sep : Char) : splitFirst [] sep = ([], none) := by
  simp [splitFirst, span_eq]

theorem splitFirst_cons (c sep : Char) (s : Str) :
    splitFirst (c :: s) sep =
      if c = sep then ([], some s) else (c :: (splitFirst s sep).1, (splitFirst s sep).2) := by
  unfold splitFirst
  rw [span_eq, span_eq]
  by_cases h : c = sep
  · simp [h]
  · simp only [if_neg h]
    rw [List.takeWhile_cons_of_pos (by simpa using h), List.dropWhile_cons_of_pos (by simpa using h)]
    cases List.dropWhile (fun x => decide (x ≠ sep)) s <;> rfl

/-- no separator: `(s, None)` -/
theorem splitFirst_notMem (s : Str) (sep : Char) (h : sep ∉ s) : splitFirst s sep = (s, none) := by
  induction s with
  | nil => exact splitFirst_nil sep
  | cons c s ih =>
    have hc : c ≠ sep := fun e => h (by simp [e])
    have hs : sep ∉ s := fun e => h (by simp [e])
    rw [splitFirst_cons, if_neg hc, ih hs]

/-- a separator-free prefix is carried over -/
theorem splitFirst_append_left (a x : Str) (sep : Char) (h : sep ∉ a) :
    splitFirst (a ++ x) sep = (a ++ (splitFirst x sep).1, (splitFirst x sep).2) := by
  induction a with
  | nil => simp
  | cons c a ih =>
    have hc : c ≠ sep := fun e => h (by simp [e])
    have hs : sep ∉ a := fun e => h (by simp [e])
    rw [List.cons_append, splitFirst_cons, if_neg hc, ih hs]
    simp

/-- the first separator splits -/
theorem splitFirst_append_sep (a b : Str) (sep : Char) (h : sep ∉ a) :
    splitFirst (a ++ sep :: b) sep = (a, some b) := by
  rw [splitFirst_append_left a _ sep h, splitFirst_cons, if_pos rfl]
  simp

theorem splitFirst_cases (s : Str) (sep : Char) :
    (sep ∉ s ∧ splitFirst s sep = (s, none)) ∨
    ∃ a b, sep ∉ a ∧ s = a ++ sep :: b ∧ splitFirst s sep = (a, some b) := by
  by_cases h : sep ∈ s
  · obtain ⟨a, b, rfl, ha⟩ := List.eq_append_cons_of_mem h
    exact .inr ⟨a, b, ha, rfl, splitFirst_append_sep a b sep ha⟩
  · exact .inl ⟨h, splitFirst_notMem s sep h⟩

/-- what `splitFirst` returns is a decomposition of the string -/
theorem splitFirst_spec (s : Str) (sep : Char) :
    sep ∉ (splitFirst s sep).1 ∧
    (match (splitFirst s sep).2 with
     | none => s = (splitFirst s sep).1
     | some b => s = (splitFirst s sep).1 ++ sep :: b) := by
  rcases splitFirst_cases s sep with ⟨hn, e⟩ | ⟨a, b, ha, rfl, e⟩ <;> rw [e]
  · exact ⟨hn, rfl⟩
  · exact ⟨ha, rfl⟩

theorem splitFirst_fst_prefix (s : Str) (sep : Char) : (splitFirst s sep).1 <+: s := by
  rcases splitFirst_cases s sep with ⟨_, e⟩ | ⟨a, b, _, rfl, e⟩ <;> rw [e]
  · exact List.prefix_refl _
  · exact List.prefix_append _ _

theorem splitFirst_snd_suffix (s : Str) (sep : Char) : (splitFirst s sep).2.getD [] <:+ s := by
  rcases splitFirst_cases s sep with ⟨_, e⟩ | ⟨a, b, _, rfl, e⟩ <;> rw [e]
  · exact List.nil_suffix
  · exact ⟨a ++ [sep], by simp⟩

theorem splitFirst_fst_subset (s : Str) (sep : Char) : (splitFirst s sep).1 ⊆ s :=
  (splitFirst_fst_prefix s sep).subset

theorem splitFirst_snd_subset (s : Str) (sep : Char) : (splitFirst s sep).2.getD [] ⊆ s :=
  (splitFirst_snd_suffix s sep).subset

theorem splitFirst_shape (sep : Char) (x y : Str) :
    (∃ k v, v <:+ x ∧ ∀ m, splitFirst (x ++ (m ++ y)) sep = (k, some (v ++ (m ++ y)))) ∨
    (∃ s o, ∀ m, sep ∉ m → splitFirst (x ++ (m ++ y)) sep = (x ++ (m ++ s), o)) := by
  rcases splitFirst_cases x sep with ⟨hx, _⟩ | ⟨k, v, hk, rfl, _⟩
  · refine Or.inr ⟨(splitFirst y sep).1, (splitFirst y sep).2, fun m hm => ?_⟩
    rw [splitFirst_append_left _ _ sep hx, splitFirst_append_left m _ sep hm]
  · refine Or.inl ⟨k, v, ⟨k ++ [sep], by simp⟩, fun m => ?_⟩
    rw [List.append_assoc, List.cons_append, splitFirst_append_sep _ _ _ hk]

/-- `sep + b` for `some b`, nothing for `none`: what `splitFirst` cut off, written back -/
def sepSuffix (sep : Char) (o : Option Str) : Str :=
  match o with
  | some b => sep :: b
  | none => []

theorem splitFirst_rejoin (s : Str) (sep : Char) :
    (splitFirst s sep).1 ++ sepSuffix sep (splitFirst s sep).2 = s := by
  rcases splitFirst_cases s sep with ⟨_, e⟩ | ⟨a, b, _, rfl, e⟩ <;> rw [e]
  · exact List.append_nil _
  · rfl

theorem splitFirst_append_sepSuffix (a : Str) (o : Option Str) (sep : Char) (h : sep ∉ a) :
    splitFirst (a ++ sepSuffix sep o) sep = (a, o) := by
  cases o with
  | none => exact (congrArg (splitFirst · sep) (List.append_nil a)).trans (splitFirst_notMem a sep h)
  | some b => exact splitFirst_append_sep a b sep h

/-! ## `splitLast` (`s.rsplit(c, 1)` / `s.rpartition(c)`): `splitFirst` on the reversed string -/

theorem splitLast_eq_reverse (s : Str) (sep : Char) :
    splitLast s sep = (((splitFirst s.reverse sep).2).map List.reverse, (splitFirst s.reverse sep).1.reverse) := by
  unfold splitLast splitFirst
  cases h : s.reverse.span (· ≠ sep) with
  | mk b r => cases r <;> rfl

theorem splitLast_cases (s : Str) (sep : Char) :
    (sep ∉ s ∧ splitLast s sep = (none, s)) ∨
    ∃ a b, sep ∉ b ∧ s = a ++ sep :: b ∧ splitLast s sep = (some a, b) := by
  rw [splitLast_eq_reverse]
  rcases splitFirst_cases s.reverse sep with ⟨hn, e⟩ | ⟨b, a, hb, hs, e⟩
  · exact .inl ⟨by simpa using hn, by rw [e]; simp⟩
  · refine .inr ⟨a.reverse, b.reverse, by simpa using hb, ?_, by rw [e]; rfl⟩
    have := congrArg List.reverse hs
    simpa using this

theorem splitLast_spec (s : Str) (sep : Char) :
    (∀ a, (splitLast s sep).1 = some a → s = a ++ sep :: (splitLast s sep).2) ∧
    ((splitLast s sep).1 = none → (splitLast s sep).2 = s) := by
  rcases splitLast_cases s sep with ⟨_, e⟩ | ⟨a, b, _, rfl, e⟩ <;> rw [e]
  · exact ⟨fun _ h => (nomatch h), fun _ => rfl⟩
  · exact ⟨fun _ h => by cases h; rfl, fun h => (nomatch h)⟩

theorem splitLast_of_not_mem (s : Str) (sep : Char) (h : sep ∉ s) : splitLast s sep = (none, s) := by
  rcases splitLast_cases s sep with ⟨_, e⟩ | ⟨a, b, _, rfl, _⟩
  · exact e
  · exact absurd (by simp) h

theorem splitLast_append_cons (sep : Char) (a b : Str) (h : sep ∉ b) :
    splitLast (a ++ sep :: b) sep = (some a, b) := by
  have e : (a ++ sep :: b).reverse = b.reverse ++ sep :: a.reverse := by simp
  rw [splitLast_eq_reverse, e, splitFirst_append_sep _ _ _ (by simpa using h)]
  simp

theorem splitOn_shape (sep : Char) (y x : Str) :
    ∃ (A B : List Str) (p s : Str), (A = [] → p = x) ∧ p <:+ x ∧
      ∀ m, sep ∉ m → splitOn (x ++ (m ++ y)) sep = A ++ (p ++ (m ++ s)) :: B := by
  -- `s`: `y` up to its first separator; `p`: `x` behind its last
  obtain ⟨s, B, hy⟩ : ∃ s B, ∀ w, sep ∉ w → splitOn (w ++ y) sep = (w ++ s) :: B := by
    rcases splitFirst_cases y sep with ⟨hys, _⟩ | ⟨k, v, hk, rfl, _⟩
    · exact ⟨y, [], fun w hw => splitOn_of_not_mem sep _ (by simp [hw, hys])⟩
    · exact ⟨k, splitOn v sep, fun w hw => by
        rw [← List.append_assoc]; exact splitOn_append_sep sep _ _ (by simp [hw, hk])⟩
  rcases splitLast_cases x sep with ⟨hx, _⟩ | ⟨a, p, hp, rfl, _⟩
  · refine ⟨[], B, x, s, fun _ => rfl, List.suffix_refl _, fun m hm => ?_⟩
    rw [← List.append_assoc, hy _ (by simp [hx, hm])]; simp
  · refine ⟨splitOn a sep, B, p, s, fun h => absurd h (splitOn_ne_nil a sep), ⟨a ++ [sep], by simp⟩,
      fun m hm => ?_⟩
    rw [List.append_assoc, List.cons_append, splitOn_append, ← List.append_assoc,
      hy _ (by simp [hp, hm])]; simp

/-! ## `lstrip(chars)` / `rstrip(chars)` -/

theorem lstripChars_head (s : Str) (cs : List Char) :
    ∀ c rest, lstripChars s cs = c :: rest → c ∉ cs := by
  intro c rest h
  have := List.head?_dropWhile_not (fun x => cs.contains x) s
  rw [show s.dropWhile (fun x => cs.contains x) = c :: rest from h] at this
  simpa using this

theorem lstripChars_suffix (s : Str) (cs : List Char) : lstripChars s cs <:+ s := by
  unfold lstripChars
  exact List.dropWhile_suffix _

theorem rstripChars_last (s : Str) (cs : List Char) :
    ∀ c pre, rstripChars s cs = pre ++ [c] → c ∉ cs := fun c pre h => by
  simpa using rstripBy_last (cs.contains ·) s c (by rw [← rstripChars_eq_rstripBy, h]; simp)

theorem splitOn_ne_nil_c08 (s : Str) (sep : Char) : splitOn s sep ≠ [] := splitOn_ne_nil s sep

/-! ## dots and `lower` -/

theorem not_mem_lower_dot (s : Str) (h : '.' ∉ s) : '.' ∉ lower s :=
  fun hm => h (mem_of_mem_lower (by decide) hm)

theorem comp_lowerChar_of_dot {f : Char → Bool}
    (hf : ∀ c d : Char, (c = '.' ↔ d = '.') → f c = f d) : f ∘ lowerChar = f :=
  funext fun c => hf _ _ (lowerChar_eq_dot c)

theorem contains_dot_lowerChar :
    ((fun x => ['.'].contains x) ∘ lowerChar) = (fun x => ['.'].contains x) :=
  comp_lowerChar_of_dot fun c d h => by simp [h]

theorem ne_dot_lowerChar :
    ((fun x => decide (x ≠ '.')) ∘ lowerChar) = (fun x => decide (x ≠ '.')) :=
  comp_lowerChar_of_dot fun c d h => by simp [h]

theorem lstripChars_dot_lower (s : Str) :
    lstripChars (lower s) ['.'] = lower (lstripChars s ['.']) := by
  simp only [lstripChars, lower, List.dropWhile_map, contains_dot_lowerChar]

theorem lstripChars_of_not_mem {d : Char} (s : Str) (h : d ∉ s) : lstripChars s [d] = s := by
  cases s with
  | nil => rfl
  | cons c cs =>
    have : ¬ c = d := fun e => h (by simp [e])
    simp [lstripChars, this]

theorem rstripChars_append_self (s : Str) (c : Char) : rstripChars (s ++ [c]) [c] = rstripChars s [c] := by
  simp [rstripChars]

/-- second component of `rsplit(sep, 1)` -/
theorem splitLast_snd (s : Str) (sep : Char) :
    (splitLast s sep).2 = (s.reverse.takeWhile (· ≠ sep)).reverse := by
  unfold splitLast
  rw [span_eq]
  cases List.dropWhile (fun x => decide (x ≠ sep)) s.reverse <;> rfl

theorem splitLast_snd_lower (s : Str) :
    (splitLast (lower s) '.').2 = lower (splitLast s '.').2 := by
  rw [splitLast_snd, splitLast_snd]
  simp only [lower, ← List.map_reverse, List.takeWhile_map, ne_dot_lowerChar]

theorem splitLast_snd_not_mem (s : Str) (sep : Char) : sep ∉ (splitLast s sep).2 := by
  rcases splitLast_cases s sep with ⟨hn, e⟩ | ⟨a, b, hb, _, e⟩ <;> rw [e] <;> assumption

theorem rstrip_dot_id {s : Str} (h : s.getLast? ≠ some '.') : rstripChars s ['.'] = s := by
  simpa using rstripChars_unique (m := s) (b := []) (cs := ['.']) (by simp)
    fun c hc hm => h (List.mem_singleton.1 hm ▸ hc)

theorem getLast_lower {s : Str} (h : s.getLast? ≠ some '.') : (lower s).getLast? ≠ some '.' := by
  intro e
  apply h
  simp only [lower, List.getLast?_map, Option.map_eq_some_iff] at e
  obtain ⟨c, hc, hd⟩ := e
  rw [hc, (lowerChar_eq_dot c).1 hd]

theorem getLast_append_cons (a : Str) (c : Char) (b : Str) (hb : b ≠ []) :
    (a ++ c :: b).getLast? = b.getLast? := by
  rw [List.append_cons, getLast?_append_of_ne_nil hb]

theorem mem_of_mem_rstripChars {s : Str} {cs : List Char} {c : Char} (h : c ∈ rstripChars s cs) :
    c ∈ s := (rstripBy_prefix _ s).subset h

theorem join_append_empty {sep : Str} (ls : List Str) (hne : ls ≠ []) :
    join sep (ls ++ [[]]) = join sep ls ++ sep := by
  rw [join_append _ _ _ hne (by simp)]; simp [join]

end Ural.Py

namespace Ural.Props.C13
open Ural Ural.Py

theorem head_lower {s : Str} (h : s.head? ≠ some '.') : (lower s).head? ≠ some '.' := by
  intro e
  apply h
  simp only [lower, List.head?_map, Option.map_eq_some_iff] at e
  obtain ⟨c, hc, hd⟩ := e
  rw [hc, (lowerChar_eq_dot c).1 hd]

end Ural.Props.C13
