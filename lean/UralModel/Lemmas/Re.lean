import UralModel.Py.Re
/-!
# Lemmas about the regular-expression framework (`Py/Re.lean`)

The executable matcher computes the denotational semantics `Match` (`matchEnds_sound`,
`matchEnds_complete` for `noNullRep` patterns); language lemmas by induction on the word a match
reads (`Match.word_induction`), among them widening of classes (`Re.sub`, `Match.mono`); a pattern
as the flat list of its top-level sequence (`spine`, `MatchL`, `match_iff_spine`); the `finditer`
scanner (`Chain`, `scan_chain`, `scan_fuel_sufficient`) and `InOrder ys s`, "the `ys` occur in `s`
as disjoint substrings in this order", in which C16 states what `urls_from_text` yields.
-/
namespace Ural.Py

namespace CharClass

theorem inRanges_iff (rs : List (Nat × Nat)) (n : Nat) :
    inRanges rs n = true ↔ ∃ r ∈ rs, r.1 ≤ n ∧ n ≤ r.2 := by
  simp [inRanges, List.any_eq_true]

theorem sub_sound_code {C D : CharClass} (h : C.sub D = true) {n : Nat}
    (hc : (C.neg != inRanges C.ranges n) = true) : (D.neg != inRanges D.ranges n) = true := by
  obtain ⟨cn, cr⟩ := C
  obtain ⟨dn, dr⟩ := D
  cases cn <;> cases dn <;> simp only [sub] at *
  · -- pos ⊆ pos
    simp only [Bool.false_bne] at *
    rw [inRanges_iff] at *
    obtain ⟨r, hr, h1, h2⟩ := hc
    rw [List.all_eq_true] at h
    have := h r hr
    rw [List.any_eq_true] at this
    obtain ⟨r', hr', h'⟩ := this
    simp only [Bool.and_eq_true, decide_eq_true_eq] at h'
    exact ⟨r', hr', by omega, by omega⟩
  · -- pos ⊆ neg
    simp only [Bool.false_bne, Bool.true_bne, Bool.not_eq_true'] at *
    rw [inRanges_iff] at hc
    obtain ⟨r, hr, h1, h2⟩ := hc
    rw [List.all_eq_true] at h
    have h3 := h r hr
    rw [List.all_eq_true] at h3
    cases hd : inRanges dr n
    · rfl
    · rw [inRanges_iff] at hd
      obtain ⟨r', hr', h1', h2'⟩ := hd
      have := h3 r' hr'
      simp only [Bool.or_eq_true, decide_eq_true_eq] at this
      omega
  · -- neg ⊆ pos: never claimed
    simp at h
  · -- neg ⊆ neg
    simp only [Bool.true_bne, Bool.not_eq_true'] at *
    cases hd : inRanges dr n
    · rfl
    · rw [inRanges_iff] at hd
      obtain ⟨r', hr', h1', h2'⟩ := hd
      rw [List.all_eq_true] at h
      have := h r' hr'
      rw [List.any_eq_true] at this
      obtain ⟨r, hr, h'⟩ := this
      simp only [Bool.and_eq_true, decide_eq_true_eq] at h'
      have : inRanges cr n = true := by
        rw [inRanges_iff]; exact ⟨r, hr, by omega, by omega⟩
      simp [this] at hc

theorem sub_sound {C D : CharClass} (h : C.sub D = true) {c : Char} (hc : C.mem c = true) :
    D.mem c = true := sub_sound_code h hc

theorem avoids_sound {C : CharClass} {ns : List Nat} (h : C.avoids ns = true) {c : Char}
    (hc : C.mem c = true) : c.toNat ∉ ns := by
  intro hin
  simp only [avoids, List.all_eq_true] at h
  have := h _ hin
  simp only [mem] at hc
  simp [hc] at this

/-- one test per pair of ranges decides `avoids`, whose own evaluation makes one per point and range -/
theorem avoids_of_sub {C : CharClass} {R : List (Nat × Nat)} {ns : List Nat}
    (h : C.sub ⟨true, R⟩ = true) (hns : ns.all (inRanges R) = true) : C.avoids ns = true := by
  simp only [avoids, List.all_eq_true, beq_iff_eq] at hns ⊢
  intro n hn
  cases hc : (C.neg != inRanges C.ranges n)
  · rfl
  · have := sub_sound_code h hc
    simp [hns n hn] at this

theorem mem_points {C : CharClass} {ds : List Char}
    (hC : C = ⟨false, ds.map fun d => (d.toNat, d.toNat)⟩) {c : Char} : C.mem c = true ↔ c ∈ ds := by
  subst hC
  simp only [mem, Bool.false_bne, inRanges_iff, List.mem_map]
  constructor
  · rintro ⟨r, ⟨d, hd, rfl⟩, h1, h2⟩
    rwa [Char.toNat_inj.1 (Nat.le_antisymm h2 h1)]
  · intro h
    exact ⟨_, ⟨c, h, rfl⟩, Nat.le_refl _, Nat.le_refl _⟩

theorem mem_single (c d : Char) : (single c).mem d = true ↔ d = c :=
  (mem_points (ds := [c]) rfl).trans List.mem_singleton

end CharClass

namespace Re

/-! ## basic facts about `Match` -/

theorem Match.word_induction {motive : Re → List Char → Prop}
    (eps : motive .eps []) (bos : motive .bos []) (eos : motive .eos [])
    (cls : ∀ C c, C.mem c = true → motive (.cls C) [c])
    (seq : ∀ {p q w1 w2}, motive p w1 → motive q w2 → motive (.seq p q) (w1 ++ w2))
    (altL : ∀ {p q w}, motive p w → motive (.alt p q) w)
    (altR : ∀ {p q w}, motive q w → motive (.alt p q) w)
    (repStop : ∀ {p hi g}, motive (.rep p 0 hi g) [])
    (repStep : ∀ {p lo hi g w1 w2}, hi ≠ some 0 → motive p w1 →
      motive (.rep p (lo - 1) (decHi hi) g) w2 → motive (.rep p lo hi g) (w1 ++ w2))
    {n r s t} (h : Match n r s t) : ∃ w, s = w ++ t ∧ motive r w := by
  induction h with
  | eps s => exact ⟨[], rfl, eps⟩
  | cls C c s hc => exact ⟨[c], rfl, cls C c hc⟩
  | seq _ _ ih1 ih2 =>
    obtain ⟨w1, rfl, m1⟩ := ih1
    obtain ⟨w2, rfl, m2⟩ := ih2
    exact ⟨w1 ++ w2, (List.append_assoc ..).symm, seq m1 m2⟩
  | altL _ ih =>
    obtain ⟨w, e, m⟩ := ih
    exact ⟨w, e, altL m⟩
  | altR _ ih =>
    obtain ⟨w, e, m⟩ := ih
    exact ⟨w, e, altR m⟩
  | repStop s => exact ⟨[], rfl, repStop⟩
  | repStep hhi _ _ ih1 ih2 =>
    obtain ⟨w1, rfl, m1⟩ := ih1
    obtain ⟨w2, rfl, m2⟩ := ih2
    exact ⟨w1 ++ w2, (List.append_assoc ..).symm, repStep hhi m1 m2⟩
  | bos s _ => exact ⟨[], rfl, bos⟩
  | eosEnd => exact ⟨[], rfl, eos⟩
  | eosNl => exact ⟨[], rfl, eos⟩

theorem Match.suffix {n r s t} (h : Match n r s t) : ∃ w, s = w ++ t := by
  obtain ⟨w, e, _⟩ := h.word_induction (motive := fun _ _ => True) trivial trivial trivial
    (fun _ _ _ => trivial) (fun _ _ => trivial) (fun _ => trivial) (fun _ => trivial) trivial
    (fun _ _ _ => trivial)
  exact ⟨w, e⟩

theorem Match.isSuffix {n r s t} (h : Match n r s t) : t <:+ s := by
  obtain ⟨w, rfl⟩ := h.suffix
  exact List.suffix_append w t

theorem Match.length_le {n r s t} (h : Match n r s t) : t.length ≤ s.length := by
  obtain ⟨w, rfl⟩ := h.suffix
  simp

/-- a pattern that is not (syntactically) nullable consumes at least one character -/
theorem Match.progress {n r s t} (h : Match n r s t) (hn : nullable r = false) :
    t.length < s.length := by
  induction h with
  | eps s => simp [nullable] at hn
  | cls C c s _ => simp
  | seq h1 h2 ih1 ih2 =>
    simp only [nullable, Bool.and_eq_false_iff] at hn
    have l1 := h1.length_le
    have l2 := h2.length_le
    rcases hn with hn | hn
    · have := ih1 hn; omega
    · have := ih2 hn; omega
  | altL _ ih =>
    simp only [nullable, Bool.or_eq_false_iff] at hn
    exact ih hn.1
  | altR _ ih =>
    simp only [nullable, Bool.or_eq_false_iff] at hn
    exact ih hn.2
  | repStop s => simp [nullable] at hn
  | repStep _ h1 h2 ih1 _ =>
    simp only [nullable, Bool.or_eq_false_iff] at hn
    have := ih1 hn.2
    have := h2.length_le
    omega
  | bos s _ => simp [nullable] at hn
  | eosEnd => simp [nullable] at hn
  | eosNl => simp [nullable] at hn

/-- `p ⊆ p?` -/
theorem Match.opt_intro {n p s t} (h : Match n p s t) : Match n (opt p) s t :=
  Match.repStep (by simp) h (Match.repStop t)

theorem Match.opt_skip {n p} (s : List Char) : Match n (opt p) s s := Match.repStop s

/-- `Lang (seq p b) ⊆ Lang (seq (opt p) b)`, at the level of `Match` -/
theorem Match.seq_opt {n p b s t} (h : Match n (.seq p b) s t) : Match n (.seq (opt p) b) s t := by
  cases h with
  | seq h1 h2 => exact Match.seq h1.opt_intro h2

/-! ## soundness of the executable matcher -/

theorem mem_repEnds {step : List Char → List (List Char)} {g : Bool} {lo : Nat} {hi : Option Nat}
    {s t : List Char} : ∀ {fuel : Nat}, t ∈ repEnds step g fuel lo hi s ↔
      (lo = 0 ∧ t = s) ∨ ∃ f, fuel = f + 1 ∧ hi ≠ some 0 ∧
        ∃ m ∈ step s, m.length < s.length ∧ t ∈ repEnds step g f (lo - 1) (decHi hi) m
  | 0 => by
    simp only [repEnds]
    split <;> simp [*]
  | f + 1 => by
    simp only [repEnds]
    split
    · split <;> simp [*]
    · have : ∀ x, x ∈ (if lo = 0 then [s] else []) ↔ lo = 0 ∧ x = s := fun x => by split <;> simp [*]
      cases g <;> simp [*, List.mem_flatMap, List.mem_filter, and_assoc, or_comm]

theorem repEnds_sound {n p g} (step : List Char → List (List Char))
    (hstep : ∀ s t, t ∈ step s → Match n p s t) :
    ∀ fuel lo hi s t, t ∈ repEnds step g fuel lo hi s → Match n (.rep p lo hi g) s t := by
  intro fuel
  induction fuel with
  | zero =>
    intro lo hi s t h
    rcases mem_repEnds.mp h with ⟨rfl, rfl⟩ | ⟨f, hf, _⟩
    · exact Match.repStop _
    · cases hf
  | succ fuel ih =>
    intro lo hi s t h
    rcases mem_repEnds.mp h with ⟨rfl, rfl⟩ | ⟨f, hf, hhi, m, hm, _, ht⟩
    · exact Match.repStop _
    · cases hf
      exact Match.repStep hhi (hstep _ _ hm) (ih _ _ _ _ ht)

/-- every remainder the matcher returns is a genuine match -/
theorem matchEnds_sound {n r} : ∀ {s t}, t ∈ matchEnds n r s → Match n r s t := by
  induction r with
  | empty => intro s t h; simp [matchEnds] at h
  | eps =>
    intro s t h
    simp only [matchEnds, List.mem_singleton] at h; subst h; exact Match.eps _
  | cls C =>
    intro s t h
    cases s with
    | nil => simp [matchEnds] at h
    | cons c s =>
      simp only [matchEnds] at h
      split at h
      · rename_i hc
        simp only [List.mem_singleton] at h; subst h; exact Match.cls C c _ hc
      · simp at h
  | seq p q ihp ihq =>
    intro s t h
    simp only [matchEnds, List.mem_flatMap] at h
    obtain ⟨m, hm, h⟩ := h
    exact Match.seq (ihp hm) (ihq h)
  | alt p q ihp ihq =>
    intro s t h
    simp only [matchEnds, List.mem_append] at h
    rcases h with h | h
    · exact Match.altL (ihp h)
    · exact Match.altR (ihq h)
  | rep p lo hi g ih =>
    intro s t h
    simp only [matchEnds] at h
    exact repEnds_sound _ (fun _ _ h => ih h) _ _ _ _ _ h
  | bos =>
    intro s t h
    simp only [matchEnds] at h
    split at h
    · rename_i hn
      simp only [List.mem_singleton] at h; subst h; exact Match.bos _ hn
    · simp at h
  | eos =>
    intro s t h
    simp only [matchEnds] at h
    split at h
    · rename_i hs
      simp only [List.mem_singleton] at h; subst h
      rcases hs with hs | hs <;> subst hs
      · exact Match.eosEnd
      · exact Match.eosNl
    · simp at h

/-! ## completeness of the executable matcher -/

theorem repEnds_complete {n p g} (step : List Char → List (List Char))
    (hstep : ∀ s t, Match n p s t → t ∈ step s) (hnn : nullable p = false) :
    ∀ fuel lo hi s t, s.length ≤ fuel → Match n (.rep p lo hi g) s t →
      t ∈ repEnds step g fuel lo hi s := by
  intro fuel
  induction fuel with
  | zero =>
    intro lo hi s t hf h
    cases h with
    | repStop s => exact mem_repEnds.mpr (Or.inl ⟨rfl, rfl⟩)
    | repStep _ h1 _ => have := h1.progress hnn; omega
  | succ fuel ih =>
    intro lo hi s t hf h
    cases h with
    | repStop s => exact mem_repEnds.mpr (Or.inl ⟨rfl, rfl⟩)
    | repStep hhi h1 h2 =>
      have hp := h1.progress hnn
      exact mem_repEnds.mpr (Or.inr ⟨fuel, rfl, hhi, _, hstep _ _ h1, hp, ih _ _ _ _ (by omega) h2⟩)

/-- on patterns whose repetition bodies cannot match the empty string, the matcher returns
every remainder of a genuine match -/
theorem matchEnds_complete {n r} (hr : noNullRep r = true) :
    ∀ {s t}, Match n r s t → t ∈ matchEnds n r s := by
  induction r with
  | empty => intro s t h; cases h
  | eps => intro s t h; cases h; simp [matchEnds]
  | cls C =>
    intro s t h
    cases h with
    | cls _ c _ hc => simp [matchEnds, hc]
  | seq p q ihp ihq =>
    intro s t h
    simp only [noNullRep, Bool.and_eq_true] at hr
    cases h with
    | seq h1 h2 =>
      simp only [matchEnds, List.mem_flatMap]
      exact ⟨_, ihp hr.1 h1, ihq hr.2 h2⟩
  | alt p q ihp ihq =>
    intro s t h
    simp only [noNullRep, Bool.and_eq_true] at hr
    simp only [matchEnds, List.mem_append]
    cases h with
    | altL h => exact Or.inl (ihp hr.1 h)
    | altR h => exact Or.inr (ihq hr.2 h)
  | rep p lo hi g ih =>
    intro s t h
    simp only [noNullRep, Bool.and_eq_true, Bool.not_eq_true'] at hr
    simp only [matchEnds]
    exact repEnds_complete _ (fun _ _ h => ih hr.2 h) hr.1 _ _ _ _ _ (Nat.le_refl _) h
  | bos =>
    intro s t h
    cases h with
    | bos _ hn => simp [matchEnds, hn]
  | eos =>
    intro s t h
    cases h <;> simp [matchEnds]

theorem mem_matchEnds_iff {n r} (hr : noNullRep r = true) {s t} :
    t ∈ matchEnds n r s ↔ Match n r s t :=
  ⟨matchEnds_sound, matchEnds_complete hr⟩

/-- `fullmatch` decides language membership -/
theorem fullmatch_iff {r} (hr : noNullRep r = true) (s : List Char) :
    fullmatch r s = true ↔ Lang r s := by
  simp only [fullmatch, Lang, List.contains_iff_mem, mem_matchEnds_iff hr]

theorem fullmatch_sound {r} {s : List Char} (h : fullmatch r s = true) : Lang r s := by
  simp only [fullmatch, List.contains_iff_mem] at h
  exact matchEnds_sound h

theorem pyMatch_sound {r} {s : List Char} (h : pyMatch r s = true) : Accepts r s := by
  simp only [pyMatch, Bool.not_eq_true', List.isEmpty_eq_false_iff] at h
  obtain ⟨t, ht⟩ := List.exists_mem_of_ne_nil _ h
  exact ⟨t, matchEnds_sound ht⟩

/-- `pattern.match(s) is not None` decides `Accepts` -/
theorem pyMatch_iff {r} (hr : noNullRep r = true) (s : List Char) :
    pyMatch r s = true ↔ Accepts r s := by
  refine ⟨pyMatch_sound, fun ⟨t, ht⟩ => ?_⟩
  simp only [pyMatch, Bool.not_eq_true', List.isEmpty_eq_false_iff]
  exact List.ne_nil_of_mem (matchEnds_complete hr ht)

/-! ## widening classes -/

/-- class inclusion ⇒ language inclusion (covariant through every constructor) -/
theorem Match.mono {n r s t} (h : Match n r s t) : ∀ {r'}, sub r r' = true → Match n r' s t := by
  induction h with
  | eps s => intro r' hs; cases r' <;> simp [sub] at hs; exact Match.eps s
  | cls C c s hc =>
    intro r' hs
    cases r' <;> simp only [sub, Bool.false_eq_true] at hs
    exact Match.cls _ c s (CharClass.sub_sound hs hc)
  | seq _ _ ih1 ih2 =>
    intro r' hs
    cases r' <;> simp only [sub, Bool.false_eq_true, Bool.and_eq_true] at hs
    exact Match.seq (ih1 hs.1) (ih2 hs.2)
  | altL _ ih =>
    intro r' hs
    cases r' <;> simp only [sub, Bool.false_eq_true, Bool.and_eq_true] at hs
    exact Match.altL (ih hs.1)
  | altR _ ih =>
    intro r' hs
    cases r' <;> simp only [sub, Bool.false_eq_true, Bool.and_eq_true] at hs
    exact Match.altR (ih hs.2)
  | repStop s =>
    intro r' hs
    cases r' <;> simp only [sub, Bool.false_eq_true, Bool.and_eq_true, beq_iff_eq] at hs
    obtain ⟨⟨_, h2⟩, _⟩ := hs
    subst h2
    exact Match.repStop s
  | repStep hhi _ _ ih1 ih2 =>
    intro r' hs
    cases r' <;> simp only [sub, Bool.false_eq_true, Bool.and_eq_true, beq_iff_eq] at hs
    obtain ⟨⟨h1, h2⟩, h3⟩ := hs
    subst h2; subst h3
    refine Match.repStep hhi (ih1 h1) (ih2 ?_)
    simp [sub, h1]
  | bos s hn => intro r' hs; cases r' <;> simp [sub] at hs; exact Match.bos s hn
  | eosEnd => intro r' hs; cases r' <;> simp [sub] at hs; exact Match.eosEnd
  | eosNl => intro r' hs; cases r' <;> simp [sub] at hs; exact Match.eosNl

theorem Accepts.mono {r r' s} (h : Accepts r s) (hs : sub r r' = true) : Accepts r' s := by
  obtain ⟨t, ht⟩ := h
  exact ⟨t, ht.mono hs⟩

/-! ## what is consumed -/

theorem consumed_append (w t : List Char) : consumed (w ++ t) t = w := by
  simp [consumed]

theorem Match.eq_consumed {n r s t} (h : Match n r s t) : s = consumed s t ++ t := by
  obtain ⟨w, rfl⟩ := h.suffix
  rw [consumed_append]

/-- if every class of `r` only contains characters satisfying `Q`, every character read by a
match of `r` satisfies `Q` (e.g. "no class contains whitespace ⇒ no match does") -/
theorem Match.all_of_allCls {n r s t} (h : Match n r s t) {P : CharClass → Bool} {Q : Char → Prop}
    (hPQ : ∀ C c, P C = true → C.mem c = true → Q c) (hr : allCls P r = true) :
    ∃ w, s = w ++ t ∧ ∀ c ∈ w, Q c := by
  obtain ⟨w, e, hw⟩ := h.word_induction (motive := fun r w => allCls P r = true → ∀ c ∈ w, Q c)
    (fun _ _ hc => by cases hc) (fun _ _ hc => by cases hc) (fun _ _ hc => by cases hc)
    (fun C c hc hC d hd => by
      rw [List.mem_singleton.mp hd]
      exact hPQ C c hC hc)
    (fun ih1 ih2 hr => by
      simp only [allCls, Bool.and_eq_true] at hr
      exact List.forall_mem_append.mpr ⟨ih1 hr.1, ih2 hr.2⟩)
    (fun ih hr => by
      simp only [allCls, Bool.and_eq_true] at hr
      exact ih hr.1)
    (fun ih hr => by
      simp only [allCls, Bool.and_eq_true] at hr
      exact ih hr.2)
    (fun _ _ hc => by cases hc)
    (fun _ ih1 ih2 hr => List.forall_mem_append.mpr ⟨ih1 hr, ih2 hr⟩)
  exact ⟨w, e, hw hr⟩

theorem Match.consumed_all {n r s t} (h : Match n r s t) {P : CharClass → Bool} {Q : Char → Prop}
    (hPQ : ∀ C c, P C = true → C.mem c = true → Q c) (hr : allCls P r = true) :
    ∀ c ∈ consumed s t, Q c := by
  obtain ⟨w, rfl, hw⟩ := h.all_of_allCls hPQ hr
  rw [consumed_append]; exact hw

theorem allCls_true : ∀ r : Re, allCls (fun _ => true) r = true
  | .cls _ | .empty | .eps | .bos | .eos => rfl
  | .seq p q | .alt p q => by simp [allCls, allCls_true p, allCls_true q]
  | .rep p _ _ _ => by simp [allCls, allCls_true p]

theorem allCls_imp {P Q : CharClass → Bool} (h : ∀ C, P C = true → Q C = true) :
    ∀ {r : Re}, allCls P r = true → allCls Q r = true
  | .cls C, hr => h C hr
  | .empty, _ | .eps, _ | .bos, _ | .eos, _ => rfl
  | .seq p q, hr | .alt p q, hr => by
    simp only [allCls, Bool.and_eq_true] at hr ⊢
    exact ⟨allCls_imp h hr.1, allCls_imp h hr.2⟩
  | .rep p _ _ _, hr => allCls_imp (r := p) h hr

theorem Match.relabel {n r s t} (h : Match n r s t) (f : Char → Char) {P : CharClass → Bool}
    (hP : ∀ C c, P C = true → C.mem c = true → C.mem (f c) = true)
    (hr : allCls P r = true) (ha : anchorFree r = true) (m : Nat) (t' : List Char) :
    Match m r ((consumed s t).map f ++ t') t' := by
  obtain ⟨w, rfl, hw⟩ := h.word_induction
    (motive := fun r w => allCls P r = true → anchorFree r = true →
      ∀ m t', Match m r (w.map f ++ t') t')
    (fun _ _ _ t' => Match.eps t') (fun _ ha => Bool.noConfusion ha) (fun _ ha => Bool.noConfusion ha)
    (fun C c hc hr _ _ t' => Match.cls C (f c) t' (hP C c hr hc))
    (fun ih1 ih2 hr ha m t' => by
      simp only [allCls, anchorFree, Bool.and_eq_true] at hr ha
      rw [List.map_append, List.append_assoc]
      exact Match.seq (ih1 hr.1 ha.1 m _) (ih2 hr.2 ha.2 m t'))
    (fun ih hr ha m t' => by
      simp only [allCls, anchorFree, Bool.and_eq_true] at hr ha
      exact Match.altL (ih hr.1 ha.1 m t'))
    (fun ih hr ha m t' => by
      simp only [allCls, anchorFree, Bool.and_eq_true] at hr ha
      exact Match.altR (ih hr.2 ha.2 m t'))
    (fun _ _ _ t' => Match.repStop t')
    (fun hhi ih1 ih2 hr ha m t' => by
      rw [List.map_append, List.append_assoc]
      exact Match.repStep hhi (ih1 hr ha m _) (ih2 hr ha m t'))
  rw [consumed_append]
  exact hw hr ha m t'

theorem Match.recontext {n r s t} (h : Match n r s t) (hr : anchorFree r = true) (m : Nat)
    (t' : List Char) : Match m r (consumed s t ++ t') t' := by
  simpa using h.relabel id (fun _ _ _ hc => hc) (allCls_true r) hr m t'

/-- the word read by a match of an anchor-free pattern is in its language -/
theorem Match.lang_consumed {n r s t} (h : Match n r s t) (hr : anchorFree r = true) :
    Lang r (consumed s t) := by
  have := h.recontext hr (consumed s t).length []
  simpa [Lang] using this

/-! ## the same at the level of `Lang` (full matches) -/

/-- `Lang (seq p b) ⊆ Lang (seq (opt p) b)` -/
theorem lang_seq_opt {p b : Re} {w : List Char} (h : Lang (.seq p b) w) : Lang (.seq (opt p) b) w :=
  Match.seq_opt h

/-- class inclusion ⇒ language inclusion -/
theorem lang_mono {r r' : Re} (hs : sub r r' = true) {w : List Char} (h : Lang r w) : Lang r' w :=
  Match.mono h hs

/-- if every class of `r` only contains characters satisfying `Q`, so does every word of
`Lang r` ("no class contains whitespace ⇒ no word of the language does") -/
theorem lang_all_of_allCls {r : Re} {P : CharClass → Bool} {Q : Char → Prop}
    (hPQ : ∀ C c, P C = true → C.mem c = true → Q c) (hr : allCls P r = true) {w : List Char}
    (h : Lang r w) : ∀ c ∈ w, Q c := by
  obtain ⟨w', hw, hq⟩ := Match.all_of_allCls h hPQ hr
  simp only [List.append_nil] at hw
  subst hw
  exact hq

/-- for an anchor-free pattern, what `Match` reads anywhere is a word of the language, and a
word of the language is matched in any context -/
theorem lang_iff_match_anywhere {r : Re} (hr : anchorFree r = true) {w : List Char} :
    Lang r w ↔ ∀ n t, Match n r (w ++ t) t := by
  constructor
  · intro h n t
    have := Match.recontext h hr n t
    simpa [consumed] using this
  · intro h
    have := h w.length []
    simpa [Lang] using this

/-! ## sequences as flat lists -/

theorem matchL_append {n a b s u} :
    MatchL n (a ++ b) s u ↔ ∃ t, MatchL n a s t ∧ MatchL n b t u := by
  induction a generalizing s with
  | nil =>
    constructor
    · intro h; exact ⟨s, MatchL.nil s, h⟩
    · intro ⟨t, h1, h2⟩; cases h1; exact h2
  | cons r rs ih =>
    constructor
    · intro h
      cases h with
      | cons h1 h2 =>
        obtain ⟨t, h3, h4⟩ := ih.mp h2
        exact ⟨t, MatchL.cons h1 h3, h4⟩
    · intro ⟨t, h1, h2⟩
      cases h1 with
      | cons h3 h4 => exact MatchL.cons h3 (ih.mpr ⟨t, h4, h2⟩)

theorem matchL_nil {n s t} : MatchL n [] s t ↔ s = t := by
  constructor
  · intro h; cases h; rfl
  · rintro rfl; exact MatchL.nil s

theorem matchL_singleton {n r s t} : MatchL n [r] s t ↔ Match n r s t := by
  constructor
  · intro h
    cases h with
    | cons h1 h2 => cases h2; exact h1
  · intro h; exact MatchL.cons h (MatchL.nil t)

theorem matchL_cons {n r rs s u} :
    MatchL n (r :: rs) s u ↔ ∃ t, Match n r s t ∧ MatchL n rs t u := by
  constructor
  · intro h
    cases h with
    | cons h1 h2 => exact ⟨_, h1, h2⟩
  · intro ⟨t, h1, h2⟩; exact MatchL.cons h1 h2

/-- a regex and its flattened top-level sequence match the same -/
theorem match_iff_spine {n r} : ∀ {s t}, Match n r s t ↔ MatchL n (spine r) s t := by
  induction r with
  | seq p q ihp ihq =>
    intro s t
    simp only [spine, matchL_append]
    constructor
    · intro h
      cases h with
      | seq h1 h2 => exact ⟨_, ihp.mp h1, ihq.mp h2⟩
    · intro ⟨m, h1, h2⟩
      exact Match.seq (ihp.mpr h1) (ihq.mpr h2)
  | eps =>
    intro s t
    simp only [spine]
    constructor
    · intro h; cases h; exact MatchL.nil _
    · intro h; cases h; exact Match.eps _
  | empty => intro s t; simp only [spine]; exact matchL_singleton.symm
  | cls C => intro s t; simp only [spine]; exact matchL_singleton.symm
  | alt p q _ _ => intro s t; simp only [spine]; exact matchL_singleton.symm
  | rep p lo hi g _ => intro s t; simp only [spine]; exact matchL_singleton.symm
  | bos => intro s t; simp only [spine]; exact matchL_singleton.symm
  | eos => intro s t; simp only [spine]; exact matchL_singleton.symm

theorem matchL_ofList {n rs} : ∀ {s t}, Match n (ofList rs) s t ↔ MatchL n rs s t := by
  induction rs with
  | nil =>
    intro s t
    constructor
    · intro h; cases h; exact MatchL.nil _
    · intro h; cases h; exact Match.eps _
  | cons r rs ih =>
    intro s t
    cases rs with
    | nil => simp only [ofList]; exact matchL_singleton.symm
    | cons r' rs' =>
      simp only [ofList]
      constructor
      · intro h
        cases h with
        | seq h1 h2 => exact MatchL.cons h1 (ih.mp h2)
      · intro h
        cases h with
        | cons h1 h2 => exact Match.seq h1 (ih.mpr h2)

/-- two regexes with the same spine match the same -/
theorem match_congr_spine {n r r'} (h : spine r = spine r') {s t} :
    Match n r s t ↔ Match n r' s t := by
  rw [match_iff_spine, match_iff_spine, h]

/-- what `$` leaves unread: nothing, or a final newline -/
def Tail (b : List Char) : Prop := b = [] ∨ b = ['\n']

theorem matchL_eos_end {n : Nat} : ∀ {rs : List Re} {s t : List Char},
    MatchL n (rs ++ [.eos]) s t → Tail t
  | [], _, _, h => by
    cases h with
    | cons h1 h2 =>
      cases h2
      cases h1 with
      | eosEnd => exact Or.inl rfl
      | eosNl => exact Or.inr rfl
  | _ :: _, _, _, h => by
    cases h with
    | cons _ h2 => exact matchL_eos_end h2

theorem Accepts.all_of_allCls {r : Re} {P : CharClass → Bool} {Q : Char → Prop}
    (hPQ : ∀ C c, P C = true → C.mem c = true → Q c) (hr : allCls P r = true)
    (hend : (spine r).getLast? = some .eos) {s : List Char} (h : Accepts r s) :
    ∀ c ∈ s, Q c ∨ c = '\n' := by
  obtain ⟨t, ht⟩ := h
  obtain ⟨w, rfl, hq⟩ := ht.all_of_allCls hPQ hr
  obtain ⟨rs, hrs⟩ := List.getLast?_eq_some_iff.mp hend
  have hm := match_iff_spine.mp ht
  rw [hrs] at hm
  intro c hc
  rcases List.mem_append.mp hc with hc | hc
  · exact Or.inl (hq c hc)
  · rcases matchL_eos_end hm with e | e
    · rw [e] at hc; cases hc
    · rw [e] at hc; exact Or.inr (List.mem_singleton.mp hc)

theorem pyMatch_avoids {r : Re} {ns : List Nat} (hav : allCls (fun C => C.avoids ns) r = true)
    (hend : (spine r).getLast? = some .eos) {s : List Char} (hs : pyMatch r s = true) :
    ∀ c ∈ s, c.toNat ∉ ns ∨ c = '\n' :=
  Accepts.all_of_allCls (fun _ _ hC hc => CharClass.avoids_sound hC hc) hav hend (pyMatch_sound hs)

/-! ## the `finditer` scanner -/

/-- `Chain n r s ms`: the matches `ms` (pairs remaining-at-start / remaining-at-end) are
genuine matches of `r`, lie inside `s`, one after the other without overlap -/
inductive Chain (n : Nat) (r : Re) : List Char → List (List Char × List Char) → Prop
  | nil (s) : Chain n r s []
  | cons {s s' t' ms} : s' <:+ s → Match n r s' t' → Chain n r t' ms → Chain n r s ((s', t') :: ms)

theorem Chain.weaken {n r s s' ms} (h : Chain n r s' ms) (hs : s' <:+ s) : Chain n r s ms := by
  cases h with
  | nil => exact Chain.nil s
  | cons h1 h2 h3 => exact Chain.cons (h1.trans hs) h2 h3

theorem Chain.match_of_mem {n r s ms} (h : Chain n r s ms) : ∀ st ∈ ms, Match n r st.1 st.2 := by
  induction h with
  | nil => intro st hst; cases hst
  | cons _ hm _ ih => exact List.forall_mem_cons.mpr ⟨hm, ih⟩

theorem firstEnd_sound {n r s adv t} (h : firstEnd n r s adv = some t) : Match n r s t := by
  simp only [firstEnd] at h
  exact matchEnds_sound (List.mem_of_find?_eq_some h)

theorem scanAux_chain (n : Nat) (r : Re) :
    ∀ fuel s adv, Chain n r s (scanAux n r fuel s adv) := by
  intro fuel
  induction fuel with
  | zero => intro s adv; exact Chain.nil s
  | succ fuel ih =>
    intro s adv
    simp only [scanAux]
    split
    · rename_i t ht
      have hm := firstEnd_sound ht
      split
      · exact Chain.cons (List.suffix_refl s) hm (ih t false)
      · rename_i hlt
        have hsuf := hm.isSuffix
        have hlen : t.length = s.length := by
          have := hm.length_le; omega
        have : t = s := hsuf.eq_of_length hlen
        subst this
        exact Chain.cons (List.suffix_refl _) hm (ih _ true)
    · split
      · exact Chain.nil _
      · rename_i c s' _
        exact (ih s' false).weaken (List.suffix_cons c s')

/-- every match reported by the scanner is a genuine match of `r` in `text`, and the matches
lie one after the other -/
theorem scan_chain (r : Re) (text : List Char) : Chain text.length r text (scan r text) :=
  scanAux_chain _ _ _ _ _

/-! ### the fuel of the scanner is sufficient

`scanAux` recurses on a fuel counter; `scan` starts it with `2 * length + 2`.  The measure
`2 * |s| + (if mustAdvance then 0 else 1)` strictly decreases at every step (a non-empty match
or a skipped character shortens `s`; an empty match keeps `s` but sets `mustAdvance`, after
which only a shorter remainder is accepted), so the scanner never stops because the fuel ran
out: any larger fuel gives the same list. -/

theorem firstEnd_advance {n r s t} (h : firstEnd n r s true = some t) : t.length < s.length := by
  simp only [firstEnd] at h
  have := List.find?_some h
  simpa using this

theorem measure_drop {a b m : Nat} (adv adv' : Bool) (h : a < b)
    (hm : 2 * b + (if adv = true then 0 else 1) < m + 1) :
    2 * a + (if adv' = true then 0 else 1) < m := by
  have : (if adv' = true then 0 else 1) ≤ 1 := by split <;> omega
  omega

/-- with more fuel than the measure, the amount of fuel is irrelevant -/
theorem scanAux_fuel (n : Nat) (r : Re) :
    ∀ fuel fuel' s adv, 2 * s.length + (if adv = true then 0 else 1) < fuel →
      2 * s.length + (if adv = true then 0 else 1) < fuel' →
      scanAux n r fuel s adv = scanAux n r fuel' s adv := by
  intro fuel
  induction fuel with
  | zero => intro fuel' s adv h; omega
  | succ fuel ih =>
    intro fuel' s adv h h'
    cases fuel' with
    | zero => omega
    | succ fuel' =>
      simp only [scanAux]
      cases hf : firstEnd n r s adv with
      | some t =>
        simp only []
        by_cases hlt : t.length < s.length
        · rw [if_pos hlt, if_pos hlt, ih fuel' t false (measure_drop _ _ hlt h) (measure_drop _ _ hlt h')]
        · rw [if_neg hlt, if_neg hlt]
          have hadv : adv = false := by
            cases adv with
            | false => rfl
            | true => exact absurd (firstEnd_advance hf) hlt
          subst hadv
          simp only [Bool.false_eq_true, if_false] at h h'
          rw [ih fuel' s true (by simpa using h) (by simpa using h')]
      | none =>
        simp only []
        cases s with
        | nil => rfl
        | cons c s' =>
          exact ih fuel' s' false (measure_drop _ _ (Nat.lt_succ_self _) h)
            (measure_drop _ _ (Nat.lt_succ_self _) h')
/-- **fuel sufficiency of `scan`**: running the scanner with any amount of extra fuel yields
the same matches — the bound `2 * length + 2` is never what ends the scan -/
theorem scan_fuel_sufficient (r : Re) (text : List Char) (extra : Nat) :
    scanAux text.length r (2 * text.length + 2 + extra) text false = scan r text := by
  unfold scan
  apply scanAux_fuel <;> simp <;> omega

/-- `ys` occur in `s` as disjoint substrings, in this order -/
inductive InOrder : List (List Char) → List Char → Prop
  | nil (s) : InOrder [] s
  | cons {y ys s} (a b : List Char) : s = a ++ y ++ b → InOrder ys b → InOrder (y :: ys) s

theorem InOrder.prepend {ys s} (h : InOrder ys s) (a : List Char) : InOrder ys (a ++ s) := by
  cases h with
  | nil => exact InOrder.nil _
  | cons a' b hs h' => exact InOrder.cons (a ++ a') b (by simp [hs]) h'

theorem InOrder.extend {ys s} (h : InOrder ys s) (b : List Char) : InOrder ys (s ++ b) := by
  induction h with
  | nil => exact InOrder.nil _
  | cons a' b' hs _ ih => exact InOrder.cons a' (b' ++ b) (by simp [hs]) ih

theorem InOrder.append {xs ys s t} (h1 : InOrder xs s) (h2 : InOrder ys t) :
    InOrder (xs ++ ys) (s ++ t) := by
  induction h1 with
  | nil s => exact h2.prepend s
  | cons a b hs _ ih => exact InOrder.cons a (b ++ t) (by simp [hs]) ih

theorem InOrder.mem_substring {ys s} (h : InOrder ys s) : ∀ y ∈ ys, ∃ a b, s = a ++ y ++ b := by
  induction h with
  | nil => intro y hy; simp at hy
  | cons a b hs _ ih =>
    intro y' hy
    rw [List.mem_cons] at hy
    rcases hy with rfl | hy
    · exact ⟨a, b, hs⟩
    · obtain ⟨a', b', hb⟩ := ih y' hy
      rename_i y0 _ _ _
      exact ⟨a ++ y0 ++ a', b', by simp [hs, hb]⟩

/-- the words of a chain, each replaced by things found in order inside it, are in order in
the text -/
theorem Chain.inOrder {n r s ms} (h : Chain n r s ms) (f : List Char × List Char → List (List Char))
    (hf : ∀ st ∈ ms, Match n r st.1 st.2 → InOrder (f st) (consumed st.1 st.2)) :
    InOrder (ms.flatMap f) s := by
  induction h with
  | nil s => exact InOrder.nil s
  | cons hsuf hm _ ih =>
    rename_i s s' t' ms _
    obtain ⟨a, rfl⟩ := hsuf
    have h1 := hf (s', t') (List.mem_cons_self) hm
    have h2 := ih (fun st hst => hf st (List.mem_cons_of_mem _ hst))
    have hs' := hm.eq_consumed
    simp only [List.flatMap_cons]
    have := (h1.append h2).prepend a
    rw [← hs'] at this
    exact this

end Re
end Ural.Py
