import UralModel.Lemmas.Youtube
import UralModel.Lemmas.StrSplit
import UralModel.Lemmas.StrLit
/-!
Lemmas for the round trip of `ural/youtube.py`: what `infer_redirection` and the regex
searches of `parse_youtube_url` do on the canonical urls `normalize_youtube_url` builds
(a fixed prefix followed by record fields).
-/
namespace Ural.Youtube
open Ural Ural.Py Ural.C19 Ural.HostnameTrieSet

/-! ## a value search that fails in a string fails in every piece of it

A user / channel name is a piece (`<:+:`) of the url, in which `NEXT_V_RE` / `NESTED_NEXT_V_RE` found
nothing; hence the canonical url built from the name is no continuation url. -/

theorem cutAmp_prefix (s : Str) : cutAmp s <+: s := by
  unfold cutAmp
  exact List.takeWhile_prefix _

theorem valueRun_cons (stops : List Char) (c : Char) (cs : Str) :
    valueRun stops (c :: cs) = if stops.contains c then [] else c :: valueRun stops cs := by
  unfold valueRun
  rw [List.takeWhile_cons]
  cases h : stops.contains c <;> simp

theorem litValueHere_append (lit stops : List Char) (s b : Str) (v : Str)
    (h : litValueHere lit stops s = some v) : ∃ v', litValueHere lit stops (s ++ b) = some v' := by
  unfold litValueHere at h ⊢
  cases hm : matchLit lit s with
  | none => rw [hm] at h; simp at h
  | some r =>
    rw [hm] at h
    simp only [] at h
    rw [matchLit_append lit s b r hm]
    simp only []
    cases r with
    | nil => simp [valueRun] at h
    | cons c cs =>
      rw [valueRun_cons] at h
      rw [List.cons_append, valueRun_cons]
      cases hc : stops.contains c with
      | true => rw [hc] at h; simp at h
      | false => exact ⟨c :: valueRun stops (cs ++ b), by simp⟩

theorem litValueSearch_none_of_append (lit stops : List Char) (s b : Str)
    (h : litValueSearch lit stops (s ++ b) = none) : litValueSearch lit stops s = none := by
  induction s with
  | nil => rfl
  | cons c cs ih =>
    simp only [List.cons_append, litValueSearch] at h ⊢
    cases hh : litValueHere lit stops (c :: cs) with
    | some v =>
      obtain ⟨v', hv'⟩ := litValueHere_append lit stops (c :: cs) b v hh
      simp only [List.cons_append] at hv'
      rw [hv'] at h
      simp at h
    | none =>
      simp only []
      cases hh2 : litValueHere lit stops (c :: (cs ++ b)) with
      | some v => rw [hh2] at h; simp at h
      | none => rw [hh2] at h; exact ih h

theorem litValueSearch_none_of_suffix (lit stops : List Char) (a s : Str)
    (h : litValueSearch lit stops (a ++ s) = none) : litValueSearch lit stops s = none := by
  induction a with
  | nil => exact h
  | cons c cs ih =>
    simp only [List.cons_append, litValueSearch] at h
    cases hh : litValueHere lit stops (c :: (cs ++ s)) with
    | some v => rw [hh] at h; simp at h
    | none => rw [hh] at h; exact ih h

/-- a search that finds nothing in `u` finds nothing in a piece of `u` -/
theorem litValueSearch_none_of_infix (lit stops : List Char) (s u : Str) (hs : s <:+: u)
    (h : litValueSearch lit stops u = none) : litValueSearch lit stops s = none := by
  obtain ⟨a, b, e⟩ := hs
  rw [← e, List.append_assoc] at h
  exact litValueSearch_none_of_append lit stops s b (litValueSearch_none_of_suffix lit stops a _ h)

/-! ## the value searches (`litValueSearch`) -/

/-- no match at all when the subject lacks a self-matching character of the literal (`p.toNat < 97`, here
and below: under `re.I` a pattern character below `'a'` matches only itself, `ciMatch_small`) -/
theorem litValueSearch_none_of_not_mem (lit stops : List Char) (p : Char) (hm : p ∈ lit)
    (hp : p.toNat < 97) (s : Str) (hs : p ∉ s) : litValueSearch lit stops s = none := by
  induction s with
  | nil => rfl
  | cons c cs ih =>
    have : litValueHere lit stops (c :: cs) = none := by
      unfold litValueHere
      rw [matchLit_none_of_not_mem lit p hm hp _ hs]
    simp only [litValueSearch, this]
    exact ih (fun h => hs (by simp [h]))

/-- neither continuation pattern (`NEXT_V_RE`, `NESTED_NEXT_V_RE`) is found in `s` -/
def NoCont (s : Str) : Prop := nextV s = none ∧ nestedNextV s = none

instance (s : Str) : Decidable (NoCont s) := by unfold NoCont; infer_instance

theorem noCont_or (s : Str) (h : NoCont s) : (nextV s).or (nestedNextV s) = none := by
  rw [h.1, h.2]; rfl

theorem noCont_of_or (s : Str) (h : (nextV s).or (nestedNextV s) = none) : NoCont s := by
  cases h1 : nextV s with
  | some v => rw [h1] at h; simp at h
  | none =>
    rw [h1] at h
    exact ⟨h1, by simpa using h⟩

theorem noCont_of_infix (s u : Str) (hs : s <:+: u) (h : NoCont u) : NoCont s :=
  ⟨litValueSearch_none_of_infix _ _ s u hs h.1, litValueSearch_none_of_infix _ _ s u hs h.2⟩

/-- `NEXT_V_RE` and `NESTED_NEXT_V_RE` need a `%` -/
theorem noCont_of_no_pct (s : Str) (h : '%' ∉ s) : NoCont s := by
  have hp : ('%' : Char).toNat < 97 := by decide
  exact ⟨litValueSearch_none_of_not_mem _ _ '%' (by simp only [toList_lit]; decide) hp s h,
    litValueSearch_none_of_not_mem _ _ '%' (by simp only [toList_lit]; decide) hp s h⟩

/-! ## `REDIRECTION_DOMAINS_RE.split` on a url whose tail has no `/` -/

/-- table obligation (proved in `Props/C19/Youtube.lean` by `decide` on the regenerated list):
every cache-host literal ends with `/` -/
def CacheHostsEndWithSlash : Prop := ∀ h ∈ Gen.cacheHosts, h.toList.getLast? = some '/'

instance : Decidable CacheHostsEndWithSlash := by unfold CacheHostsEndWithSlash; infer_instance

theorem domainHere_within (ob : CacheHostsEndWithSlash) (x y : Str) (hy : '/' ∉ y)
    (h : domainHere x = none) : domainHere (x ++ y) = none := by
  unfold domainHere at h ⊢
  rw [List.findSome?_eq_none_iff] at h ⊢
  intro host hh
  cases hm : matchLit host.toList (x ++ y) with
  | none => rfl
  | some r =>
    obtain ⟨r', hr'⟩ := matchLit_within _ '/' (by decide) (ob host hh) x y r hy hm
    have := h host hh
    rw [hr'] at this
    exact absurd this (by simp)

theorem domainSplit_within (ob : CacheHostsEndWithSlash) (x y : Str) (hy : '/' ∉ y)
    (h : domainSplit x = none) : domainSplit (x ++ y) = none := by
  induction x with
  | nil => exact domainSplit_none_of_not_mem '/' (by decide) (fun h hh => List.mem_of_getLast? (ob h hh)) y hy
  | cons c cs ih =>
    simp only [domainSplit] at h
    cases hd : domainHere (c :: cs) with
    | some r => rw [hd] at h; simp at h
    | none =>
      rw [hd] at h
      simp only [List.cons_append, domainSplit]
      have := domainHere_within ob (c :: cs) y hy hd
      simp only [List.cons_append] at this
      rw [this]
      exact ih h

/-! ## `re.search(OBVIOUS_REDIRECTS_RE, url)` on a fixed prefix followed by hint-free text -/

/-- the literal certainly fails against a subject that starts with `x`: a character of `x`
refuses its pattern character -/
def mismatch : List Char → Str → Bool
  | [], _ => false
  | _ :: _, [] => false
  | p :: ps, c :: cs => if ciMatch p c then mismatch ps cs else true

theorem matchLit_none_of_mismatch (L : List Char) (x y : Str) (h : mismatch L x = true) :
    matchLit L (x ++ y) = none := by
  induction L generalizing x with
  | nil => simp [mismatch] at h
  | cons p ps ih =>
    cases x with
    | nil => simp [mismatch] at h
    | cons c cs =>
      simp only [mismatch] at h
      simp only [List.cons_append, matchLit]
      split
      · rename_i hc; rw [if_pos hc] at h; exact ih cs h
      · rfl

theorem keyValueFor_none (key : List Char) (s : Str) (h : matchLit (key ++ ['=']) s = none) :
    keyValueFor key s = none := by
  unfold keyValueFor
  rw [matchLit_append_pat] at h
  cases hm : matchLit key s with
  | none => rfl
  | some r =>
    rw [hm] at h
    cases r with
    | nil => rfl
    | cons e r =>
      simp only [Option.bind_some, matchLit] at h
      split at h
      · simp at h
      · rename_i hne
        have : e ≠ '=' := by
          intro e'; subst e'; exact hne (by decide)
        simp [this]

/-- every redirect key (followed by its `=`) certainly fails at the head of `x` -/
def keysMismatch (x : Str) : Bool := redirectKeys.all fun k => mismatch (k.toList ++ ['=']) x

theorem keyValue_none (x y : Str) (h : keysMismatch x = true) : keyValue (x ++ y) = none := by
  unfold keyValue
  rw [List.findSome?_eq_none_iff]
  intro k hk
  unfold keysMismatch at h
  exact keyValueFor_none _ _ (matchLit_none_of_mismatch _ _ _ (List.all_eq_true.mp h k hk))

/-- no position of the fixed prefix `x` can start a redirect hint, whatever follows -/
def prefixClean : Str → Bool → Bool
  | [], b => !b
  | c :: cs, b =>
    (!b || keysMismatch (c :: cs)) && (!(c = '?' || c = '&') || keysMismatch cs) && prefixClean cs false

theorem redirectSearchFrom_prefix (x y : Str) (b : Bool) (h : prefixClean x b = true)
    (hy : redirectSearchFrom y false = none) : redirectSearchFrom (x ++ y) b = none := by
  induction x generalizing b with
  | nil =>
    simp only [prefixClean, Bool.not_eq_true'] at h
    subst h
    exact hy
  | cons c cs ih =>
    simp only [prefixClean, Bool.and_eq_true, Bool.or_eq_true, Bool.not_eq_true'] at h
    obtain ⟨⟨h1, h2⟩, h3⟩ := h
    have hh : redirectHere (c :: (cs ++ y)) b = none := by
      unfold redirectHere
      have p1 : (if b = true then keyValue (c :: (cs ++ y)) else none) = none := by
        cases b with
        | false => rfl
        | true =>
          rcases h1 with h1 | h1
          · simp at h1
          · simp only [if_true]
            have := keyValue_none (c :: cs) y h1
            simpa using this
      rw [p1]
      simp only [Option.none_or]
      split
      · rename_i hc
        rcases h2 with h2 | h2
        · simp only [Bool.or_eq_true, decide_eq_true_eq] at hc
          simp only [Bool.or_eq_false_iff, decide_eq_false_iff_not] at h2
          rcases hc with hc | hc
          · exact absurd hc h2.1
          · exact absurd hc h2.2
        · exact keyValue_none cs y h2
      · rfl
    simp only [List.cons_append, redirectSearchFrom, hh]
    exact ih false h3

/-- text without `?` and `&` holds no redirect hint (away from position 0) -/
theorem redirectSearchFrom_plain (s t : Str) (hs : ∀ c ∈ s, c ≠ '?' ∧ c ≠ '&') :
    redirectSearchFrom (s ++ t) false = redirectSearchFrom t false := by
  induction s with
  | nil => rfl
  | cons c cs ih =>
    have hc := hs c (by simp)
    have hh : redirectHere (c :: (cs ++ t)) false = none := by
      unfold redirectHere
      simp [hc.1, hc.2]
    simp only [List.cons_append, redirectSearchFrom, hh]
    exact ih (fun d hd => hs d (by simp [hd]))

theorem redirectSearchFrom_plain_nil (s : Str) (hs : ∀ c ∈ s, c ≠ '?' ∧ c ≠ '&') :
    redirectSearchFrom s false = none := by
  have := redirectSearchFrom_plain s [] hs
  simpa [redirectSearchFrom] using this

/-! ## `QUERY_LIST_RE.search` / `QUERY_V_RE.search` on the canonical video url -/

/-- no position of the fixed text `x` can start a match of the literal, whatever follows -/
def searchClean (lit : List Char) : Str → Bool
  | [] => true
  | c :: cs => mismatch lit (c :: cs) && searchClean lit cs

theorem litValueSearch_skip (lit stops : List Char) (x y : Str) (h : searchClean lit x = true) :
    litValueSearch lit stops (x ++ y) = litValueSearch lit stops y := by
  induction x with
  | nil => rfl
  | cons c cs ih =>
    simp only [searchClean, Bool.and_eq_true] at h
    have hh : litValueHere lit stops (c :: (cs ++ y)) = none := by
      unfold litValueHere
      have := matchLit_none_of_mismatch lit (c :: cs) y h.1
      simp only [List.cons_append] at this
      rw [this]
    simp only [List.cons_append, litValueSearch, hh]
    exact ih h.2

/-- a fixed text in which no position can start either continuation pattern, followed by text
without continuation pattern -/
theorem noCont_prefix (P s : Str) (h1 : searchClean "next=%2fwatch%3fv%3d".toList P = true)
    (h2 : searchClean "next%3d%252fwatch%253fv%253d".toList P = true) (h : NoCont s) : NoCont (P ++ s) := by
  unfold NoCont nextV nestedNextV at h ⊢
  rw [litValueSearch_skip _ _ P s h1, litValueSearch_skip _ _ P s h2]
  exact h

/-- a literal whose `k`-th character is the self-matching `q` does not match inside text
without `q`, when the `k` characters that follow the text are not `q` either -/
theorem litValueSearch_skip_text (lit stops : List Char) (k : Nat) (q : Char) (hk : lit[k]? = some q)
    (hq : q.toNat < 97) (s t : Str) (hs : q ∉ s) (ht : ∀ j, j < k → t[j]? ≠ some q) :
    litValueSearch lit stops (s ++ t) = litValueSearch lit stops t := by
  induction s with
  | nil => rfl
  | cons c cs ih =>
    have hh : litValueHere lit stops (c :: (cs ++ t)) = none := by
      unfold litValueHere
      cases hm : matchLit lit (c :: (cs ++ t)) with
      | none => rfl
      | some r =>
        exfalso
        have hg := matchLit_getElem lit _ r hm k q hk hq
        rw [← List.cons_append] at hg
        by_cases hlt : k < (c :: cs).length
        · rw [List.getElem?_append_left hlt] at hg
          exact hs (List.mem_of_getElem? hg)
        · rw [List.getElem?_append_right (by omega)] at hg
          exact ht _ (by simp at hlt ⊢; omega) hg
    simp only [List.cons_append, litValueSearch, hh]
    exact ih (fun h => hs (by simp [h]))

theorem valueRun_of_all (stops : List Char) (p : Str) (h : ∀ c ∈ p, c ∉ stops) : valueRun stops p = p := by
  unfold valueRun
  exact takeWhile_of_all (fun c hc => by simpa using h c hc)

theorem valueRun_append_stop (stops : List Char) (p : Str) (c : Char) (rest : Str)
    (h : ∀ c ∈ p, c ∉ stops) (hc : c ∈ stops) : valueRun stops (p ++ c :: rest) = p := by
  unfold valueRun
  exact takeWhile_append_cons_stop _ _ _ _ (fun d hd => by simpa using h d hd) (by simpa using hc)

theorem litValueSearch_here (lit stops : List Char) (hlit : matchLit lit lit = some []) (hne : lit ≠ [])
    (v rest : Str) (hv : v ≠ []) (hvs : ∀ c ∈ v, c ∉ stops) (hrest : rest = [] ∨ ∃ c r, rest = c :: r ∧ c ∈ stops) :
    litValueSearch lit stops (lit ++ (v ++ rest)) = some v := by
  have hrun : valueRun stops (v ++ rest) = v := by
    rcases hrest with rfl | ⟨c, r, rfl, hc⟩
    · rw [List.append_nil]; exact valueRun_of_all _ _ hvs
    · exact valueRun_append_stop _ _ _ _ hvs hc
  have h1 : litValueHere lit stops (lit ++ (v ++ rest)) = some v := by
    unfold litValueHere
    rw [matchLit_append lit lit _ [] hlit, List.nil_append]
    simp only [hrun, hv, ne_eq, not_false_eq_true, if_true]
  cases lit with
  | nil => exact absurd rfl hne
  | cons a as =>
    rw [List.cons_append] at h1 ⊢
    simp only [litValueSearch, h1]

/-- `c` is none of the characters at which the url syntax or one of the patterns stops -/
structure Unstructured (c : Char) : Prop where
  eq : c ≠ '='
  amp : c ≠ '&'
  hash : c ≠ '#'
  quest : c ≠ '?'
  slash : c ≠ '/'
  pct : c ≠ '%'
  safe : isUnsafeUrlChar c = false

theorem isIdChar_unstructured (c : Char) (h : isIdChar c = true) : Unstructured c := by
  refine ⟨?_, ?_, ?_, ?_, ?_, ?_, not_unsafe_of (P := (isIdChar · = true)) (by decide) h⟩
  all_goals (intro e; subst e; exact absurd h (by decide))

/-- the characters a playlist id must avoid: those at which `QUERY_LIST_RE` stops, TAB / CR / LF -/
def PlainPlaylist (p : Str) : Prop :=
  p ≠ [] ∧ ∀ c ∈ p, c ≠ '&' ∧ c ≠ '#' ∧ c ≠ '?' ∧ c ≠ '/' ∧ c ≠ '%' ∧ isUnsafeUrlChar c = false

instance (s : Str) : Decidable (PlainPlaylist s) := by unfold PlainPlaylist; infer_instance

/-- the fixed text of the canonical video url against the regenerated cache hosts and redirect keys:
whatever follows it, no position of it can start a match -/
structure VideoPrefixClean : Prop where
  noCacheHost : domainSplit videoPrefix = none
  noHint : prefixClean videoPrefix true = true
  ends : cleanEnds videoPrefix = true
  noList : searchClean "list=".toList videoPrefix = true
  noPct : '%' ∉ videoPrefix
  safe : ∀ c ∈ videoPrefix, isUnsafeUrlChar c = false
  parts : videoPrefix =
    "https://".toList ++ "www.youtube.com".toList ++ "/watch".toList ++ '?' :: "v=".toList

theorem videoPrefix_clean : VideoPrefixClean := by
  constructor <;> unfold videoPrefix <;> simp only [toList_lit] <;> decide +kernel

/-- `QUERY_LIST_RE.search(url)` on `…watch?v=<id>&list=<playlist>` -/
theorem queryList_video_some (id p : Str) (hid : ∀ c ∈ id, isIdChar c = true) (hp : PlainPlaylist p) :
    queryList (videoPrefix ++ id ++ (listInfix ++ p)) = some p := by
  unfold queryList
  rw [List.append_assoc, litValueSearch_skip _ _ videoPrefix _ videoPrefix_clean.noList]
  rw [litValueSearch_skip_text _ _ 4 '=' (by decide) (by decide) id _
    (fun h => (isIdChar_unstructured _ (hid _ h)).eq rfl)
    (by
      intro j hj
      match j, hj with
      | 0, _ => simp [listInfix]
      | 1, _ => simp [listInfix]
      | 2, _ => simp [listInfix]
      | 3, _ => simp [listInfix])]
  have := litValueSearch_here "list=".toList stopsList (by decide) (by decide) p [] hp.1 (fun c hc => by
    have := hp.2 c hc
    simp [stopsList, this.1, this.2.1, this.2.2.1, this.2.2.2.1, this.2.2.2.2.1]) (Or.inl rfl)
  rw [List.append_nil] at this
  rw [show listInfix ++ p = ['&'] ++ ("list=".toList ++ p) by simp [listInfix],
    litValueSearch_skip _ _ ['&'] _ (by decide), this]

/-- `QUERY_LIST_RE.search(url)` on `…watch?v=<id>` -/
theorem queryList_video_none (id : Str) (hid : ∀ c ∈ id, isIdChar c = true) :
    queryList (videoPrefix ++ id) = none := by
  unfold queryList
  rw [litValueSearch_skip _ _ videoPrefix _ videoPrefix_clean.noList]
  have := litValueSearch_skip_text "list=".toList stopsList 4 '=' (by decide) (by decide) id []
    (fun h => (isIdChar_unstructured _ (hid _ h)).eq rfl) (by intro j _; simp)
  rw [List.append_nil] at this
  rw [this]
  rfl

/-- `QUERY_V_RE.search(query)` on `v=<id>` / `v=<id>&list=<playlist>` -/
theorem queryV_video (id rest : Str) (hid : ∀ c ∈ id, isIdChar c = true) (hne : id ≠ [])
    (hrest : rest = [] ∨ ∃ r, rest = '&' :: r) :
    queryV ("v=".toList ++ id ++ rest) = some id := by
  unfold queryV
  have hstops : ∀ c ∈ id, c ∉ stopsAmpHash := by
    intro c hc
    have := isIdChar_unstructured c (hid c hc)
    simp [stopsAmpHash, this.amp, this.hash]
  rw [List.append_assoc]
  exact litValueSearch_here _ _ (by decide) (by decide) id rest hne hstops
    (hrest.imp (fun e => e) fun ⟨r, e⟩ => ⟨'&', r, e, by decide⟩)

/-! ## the host of the canonical urls -/

theorem wwwHostOk : HostOk "www.youtube.com".toList := by
  simp only [toList_lit]
  decide +kernel

theorem pyHostname_www : pyHostname "www.youtube.com".toList = "www.youtube.com".toList := by
  simp only [toList_lit]
  decide +kernel

theorem www_not_short_host : endsWith (pyHostname "www.youtube.com".toList) "youtu.be".toList = false := by
  rw [pyHostname_www]
  simp only [toList_lit]
  decide

theorem hostnameOf_www (path query : Str) :
    hostnameOf ⟨"https".toList, "www.youtube.com".toList, path, query, []⟩ =
      some "www.youtube.com".toList := by
  simp only [hostnameOf, pyHostname_www]
  simp only [toList_lit, reduceCtorEq, if_false]

/-- the only thing the round trip needs from the domain trie: it knows `www.youtube.com` -/
def KnowsWww (puny : Str → Str) (t : T) : Prop :=
  matchHost isSpecialHost puny t (some "www.youtube.com".toList) = true

/-! ## the hypotheses of the round trip -/

/-- the characters a name / id taken from the path must avoid: the url delimiters, `&`
(a redirect hint could hide behind it), TAB / CR / LF -/
def Plain (s : Str) : Prop :=
  ∀ c ∈ s, c ≠ '/' ∧ c ≠ '?' ∧ c ≠ '#' ∧ c ≠ '&' ∧ isUnsafeUrlChar c = false

instance (s : Str) : Decidable (Plain s) := by unfold Plain; infer_instance

theorem Plain.no_slash {s : Str} (h : Plain s) : '/' ∉ s := fun hm => (h _ hm).1 rfl

theorem Plain.no_amp {s : Str} (h : Plain s) : '&' ∉ s := fun hm => (h _ hm).2.2.2.1 rfl

/-- what the round trip needs from a record, beyond the validators (`Valid`); all of it is
guaranteed by the parser (`good_of_fields`, `Lemmas/YoutubeFields.lean`) -/
def Good : Record → Prop
  | .video _ none => True
  | .video _ (some p) => PlainPlaylist p
  | .user name => Plain name ∧ Stripped name ∧ NoCont name
  | .channel (some cid) _ => Plain cid ∧ Stripped cid ∧ NoCont cid
  | .channel none (some name) => Plain name ∧ NoCont name
  | .channel none none => False
  | .short _ => True

/-- table obligations used by the round trip (proved by `decide` in `Props/C19/Youtube.lean`) -/
structure Obligations : Prop where
  cacheHosts : CacheHostsEndWithSlash
  watchReserved : "watch".toList ∈ blacklist

/-! ## `infer_redirection` on the canonical urls -/

theorem infer_canonical (ob : Obligations) (P s : Str) (hP1 : domainSplit P = none)
    (hP2 : prefixClean P true = true) (hs : ∀ c ∈ s, c ≠ '/' ∧ c ≠ '?' ∧ c ≠ '&')
    (hPc : cleanEnds P = true) :
    infer (P ++ s) = P ++ s := by
  -- behind the clean prefix the cleaning only removes characters of `s`
  have hs' : ∀ c ∈ rstrip (UrlParts.stripControl s), c ≠ '/' ∧ c ≠ '?' ∧ c ≠ '&' :=
    fun c hc => hs c (mem_of_mem_stripControl (mem_of_mem_rstrip hc))
  apply infer_eq_self_of_clean
  · rw [cleanedUrl_prefix P s hPc]
    exact domainSplit_within ob.cacheHosts P _ (fun h => (hs' _ h).1 rfl) hP1
  · rw [cleanedUrl_prefix P s hPc]
    unfold redirectSearch
    exact redirectSearchFrom_prefix P _ true hP2
      (redirectSearchFrom_plain_nil _ (fun c hc => ⟨(hs' c hc).2.1, (hs' c hc).2.2⟩))

/-- the video url with a playlist: two free texts around the clean infix `&list=` -/
theorem infer_video (ob : Obligations) (id p : Str) (hid : ∀ c ∈ id, c ≠ '/' ∧ c ≠ '?' ∧ c ≠ '&')
    (hp : ∀ c ∈ p, c ≠ '/' ∧ c ≠ '?' ∧ c ≠ '&') :
    infer (videoPrefix ++ (id ++ (listInfix ++ p))) = videoPrefix ++ (id ++ (listInfix ++ p)) := by
  have hid' : ∀ c ∈ UrlParts.stripControl id, c ≠ '/' ∧ c ≠ '?' ∧ c ≠ '&' :=
    fun c hc => hid c (mem_of_mem_stripControl hc)
  have hp' : ∀ c ∈ rstrip (UrlParts.stripControl p), c ≠ '/' ∧ c ≠ '?' ∧ c ≠ '&' :=
    fun c hc => hp c (mem_of_mem_stripControl (mem_of_mem_rstrip hc))
  apply infer_eq_self_of_clean <;> rw [cleanedUrl_infix _ _ _ _ videoPrefix_clean.ends (by decide)]
  · apply domainSplit_within ob.cacheHosts videoPrefix _ _ videoPrefix_clean.noCacheHost
    simp only [List.mem_append, not_or]
    exact ⟨fun h => (hid' _ h).1 rfl, by decide, fun h => (hp' _ h).1 rfl⟩
  · unfold redirectSearch
    apply redirectSearchFrom_prefix videoPrefix _ true videoPrefix_clean.noHint
    rw [redirectSearchFrom_plain _ _ (fun c hc => (hid' c hc).2)]
    exact redirectSearchFrom_prefix listInfix _ false (by decide)
      (redirectSearchFrom_plain_nil _ (fun c hc => (hp' c hc).2))

/-! ## from the url to the routes -/

theorem parse_of_canonical (puny : Str → Str) (t : T) (url : Str) (fix : Bool) (parsed : SplitResult)
    (h1 : infer url = url) (h0 : stripUnsafe url = url) (h2 : (nextV url).or (nestedNextV url) = none)
    (h3 : safe_urlsplit url = some parsed) (h4 : isYoutubeParsed puny t parsed = true) :
    parse_youtube_url puny t url fix = parseSplit fix parsed (queryList url) := by
  unfold parse_youtube_url
  simp only [h1, h0, h2, h3, h4, Bool.not_true]
  rfl

theorem stripUnsafe_eq_self (u : Str) (h : ∀ c ∈ u, isUnsafeUrlChar c = false) : stripUnsafe u = u :=
  List.filter_eq_self.mpr (fun c hc => by simp [h c hc])

theorem isYoutubeParsed_www (puny : Str → Str) (t : T) (hT : KnowsWww puny t) (path query : Str) :
    isYoutubeParsed puny t ⟨"https".toList, "www.youtube.com".toList, path, query, []⟩ = true := by
  unfold isYoutubeParsed
  rw [hostnameOf_www]
  exact hT

theorem parseSplit_www (fix : Bool) (path query : Str) (pl : Option Str) :
    parseSplit fix ⟨"https".toList, "www.youtube.com".toList, path, query, []⟩ pl =
      routePath fix path query pl := by
  unfold parseSplit
  simp only [www_not_short_host, Bool.and_false]
  simp

/-! ## the routes on the canonical paths -/

/-- `path.rstrip("/")` changes nothing when the path ends with a field without `/` -/
theorem rstrip_slash_field (P name : Str) (hne : name ≠ []) (hns : '/' ∉ name) :
    rstripChars (P ++ name) ['/'] = P ++ name := by
  simpa using rstripChars_unique (m := P ++ name) (b := []) (cs := ['/']) (by simp) fun c hc hm => by
    rw [getLast?_append_of_ne_nil hne] at hc
    exact hns (List.mem_singleton.1 hm ▸ List.mem_of_getLast? hc)

/-- a path `/<name>` whose name has no `/` starts with none of the routes `/<word>/` -/
theorem not_startsWith_route (name w : Str) (hns : '/' ∉ name) (hw : '/' ∈ w.drop 1) :
    startsWith ('/' :: name) w = false := by
  cases h : startsWith ('/' :: name) w with
  | false => rfl
  | true =>
    exfalso
    unfold startsWith at h
    obtain ⟨r, hr⟩ := List.isPrefixOf_iff_prefix.mp h
    have : w.drop 1 ++ r = name := by
      have := congrArg (List.drop 1) hr
      rwa [List.drop_append_of_le_length (by cases w <;> simp_all), List.drop_succ_cons, List.drop_zero] at this
    exact hns (this ▸ List.mem_append_left r hw)

theorem segs_two (w name : Str) (hw : w ≠ [] ∧ '/' ∉ w) (hne : name ≠ []) (hns : '/' ∉ name)
    (hb : NoTrailingBlank name) : pathsplit ('/' :: (w ++ '/' :: name)) = [w, name] := by
  have := pathsplit_join [w, name] (by simp)
    (by intro x hx
        simp only [List.mem_cons, List.not_mem_nil, or_false] at hx
        rcases hx with rfl | rfl
        · exact hw
        · exact ⟨hne, hns⟩)
    (by intro x c hx hc
        have : x = name := by simpa using hx.symm
        rw [this] at hc
        exact hb c hc)
  rw [join_cons_cons] at this
  simpa [join] using this

theorem second_two (w name : Str) (hw : w ≠ [] ∧ '/' ∉ w) (hne : name ≠ []) (hns : '/' ∉ name)
    (hb : NoTrailingBlank name) : second ('/' :: (w ++ '/' :: name)) = .ok (some name) := by
  unfold second
  rw [segs_two w name hw hne hns hb]
  simp

theorem cutAmp_eq_self (x : Str) (h : '&' ∉ x) : cutAmp x = x := by
  unfold cutAmp
  exact takeWhile_of_all (fun c hc => by
    have : c ≠ '&' := fun e => h (e ▸ hc)
    simpa using this)

theorem routePath_canonical (fix : Bool) (w : Str) (f : Str → Option Record) (h : (w, f) ∈ secondRoutes fix)
    (name query : Str) (pl : Option Str) (hne : name ≠ []) (hns : '/' ∉ name) (hb : NoTrailingBlank name) :
    routePath fix ('/' :: (w ++ '/' :: name)) query pl = .ok (f name) := by
  have hw : w ≠ [] ∧ '/' ∉ w := by
    simp only [secondRoutes, List.mem_cons, Prod.mk.injEq, List.not_mem_nil, or_false] at h
    rcases h with ⟨rfl, -⟩ | ⟨rfl, -⟩ | ⟨rfl, -⟩ | ⟨rfl, -⟩ <;> decide
  rw [routePath_second fix w f h]
  unfold viaSecond
  rw [second_two w name hw hne hns hb]

theorem routePath_user (fix : Bool) (name query : Str) (pl : Option Str) (hne : name ≠ [])
    (hns : '/' ∉ name) (hamp : '&' ∉ name) (hst : Stripped name) :
    routePath fix ("/user/".toList ++ name) query pl = .ok (some (.user name)) := by
  have := routePath_canonical fix _ _ (by simp [secondRoutes] : ("user".toList, userOf) ∈ secondRoutes fix)
    name query pl hne hns hst.2
  simp only [toList_lit, List.cons_append, List.nil_append] at this ⊢
  rw [this]
  simp [userOf, cutAmp_eq_self name hamp, strip_of_stripped name hst, hne]

theorem routePath_channel (fix : Bool) (cid query : Str) (pl : Option Str) (hne : cid ≠ [])
    (hns : '/' ∉ cid) (hamp : '&' ∉ cid) (hst : Stripped cid) :
    routePath fix ("/channel/".toList ++ cid) query pl = .ok (some (.channel (some cid) none)) := by
  have := routePath_canonical fix _ _ (by simp [secondRoutes] : ("channel".toList, channelOf) ∈ secondRoutes fix)
    cid query pl hne hns hst.2
  simp only [toList_lit, List.cons_append, List.nil_append] at this ⊢
  rw [this]
  simp [channelOf, cutAmp_eq_self cid hamp, strip_of_stripped cid hst, hne]

theorem isIdChar_not_space (c : Char) (hid : isIdChar c = true) : isSpace c = false := by
  unfold isIdChar at hid
  simp only [Bool.or_eq_true, decide_eq_true_eq] at hid
  rcases hid with ((h | h) | h) | h
  · exact alpha_not_space h
  · exact digit_not_space h
  · subst h; decide
  · subst h; decide

theorem valid_id (id : Str) (h : is_youtube_video_id id = true) (hl : id.length = 11) :
    ∀ c ∈ id, isIdChar c = true := by
  unfold is_youtube_video_id idClassN at h
  simp only [Bool.and_eq_true, decide_eq_true_eq] at h
  have : id.take 11 = id := List.take_of_length_le (by omega)
  rw [this] at h
  exact fun c hc => List.all_eq_true.mp h.1.2 c hc

theorem routePath_shorts (fix : Bool) (id query : Str) (pl : Option Str) (hv : is_youtube_video_id id = true)
    (hl : id.length = 11) :
    routePath fix ("/shorts/".toList ++ id) query pl = .ok (some (.short id)) := by
  have hid := valid_id id hv hl
  have := routePath_canonical fix _ _ (by simp [secondRoutes] : ("shorts".toList, shortOf fix) ∈ secondRoutes fix)
    id query pl (by intro e; rw [e] at hl; simp at hl) (fun h => (isIdChar_unstructured _ (hid _ h)).slash rfl)
    (fun c hc => isIdChar_not_space c (hid c (List.mem_of_getLast? hc)))
  simp only [toList_lit, List.cons_append, List.nil_append] at this ⊢
  rw [this]
  simp [shortOf, truncate_eq_self fix id hl, hv]

theorem routePath_name (ob : Obligations) (fix : Bool) (name query : Str) (pl : Option Str) (hne : name ≠ [])
    (hns : '/' ∉ name) (hamp : '&' ∉ name) (hat : ∀ r, name ≠ '@' :: r) (hbl : name ∉ blacklist) :
    routePath fix ('/' :: name) query pl = .ok (some (.channel none (some name))) := by
  unfold routePath
  have hr : rstripChars ('/' :: name) ['/'] = '/' :: name := rstrip_slash_field ['/'] name hne hns
  have h0 : ¬ rstripChars ('/' :: name) ['/'] = "/watch".toList := by
    rw [hr]
    intro e
    have : name = "watch".toList := by simpa using e
    exact hbl (this ▸ ob.watchReserved)
  rw [if_neg h0]
  simp (discharger := decide) only [not_startsWith_route name _ hns, Bool.or_self, Bool.false_eq_true, if_false]
  unfold routeName
  simp only [hr]
  have hcount : ('/' :: name).count '/' = 1 := by
    rw [List.count_cons_self, List.count_eq_zero.mpr hns]
  have hl1 : lstripChars ('/' :: name) ['/'] = name := by
    unfold lstripChars
    rw [List.dropWhile_cons_of_pos (by simp)]
    exact lstripChars_of_not_mem name hns
  have hl2 : lstripChars name ['@'] = name := by
    unfold lstripChars
    apply dropWhile_append_of_stop _ [] _ (fun _ h => nomatch h)
    intro c hc
    cases name with
    | nil => simp at hc
    | cons a as =>
      have : c = a := by simpa using hc.symm
      have hne' : a ≠ '@' := fun e => hat as (by rw [e])
      simp [this, hne']
  have hbl' : blacklist.contains name = false := by
    rw [List.contains_eq_mem]; simpa using hbl
  simp only [hcount, if_true, hl1, hl2, cutAmp_eq_self name hamp, hbl']
  simp [hne]

theorem routePath_watch (fix : Bool) (id rest : Str) (pl : Option Str) (hv : is_youtube_video_id id = true)
    (hl : id.length = 11) (hrest : rest = [] ∨ ∃ r, rest = '&' :: r) :
    routePath fix "/watch".toList ("v=".toList ++ id ++ rest) pl = .ok (some (.video id pl)) := by
  have hid := valid_id id hv hl
  unfold routePath
  have h0 : rstripChars "/watch".toList ['/'] = "/watch".toList := by decide
  rw [if_pos h0, queryV_video id rest hid (by intro e; rw [e] at hl; simp at hl) hrest]
  have ht : truncate fix id = id := truncate_eq_self fix id hl
  simp [videoOf, ht, hv]

/-! ## assembly: parsing the canonical url of a record -/

/-- what the round trip asks of the fixed text `https://www.youtube.com<route>` of a canonical url:
whatever field follows, no position of it can start a cache host, a redirect hint or a continuation
pattern; the route starts the path and holds no delimiter -/
structure RouteClean (route : Str) : Prop where
  noCacheHost : domainSplit ("https://www.youtube.com".toList ++ route) = none
  noHint : prefixClean ("https://www.youtube.com".toList ++ route) true = true
  noNext : searchClean "next=%2fwatch%3fv%3d".toList ("https://www.youtube.com".toList ++ route) = true
  noNestedNext :
    searchClean "next%3d%252fwatch%253fv%253d".toList ("https://www.youtube.com".toList ++ route) = true
  ends : cleanEnds ("https://www.youtube.com".toList ++ route) = true
  head : route.head? = some '/'
  chars : ∀ c ∈ route, c ≠ '?' ∧ c ≠ '#' ∧ isUnsafeUrlChar c = false

-- decidable as the conjunction of its fields, so that `routes_clean` is one evaluation: the five routes
-- share most of the scans, and evaluated field by field they cost half as much again
instance (route : Str) : Decidable (RouteClean route) :=
  decidable_of_iff (_ ∧ _ ∧ _ ∧ _ ∧ _ ∧ _ ∧ _)
    ⟨fun h => ⟨h.1, h.2.1, h.2.2.1, h.2.2.2.1, h.2.2.2.2.1, h.2.2.2.2.2.1, h.2.2.2.2.2.2⟩,
     fun h => ⟨h.noCacheHost, h.noHint, h.noNext, h.noNestedNext, h.ends, h.head, h.chars⟩⟩

theorem routes_clean : RouteClean "/".toList ∧ RouteClean "/user/".toList ∧ RouteClean "/c/".toList ∧
    RouteClean "/channel/".toList ∧ RouteClean "/shorts/".toList := by
  simp only [toList_lit]
  decide +kernel

/-- the canonical urls made of a fixed prefix `https://www.youtube.com<route>` and one field -/
theorem parse_path_url (puny : Str → Str) (t : T) (hT : KnowsWww puny t) (ob : Obligations)
    (route s : Str) (fix : Bool) (hr : RouteClean route) (hs : Plain s) (hn : NoCont s) :
    parse_youtube_url puny t ("https://www.youtube.com".toList ++ route ++ s) fix =
      routePath fix (route ++ s) [] (queryList ("https://www.youtube.com".toList ++ route ++ s)) := by
  have hpath : ∀ c ∈ route ++ s, c ≠ '?' ∧ c ≠ '#' ∧ isUnsafeUrlChar c = false := by
    intro c hc
    rcases List.mem_append.mp hc with h | h
    · exact hr.chars c h
    · exact ⟨(hs c h).2.1, (hs c h).2.2.1, (hs c h).2.2.2.2⟩
  have hsplit := safe_urlsplit_https "www.youtube.com".toList (route ++ s) [] wwwHostOk
    (by have hroute := hr.head
        cases route with
        | nil => simp at hroute
        | cons c r => exact ⟨r ++ s, by simp only [List.head?_cons, Option.some.injEq] at hroute; rw [hroute]; rfl⟩)
    hpath (by simp)
  simp only [if_true, List.append_nil] at hsplit
  have heq : "https://www.youtube.com".toList ++ route ++ s =
      "https://".toList ++ "www.youtube.com".toList ++ (route ++ s) := by
    simp only [toList_lit, List.cons_append, List.nil_append]
  rw [← heq] at hsplit
  have hsafe : stripUnsafe ("https://www.youtube.com".toList ++ route ++ s) =
      "https://www.youtube.com".toList ++ route ++ s := by
    apply stripUnsafe_eq_self
    intro c hc
    rw [List.append_assoc] at hc
    rcases List.mem_append.mp hc with h | h
    · exact (show ∀ c ∈ "https://www.youtube.com".toList, isUnsafeUrlChar c = false by decide) c h
    · exact (hpath c h).2.2
  rw [parse_of_canonical puny t _ fix _
    (infer_canonical ob _ s hr.noCacheHost hr.noHint
      (fun c hc => ⟨(hs c hc).1, (hs c hc).2.1, (hs c hc).2.2.2.1⟩) hr.ends)
    hsafe (noCont_or _ (noCont_prefix _ s hr.noNext hr.noNestedNext hn))
    hsplit (isYoutubeParsed_www puny t hT _ _)]
  exact parseSplit_www fix _ _ _

theorem parse_watch_url (puny : Str → Str) (t : T) (hT : KnowsWww puny t) (fix : Bool)
    (id : Str) (hv : is_youtube_video_id id = true) (hl : id.length = 11) (rest : Str)
    (hrest : rest = [] ∨ ∃ r, rest = '&' :: r)
    (hchars : ∀ c ∈ rest, c ≠ '%' ∧ c ≠ '#' ∧ isUnsafeUrlChar c = false)
    (hinfer : infer (videoPrefix ++ (id ++ rest)) = videoPrefix ++ (id ++ rest)) :
    parse_youtube_url puny t (videoPrefix ++ (id ++ rest)) fix =
      .ok (some (.video id (queryList (videoPrefix ++ (id ++ rest))))) := by
  have hid := valid_id id hv hl
  have hfree : ∀ c ∈ id ++ rest, c ≠ '%' ∧ c ≠ '#' ∧ isUnsafeUrlChar c = false := by
    intro c hc
    rcases List.mem_append.mp hc with h | h
    · exact ⟨(isIdChar_unstructured _ (hid _ h)).pct, (isIdChar_unstructured _ (hid _ h)).hash, (isIdChar_unstructured _ (hid _ h)).safe⟩
    · exact hchars c h
  have hpct : '%' ∉ videoPrefix ++ (id ++ rest) := fun h =>
    (List.mem_append.mp h).elim videoPrefix_clean.noPct fun h => (hfree _ h).1 rfl
  have hsafe : stripUnsafe (videoPrefix ++ (id ++ rest)) = videoPrefix ++ (id ++ rest) :=
    stripUnsafe_eq_self _ fun c hc =>
      (List.mem_append.mp hc).elim (videoPrefix_clean.safe c) fun h => (hfree c h).2.2
  have hquery : ∀ c ∈ "v=".toList ++ id ++ rest, c ≠ '#' ∧ isUnsafeUrlChar c = false := by
    intro c hc
    rw [List.append_assoc] at hc
    rcases List.mem_append.mp hc with h | h
    · exact (show ∀ c ∈ "v=".toList, c ≠ '#' ∧ isUnsafeUrlChar c = false by decide) c h
    · exact (hfree c h).2
  have hsplit := safe_urlsplit_https "www.youtube.com".toList "/watch".toList
    ("v=".toList ++ id ++ rest) wwwHostOk ⟨_, rfl⟩ (by decide) hquery
  rw [if_neg (by simp)] at hsplit
  have heq : videoPrefix ++ (id ++ rest) =
      "https://".toList ++ "www.youtube.com".toList ++ "/watch".toList ++ '?' :: ("v=".toList ++ id ++ rest) := by
    rw [videoPrefix_clean.parts]
    simp only [List.append_assoc, List.cons_append]
  rw [← heq] at hsplit
  rw [parse_of_canonical puny t _ fix _ hinfer hsafe (noCont_or _ (noCont_of_no_pct _ hpct)) hsplit
    (isYoutubeParsed_www puny t hT _ _), parseSplit_www]
  exact routePath_watch fix id rest _ hv hl hrest

theorem parse_video_url (puny : Str → Str) (t : T) (hT : KnowsWww puny t) (ob : Obligations) (fix : Bool)
    (id : Str) (hv : is_youtube_video_id id = true) (hl : id.length = 11) (pl : Option Str)
    (hg : Good (.video id pl)) :
    parse_youtube_url puny t (recordUrl (.video id pl)) fix = .ok (some (.video id pl)) := by
  have hid := valid_id id hv hl
  have hid3 : ∀ c ∈ id, c ≠ '/' ∧ c ≠ '?' ∧ c ≠ '&' := fun c hc =>
    let h := isIdChar_unstructured c (hid c hc); ⟨h.slash, h.quest, h.amp⟩
  cases pl with
  | none =>
    have := parse_watch_url puny t hT fix id hv hl [] (Or.inl rfl) (by simp) (by
      rw [List.append_nil]
      exact infer_canonical ob videoPrefix id videoPrefix_clean.noCacheHost videoPrefix_clean.noHint hid3
        videoPrefix_clean.ends)
    rw [List.append_nil, queryList_video_none id hid] at this
    simpa [recordUrl] using this
  | some p =>
    have hp : PlainPlaylist p := hg
    have := parse_watch_url puny t hT fix id hv hl (listInfix ++ p) (Or.inr ⟨"list=".toList ++ p, by simp [listInfix]⟩)
      (fun c hc => (List.mem_append.mp hc).elim
        ((show ∀ c ∈ listInfix, c ≠ '%' ∧ c ≠ '#' ∧ isUnsafeUrlChar c = false by decide) c)
        fun h => ⟨(hp.2 _ h).2.2.2.2.1, (hp.2 _ h).2.1, (hp.2 _ h).2.2.2.2.2⟩)
      (infer_video ob id p hid3 fun c hc => ⟨(hp.2 c hc).2.2.2.1, (hp.2 c hc).2.2.1, (hp.2 c hc).1⟩)
    rw [← List.append_assoc, queryList_video_some id p hid hp] at this
    simpa [recordUrl, hp.1] using this

theorem prefixes_route :
    userPrefix = "https://www.youtube.com".toList ++ "/user/".toList ∧
    channelIdPrefix = "https://www.youtube.com".toList ++ "/channel/".toList ∧
    channelNamePrefix = "https://www.youtube.com".toList ++ "/".toList ∧
    shortPrefix = "https://www.youtube.com".toList ++ "/shorts/".toList := by
  unfold userPrefix channelIdPrefix channelNamePrefix shortPrefix
  simp only [toList_lit]
  exact ⟨rfl, rfl, rfl, rfl⟩

/-- **the round trip**, for every record of the region `Good` that satisfies the module's own
validators (parsed or not), and either value of `fix_common_mistakes` in the re-parse -/
theorem reparse_of_good (puny : Str → Str) (t : T) (hT : KnowsWww puny t) (ob : Obligations)
    (r : Record) (hv : Valid r) (hg : Good r) (fix : Bool) :
    parse_youtube_url puny t (recordUrl r) fix = .ok (some r) := by
  obtain ⟨hrName, hrUser, -, hrChannel, hrShorts⟩ := routes_clean
  obtain ⟨eUser, eChannel, eName, eShorts⟩ := prefixes_route
  match r, hv, hg with
  | .video id pl, hv, hg => exact parse_video_url puny t hT ob fix id hv.1 hv.2 pl hg
  | .short id, hv, _ =>
    have hid := valid_id id hv.1 hv.2
    have hplain : Plain id := fun c hc =>
      let h := isIdChar_unstructured c (hid c hc)
      ⟨h.slash, h.quest, h.hash, h.amp, h.safe⟩
    have hnc : NoCont id := noCont_of_no_pct id (fun h => (isIdChar_unstructured _ (hid _ h)).pct rfl)
    simp only [recordUrl, eShorts]
    rw [parse_path_url puny t hT ob _ id fix hrShorts hplain hnc]
    exact routePath_shorts fix id [] _ hv.1 hv.2
  | .user name, hv, hg =>
    simp only [recordUrl, eUser]
    rw [parse_path_url puny t hT ob _ name fix hrUser hg.1 hg.2.2]
    exact routePath_user fix name [] _ hv hg.1.no_slash hg.1.no_amp hg.2.1
  | .channel (some cid) none, hv, hg =>
    simp only [recordUrl, eChannel]
    rw [parse_path_url puny t hT ob _ cid fix hrChannel hg.1 hg.2.2]
    exact routePath_channel fix cid [] _ hv hg.1.no_slash hg.1.no_amp hg.2.1
  | .channel none (some name), hv, hg =>
    simp only [recordUrl, pyFormatOpt, Option.getD_some, eName]
    rw [parse_path_url puny t hT ob _ name fix hrName hg.1 hg.2]
    exact routePath_name ob fix name [] _ hv.1 hg.1.no_slash hg.1.no_amp hv.2.1 hv.2.2

end Ural.Youtube
