import UralModel.Lemmas.CanonClosure
/-!
# The printed result of `canonicalize_url` is a fixed point of its cleaning pass

For the whole-function idempotence and mode round trips (C02 (i), (iii)): the cleaning pass
(`CONTROL_CHARS_RE.sub`, `strip`, `upper_quoted`, `ensure_protocol`) is the identity on what
`canonicalize_url` printed in either mode (`Texts.Ok₀.clean_id` on texts,
`cleanUrl_printed_id_modes`), and the component rules of a second pass print, for the components
the parser reads back, what they print for the original ones (`canonParts_modes`).
`cleanUrl_printed_id`, `printed_last`, `canonParts_reparsed` and `canonParts_reparsed_quoted` are
the instances with an unquoted first pass.  `UpperEsc s` = every escape of `s` has upper-case hex
digits (`upper_quoted s = s`).
-/
set_option linter.unusedSimpArgs false

namespace Ural.CanonIdem
open Ural.Py Ural.UrlParts Ural.Quote Ural.Canonicalize Ural.UrlRoundTrip Ural.CanonRoundTrip Ural.CanonTexts
open Ural.QuoteUpper (upperTok_idem tokens_upperQuoted safelyUnquote_upperQuoted)

/-! ## escapes with upper-case hex digits -/

/-- a token `upper_quoted` leaves alone -/
def UpTok (t : Tok) : Prop := upperTok t = t

/-- every escape of the string has upper-case hex digits -/
def UpperEsc (s : Str) : Prop := ∀ t ∈ tokens s, UpTok t

theorem upperQuoted_of_upperEsc {s : Str} (h : UpperEsc s) : upperQuoted s = s := by
  unfold upperQuoted
  have : (tokens s).map upperTok = tokens s := by
    conv => rhs; rw [← List.map_id (tokens s)]
    exact List.map_congr_left (fun t ht => h t ht)
  rw [this, render_tokens]

theorem upperEsc_upperQuoted (s : Str) : UpperEsc (upperQuoted s) := by
  intro t ht
  rw [tokens_upperQuoted] at ht
  simp only [List.mem_map] at ht
  obtain ⟨t0, _, rfl⟩ := ht
  exact upperTok_idem t0

/-! ### splitting and joining at delimiters -/

theorem upperEsc_append_sep {c : Char} (hc : Sep c) (a b : Str) :
    UpperEsc (a ++ c :: b) ↔ UpperEsc a ∧ UpperEsc b := by
  unfold UpperEsc
  rw [tokens_append_sep hc]
  constructor
  · intro h
    exact ⟨fun t ht => h t (by simp [ht]), fun t ht => h t (by simp [ht])⟩
  · rintro ⟨ha, hb⟩ t ht
    simp only [List.mem_append, List.mem_cons] at ht
    rcases ht with ht | rfl | ht
    · exact ha t ht
    · rfl
    · exact hb t ht

theorem upperEsc_nil : UpperEsc [] := by intro t ht; simp [tokens] at ht

theorem upperEsc_cons_sep {c : Char} (hc : Sep c) (b : Str) : UpperEsc (c :: b) ↔ UpperEsc b := by
  have := upperEsc_append_sep hc [] b
  simpa [upperEsc_nil] using this

/-! ### the unquoters keep escapes upper-case -/

theorem upperEsc_iff {s : Str} : UpperEsc s ↔ upperQuoted s = s :=
  ⟨upperQuoted_of_upperEsc, fun h => h ▸ upperEsc_upperQuoted s⟩

theorem upperEsc_of_commutes {f : Str → Str} (hf : ∀ s, f (upperQuoted s) = upperQuoted (f s)) {s : Str}
    (h : UpperEsc s) : UpperEsc (f s) := by
  rw [upperEsc_iff] at h ⊢
  rw [← hf, h]

/-- no `%`, no escape -/
theorem upperEsc_of_no_pct {s : Str} (h : '%' ∉ s) : UpperEsc s := upperEsc_iff.2 (upperQuoted_of_no_pct h)

/-- the safe unquoters keep escapes upper-case -/
theorem upperEsc_safelyUnquote (U : List UInt8) (hU : (0x25 : UInt8) ∈ U) {s : Str}
    (h : UpperEsc s) : UpperEsc (safelyUnquote U s) :=
  upperEsc_of_commutes (safelyUnquote_upperQuoted U hU) h

/-! ### the components the parser returns have upper-case escapes -/

theorem upperEsc_splitFirst {s : Str} {sep : Char} (hs : Sep sep) (h : UpperEsc s) :
    UpperEsc (splitFirst s sep).1 ∧ UpperEsc ((splitFirst s sep).2.getD []) := by
  rcases splitFirst_cases s sep with ⟨_, e⟩ | ⟨a, b, _, rfl, e⟩ <;> rw [e]
  · exact ⟨h, upperEsc_nil⟩
  · exact (upperEsc_append_sep hs _ _).1 h

theorem sep_of_netlocDelim {c : Char} (h : isNetlocDelim c = true) : Sep c := by
  simp only [isNetlocDelim, Bool.or_eq_true, decide_eq_true_eq] at h
  rcases h with (rfl | rfl) | rfl <;> exact ⟨by decide, by decide⟩

theorem upperEsc_takeDrop {rest : Str} (h : UpperEsc rest) :
    UpperEsc (rest.takeWhile (fun c => !isNetlocDelim c)) ∧
    UpperEsc (rest.dropWhile (fun c => !isNetlocDelim c)) := by
  have hcat := List.takeWhile_append_dropWhile (p := fun c => !isNetlocDelim c) (l := rest)
  have hhead := List.head?_dropWhile_not (fun c => !isNetlocDelim c) rest
  cases htl : rest.dropWhile (fun c => !isNetlocDelim c) with
  | nil =>
    rw [htl, List.append_nil] at hcat
    rw [hcat]; exact ⟨h, upperEsc_nil⟩
  | cons d tl =>
    rw [htl] at hcat hhead
    simp only [List.head?_cons, Bool.not_eq_false'] at hhead
    have hsep := sep_of_netlocDelim hhead
    rw [← hcat] at h
    have := (upperEsc_append_sep hsep _ _).1 h
    exact ⟨this.1, (upperEsc_cons_sep hsep _).2 this.2⟩

theorem alpha_no_pct {s : Str} (h : ∀ c ∈ s, isAsciiAlpha c = true) : '%' ∉ s := by
  intro hm; have := h _ hm; revert this; decide

/-- the cleaned string has upper-case escapes (the default protocol is made of letters) -/
theorem upperEsc_cleanUrl (u dp : Str)
    (hdp : ∀ c ∈ rstripChars dp [':', '/'], isAsciiAlpha c = true) :
    UpperEsc (Canonicalize.cleanUrl u dp) := by
  have hp := upperEsc_of_no_pct (alpha_no_pct hdp)
  have key : ∀ r, UpperEsc r → UpperEsc (rstripChars dp [':', '/'] ++ ':' :: '/' :: '/' :: r) := fun r hr =>
    (upperEsc_append_sep sep_colon _ _).2 ⟨hp, (upperEsc_cons_sep sep_slash _).2 ((upperEsc_cons_sep sep_slash _).2 hr)⟩
  have hY := upperEsc_upperQuoted (strip (stripControl u))
  unfold Canonicalize.cleanUrl
  generalize upperQuoted (strip (stripControl u)) = X at hY ⊢
  cases hpl : protoLen X with
  | none => rw [ensureProtocol_none hpl]; exact key _ hY
  | some k =>
    rcases protoLen_some hpl with ⟨r, e⟩ | ⟨l, r, hl, e⟩ <;> rw [e] at hY ⊢
    · rw [ensureProtocol_slashes]
      exact key r ((upperEsc_cons_sep sep_slash _).1 ((upperEsc_cons_sep sep_slash _).1 hY))
    · rw [ensureProtocol_letters hl]; exact hY

/-- the text components of a parse all have upper-case escapes -/
structure UpFacts (p : Parsed) : Prop where
  path : UpperEsc p.path
  query : UpperEsc p.query
  fragment : UpperEsc p.fragment
  user : ∀ u, p.username = some u → UpperEsc u
  pass : ∀ u, p.password = some u → UpperEsc u

theorem upFacts {c S rest : Str} (h : Cleaned c S rest) (hu : UpperEsc c) {p : Parsed}
    (hp : parseUrl c = some p) : UpFacts p := by
  have hrest : UpperEsc rest := by
    rw [h.eq] at hu
    have := ((upperEsc_append_sep sep_colon _ _).1 hu).2
    exact (upperEsc_cons_sep sep_slash _).1 ((upperEsc_cons_sep sep_slash _).1 this)
  obtain ⟨r, po, hr, hpo, rfl⟩ := parseUrl_some hp
  rw [urlsplit_cleaned h] at hr
  split at hr
  · cases hr
  rename_i hok
  simp only [Option.some.injEq] at hr
  subst hr
  obtain ⟨hnl, htl⟩ := upperEsc_takeDrop hrest
  have hf := upperEsc_splitFirst sep_hash htl
  have hq := upperEsc_splitFirst sep_question hf.1
  have hui : ∀ ui, (splitLast (rest.takeWhile (fun c => !isNetlocDelim c)) '@').1 = some ui →
      UpperEsc ui := by
    intro ui h1
    rw [(splitLast_spec _ '@').1 ui h1] at hnl
    exact ((upperEsc_append_sep sep_at _ _).1 hnl).1
  refine ⟨hq.1, hq.2, hf.2, ?_, ?_⟩
  · intro u0 hu0
    simp only [parsedOf] at hu0
    unfold username userinfo at hu0
    cases h1 : (splitLast (rest.takeWhile (fun c => !isNetlocDelim c)) '@').1 with
    | none => rw [h1] at hu0; cases hu0
    | some ui =>
      rw [h1] at hu0
      cases hu0
      exact (upperEsc_splitFirst sep_colon (hui ui h1)).1
  · intro u0 hu0
    simp only [parsedOf] at hu0
    unfold password userinfo at hu0
    cases h1 : (splitLast (rest.takeWhile (fun c => !isNetlocDelim c)) '@').1 with
    | none => rw [h1] at hu0; cases hu0
    | some ui =>
      rw [h1] at hu0
      have := (upperEsc_splitFirst sep_colon (hui ui h1)).2
      rw [show (splitFirst ui ':').2 = some u0 from hu0] at this
      exact this

/-! ### the component rules keep escapes upper-case -/

theorem upperEsc_join {sep : Char} (hs : Sep sep) (parts : List Str) :
    UpperEsc (join [sep] parts) ↔ ∀ p ∈ parts, UpperEsc p := by
  induction parts with
  | nil => simp [join, upperEsc_nil]
  | cons a rest ih =>
    cases rest with
    | nil => simp [join]
    | cons b r =>
      have e : join [sep] (a :: b :: r) = a ++ sep :: join [sep] (b :: r) := by simp [join]
      rw [e, upperEsc_append_sep hs, ih]
      simp

theorem upperEsc_safelyQuote {s : Str} (h : UpperEsc s) : UpperEsc (safelyQuote s) := by
  rw [safelyQuote_fun]
  exact upperEsc_of_commutes (QuoteUpper.safelyQuoteBy_upperQuoted safeSet_quoteSafe) h

theorem upperEsc_requote (q : Bool) {unq : Str → Str} (hunq : ∀ u, UpperEsc u → UpperEsc (unq u)) {s : Str}
    (h : UpperEsc s) : UpperEsc (requote q unq s) := by
  unfold requote
  split
  · exact upperEsc_safelyQuote (hunq s h)
  · exact hunq s h

theorem upperEsc_requoteItem (q : Bool) {s : Str} (h : UpperEsc s) : UpperEsc (requoteItem q s) := by
  have hu := upperEsc_safelyUnquote Gen.Quote.unsafeForQueryItem (by decide) h
  unfold requoteItem
  split
  · exact upperEsc_of_commutes (QuoteUpper.safelyQuoteBy_upperQuoted safeSet_quoteSafeQ) hu
  · exact hu

theorem upperEsc_qmap {g : Str → Str} (hg : ∀ s, UpperEsc s → UpperEsc (g s)) {x : Str} (h : UpperEsc x) :
    UpperEsc (qmap g x) := by
  unfold qmap
  rw [safeSerializeQsl_eq, upperEsc_join sep_amp]
  intro y hy
  obtain ⟨kv', hkv', rfl⟩ := List.mem_map.1 hy
  obtain ⟨kv, hkv, rfl⟩ := List.mem_map.1 hkv'
  rw [safeQslIter_eq] at hkv
  obtain ⟨item, hitem, rfl⟩ := List.mem_map.1 hkv
  have hitemU := (upperEsc_join sep_amp (splitOn x '&')).1 (by rw [join_splitOn]; exact h) item hitem
  rcases cutFirst_cases '=' item with ⟨_, e⟩ | ⟨k, v, _, rfl, e⟩ <;> rw [e]
  · exact hg _ hitemU
  · have hkv := (upperEsc_append_sep sep_eq _ _).1 hitemU
    have e2 : serializeItem (mapItem g (k, some v)) = g k ++ '=' :: g v := by simp [serializeItem, mapItem]
    rw [e2]
    exact (upperEsc_append_sep sep_eq _ _).2 ⟨hg _ hkv.1, hg _ hkv.2⟩

theorem upperEsc_canonQuery (quoted : Bool) {q : Str} (h : UpperEsc q) : UpperEsc (canonQuery quoted q) := by
  rw [canonQuery_eq_qmap]
  exact upperEsc_qmap (fun _ => upperEsc_requoteItem quoted) h

theorem upperEsc_canonOpt (quoted : Bool) {unq : Str → Str} (h0 : unq [] = [])
    (hunq : ∀ u, UpperEsc u → UpperEsc (unq u)) {o : Option Str} (h : ∀ u, o = some u → UpperEsc u) :
    UpperEsc (strOf (canonOpt quoted unq o)) ∧ UpperEsc ((canonOpt quoted unq o).getD []) := by
  rw [strOf_canonOpt quoted h0, getD_canonOpt quoted h0]
  cases o with
  | none => simp only [strOf_none, Option.getD_none, requote_nil quoted h0, upperEsc_nil, and_self]
  | some u => rw [strOf_some]; exact ⟨upperEsc_requote quoted hunq (h u rfl), upperEsc_requote quoted hunq (h u rfl)⟩

/-- `requoteNfkc` writes upper-case escapes (FX-C01-194b1c7) -/
theorem upperEsc_unquoteAuthItem {s : Str} (h : UpperEsc s) : UpperEsc (unquoteAuthItem s) :=
  upperEsc_of_commutes authItem_upperQuoted h

/-! ## the printed URL has upper-case escapes -/

theorem upperEsc_append_of_sepHead {a b : Str} (ha : UpperEsc a) (hb : UpperEsc b)
    (h : b = [] ∨ ∃ d b', b = d :: b' ∧ Sep d) : UpperEsc (a ++ b) := by
  rcases h with rfl | ⟨d, b', rfl, hd⟩
  · simpa using ha
  · exact (upperEsc_append_sep hd _ _).2 ⟨ha, (upperEsc_cons_sep hd _).1 hb⟩

/-- what the whole-function idempotence needs from the path rule: the canonical path is a fixed
point of the path rule whatever the "has more" flag, a second unquoting does nothing to it, and it
keeps escapes upper-case.  It holds (`pathIdem`, from `Lemmas/Normpath.lean`); the structure only
names the three facts for the statements that take them as `hpath`. -/
structure PathIdem : Prop where
  idem : ∀ (p : Str) (m m' : Bool), AbsPath p → canonPath (canonPath p m) m' = canonPath p m'
  unq : ∀ (p : Str) (m : Bool), AbsPath p → unquotePath (canonPath p m) = canonPath p m
  upper : ∀ (p : Str) (m : Bool), AbsPath p → UpperEsc p → UpperEsc (canonPath p m)

theorem segHom_upperQuoted : Normpath.SegHom upperQuoted := ⟨rfl, upperQuoted_append_sep sep_slash⟩

theorem upperEsc_renderSegs (v : List Str × Bool) (m : Bool) (h : ∀ x ∈ v.1, UpperEsc x) :
    UpperEsc (Normpath.renderSegs v m) := by
  rw [upperEsc_iff, segHom_upperQuoted.render,
    List.map_congr_left fun x hx => upperEsc_iff.1 (h x hx), List.map_id']

theorem upperEsc_canonPath (p : Str) (m : Bool) (h : AbsPath p) (hu : UpperEsc p) :
    UpperEsc (canonPath p m) := by
  rw [Normpath.canonPath_render p m (absPath_of_AbsPath h)]
  apply upperEsc_renderSegs
  intro x hx
  have hx' := Normpath.segView_subset _ x hx
  have hup : UpperEsc (unquotePath p) := upperEsc_safelyUnquote _ (by decide) hu
  exact (upperEsc_join sep_slash (splitOn (unquotePath p) '/')).1
    (by rw [join_splitOn]; exact hup) x hx'

theorem pathIdem : PathIdem where
  idem := fun p m m' h => Normpath.canonPath_idem p m m' (absPath_of_AbsPath h)
  unq := fun p m h => Normpath.unquotePath_canonPath p m (absPath_of_AbsPath h)
  upper := upperEsc_canonPath

theorem tail_sepHead (q f : Str) :
    queryPart q ++ fragPart f = [] ∨ ∃ d b', queryPart q ++ fragPart f = d :: b' ∧ Sep d := by
  cases hT : queryPart q ++ fragPart f with
  | nil => exact Or.inl rfl
  | cons d b' =>
    right
    refine ⟨d, b', rfl, ?_⟩
    rcases tail_head q f d (by rw [hT]; rfl) with rfl | rfl <;> exact ⟨by decide, by decide⟩

theorem upperEsc_tail {q f : Str} (hq : UpperEsc q) (hf : UpperEsc f) :
    UpperEsc (queryPart q ++ fragPart f) := by
  have hfp : UpperEsc (fragPart f) := by
    unfold fragPart; split
    · exact (upperEsc_cons_sep sep_hash _).2 hf
    · exact upperEsc_nil
  have hfs : fragPart f = [] ∨ ∃ d b', fragPart f = d :: b' ∧ Sep d := by
    unfold fragPart; split
    · exact Or.inr ⟨_, _, rfl, sep_hash⟩
    · exact Or.inl rfl
  unfold queryPart
  split
  · rw [List.cons_append]
    exact (upperEsc_cons_sep sep_question _).2 (upperEsc_append_of_sepHead hq hfp hfs)
  · simpa using hfp

theorem upperEsc_netloc {U P H : Str} {b : Bool} {port : Option Nat} (hU : UpperEsc U) (hP : UpperEsc P)
    (hH : '%' ∉ H) : UpperEsc (authPart U P ++ (hostPartB b H ++ portPart port)) := by
  have hX : UpperEsc (hostPartB b H ++ portPart port) := by
    apply upperEsc_of_no_pct
    intro hm
    rcases List.mem_append.1 hm with h | h
    · rcases mem_hostPartB h with h | h | h
      · exact hH h
      · cases h
      · cases h
    · rcases mem_portPart h with h | h
      · cases h
      · revert h; decide
  unfold authPart
  split
  · have e : U ++ ':' :: P ++ ['@'] ++ (hostPartB b H ++ portPart port) =
        U ++ ':' :: (P ++ '@' :: (hostPartB b H ++ portPart port)) := by simp
    rw [e]
    exact (upperEsc_append_sep sep_colon _ _).2 ⟨hU, (upperEsc_append_sep sep_at _ _).2 ⟨hP, hX⟩⟩
  · split
    · have e : U ++ ['@'] ++ (hostPartB b H ++ portPart port) =
          U ++ '@' :: (hostPartB b H ++ portPart port) := by simp
      rw [e]
      exact (upperEsc_append_sep sep_at _ _).2 ⟨hU, hX⟩
    · simpa using hX

section
variable {puny : Str → Str} (hpc : PunyClean puny) (quoted sf : Bool) {S rest : Str} {p : Parsed}
  (h : FromParse S rest p)
include hpc h

omit h in
theorem host_no_pct (hpct : ∀ h0, p.hostname = some h0 → '%' ∉ h0) :
    '%' ∉ strOf (canonComps puny quoted sf p).host := by
  intro hm
  rw [canonComps_host, strOf_hostRule] at hm
  have hm' := canonHost_bad puny hpc _ (by decide) hm
  cases hh : p.hostname with
  | none => rw [hh, strOf_none] at hm'; cases hm'
  | some h0 => rw [hh, strOf_some] at hm'; exact hpct h0 hh hm'

theorem upperEsc_printed_body (hup : UpFacts p)
    (hpct : ∀ h0, p.hostname = some h0 → '%' ∉ h0) :
    UpperEsc ((canonParts puny quoted sf p).netloc ++
      ((canonParts puny quoted sf p).path ++
        (queryPart (canonParts puny quoted sf p).query ++
          fragPart ((canonParts puny quoted sf p).fragment.getD [])))) := by
  have hU : (0x25 : UInt8) ∈ Gen.Quote.unsafeForAuthItem := by decide
  have hF : (0x25 : UInt8) ∈ Gen.Quote.unsafeForFragment := by decide
  have hPa : (0x25 : UInt8) ∈ Gen.Quote.unsafeForPath := by decide
  -- pieces
  have hnl : UpperEsc (canonParts puny quoted sf p).netloc := by
    rw [canonParts_netloc_eq, canonComps_user, canonComps_pass]
    exact upperEsc_netloc
      (upperEsc_canonOpt quoted unquoteAuthItem_nil (fun _ => upperEsc_unquoteAuthItem) hup.user).1
      (upperEsc_canonOpt quoted unquoteAuthItem_nil (fun _ => upperEsc_unquoteAuthItem) hup.pass).1
      (host_no_pct hpc quoted sf hpct)
  have hpa : UpperEsc (canonParts puny quoted sf p).path := by
    rw [canonParts_path]
    have hcp := upperEsc_canonPath _ (hasMore puny sf p) h.split.path_abs hup.path
    unfold finishPath
    split
    · exact upperEsc_safelyQuote hcp
    · exact upperEsc_safelyUnquote _ hPa hcp
  have hq : UpperEsc (canonParts puny quoted sf p).query := by
    rw [canonParts_query]; exact upperEsc_canonQuery quoted hup.query
  have hf : UpperEsc ((canonParts puny quoted sf p).fragment.getD []) := by
    rw [canonParts_fragment]
    apply (upperEsc_canonOpt quoted (safelyUnquote_nil _) (fun _ => upperEsc_safelyUnquote _ hF) _).2
    intro u hu
    cases sf
    · simp only [Bool.false_eq_true, if_false, Option.some.injEq] at hu
      subst hu; exact hup.fragment
    · simp at hu
  have hT := upperEsc_tail hq hf
  have hshape := finishPath_shape quoted p.path (hasMore puny sf p) h.split.path_abs
  have hpT : UpperEsc ((canonParts puny quoted sf p).path ++
      (queryPart (canonParts puny quoted sf p).query ++
        fragPart ((canonParts puny quoted sf p).fragment.getD []))) :=
    upperEsc_append_of_sepHead hpa hT (tail_sepHead _ _)
  apply upperEsc_append_of_sepHead hnl hpT
  -- the path + tail is empty or starts with a delimiter
  have hpe : (canonParts puny quoted sf p).path =
      finishPath quoted (canonPath p.path (hasMore puny sf p)) := canonParts_path puny quoted sf p
  rcases hshape.1 with h0 | ⟨r, hr⟩
  · rw [hpe, h0, List.nil_append]; exact tail_sepHead _ _
  · rw [hpe, hr]
    exact Or.inr ⟨'/', _, rfl, sep_slash⟩

end

/-! ## no white-space character comes out of the safe unquoters -/

theorem isSpace_iff (c : Char) : isSpace c = true ↔ c.toNat ∈ spaceCodes := by
  simp [isSpace]

/-- **no white-space character comes out of a safe unquoter** (raw ones are escaped, `%20`
and the escaped white space beyond ASCII stay escaped, control characters are not there) -/
theorem noSpace_safelyUnquote (U : List UInt8) {s : Str} (hs : NoCtl s) :
    ∀ c ∈ safelyUnquote U s, isSpace c = false :=
  noWs_safelyUnquote U hs

/-! ## the component rules are idempotent on what the parser reads back -/

theorem unq_strOf_canonOpt (U : List UInt8) (hU : (0x25 : UInt8) ∈ U) (hA : AsciiSet U)
    (o : Option Str) :
    safelyUnquote U (strOf (canonOpt false (safelyUnquote U) o)) =
      strOf (canonOpt false (safelyUnquote U) o) := by
  rw [strOf_canonOpt false (safelyUnquote_nil U), requote_false]
  exact safelyUnquote_idem U hU hA _

theorem strOf_canonOpt_some_auth (x : Str) :
    strOf (canonOpt false unquoteAuthItem (some x)) = unquoteAuthItem x := by
  rw [strOf_canonOpt false unquoteAuthItem_nil, strOf_some, requote_false]

theorem unq_strOf_canonOpt_auth (o : Option Str) :
    unquoteAuthItem (strOf (canonOpt false unquoteAuthItem o)) =
      strOf (canonOpt false unquoteAuthItem o) := by
  rw [strOf_canonOpt false unquoteAuthItem_nil, requote_false]
  exact unquoteAuthItem_idem _

theorem asciiSet_auth : AsciiSet Gen.Quote.unsafeForAuthItem := asciiSet_authItem

/-! ## the cleaning pass is the identity on the printed result -/

theorem last_of_noSpace {s : Str} (h : ∀ c ∈ s, isSpace c = false) :
    ∀ c, s.getLast? = some c → isSpace c = false :=
  fun c hc => h c (List.mem_of_getLast? hc)

/-- `CONTROL_CHARS_RE.sub("", ·).strip()`: no control character in the print, a letter in front -/
theorem _root_.Ural.CanonTexts.Texts.Ok₀.strip_id {t : Texts} (h : t.Ok₀)
    (hlast : ∀ c, t.print.getLast? = some c → isSpace c = false) :
    strip (stripControl t.print) = t.print := by
  rw [stripControl_eq_self_iff.2 h.noCtl_print]
  refine strip_of_ends (fun c hc => ?_) hlast
  rw [h.print_eq] at hc
  obtain ⟨⟨d, r, e, hd⟩, _⟩ := h.scheme.1
  rw [e] at hc
  simp only [List.cons_append, List.head?_cons, Option.some.injEq] at hc
  subst hc
  exact alpha_not_space hd

theorem _root_.Ural.CanonTexts.Texts.Ok₀.preClean_id {t : Texts} (h : t.Ok₀)
    (hS : ∀ c ∈ t.scheme, isAsciiAlpha c = true)
    (hup : UpperEsc (t.netloc ++ (t.path ++ (queryPart t.query ++ fragPart t.fragment))))
    (hlast : ∀ c, t.print.getLast? = some c → isSpace c = false) :
    upperQuoted (strip (stripControl t.print)) = t.print := by
  rw [h.strip_id hlast]
  apply upperQuoted_of_upperEsc
  rw [h.print_eq]
  exact (upperEsc_append_sep sep_colon _ _).2 ⟨upperEsc_of_no_pct (alpha_no_pct hS),
    (upperEsc_cons_sep sep_slash _).2 ((upperEsc_cons_sep sep_slash _).2 hup)⟩

theorem _root_.Ural.CanonTexts.Texts.Ok₀.clean_id {t : Texts} (h : t.Ok₀)
    (hS : (∀ c ∈ t.scheme, isAsciiAlpha c = true) ∧ t.scheme.length ≤ 64)
    (hup : UpperEsc (t.netloc ++ (t.path ++ (queryPart t.query ++ fragPart t.fragment))))
    (hlast : ∀ c, t.print.getLast? = some c → isSpace c = false) (dp : Str) :
    Canonicalize.cleanUrl t.print dp = t.print := by
  unfold Canonicalize.cleanUrl
  rw [h.preClean_id hS.1 hup hlast, h.print_eq]
  exact ensureProtocol_letters ⟨h.scheme_ne, hS.1, hS.2⟩ _ dp

section
variable {puny : Str → Str} (hpc : PunyClean puny) (sf : Bool) {S rest : Str} {p : Parsed}
  (h : FromParse S rest p)
include hpc h

set_option linter.unusedVariables false in
theorem printed_last (hui : userinfoBrackets p.netloc = false)
    (hbr : bracketedHost p.netloc = true →
      bracketedHostOk (strOf (canonComps puny false sf p).host) = true) :
    ∀ c, (printSplit (canonParts puny false sf p)).getLast? = some c → isSpace c = false :=
  printed_last_noSpace hpc false sf h

theorem printed_texts (quoted : Bool) :
    ∃ t : Texts, printSplit (canonParts puny quoted sf p) = t.print ∧ t.Ok₀ ∧ t.scheme = lower S ∧
      (∀ c, t.print.getLast? = some c → isSpace c = false) ∧
      (UpFacts p → (∀ h0, p.hostname = some h0 → '%' ∉ h0) →
        UpperEsc (t.netloc ++ (t.path ++ (queryPart t.query ++ fragPart t.fragment)))) := by
  have hlast := printed_last_noSpace hpc quoted sf h
  rw [print_canonParts] at hlast
  refine ⟨_, print_canonParts puny quoted sf p, ok₀_canonT hpc quoted sf h, ?_, hlast, fun hup hpct => ?_⟩
  · rw [← compsTexts_canonComps]; exact h.split.scheme
  · have := upperEsc_printed_body hpc quoted sf h hup hpct
    obtain ⟨e1, e2, e3⟩ := tail_compsTexts puny quoted sf p (bflag puny quoted sf p)
    rw [← compsTexts_canonComps, netloc_compsTexts, e1, e2, e3]
    exact this

/-- **the cleaning pass is the identity on the printed result**, in either mode: no control
character, no surrounding white space (`printed_last_noSpace`), escapes already upper-case, a
protocol `PROTOCOL_RE` recognises (`scheme://` is always printed, FX-C02-f918741) -/
theorem cleanUrl_printed_id_modes (quoted : Bool) (hup : UpFacts p)
    (hS : (∀ c ∈ S, isAsciiAlpha c = true) ∧ S.length ≤ 64)
    (hpct : ∀ h0, p.hostname = some h0 → '%' ∉ h0) (dp : Str) :
    Canonicalize.cleanUrl (printSplit (canonParts puny quoted sf p)) dp =
      printSplit (canonParts puny quoted sf p) := by
  obtain ⟨t, e, hok, hs, hlast, hU⟩ := printed_texts hpc sf h quoted
  rw [e]
  exact hok.clean_id (by rw [hs, length_lower]; exact ⟨alpha_lower hS.1, hS.2⟩) (hU hup hpct) hlast dp

set_option linter.unusedVariables false in
/-- unquoted mode; `hpath`, `hui` and `hbr` are not used -/
theorem cleanUrl_printed_id (hup : UpFacts p) (hpath : PathIdem)
    (hS : (∀ c ∈ S, isAsciiAlpha c = true) ∧ S.length ≤ 64)
    (hpct : ∀ h0, p.hostname = some h0 → '%' ∉ h0)
    (hui : userinfoBrackets p.netloc = false)
    (hbr : bracketedHost p.netloc = true →
      bracketedHostOk (strOf (canonComps puny false sf p).host) = true)
    (dp : Str) :
    Canonicalize.cleanUrl (printSplit (canonParts puny false sf p)) dp =
      printSplit (canonParts puny false sf p) :=
  cleanUrl_printed_id_modes hpc sf h false hup hS hpct dp

end

/-! ## the second pass on the components -/

/-- the quoted rule on what the parser reads back from an unquoted item -/
theorem keyQuoted (U : List UInt8) (hU : (0x25 : UInt8) ∈ U) (hA : AsciiSet U) (o : Option Str)
    (c : Prop) [Decidable c] (hc : ¬ c → strOf (canonOpt false (safelyUnquote U) o) = []) :
    strOf (canonOpt true (safelyUnquote U)
      (if c then some (strOf (canonOpt false (safelyUnquote U) o)) else none)) =
      strOf (canonOpt true (safelyUnquote U) o) := by
  rw [strOf_canonOpt true (safelyUnquote_nil U), strOf_ite c _ hc,
    strOf_canonOpt false (safelyUnquote_nil U),
    requote_modes U hU hA false true _ (fun h => by cases h), strOf_canonOpt true (safelyUnquote_nil U)]

/-- the same for a user name / password -/
theorem keyQuoted_auth (o : Option Str) (c : Prop) [Decidable c]
    (hc : ¬ c → strOf (canonOpt false unquoteAuthItem o) = []) :
    strOf (canonOpt true unquoteAuthItem
      (if c then some (strOf (canonOpt false unquoteAuthItem o)) else none)) =
      strOf (canonOpt true unquoteAuthItem o) := by
  rw [strOf_canonOpt true unquoteAuthItem_nil, strOf_ite c _ hc,
    strOf_canonOpt false unquoteAuthItem_nil, requote_auth_modes false true _ (fun h => by cases h),
    strOf_canonOpt true unquoteAuthItem_nil]

section
variable {puny : Str → Str} (hpl : PunyLaws puny) (hpc : PunyClean puny) (sf : Bool)
  {S rest : Str} {p : Parsed} (h : FromParse S rest p)
  (hui : userinfoBrackets p.netloc = false)
include hpl hpc h hui

/-- a second pass in mode `q2` on what the parser reads back from the print of mode `q1`: the
texts read back are `canonT q1` of the parsed ones, and `canonT q2 ∘ canonT q1 = canonT q2` -/
theorem canonParts_modes (q1 q2 : Bool) (hcl : q1 = true → (textsOf p).Clean) :
    printSplit (canonParts puny q2 sf (reparsedOf puny q1 sf p)) =
      printSplit (canonParts puny q2 sf p) := by
  have habs : Normpath.absPath (textsOf p).path = true := absPath_of_AbsPath h.split.path_abs
  rw [print_canonParts, print_canonParts,
    textsOf_reparsedOf (bracketedHost_printed hpc q1 sf h hui), canonT_modes hpl q1 q2 sf _ habs hcl]

variable (hbr : bracketedHost p.netloc = true →
    bracketedHostOk (strOf (canonComps puny false sf p).host) = true)
include hbr

set_option linter.unusedVariables false in
set_option linter.unusedSectionVars false in
/-- **second pass on the components**: applying the component rules (unquoted mode) to what
the parser reads back from the printed result prints the same URL again.  `hbr` holds of every
accepted parse (`BracketHost.hbr_holds`), `hpath` is `pathIdem`; neither is used. -/
theorem canonParts_reparsed (hpath : PathIdem) :
    printSplit (canonParts puny false sf (reparsedOf puny false sf p)) =
      printSplit (canonParts puny false sf p) :=
  canonParts_modes hpl hpc sf h hui false false (fun e => by cases e)

set_option linter.unusedVariables false in
set_option linter.unusedSectionVars false in
/-- **second pass in QUOTED mode on the components of an unquoted first pass**: it prints what
quoted mode prints for the original components -/
theorem canonParts_reparsed_quoted (hpath : PathIdem) :
    printSplit (canonParts puny true sf (reparsedOf puny false sf p)) =
      printSplit (canonParts puny true sf p) :=
  canonParts_modes hpl hpc sf h hui false true (fun e => by cases e)

end

end Ural.CanonIdem
