import UralModel.Lemmas.NormReparse
import UralModel.Lemmas.FpReparse
import UralModel.Lemmas.C07Bridge
import UralModel.Lemmas.UpRel
import UralModel.Lemmas.NetlocSplit
/-!
# C07 on strings: the hostname helpers with the parser inside the model

* the two hand models of `SplitResult.hostname` (`Py.pyHostname` of C12, used by `hostOfModel`,
  and `Py.hostname` of the round-trip development, used by `parseUrl`) are the same function
  (`pyHostname_eq`, restated from `Lemmas/NetlocSplit.lean`), hence `hostOfModel s` is the hostname field of `parseUrl s` whenever the
  port is a port (`hostOfModel_of_parseUrl`);
* the hostname helpers clean their argument without `upper_quoted`, `normalize_url` with it: the
  two cleaned strings differ by the case of the hex digits of escapes only (`UpRel`,
  `Lemmas/UpRel.lean`), and a
  string related in that way to a string of the grammar class is in the class itself, with the
  same scheme prefix and — for a host without `%` — the same lower-cased host (`grammar_decomp`,
  `GRel.wf`, `GRel.hostname`);
  so the parser finds the host `lower g.host` in the helper's string (`helper_host`).
-/

namespace Ural.C07
open Ural Ural.Py Ural.UrlParts Ural.Quote Ural.Normalize Ural.UrlRoundTrip Ural.LruVariants
open Ural.CanonRoundTrip Ural.NormBridge Ural.QuoteUpper

/-- **the two hand models of `SplitResult.hostname` agree** (`""` for `None`) -/
theorem pyHostname_eq (n : Str) : pyHostname n = lowerHost (hostinfo n).1 := Netloc.pyHostname_eq n

/-- the third hand model of `.hostname` (`Fingerprint.pyHostname`, `Model/C06Netloc.lean`: the
accessors `fingerprint_url` reads a second time) is the accessor of the round-trip development -/
theorem fingerprint_pyHostname_eq (n : Str) : Ural.Fingerprint.pyHostname n = hostname n :=
  Ural.Fingerprint.pyHostname_eq n

/-- `hostOfModel` is the `.hostname` accessor of the round-trip development on the netloc the
modelled parser finds -/
theorem hostOfModel_hostname (s : Str) :
    hostOfModel s = (Py.urlsplit s []).bind fun r => hostname r.netloc := by
  unfold hostOfModel hostname
  cases Py.urlsplit s [] with
  | none => rfl
  | some r =>
    simp only [Option.bind_some, pyHostname_eq]
    by_cases h : (hostinfo r.netloc).1 = []
    · simp [h, Netloc.lowerHost_eq_nil.2]
    · have : lowerHost (hostinfo r.netloc).1 ≠ [] := fun e => h (Netloc.lowerHost_eq_nil.1 e)
      simp [h, this]

/-- … hence the hostname field of `parseUrl` whenever the string parses -/
theorem hostOfModel_of_parseUrl {s : Str} {p : Parsed} (h : parseUrl s = some p) :
    hostOfModel s = p.hostname := by
  obtain ⟨r, po, hr, _, rfl⟩ := parseUrl_some h
  rw [hostOfModel_hostname, hr]
  rfl


/-- pieces that are both absent, or both present and related -/
def UpOpt : Option Str → Option Str → Prop
  | none, none => True
  | some a, some b => UpRel a b
  | _, _ => False

def UpProto : Proto → Proto → Prop
  | .scheme a, .scheme b => UpRel a b
  | .slashes, .slashes => True
  | .bare, .bare => True
  | _, _ => False

/-- two strings of the grammar related piece by piece -/
structure GRel (g₀ g : UrlG) : Prop where
  proto : UpProto g₀.proto g.proto
  ui : UpOpt g₀.ui g.ui
  host : UpRel g₀.host g.host
  port : UpOpt g₀.port g.port
  path : UpRel g₀.path g.path
  query : UpOpt g₀.query g.query
  fragment : UpOpt g₀.fragment g.fragment
  br : g₀.br = g.br

theorem UpOpt.cases {a b : Option Str} (h : UpOpt a b) :
    (a = none ∧ b = none) ∨ ∃ x y, a = some x ∧ b = some y ∧ UpRel x y := by
  cases a <;> cases b
  · exact Or.inl ⟨rfl, rfl⟩
  · exact False.elim h
  · exact False.elim h
  · exact Or.inr ⟨_, _, rfl, rfl, h⟩

theorem UpProto.cases {p q : Proto} (h : UpProto p q) :
    (∃ a b, p = .scheme a ∧ q = .scheme b ∧ UpRel a b) ∨ (p = .slashes ∧ q = .slashes) ∨
      (p = .bare ∧ q = .bare) := by
  cases p <;> cases q <;> first
    | exact False.elim h
    | exact Or.inl ⟨_, _, rfl, rfl, h⟩
    | exact Or.inr (Or.inl ⟨rfl, rfl⟩)
    | exact Or.inr (Or.inr ⟨rfl, rfl⟩)

/-- an optional piece introduced by a separator -/
def sepPart (sep : Char) : Option Str → Str
  | none => []
  | some b => sep :: b

theorem portPart_eq (o : Option Str) : NormBridge.portPart o = sepPart ':' o := by cases o <;> rfl
theorem qPart_eq (o : Option Str) : qPart o = sepPart '?' o := by cases o <;> rfl
theorem fPart_eq (o : Option Str) : fPart o = sepPart '#' o := by cases o <;> rfl

theorem upRel_sepPart {sep : Char} (hsep : isAsciiAlpha sep = false) {s : Str} {o : Option Str} {y : Str}
    (h : UpRel s (sepPart sep o ++ y)) :
    ∃ o₀ s2, s = sepPart sep o₀ ++ s2 ∧ UpOpt o₀ o ∧ UpRel s2 y := by
  cases o with
  | none => exact ⟨none, s, rfl, trivial, h⟩
  | some b =>
    simp only [sepPart, List.cons_append] at h
    obtain ⟨s', rfl, h'⟩ := h.sep_right hsep
    obtain ⟨b₀, s2, rfl, hb, h2⟩ := h'.append_right
    exact ⟨some b₀, s2, rfl, hb, h2⟩

theorem upRel_uiPart {s : Str} {o : Option Str} {y : Str} (h : UpRel s (uiPart o ++ y)) :
    ∃ o₀ s2, s = uiPart o₀ ++ s2 ∧ UpOpt o₀ o ∧ UpRel s2 y := by
  cases o with
  | none => exact ⟨none, s, rfl, trivial, h⟩
  | some u =>
    simp only [uiPart, List.append_assoc, List.singleton_append] at h
    obtain ⟨u₀, s', rfl, hu, h'⟩ := h.append_right
    obtain ⟨s2, rfl, h2⟩ := h'.sep_right (by decide)
    exact ⟨some u₀, s2, by simp [uiPart], hu, h2⟩

theorem upRel_proto {s : Str} {pr : Proto} {y : Str} (h : UpRel s (pr.str ++ y)) :
    ∃ pr₀ s2, s = pr₀.str ++ s2 ∧ UpProto pr₀ pr ∧ UpRel s2 y := by
  cases pr with
  | scheme sc =>
    simp only [Proto.str, List.append_assoc, List.cons_append, List.nil_append] at h
    obtain ⟨sc₀, s', rfl, hsc, h'⟩ := h.append_right
    obtain ⟨s1, rfl, h1⟩ := h'.sep_right (by decide)
    obtain ⟨s2, rfl, h2⟩ := h1.sep_right (by decide)
    obtain ⟨s3, rfl, h3⟩ := h2.sep_right (by decide)
    exact ⟨.scheme sc₀, s3, by simp [Proto.str], hsc, h3⟩
  | slashes =>
    simp only [Proto.str, List.cons_append, List.nil_append] at h
    obtain ⟨s1, rfl, h1⟩ := h.sep_right (by decide)
    obtain ⟨s2, rfl, h2⟩ := h1.sep_right (by decide)
    exact ⟨.slashes, s2, rfl, trivial, h2⟩
  | bare => exact ⟨.bare, s, rfl, trivial, h⟩

/-- **a string related to a string of the grammar (host not an IP literal) is a string of the
grammar, related piece by piece** -/
theorem grammar_decomp (g : UrlG) (hbr : g.br = false) (c : Str) (h : UpRel c g.str) :
    ∃ g₀ : UrlG, c = g₀.str ∧ GRel g₀ g := by
  unfold UrlG.str UrlG.rest UrlG.netloc UrlG.tail UrlG.hostPart at h
  rw [hbr] at h
  simp only [Bool.false_eq_true, if_false, portPart_eq, qPart_eq, fPart_eq, List.append_assoc] at h
  obtain ⟨pr₀, c1, rfl, hpr, h1⟩ := upRel_proto h
  obtain ⟨ui₀, c2, rfl, hui, h2⟩ := upRel_uiPart h1
  obtain ⟨host₀, c3, rfl, hhost, h3⟩ := h2.append_right
  obtain ⟨port₀, c4, rfl, hport, h4⟩ := upRel_sepPart (by decide) h3
  obtain ⟨path₀, c5, rfl, hpath, h5⟩ := h4.append_right
  obtain ⟨q₀, c6, rfl, hq, h6⟩ := upRel_sepPart (by decide) h5
  have h6' : UpRel c6 (sepPart '#' g.fragment ++ []) := by simpa using h6
  obtain ⟨f₀, c7, rfl, hf, h7⟩ := upRel_sepPart (by decide) h6'
  have := h7.nil_right
  subst this
  refine ⟨⟨pr₀, ui₀, host₀, port₀, path₀, q₀, f₀, false⟩, ?_, ⟨hpr, hui, hhost, hport, hpath, hq, hf, hbr.symm⟩⟩
  simp [UrlG.str, UrlG.rest, UrlG.netloc, UrlG.tail, UrlG.hostPart, portPart_eq, qPart_eq, fPart_eq]


theorem UpRel.free {s t : Str} (h : UpRel s t) (bad : List Char)
    (hbad : ∀ x ∈ bad, isAsciiAlpha x = false) (ht : free bad t = true) : free bad s = true := by
  rw [free_iff] at ht ⊢
  exact fun c hc hcb => h.not_mem (hbad c hcb) (fun hd => ht c hd hcb) hc

theorem UpOpt.freeOpt {a b : Option Str} (h : UpOpt a b) (bad : List Char)
    (hbad : ∀ x ∈ bad, isAsciiAlpha x = false) (ht : freeOpt bad b = true) : freeOpt bad a = true := by
  rcases h.cases with ⟨rfl, rfl⟩ | ⟨x, y, rfl, rfl, hxy⟩
  · rfl
  · exact hxy.free bad hbad ht

theorem UpOpt.sepPart {a b : Option Str} (h : UpOpt a b) (sep : Char) :
    UpRel (sepPart sep a) (sepPart sep b) := by
  rcases h.cases with ⟨rfl, rfl⟩ | ⟨x, y, rfl, rfl, hxy⟩
  · exact .nil
  · exact .cons (Or.inl rfl) hxy

theorem UpOpt.uiPart {a b : Option Str} (h : UpOpt a b) : UpRel (uiPart a) (uiPart b) := by
  rcases h.cases with ⟨rfl, rfl⟩ | ⟨x, y, rfl, rfl, hxy⟩
  · exact .nil
  · exact hxy.append (UpRel.refl _)

section
variable {g₀ g : UrlG} (h : GRel g₀ g)
include h

theorem GRel.rest (hbr : g.br = false) : UpRel g₀.rest g.rest := by
  unfold UrlG.rest UrlG.netloc UrlG.tail UrlG.hostPart
  rw [h.br, hbr]
  simp only [Bool.false_eq_true, if_false, portPart_eq, qPart_eq, fPart_eq]
  exact UpRel.append (UpRel.append h.ui.uiPart (UpRel.append h.host (h.port.sepPart _)))
    (UpRel.append h.path (UpRel.append (h.query.sepPart _) (h.fragment.sepPart _)))

theorem GRel.hasProto : g₀.proto.hasProto = g.proto.hasProto := by
  rcases h.proto.cases with ⟨a, b, h0, h1, _⟩ | ⟨h0, h1⟩ | ⟨h0, h1⟩ <;> rw [h0, h1] <;> rfl

theorem GRel.parsedScheme : g₀.proto.parsedScheme = g.proto.parsedScheme := by
  rcases h.proto.cases with ⟨a, b, h0, h1, hab⟩ | ⟨h0, h1⟩ | ⟨h0, h1⟩ <;> rw [h0, h1]
  simp only [Proto.parsedScheme, hab.lower]

/-- **the class is closed**: the related string is in the grammar class too -/
theorem GRel.wf (hwf : g.wf = true) (hbr : g.br = false) : g₀.wf = true := by
  have F := wf_facts hwf
  have hb0 : g₀.br = false := by rw [h.br, hbr]
  have hsep5 : ∀ x ∈ ['/', '?', '#', '[', ']'], isAsciiAlpha x = false := by decide
  have hsep6 : ∀ x ∈ ['/', '?', '#', '@', '[', ']'], isAsciiAlpha x = false := by decide
  have hsep7 : ∀ x ∈ ['/', '?', '#', '@', ':', '[', ']'], isAsciiAlpha x = false := by decide
  apply wf_of_facts
  refine ⟨?_, h.ui.freeOpt _ hsep5 F.ui, ?_, h.port.freeOpt _ hsep6 F.port, ?_,
    h.path.free _ (by decide) F.path, h.query.freeOpt _ (by decide) F.query⟩
  · have hp := F.proto
    rcases h.proto.cases with ⟨a, b, h0, h1, hab⟩ | ⟨h0, _⟩ | ⟨h0, h1⟩ <;> rw [h0]
    · rw [h1] at hp
      simp only [Proto.ok, Bool.and_eq_true, Bool.not_eq_true', decide_eq_true_eq] at hp ⊢
      refine ⟨⟨?_, ?_⟩, ?_⟩
      · rw [hab.isEmpty]; exact hp.1.1
      · rw [hab.length]; exact hp.1.2
      · rw [hab.all_alpha]; exact hp.2
    · rfl
    · rw [h1] at hp
      simp only [Proto.ok, Bool.not_eq_true'] at hp ⊢
      rw [(h.rest hbr).hasProtocol]; exact hp
  · have hh := F.host
    rw [hbr] at hh
    rw [hb0]
    simp only [Bool.false_eq_true, if_false] at hh ⊢
    exact h.host.free _ hsep7 hh
  · rw [h.path.isEmpty, h.path.startsWith ['/'] (by decide)]
    exact F.pabs

/-- for a host without `%` the parser reports the same hostname -/
theorem GRel.hostname (hpct : '%' ∉ g.host) : g₀.hostname = g.hostname := by
  have hp0 : '%' ∉ g₀.host := h.host.not_mem (by decide) hpct
  unfold UrlG.hostname
  rw [lowerHost_of_no_pct hpct, lowerHost_of_no_pct hp0, h.host.lower]
  simp only [h.host.eq_nil_iff]

/-- a port text that is a port is made of digits: it is the same text -/
theorem GRel.port_eq {po : Option Nat} (hpo : portVal g.port = some po) : g₀.port = g.port := by
  rcases h.port.cases with ⟨h0, h1⟩ | ⟨x, y, h0, h1, hxy⟩ <;> rw [h0, h1]
  rw [h1] at hpo
  have hd : y.all isAsciiDigit = true := by
    simp only [portVal] at hpo
    split at hpo
    · rename_i e; rw [e]; rfl
    · by_cases hh : y ≠ [] ∧ y.all isAsciiDigit = true
      · exact hh.2
      · have : strToNat? y = none := by unfold strToNat?; rw [if_neg hh]
        rw [this] at hpo; cases hpo
  rw [hxy.eq_of_digits hd]

end


/-- the string the hostname helpers clean: resolved (on request), control characters removed,
stripped — no `upper_quoted` -/
def helperClean (ir : Bool) (u : Str) : Str := strip (stripControl (if ir then infer u else u))

theorem resolvedClean_eq (ir : Bool) (u : Str) : resolvedClean ir u = upperQuoted (helperClean ir u) := rfl

theorem noCtl_helperClean (ir : Bool) (u : Str) : NoCtl (helperClean ir u) :=
  NoCtl.of_subset (strip_subset _) (noCtl_stripControl _)

/-- **the modelled parser on the helper's string**: for every string of the class (host not an
IP literal and without `%`, port text a port) it finds the host of the grammar, lower-cased —
the host `normalize_url`'s parse holds -/
theorem helper_host {ir : Bool} {g : UrlG} {u : Str} {po : Option Nat} (hg : InClassOf ir g u)
    (hbr : g.br = false) (hpo : portVal g.port = some po) (hpct : '%' ∉ g.host) :
    hostOfModel (ensureProtocol (helperClean ir u) httpStr) = g.hostname := by
  have hrel : UpRel (helperClean ir u) g.str := by
    rw [← hg.reaches, resolvedClean_eq]
    exact upRel_upperQuoted _
  obtain ⟨g₀, hc, hG⟩ := grammar_decomp g hbr _ hrel
  have hwf₀ := hG.wf hg.wf hbr
  have hns : NoUnsafe g₀.rest := by
    intro c hcm
    apply unsafe_of_ctl
    apply noCtl_helperClean ir u c
    rw [hc]; unfold UrlG.str
    exact List.mem_append_right _ hcm
  obtain ⟨e1, _⟩ := parse_str g₀ hwf₀ hns
  have hp : parseUrl (ensureHttp (helperClean ir u)) = some (g₀.record po) := by
    rw [hc, e1]
    unfold UrlG.parsed
    rw [hG.port_eq hpo, hpo]; rfl
  rw [hostOfModel_ensureProtocol, hostOfModel_of_parseUrl hp]
  exact hG.hostname hpct


theorem hostOfModel_of_split5 {s : Str} {P : Ural.Lru.Parts} (h : modelSplit5 s = some P) :
    hostOfModel s = hostname P.netloc := by
  rw [hostOfModel_hostname]
  unfold modelSplit5 at h
  cases hr : Py.urlsplit s [] with
  | none => rw [hr] at h; cases h
  | some r =>
    rw [hr] at h
    simp only [Option.map_some, Option.some.injEq] at h
    subst h; rfl

/-- what the hostname equations assume of `attempt_to_decode_idna` (on top of `PunyClean`): a
lower-case label is decoded to a lower-case label (ASCII letters: the codec copies the basic code
points of the label; evaluated on the real decoder on every run).  Needed because
`normalize_hostname` does not lower-case what follows `amp-` after decoding it, while the
`.hostname` accessor lower-cases what it reads from the result of `normalize_url`. -/
def PunyLower (puny : Str → Str) : Prop := ∀ x, lower x = x → lower (puny x) = puny x

theorem punyLower_id : PunyLower id := fun _ h => h

/-- `lower s = s` character by character: the form that passes to the parts of `s`, as the induction over
the hostname steps (`hostTail_ind`) needs it; the two results below are stated with `lower` -/
def LowerFixed (s : Str) : Prop := ∀ c ∈ s, lowerChar c = c

theorem lowerFixed_iff {s : Str} : lower s = s ↔ LowerFixed s := by
  unfold LowerFixed Py.lower
  induction s with
  | nil => simp
  | cons a b ih =>
    simp only [List.map_cons, List.cons.injEq, List.mem_cons, forall_eq_or_imp, ih]

theorem lowerFixed_lower (s : Str) : LowerFixed (lower s) :=
  lowerFixed_iff.1 (Ural.Py.lower_idem s)

theorem LowerFixed.of_subset {s t : Str} (h : t ⊆ s) (hs : LowerFixed s) : LowerFixed t :=
  fun c hc => hs c (h hc)

theorem decodePuny_lowerFixed {puny : Str → Str} (hpl : PunyLower puny) {h : Str} (hh : LowerFixed h) :
    LowerFixed (decodePunycodeHostname puny h) := by
  intro c hc
  unfold decodePunycodeHostname at hc
  rcases mem_join _ _ hc with h2 | ⟨q, hq, hx⟩
  · simp only [List.mem_singleton] at h2; subst h2; decide
  · simp only [List.mem_map] at hq
    obtain ⟨part, hpart, rfl⟩ := hq
    have hsub := piece_subset h '.' part hpart
    have hp : LowerFixed part := hh.of_subset hsub
    split at hx
    · have hy : LowerFixed (lower (part.take 4) ++ part.drop 4) := by
        intro d hd
        rcases List.mem_append.1 hd with h1 | h1
        · exact lowerFixed_lower _ d h1
        · exact hp d (List.mem_of_mem_drop h1)
      exact lowerFixed_iff.1 (hpl _ (lowerFixed_iff.2 hy)) c hx
    · exact hp c hx

/-- **the normalized hostname is lower-case** (`PunyLower`) -/
theorem normHost_lowerFixed {puny : Str → Str} (hpl : PunyLower puny) (o : Normalize.Opts) (h : Str) :
    lower (normHost puny o h) = normHost puny o h := by
  rw [normHost_eq_tail]
  exact lowerFixed_iff.2
    (hostTail_ind puny o _ (lowerFixed_lower _) LowerFixed.of_subset (decodePuny_lowerFixed hpl))


open Ural.Fingerprint Ural.FpReparse in
/-- the language label / suffix step keeps a lower-case host lower-case -/
theorem fingerprintHost_lowerFixed (E : Env) (sfx : Bool) (h h' : Str) (hl : lower h = h)
    (hr : fingerprintHost E sfx h = .ok h') : lower h' = h' := by
  apply lowerFixed_iff.2
  intro c hc
  rcases fingerprintHost_mem E sfx h h' hr c hc with hm | ⟨_, w, _, rfl | hm⟩
  · exact lowerFixed_iff.1 hl c hm
  · decide
  · exact lowerFixed_lower w c hm

end Ural.C07
