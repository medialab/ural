import UralModel.Lemmas.C06Netloc
import UralModel.Lemmas.Canonicalize
import UralModel.Lemmas.C04Lower
import UralModel.Lemmas.Str
/-!
# C06 — how `fingerprint_url` factors through `normalize_url`

`fingerprint_url = second pass ∘ normalize_url(lang filter, lowercase) ∘ str.lower`.  Under
`AccLaws` the second pass is read off the *components* `normalize_url` assembled its netloc from
(`fpParts_normParts`): the port never reaches the result, the host goes through `.hostname`, the
language label and, on request, the public suffix are cut.  Last, the query filter of the inner
call: the `gl` / `hl` items, and what of the hostname it looks at.
-/
namespace Ural.Fingerprint
open Ural.Py Ural.UrlParts Ural.Normalize Ural.Canonicalize

/-- the host `normalize_url` leaves, with the options `fingerprint_url` passes -/
def normHostOf (puny : Str → Str) (p : Parsed) : Option Str := p.hostname.map (normHost puny fpOpts)

/-- the fingerprint of a parsed URL: `normalize_url`'s tuple, then the second pass -/
def fpOfParsed (E : Env) (stripSfx hasProto : Bool) (p : Parsed) : Except Err Split :=
  fpParts E stripSfx (normParts E.puny fpOpts hasProto p)

/-- the string `fingerprint_url(…, unsplit=True)` prints for a tuple -/
def fpString (r : Split) : Str :=
  let s := urlunsplit r
  if startsWith s ['/', '/'] then s.drop 2 else s

theorem fpUnsplit_inr (r : Split) : fpUnsplit (.inr r) = fpString r := rfl

/-- what the second pass does with the host it reads back -/
def fpHostOut (E : Env) (stripSfx : Bool) (seen : Option Str) : Except Err (Option Str) :=
  match seen with
  | some h => if h.isEmpty then .ok (some h) else (fingerprintHost E stripSfx h).map some
  | none => .ok none

theorem fpParts_eq (E : Env) (s : Bool) (r : Split) :
    fpParts E s r =
      match E.netlocAcc r.netloc with
      | .error e => .error e
      | .ok a =>
        match fpHostOut E s a.hostname with
        | .error e => .error e
        | .ok h =>
          .ok { scheme := [], netloc := unsplitNetloc a.username a.password h none,
                path := lower r.path, query := lower r.query, fragment := r.fragment.map lower } := by
  unfold fpParts fpHostOut
  cases E.netlocAcc r.netloc with
  | error e => rfl
  | ok a => cases a.hostname <;> rfl

theorem fpParts_ok (E : Env) (s : Bool) (r r' : Split) (h : fpParts E s r = .ok r') :
    ∃ (a : Accessors) (host : Option Str),
      r' = { scheme := [], netloc := unsplitNetloc a.username a.password host none,
             path := lower r.path, query := lower r.query, fragment := r.fragment.map lower } := by
  rw [fpParts_eq] at h
  cases hacc : E.netlocAcc r.netloc with
  | error e => simp [hacc] at h
  | ok a =>
    simp only [hacc] at h
    cases hx : fpHostOut E s a.hostname with
    | error e => simp [hx] at h
    | ok host =>
      simp only [hx, Except.ok.injEq] at h
      exact ⟨a, host, h.symm⟩

theorem fpHostOut_some (E : Env) (stripSfx : Bool) {h : Str} (hne : h ≠ []) :
    fpHostOut E stripSfx (some h) = (fingerprintHost E stripSfx h).map some := by
  cases h with
  | nil => exact absurd rfl hne
  | cons a b => rfl

theorem stripLang_nil (isCC : Str → Bool) : stripLangSubdomainsFromHostname isCC [] = [] := rfl

theorem fingerprintHost_nil (E : Env) (sfx : Bool) (hw : E.walkHost [] = .ok none) :
    fingerprintHost E sfx [] = .ok [] := by
  unfold fingerprintHost
  rw [stripLang_nil]
  cases sfx
  · rfl
  · simp only [if_true, stripSuffix, hw]
    rfl

theorem fpHostOut_text (E : Env) (s : Bool) (hw : E.walkHost [] = .ok none) (seen : Option Str) :
    (fpHostOut E s seen).map UrlRoundTrip.strOf = fingerprintHost E s (UrlRoundTrip.strOf seen) := by
  cases seen with
  | none => exact (fingerprintHost_nil E s hw).symm
  | some x =>
    rw [UrlRoundTrip.strOf_some]
    cases x with
    | nil => exact (fingerprintHost_nil E s hw).symm
    | cons a b =>
      show ((fingerprintHost E s (a :: b)).map some).map UrlRoundTrip.strOf = _
      cases fingerprintHost E s (a :: b) with
      | error e => rfl
      | ok y => exact congrArg Except.ok (UrlRoundTrip.strOf_some y)

theorem normParts_netloc (puny : Str → Str) (hp : Bool) (p : Parsed) :
    (normParts puny fpOpts hp p).netloc =
      unsplitNetloc none none (normHostOf puny p) (normPort p.port) := by
  rw [Normalize.normParts_eq]; rfl

theorem portOk_normPort (port : Option Nat) (h : PortOk port) : PortOk (normPort port) := by
  intro n hn
  cases port with
  | none => simp [normPort] at hn
  | some m =>
    simp only [normPort] at hn
    split at hn
    · cases hn
    · cases hn; exact h _ rfl

/-- **the second pass, read off the components** (under `AccLaws`) -/
theorem fpParts_normParts (E : Env) (hacc : AccLaws E.netlocAcc) (s hp : Bool) (p : Parsed)
    (hs : HostSafe (normHostOf E.puny p)) (hport : PortOk p.port) :
    fpOfParsed E s hp p =
      match fpHostOut E s (accHost (normHostOf E.puny p)) with
      | .error e => .error e
      | .ok h =>
        .ok { scheme := [], netloc := unsplitNetloc none none h none,
              path := lower (normParts E.puny fpOpts hp p).path,
              query := lower (normParts E.puny fpOpts hp p).query,
              fragment := (normParts E.puny fpOpts hp p).fragment.map lower } := by
  unfold fpOfParsed
  rw [fpParts_eq, normParts_netloc, hacc.assembled _ _ hs (portOk_normPort _ hport)]

/-- path, query and fragment of `normalize_url`'s tuple do not depend on the port -/
theorem normParts_port (puny : Str → Str) (o : Opts) (hp : Bool) (p : Parsed) (k : Option Nat) :
    (normParts puny o hp { p with port := k }).path = (normParts puny o hp p).path ∧
    (normParts puny o hp { p with port := k }).query = (normParts puny o hp p).query ∧
    (normParts puny o hp { p with port := k }).fragment = (normParts puny o hp p).fragment ∧
    (normParts puny o hp { p with port := k }).scheme = (normParts puny o hp p).scheme := by
  simp only [Normalize.normParts_eq, and_self]

/-! ## `gl` / `hl` items, and what of the hostname the query filter looks at -/

/-- the hostname the per-domain filter is chosen from (decoded, lower-cased) -/
def filterHost (puny : Str → Str) (hn : Option Str) : Option Str :=
  hn.map fun h => if h.isEmpty then h else lower (decodePunycodeHostname puny h)

theorem filterHost_eq_hostKey : filterHost = Normalize.hostKey := rfl

theorem normParts_hostname (puny : Str → Str) (o : Opts) (hp : Bool) (p : Parsed) (h' : Option Str)
    (hd : domainFilter (filterHost puny p.hostname) = domainFilter (filterHost puny h')) :
    (normParts puny o hp { p with hostname := h' }).path = (normParts puny o hp p).path ∧
    (normParts puny o hp { p with hostname := h' }).query = (normParts puny o hp p).query ∧
    (normParts puny o hp { p with hostname := h' }).fragment = (normParts puny o hp p).fragment ∧
    (normParts puny o hp { p with hostname := h' }).scheme = (normParts puny o hp p).scheme := by
  -- the hostname enters the query through `domainFilter (hostKey …)` only
  rw [filterHost_eq_hostKey] at hd
  simp only [Normalize.normParts_eq, filterQuery, hd, and_self]

/-- **table obligation**: no key of `LANG_QUERY_KEYS` is in a combo table of `normalize_url` (else
`IRRELEVANT_QUERY_COMBOS[key]` would decide on the *value* before the language filter is asked) -/
theorem lang_keys_in_no_combo :
    ∀ k ∈ Gen.Normalize.langQueryKeys,
      (Gen.Normalize.queryCombosCallable.any fun x => x.toList == k.toList) = false ∧
      comboLookup Gen.Normalize.queryCombos k.toList = none ∧
      comboLookup Gen.Normalize.ampQueryCombos k.toList = none := by decide +kernel

theorem shouldStrip_langKey (df : Option (List String)) (k : Str) (v : Option Str) (key : String)
    (hmem : key ∈ Gen.Normalize.langQueryKeys) (hk : lower k = key.toList) :
    shouldStripQueryItem true .lang df (k, v) = true := by
  obtain ⟨h1, h2, h3⟩ := lang_keys_in_no_combo key hmem
  have h4 : (Gen.Normalize.langQueryKeys.any fun x => x.toList == key.toList) = true :=
    List.any_eq_true.2 ⟨key, hmem, beq_self_eq_true _⟩
  unfold shouldStripQueryItem
  -- the combo tables are out of the way (`h1`–`h3`); every path left answers `True`: the key matches
  -- `IRRELEVANT_QUERY_RE`, or the per-domain filter `df` has it, or the language filter does (`h4`)
  simp only [hk, if_true, h1, h2, h3, h4, Bool.false_eq_true, if_false]
  split
  · rfl
  · split
    · exact ite_self _
    · rfl

theorem shouldStrip_lang (df : Option (List String)) (k : Str) (v : Option Str)
    (hk : lower k = "gl".toList ∨ lower k = "hl".toList) :
    shouldStripQueryItem true .lang df (k, v) = true := by
  rcases hk with hk | hk
  · exact shouldStrip_langKey df k v "gl" (by decide) hk
  · exact shouldStrip_langKey df k v "hl" (by decide) hk

/-- the key of a raw `key=value` item as the filter sees it -/
def itemKey (it : Str) : Str := lower (unquoteQueryItem (cutFirst '=' it).1)

/-- with `strip_trailing_slash` on, whether the query is empty does not matter to the path -/
theorem normPath_query_irrelevant (path fragment q1 q2 : Str) :
    normPath fpOpts path fragment q1 = normPath fpOpts path fragment q2 :=
  Normalize.normPath_query_irrelevant fpOpts rfl path fragment q1 q2

theorem sortQsl_single (e : QItem) : sortQsl [e] = [e] := by simp [sortQsl, insertItem]

end Ural.Fingerprint
