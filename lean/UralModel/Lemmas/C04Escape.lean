import UralModel.Model.Normalize
import UralModel.Lemmas.QuoteSplit
/-!
# C04 — the spelling of percent-escapes, and the per-domain filter under a label in front

* `unquoteToks_esc_eq_raw` / `safelyUnquote_esc_eq_raw`: for the safe unquoters an escape of a
  printable ASCII character outside the unsafe set IS that character (token level, and on
  strings for a character that cannot be mistaken for a hex digit).
* `domainFilter_front`: a dot-free label of at most 6 characters in front of the hostname does
  not change which per-domain query filter applies.
-/
set_option linter.unusedSimpArgs false
namespace Ural.Normalize
open Ural Ural.Py Ural.UrlParts Ural.Quote Ural.Canonicalize

/-! ## escapes of unreserved characters -/

theorem tokens_append_esc {h1 h2 : Char} (hh1 : isHexDigit h1 = true) (hh2 : isHexDigit h2 = true) :
    ∀ (a b : Str), tokens (a ++ '%' :: h1 :: h2 :: b) = tokens a ++ .esc h1 h2 :: tokens b
  | a, b => by rw [tokens_append_of_not_hex (d := '%') (by decide), tokens_esc hh1 hh2]

/-- the character an escape of a printable ASCII byte stands for -/
theorem ascii_char_props {b : UInt8} (hlt : b < 0x80) (hsp : b ≠ 0x20) :
    staysEscaped (Char.ofNat b.toNat) = false ∧ Char.ofNat b.toNat ≠ ' ' := by
  have hb : b.toNat < 128 := by simpa using UInt8.lt_iff_toNat_lt.1 hlt
  exact ⟨staysEscaped_of_lt (by rw [toNat_ofNat_small _ (by omega)]; exact hb),
    fun e => hsp (byte_of_ofNat_eq e)⟩

/-- **token level**: an escape whose byte is printable ASCII, not a space and not kept escaped
(`keepEsc`: C0/DEL or in the unsafe set) is read exactly like the raw character -/
theorem unquoteToks_esc_eq_raw (U : List UInt8) (h1 h2 : Char)
    (hk : keepEsc U (byteOf h1 h2) = false) (hlt : byteOf h1 h2 < 0x80) (hsp : byteOf h1 h2 ≠ 0x20)
    (a b : List Tok) :
    unquoteToks U (escapeRaw (a ++ .esc h1 h2 :: b)) =
      unquoteToks U (escapeRaw (a ++ .raw (Char.ofNat (byteOf h1 h2).toNat) :: b)) := by
  obtain ⟨hst, hne⟩ := ascii_char_props hlt hsp
  rw [escapeRaw_append, escapeRaw_append, escapeRaw_cons, escapeRaw_cons, escTok_raw hst]
  have he : escTok (.esc h1 h2) = [.esc h1 h2] := rfl
  rw [he]
  unfold unquoteToks
  simp only [List.map_append, List.map_cons, List.singleton_append]
  have hi1 : itemOf U (.esc h1 h2) = .lit (.raw (Char.ofNat (byteOf h1 h2).toNat)) := by
    simp [itemOf, hk, hlt, hsp]
  have hi2 : itemOf U (.raw (Char.ofNat (byteOf h1 h2).toNat)) =
      .lit (.raw (Char.ofNat (byteOf h1 h2).toNat)) := by
    simp [itemOf, hne]
  rw [hi1, hi2]

/-- **string level**, for a character that can neither start nor continue an escape (so that
the scan of the raw spelling is not disturbed): `%2D` is `-`, `%7E` is `~`, `%67` is `g` … -/
theorem safelyUnquote_esc_eq_raw (U : List UInt8) (h1 h2 : Char)
    (hh1 : isHexDigit h1 = true) (hh2 : isHexDigit h2 = true)
    (hk : keepEsc U (byteOf h1 h2) = false) (hlt : byteOf h1 h2 < 0x80) (hsp : byteOf h1 h2 ≠ 0x20)
    (hc : Sep (Char.ofNat (byteOf h1 h2).toNat)) (x y : Str) :
    safelyUnquote U (x ++ '%' :: h1 :: h2 :: y) =
      safelyUnquote U (x ++ Char.ofNat (byteOf h1 h2).toNat :: y) := by
  unfold safelyUnquote
  rw [tokens_append_esc hh1 hh2, tokens_append_sep hc, unquoteToks_esc_eq_raw U h1 h2 hk hlt hsp]

/-! ## the per-domain filter and a label in front of the hostname -/

theorem takeWhile_label (x c : Str) (hx : '.' ∉ x) :
    (x ++ '.' :: c).takeWhile (· ≠ '.') = x :=
  takeWhile_append_cons_stop _ x '.' c (fun ch hch => decide_eq_true fun e => hx (e ▸ hch)) (by decide)

/-- a short dot-free label in front does not create a suffix whose first label is longer -/
theorem endsWith_front (a c d : Str) (ha : '.' ∉ a)
    (hd : a.length < (d.takeWhile (· ≠ '.')).length) :
    endsWith (a ++ '.' :: c) d = endsWith c d := by
  have key : d <:+ a ++ '.' :: c ↔ d <:+ c := by
    constructor
    · rintro ⟨t, ht⟩
      rcases List.append_eq_append_iff.1 ht with ⟨a', h1, h2⟩ | ⟨c', h1, h2⟩
      · exfalso
        have ha' : '.' ∉ a' := fun hm => ha (by rw [h1]; simp [hm])
        rw [h2, takeWhile_label a' c ha'] at hd
        have : a'.length ≤ a.length := by rw [h1]; simp
        omega
      · cases c' with
        | nil =>
          exfalso
          simp only [List.nil_append] at h2
          rw [← h2] at hd
          simp at hd
        | cons ch c'' =>
          simp only [List.cons_append, List.cons.injEq] at h2
          exact ⟨c'', h2.2.symm⟩
    · rintro ⟨t, ht⟩
      exact ⟨a ++ '.' :: t, by rw [← ht]; simp⟩
  have := endsWith_iff_suffix (a ++ '.' :: c) d
  have := endsWith_iff_suffix c d
  cases h1 : endsWith (a ++ '.' :: c) d <;> cases h2 : endsWith c d <;> simp_all

/-- **the per-domain filter does not see a short label in front of the hostname**, as long as
every filtered domain has a first label longer than it (table obligation
`perDomain_first_labels`) -/
theorem domainFilter_front (a c : Str) (ha : '.' ∉ a) (hlen : a.length ≤ 6)
    (htab : Gen.Normalize.perDomainQueryFilters.all
      (fun e => decide (6 < (e.1.toList.takeWhile (· ≠ '.')).length)) = true) :
    domainFilter (some (a ++ '.' :: c)) = domainFilter (some c) := by
  have hpred : ∀ e ∈ Gen.Normalize.perDomainQueryFilters,
      endsWith (a ++ '.' :: c) e.1.toList = endsWith c e.1.toList := by
    intro e he
    have := List.all_eq_true.1 htab e he
    simp only [decide_eq_true_eq] at this
    exact endsWith_front a c _ ha (by omega)
  have hfind : Gen.Normalize.perDomainQueryFilters.find? (fun e => endsWith (a ++ '.' :: c) e.1.toList) =
      Gen.Normalize.perDomainQueryFilters.find? (fun e => endsWith c e.1.toList) := by
    exact find?_congr _ _ _ hpred
  unfold domainFilter
  have hne : (a ++ '.' :: c).isEmpty = false := by simp
  simp only [hne, Bool.false_eq_true, if_false, hfind]
  by_cases hc : c = []
  · subst hc
    simp only [List.isEmpty_nil, if_true]
    have : Gen.Normalize.perDomainQueryFilters.find? (fun e => endsWith [] e.1.toList) = none := by
      rw [List.find?_eq_none]
      intro e he
      have := List.all_eq_true.1 htab e he
      simp only [decide_eq_true_eq] at this
      have hd : e.1.toList ≠ [] := by
        intro h0; rw [h0] at this; simp at this
      simp only [Bool.not_eq_true]
      cases h : endsWith [] e.1.toList with
      | false => rfl
      | true =>
        exfalso
        obtain ⟨t, ht⟩ := (endsWith_iff_suffix [] e.1.toList).1 h
        exact hd (List.append_eq_nil_iff.1 ht).2
    rw [this]; rfl
  · have : c.isEmpty = false := by cases c <;> simp_all
    simp [this]

end Ural.Normalize
