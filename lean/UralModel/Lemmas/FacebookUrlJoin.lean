import UralModel.Lemmas.FacebookStr
import UralModel.Lemmas.Builders
import UralModel.Lemmas.YoutubeUrl
/-!
`urlsplit` and `urljoin(BASE_FACEBOOK_URL, …)` on the references the record builders of
`ural/facebook.py` make (C19): a path-absolute reference without dot segments comes back behind the
base, `;params` included; a reference without authority is never refused; and what `safe_urlsplit`
returns as a path is empty or absolute, without `?`, `#`, TAB, CR, LF.
-/
namespace Ural.Platform
open Ural.Py Ural

/-- `urljoin` raises only when one of its two `urlsplit`s does, whatever the base -/
theorem urljoin_isSome (base url : Str) (b : SplitResult) (hb : urlsplit base [] = some b)
    (hu : urlsplit url b.scheme ≠ none) : (urljoin base url).isSome = true := by
  obtain ⟨u, h⟩ := Option.ne_none_iff_exists'.mp hu
  unfold urljoin
  simp only [hb, h, apply_ite Option.isSome, Option.isSome_some, ite_self]

end Ural.Platform

namespace Ural.Facebook
open Ural.Py Ural
open Ural.UrlRoundTrip (queryPart)

/-- `"https"` and `"www.facebook.com"` as named lists of characters: the statements below are about
these, and the literals of the model are rewritten into them (`BASE_eq`; the reason is with the route
words in `Lemmas/FacebookRouter.lean`) -/
def httpsL : Str := ['h', 't', 't', 'p', 's']

def hostL : Str := ['w', 'w', 'w', '.', 'f', 'a', 'c', 'e', 'b', 'o', 'o', 'k', '.', 'c', 'o', 'm']
theorem httpsL_eq : httpsL = "https".toList := String.toList_ofList.symm
theorem hostL_eq : hostL = "www.facebook.com".toList := String.toList_ofList.symm

/-- the base as explicit characters -/
theorem BASE_eq : BASE = httpsL ++ ':' :: '/' :: '/' :: hostL := String.toList_ofList

theorem BASE_ne_nil : BASE ≠ [] := by
  rw [BASE_eq]
  exact fun h => nomatch h

theorem https_tables :
    inTable usesRelative httpsL = true ∧ inTable usesNetloc20 httpsL = true ∧ inTable usesParams httpsL = true := by
  decide +kernel

theorem urlsplit_BASE : urlsplit BASE [] = some ⟨httpsL, hostL, [], [], []⟩ := by
  rw [BASE_eq]
  decide +kernel

theorem joinBase_of_some {p u : Str} (h : urljoin BASE p = some u) : joinBase p = .ok (some u) := by
  simp only [joinBase, h]

/-! ## list helpers -/

theorem takeWhile_all {α : Type} (f : α → Bool) (a : List α) (ha : ∀ x ∈ a, f x = true) :
    a.takeWhile f = a := takeWhile_of_all ha

theorem dropWhile_all {α : Type} (f : α → Bool) (a : List α) (ha : ∀ x ∈ a, f x = true) :
    a.dropWhile f = [] := dropWhile_of_all ha

/-! ## the dot-segment loop of `urljoin` -/

theorem resolve_foldl (segs acc : List Str) (h : ∀ s ∈ segs, isDotSeg s = false) :
    segs.foldl (fun (acc : List Str) seg =>
      if seg = ['.', '.'] then acc.dropLast else if seg = ['.'] then acc else acc ++ [seg]) acc
      = acc ++ segs := by
  induction segs generalizing acc with
  | nil => simp
  | cons s ss ih =>
    have hs := h s (by simp)
    unfold isDotSeg at hs
    simp only [Bool.or_eq_false_iff, decide_eq_false_iff_not] at hs
    simp only [List.foldl_cons, hs.1, hs.2, if_false]
    rw [ih _ (fun x hx => h x (by simp [hx]))]
    simp

/-- without `.` / `..` segments the loop is the identity -/
theorem resolveSegments_of_no_dots (segs : List Str) (h : ∀ s ∈ segs, isDotSeg s = false) :
    resolveSegments segs = segs := by
  unfold resolveSegments
  simp only [resolve_foldl segs [] h, List.nil_append]
  cases hl : segs.getLast? with
  | none => rfl
  | some l =>
    have hm : l ∈ segs := List.mem_of_getLast? hl
    have := h l hm
    unfold isDotSeg at this
    simp only [Bool.or_eq_false_iff, decide_eq_false_iff_not] at this
    simp [this.1, this.2]

/-! ## `urlsplit` of a path-absolute reference and of a canonical url -/

/-- the characters of a path the builders make: no `?`, `#`, TAB, CR, LF -/
def pathChar (c : Char) : Bool := c ≠ '?' && c ≠ '#' && !isUnsafeUrlChar c

/-- the characters of a query the builders make: no `#`, TAB, CR, LF -/
def queryChar (c : Char) : Bool := c ≠ '#' && !isUnsafeUrlChar c

theorem pathChar_spec {c : Char} (h : pathChar c = true) : c ≠ '?' ∧ c ≠ '#' ∧ isUnsafeUrlChar c = false := by
  unfold pathChar at h
  simp only [Bool.and_eq_true, decide_eq_true_eq, Bool.not_eq_true'] at h
  exact ⟨h.1.1, h.1.2, h.2⟩

theorem queryChar_spec {c : Char} (h : queryChar c = true) : c ≠ '#' ∧ isUnsafeUrlChar c = false := by
  unfold queryChar at h
  simp only [Bool.and_eq_true, decide_eq_true_eq, Bool.not_eq_true'] at h
  exact h

theorem withTail_path_query (sc nl : Str) {p q : Str} (hp : ∀ c ∈ p, pathChar c = true)
    (hq : ∀ c ∈ q, queryChar c = true) : withTail sc nl (p ++ queryPart q) = ⟨sc, nl, p, q, []⟩ := by
  simpa [UrlRoundTrip.fragPart] using withTail_parts sc nl [] (not_mem_of_all hp (by decide))
    (not_mem_of_all hp (by decide)) (not_mem_of_all hq (by decide))

theorem path_query_safe {p q : Str} (hp : ∀ c ∈ p, pathChar c = true) (hq : ∀ c ∈ q, queryChar c = true) :
    ∀ c ∈ p ++ queryPart q, isUnsafeUrlChar c = false := by
  intro c hc
  rcases List.mem_append.1 hc with hc | hc
  · exact (pathChar_spec (hp c hc)).2.2
  · rcases UrlRoundTrip.mem_queryPart hc with hc | rfl
    · exact (queryChar_spec (hq c hc)).2
    · decide

theorem urlsplit_of_parts (u dflt p q : Str) (hhead : ∀ c, u.head? = some c → isC0OrSpace c = false)
    (hu : u = p ++ queryPart q) (hsch : splitScheme u dflt = (dflt, u)) (hnl : startsWith u ['/', '/'] = false)
    (hp : ∀ c ∈ p, pathChar c = true) (hq : ∀ c ∈ q, queryChar c = true) :
    urlsplit u dflt = some ⟨dflt, [], p, q, []⟩ := by
  have hcl : cleanUrl u = u :=
    (cleanUrl_eq_dropUnsafe hhead).trans (dropUnsafe_eq_self (hu ▸ path_query_safe hp hq))
  rw [urlsplit_eq, hcl, hsch, splitRest_no_netloc _ hnl, hu, withTail_path_query _ _ hp hq]

/-- `urlsplit(path + "?" + query, scheme)` for a path starting with a single slash -/
theorem urlsplit_abs_path (p' q dflt : Str) (hns : p'.head? ≠ some '/')
    (hp : ∀ c ∈ '/' :: p', pathChar c = true) (hq : ∀ c ∈ q, queryChar c = true) :
    urlsplit ('/' :: p' ++ queryPart q) dflt = some ⟨dflt, [], '/' :: p', q, []⟩ := by
  refine urlsplit_of_parts _ dflt _ q (fun c hc => by cases hc; decide) rfl (splitScheme_slash _ _) ?_ hp hq
  cases p' with
  | nil => unfold queryPart; split <;> simp [startsWith, List.isPrefixOf]
  | cons c cs =>
    have : c ≠ '/' := fun e => hns (by simp [e])
    simp [startsWith, List.isPrefixOf, Ne.symm this]

/-- **`safe_urlsplit` of a canonical url**: scheme, the canonical host, the path and the
query the builder put there -/
theorem safe_urlsplit_canonical (p' q : Str)
    (hp : ∀ c ∈ '/' :: p', pathChar c = true) (hq : ∀ c ∈ q, queryChar c = true) :
    safe_urlsplit (BASE ++ ('/' :: p' ++ queryPart q)) =
      some ⟨httpsL, hostL, '/' :: p', q, []⟩ := by
  have h := C19.safe_urlsplit_https hostL ('/' :: p') q (by decide) ⟨p', rfl⟩
    (fun c hc => pathChar_spec (hp c hc)) (fun c hc => queryChar_spec (hq c hc))
  have e : "https://".toList ++ hostL ++ '/' :: p' ++ (if q = [] then [] else '?' :: q) =
      BASE ++ ('/' :: p' ++ queryPart q) := by
    have hqs : (if q = [] then [] else '?' :: q) = queryPart q := by cases q <;> rfl
    rw [hqs, BASE_eq, (String.toList_ofList : "https://".toList = httpsL ++ [':', '/', '/'])]
    simp [httpsL]
  rw [e, ← httpsL_eq] at h
  exact h

/-! ## `urljoin(BASE_FACEBOOK_URL, …)` -/

theorem pathParams_no_semi (scheme path : Str) (h : ';' ∉ path) : pathParams scheme path = (path, []) := by
  unfold pathParams
  simp only [Bool.and_eq_true, List.contains_iff_mem, h, and_false, if_false]

theorem urlunparse_base (a b path q : Str) (hre : (if b ≠ [] then a ++ ';' :: b else a) = '/' :: path) :
    urlunparse httpsL hostL a b q [] = BASE ++ ('/' :: path ++ queryPart q) := by
  unfold urlunparse
  rw [hre]
  unfold urlunsplit20
  rw [BASE_eq]
  by_cases hqe : q = []
  · subst hqe
    simp [queryPart, hostL, httpsL, startsWith, List.isPrefixOf]
  · simp [queryPart, hqe, hostL, httpsL, startsWith, List.isPrefixOf]

/-- **`urljoin(BASE, "/…?query")`** for a path-absolute reference without `.`/`..` segments, `#`,
TAB, CR, LF, whose `;params` (split from the last segment by `urlparse`) are put back as they
were: the base followed by the reference -/
theorem urljoin_base_abs_params (p' q a b : Str) (hns : p'.head? ≠ some '/')
    (hp : ∀ c ∈ '/' :: p', pathChar c = true)
    (hq : ∀ c ∈ q, queryChar c = true)
    (hpar : pathParams httpsL ('/' :: p') = (a, b))
    (hre : (if b ≠ [] then a ++ ';' :: b else a) = '/' :: p')
    (ha : startsWith a ['/'] = true)
    (hdots : ∀ s ∈ splitOn a '/', isDotSeg s = false) :
    urljoin BASE ('/' :: p' ++ queryPart q) = some (BASE ++ ('/' :: p' ++ queryPart q)) := by
  unfold urljoin
  have hu : ('/' :: p' ++ queryPart q) ≠ [] := by simp
  simp only [BASE_ne_nil, hu, if_false, urlsplit_BASE, urlsplit_abs_path p' q httpsL hns hp hq]
  rw [hpar, pathParams_no_semi _ [] (by simp)]
  obtain ⟨t1, t2, _⟩ := https_tables
  have hane : a ≠ [] := by intro e; rw [e] at ha; simp [startsWith, List.isPrefixOf] at ha
  have hj : join ['/'] (resolveSegments (splitOn a '/')) = a := by
    rw [resolveSegments_of_no_dots _ hdots, join_splitOn]
  simp only [t1, t2, ha, hj, hane, ne_eq, not_true_eq_false, decide_false, Bool.not_true, Bool.or_self,
    Bool.false_eq_true, if_false, Bool.and_false, Bool.false_and, if_true]
  rw [urlunparse_base a b p' q hre]

/-! ### `urlparse`'s params: split from the last segment at its first `;` -/

/-- the params step on a path whose last segment is `n`: the segment is cut at its first `;` -/
theorem pathParams_last (r n : Str) (hn : '/' ∉ n) :
    pathParams httpsL (r ++ '/' :: n) = (r ++ '/' :: (splitFirst n ';').1, ((splitFirst n ';').2).getD []) := by
  unfold pathParams
  simp only [https_tables.2.2, Bool.true_and]
  by_cases hc : (r ++ '/' :: n).contains ';' = true
  · simp only [hc, if_true]
    unfold splitparams
    rw [splitLast_append_cons '/' r n hn]
    simp only
    rcases splitFirst_cases n ';' with ⟨_, e⟩ | ⟨x, y, _, rfl, e⟩ <;> rw [e] <;> simp
  · simp only [hc, Bool.false_eq_true, if_false]
    have : ';' ∉ n := by
      intro hm
      apply hc
      simp [hm]
    rw [splitFirst_notMem n ';' this]
    rfl

/-- what `lastSemiOk n` says: the part of `n` before its first `;` is no dot segment, the part
after it (if any) is not empty, and putting `;params` back when they are not empty gives `n` -/
theorem lastSemiOk_spec {n : Str} (h : lastSemiOk n = true) :
    isDotSeg (splitFirst n ';').1 = false ∧ (splitFirst n ';').2 ≠ some [] ∧
    (if ((splitFirst n ';').2).getD [] ≠ [] then (splitFirst n ';').1 ++ ';' :: ((splitFirst n ';').2).getD []
     else (splitFirst n ';').1) = n ∧
    ∀ c ∈ (splitFirst n ';').1, c ∈ n := by
  unfold lastSemiOk at h
  simp only [Bool.and_eq_true, Bool.not_eq_true', decide_eq_true_eq] at h
  refine ⟨h.1, h.2, ?_, fun c hc => (splitFirst_fst_prefix n ';').subset hc⟩
  rcases splitFirst_cases n ';' with ⟨_, e⟩ | ⟨x, y, _, rfl, e⟩ <;> rw [e] at h ⊢
  · simp
  · have hy : y ≠ [] := fun e' => h.2 (by rw [e'])
    simp [hy]

/-- the params step on a path whose last segment `n` is `lastSemiOk` -/
theorem params_of_last (r n : Str) (hn : '/' ∉ n) (hsemi : lastSemiOk n = true) :
    ∃ x y, pathParams httpsL (r ++ '/' :: n) = (r ++ '/' :: x, y) ∧
      (if y ≠ [] then x ++ ';' :: y else x) = n ∧ isDotSeg x = false ∧ ∀ c ∈ x, c ∈ n := by
  obtain ⟨hdot, _, hspec, hx⟩ := lastSemiOk_spec hsemi
  exact ⟨_, _, pathParams_last r n hn, hspec, hdot, hx⟩

/-- `"groups"` as explicit characters -/
def groupsL : Str := ['g', 'r', 'o', 'u', 'p', 's']

theorem groupsL_eq : groupsL = "groups".toList := String.toList_ofList.symm

/-- `groups/…` has no scheme: what precedes a `:` holds the `/` -/
theorem splitScheme_groups (x dflt : Str) : splitScheme (groupsL ++ '/' :: x) dflt = (dflt, groupsL ++ '/' :: x) := by
  unfold splitScheme
  have e : groupsL ++ '/' :: x = (groupsL ++ ['/']) ++ x := by simp
  rw [e, splitFirst_append_left _ _ ':' (by decide)]
  cases (splitFirst x ':').2 with
  | none => rfl
  | some post =>
    simp only [groupsL, List.cons_append, List.nil_append, List.all_cons, isSchemeChar, isAsciiAlpha,
      isAsciiDigit]
    simp

/-- **`urljoin(BASE, "groups/" + h)`** (the builder of `FacebookGroup` gives a *relative*
reference) for a one-segment `h` -/
theorem urljoin_base_groups (h : Str) (hp : ∀ c ∈ h, pathChar c = true) (hsemi : lastSemiOk h = true)
    (hslash : '/' ∉ h) :
    urljoin BASE (groupsL ++ '/' :: h) = some (BASE ++ ('/' :: groupsL ++ '/' :: h)) := by
  have hpath : ∀ c ∈ groupsL ++ '/' :: h, pathChar c = true := by
    intro c hc
    simp only [List.mem_append, List.mem_cons] at hc
    rcases hc with hc | hc | hc
    · revert c; decide
    · rw [hc]; decide
    · exact hp c hc
  -- the split of the reference: no scheme, no authority
  have hus : urlsplit (groupsL ++ '/' :: h) httpsL = some ⟨httpsL, [], groupsL ++ '/' :: h, [], []⟩ :=
    urlsplit_of_parts _ _ _ [] (fun c hc => by cases hc; decide) (by simp [queryPart]) (splitScheme_groups h httpsL)
      (by simp [groupsL, startsWith, List.isPrefixOf]) hpath (by simp)
  unfold urljoin
  have hu : (groupsL ++ '/' :: h) ≠ [] := by simp [groupsL]
  simp only [BASE_ne_nil, hu, if_false, urlsplit_BASE, hus]
  -- `urlparse`'s params: `;y` cut from the last segment of the reference, none in the (empty) base path
  obtain ⟨x, y, hpar, hre0, hdot, hx⟩ := params_of_last groupsL h hslash hsemi
  rw [hpar, pathParams_no_semi _ [] (by simp)]
  obtain ⟨t1, t2, _⟩ := https_tables
  -- a relative path: the segments of the base path (`[""]`) and of the reference, without dot segment, joined
  have hxs : '/' ∉ x := fun hm => hslash (hx _ hm)
  have hsw : startsWith (groupsL ++ '/' :: x) ['/'] = false := by
    simp [groupsL, startsWith, List.isPrefixOf]
  have hsp : splitOn (groupsL ++ '/' :: x) '/' = [groupsL, x] := by
    rw [splitOn_append_sep '/' groupsL _ (by decide), splitOn_of_not_mem '/' _ hxs]
  have hsegs : filterInner (([[]] : List Str) ++ [groupsL, x]) = [[], groupsL, x] := by
    simp [filterInner, groupsL]
  have hres : resolveSegments [[], groupsL, x] = [[], groupsL, x] := by
    apply resolveSegments_of_no_dots
    intro s hs
    simp only [List.mem_cons, List.not_mem_nil, or_false] at hs
    rcases hs with hs | hs | hs
    · rw [hs]; decide
    · rw [hs]; decide
    · rw [hs]; exact hdot
  have hj : join ['/'] [[], groupsL, x] = '/' :: groupsL ++ '/' :: x := by simp [join]
  have hbp : splitOn ([] : Str) '/' = [[]] := splitOn_nil '/'
  have hne1 : ¬ (groupsL ++ '/' :: x = []) := by simp [groupsL]
  simp only [t1, t2, hsw, hsp, hbp, ne_eq, not_true_eq_false, decide_false, Bool.not_true, Bool.or_self,
    Bool.false_eq_true, if_false, Bool.and_false, if_true, hne1, Bool.false_and,
    List.getLast?_singleton, hsegs, hres, hj]
  have hne2 : ¬ ('/' :: groupsL ++ '/' :: x = []) := by simp
  simp only [hne2, if_false]
  -- `urlunparse` puts `;y` back
  rw [urlunparse_base _ y (groupsL ++ '/' :: h) [] (by rw [← hre0]; by_cases hy : y = [] <;> simp [hy])]
  simp [queryPart]

/-! ## a reference without authority is never refused -/

theorem urljoin_base_isSome (u : Str) (h : (urlsplit u httpsL).isSome = true) : ∃ x, urljoin BASE u = some x :=
  Option.isSome_iff_exists.mp
    (Platform.urljoin_isSome BASE u ⟨httpsL, hostL, [], [], []⟩ urlsplit_BASE (Option.isSome_iff_ne_none.mp h))

theorem joinBase_ok (p : Str) (h : (urlsplit p httpsL).isSome = true) : ∃ u, joinBase p = .ok (some u) := by
  obtain ⟨x, hx⟩ := urljoin_base_isSome p h
  exact ⟨x, joinBase_of_some hx⟩

/-- a reference without authority is never refused -/
theorem urlsplit_isSome_of_no_netloc (u dflt : Str)
    (h : startsWith (splitScheme (cleanUrl u) dflt).2 ['/', '/'] = false) : (urlsplit u dflt).isSome = true := by
  rw [urlsplit_eq, splitRest_no_netloc _ h]
  rfl

/-- `"/" + c + …` with `c` neither `/` nor TAB CR LF has no authority -/
theorem joinBase_abs_ok (c : Char) (rest : Str) (h1 : c ≠ '/') (h2 : isUnsafeUrlChar c = false) :
    ∃ u, joinBase ('/' :: c :: rest) = .ok (some u) := by
  apply joinBase_ok
  apply urlsplit_isSome_of_no_netloc
  rw [cleanUrl_slash, splitScheme_slash]
  simp [h2, startsWith, List.isPrefixOf, Ne.symm h1]

theorem cleanChar_spec {c : Char} (h : cleanChar c = true) : c ≠ '/' ∧ isUnsafeUrlChar c = false := by
  unfold cleanChar at h
  simp only [Bool.and_eq_true, decide_eq_true_eq, Bool.not_eq_true'] at h
  exact ⟨h.1.1.1, h.2⟩

/-- `"/" + field + …` for a non-empty clean field -/
theorem joinBase_field_ok (f rest : Str) (hne : f.isEmpty = false) (hcl : segClean f = true) :
    ∃ u, joinBase ('/' :: f ++ rest) = .ok (some u) := by
  cases f with
  | nil => cases hne
  | cons c cs =>
    unfold segClean at hcl
    simp only [Bool.and_eq_true, List.all_cons] at hcl
    obtain ⟨hc1, hc2⟩ := cleanChar_spec hcl.1.1.1
    exact joinBase_abs_ok c (cs ++ rest) hc1 hc2

/-- `"groups/" + g` (a relative reference) for any `g` -/
theorem joinBase_groups_ok (g : Str) : ∃ u, joinBase (groupsL ++ '/' :: g) = .ok (some u) := by
  apply joinBase_ok
  apply urlsplit_isSome_of_no_netloc
  have hclean : cleanUrl (groupsL ++ '/' :: g) = groupsL ++ '/' :: g.filter (fun c => !isUnsafeUrlChar c) := by
    unfold cleanUrl
    simp [groupsL, isC0OrSpace, isUnsafeUrlChar]
  rw [hclean]
  rw [splitScheme_groups]
  simp [groupsL, startsWith, List.isPrefixOf]

/-! ## the path `safe_urlsplit` returns -/

/-- `path` is empty or starts with a slash (what `urlsplit` returns after an authority) -/
def PathAbs (path : Str) : Prop := path = [] ∨ path.head? = some '/'

/-- **the path `urlsplit` returns has no `?`, no `#`, no TAB, CR, LF** -/
theorem urlsplit_path_chars (url dflt : Str) (sp : SplitResult) (h : urlsplit url dflt = some sp) :
    ∀ c ∈ sp.path, pathChar c = true := by
  intro c hc
  obtain ⟨h1, h2, h3, _⟩ := C19.urlsplit_path_chars url dflt sp h c hc
  simp [pathChar, h1, h2, h3]

theorem safe_urlsplit_path_chars (u : Str) (sp : SplitResult) (h : safe_urlsplit u = some sp) :
    ∀ c ∈ sp.path, pathChar c = true := by
  unfold safe_urlsplit at h
  exact urlsplit_path_chars _ _ sp h

/-- **the path `safe_urlsplit` returns is empty or starts with a slash** -/
theorem safe_urlsplit_path_abs (u : Str) (sp : SplitResult) (h : safe_urlsplit u = some sp) :
    PathAbs sp.path := by
  rcases C19.safe_urlsplit_path_abs u sp h with e | ⟨p, e⟩
  · exact Or.inl e
  · exact Or.inr (by rw [e]; rfl)

end Ural.Facebook
