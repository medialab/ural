import UralModel.Model.Builders
import UralModel.Py.Split
import UralModel.Lemmas.Builders
import UralModel.Lemmas.Split
import UralModel.Lemmas.Protocol
import UralModel.Lemmas.StrSplit
import UralModel.Lemmas.UrlSplit
import UralModel.Lemmas.NetlocSplit
import UralModel.Lemmas.Pathsplit
/-!
Facts about `strip`, `pathsplit`, `urlsplit` and `safe_urlsplit` shared by the parsers of C19
(`youtube`, `google`, `facebook`, `twitter` / `instagram` / `telegram`): what they return is a piece
(`<:+:`) of what they are given, hence made of its characters; and what they answer on
`https://<host><path>[?<query>]`, the shape of the canonical urls the modules build.
-/
namespace Ural.C19
open Ural Ural.Py

/-! ## lists -/

theorem dropWhile_all {α : Type} (p : α → Bool) (a : List α) (ha : ∀ x ∈ a, p x = true) :
    a.dropWhile p = [] := dropWhile_of_all ha

/-! ## `strip`, `strip(chars)` -/

/-! (`strip_infix`, `pathsplit_infix`, `urlsplit_path_infix` are shared like the rest; their full names,
`Ural.Youtube.…`, are those `DESIGN.md` cites.) -/

theorem _root_.Ural.Youtube.strip_infix (s : Str) : strip s <:+: s := stripBy_infix isSpace s

/-- `s.strip() == s` when `s` neither starts nor ends with white space -/
theorem strip_eq_self (s : Str) (hh : ∀ c, s.head? = some c → isSpace c = false)
    (hl : ∀ c, s.getLast? = some c → isSpace c = false) : strip s = s :=
  strip_of_ends hh hl

/-- the string does not end with a white-space character (`str.isspace`) -/
def NoTrailingBlank (s : Str) : Prop := ∀ c, s.getLast? = some c → isSpace c = false

instance (s : Str) : Decidable (NoTrailingBlank s) := by
  unfold NoTrailingBlank
  cases h : s.getLast? with
  | none => exact isTrue (by simp)
  | some c =>
    by_cases hc : isSpace c = false
    · exact isTrue (by intro c' e; cases e; exact hc)
    · exact isFalse (by intro hh; exact hc (hh c rfl))

/-- the string neither starts nor ends with a white-space character: `s.strip() == s` -/
def Stripped (s : Str) : Prop := (∀ c, s.head? = some c → isSpace c = false) ∧ NoTrailingBlank s

theorem strip_stripped (s : Str) : Stripped (strip s) := strip_ends s

theorem strip_of_stripped (s : Str) (h : Stripped s) : strip s = s := strip_eq_self s h.1 h.2

/-! ## `pathsplit` -/

theorem pathsplit_ne_nil (p : Str) (c : Char) (hc : c ∈ p) (hs : isSpace c = false) (hn : c ≠ '/') :
    pathsplit p ≠ [] := fun e => by
  have : c ∈ pathCore p := mem_stripBy _ (mem_stripBy isSpace hc hs) (by simpa using hn)
  rw [pathsplit_eq_nil.mp e] at this
  cases this

theorem _root_.Ural.Youtube.pathsplit_infix (p x : Str) (hx : x ∈ pathsplit p) : x <:+: p :=
  (mem_splitOn_infix _ _ x (mem_pathsplit hx)).trans (pathCore_infix p)

/-- every segment is `/`-free and made of characters of the path -/
theorem pathsplit_mem (p x : Str) (hx : x ∈ pathsplit p) : '/' ∉ x ∧ ∀ c ∈ x, c ∈ p :=
  ⟨not_mem_of_mem_splitOn _ _ x (mem_pathsplit hx), fun _ hc => (Youtube.pathsplit_infix p x hx).subset hc⟩

theorem pathsplit_chars {P : Char → Prop} (p x : Str) (hx : x ∈ pathsplit p) (hp : ∀ c ∈ p, P c) :
    ∀ c ∈ x, c ≠ '/' ∧ P c :=
  fun c hc => ⟨fun e => (pathsplit_mem p x hx).1 (e ▸ hc), hp c ((pathsplit_mem p x hx).2 c hc)⟩

theorem pathsplit_join_slashes (segs : List Str) (hne : segs ≠ [])
    (hseg : ∀ x ∈ segs, x ≠ [] ∧ '/' ∉ x)
    (hlast : ∀ x c, segs.getLast? = some x → x.getLast? = some c → isSpace c = false)
    (b : Str) (hb : ∀ c ∈ b, c = '/') : pathsplit ('/' :: join ['/'] segs ++ b) = segs := by
  have hjne : join ['/'] segs ≠ [] :=
    let ⟨x, hx⟩ := List.exists_mem_of_ne_nil _ hne
    join_ne_nil _ hx (hseg x hx).1
  -- the join starts with the first character of the first segment and ends with the last of the last
  have hhead : ∀ c, (join ['/'] segs).head? = some c → c ≠ '/' := by
    obtain ⟨x, rest, rfl⟩ := List.exists_cons_of_ne_nil hne
    obtain ⟨a, as, rfl⟩ := List.exists_cons_of_ne_nil (hseg x (by simp)).1
    intro c h e
    rw [head?_join, List.head?_cons, Option.some_or] at h
    exact (hseg (a :: as) (by simp)).2 (by simp [Option.some.inj h, e])
  have hlast' : ∀ c, (join ['/'] segs).getLast? = some c → isSpace c = false ∧ c ≠ '/' := by
    obtain ⟨init, x, rfl⟩ : ∃ init x, segs = init ++ [x] :=
      ⟨_, _, (List.dropLast_concat_getLast hne).symm⟩
    obtain ⟨d, hd⟩ : ∃ d, x.getLast? = some d := by
      cases h : x.getLast? with
      | none => exact absurd (List.getLast?_eq_none_iff.mp h) (hseg x (by simp)).1
      | some d => exact ⟨d, rfl⟩
    intro c h
    rw [getLast?_join, hd, Option.some_or] at h
    have hc : d = c := Option.some.inj h
    subst hc
    exact ⟨hlast x d (by simp) hd, fun e => (hseg x (by simp)).2 (e ▸ List.mem_of_getLast? hd)⟩
  refine pathsplit_of_core ?_ hjne fun x hx => (hseg x hx).2
  have := pathCore_unique (w₁ := []) (w₂ := []) (a := ['/']) (b := b) (m := join ['/'] segs) (by simp) (by simp)
    (by simp) hb (fun c h => by cases h; decide)
    (fun c h => by
      rcases List.eq_nil_or_concat b with rfl | ⟨b', d, rfl⟩
      · rw [List.append_nil, List.singleton_append, List.getLast?_cons_of_ne_nil hjne] at h; exact (hlast' c h).1
      · have : d = c := by
          rw [List.concat_eq_append, ← List.append_assoc, List.getLast?_concat] at h
          exact Option.some.inj h
        rw [← this, hb d (by simp)]; decide)
    ⟨fun h => hhead _ h rfl, fun h => (hlast' _ h).2 rfl⟩
  simpa using this

theorem pathsplit_join (segs : List Str) (hne : segs ≠ [])
    (hseg : ∀ x ∈ segs, x ≠ [] ∧ '/' ∉ x)
    (hlast : ∀ x c, segs.getLast? = some x → x.getLast? = some c → isSpace c = false) :
    pathsplit ('/' :: join ['/'] segs) = segs := by
  simpa using pathsplit_join_slashes segs hne hseg hlast [] (by simp)

/-! ## `safe_urlsplit` on `https://<host><path>[?<query>]` -/

/-- the characters a host may be made of for the lemmas below -/
def HostOk (host : Str) : Prop :=
  ∀ c ∈ host, isNetlocDelim c = false ∧ isUnsafeUrlChar c = false ∧ c ≠ '[' ∧ c ≠ ']' ∧ c ≠ ':'

instance (host : Str) : Decidable (HostOk host) := by unfold HostOk; infer_instance

/-- `safe_urlsplit` of such a URL: `PROTOCOL_RE` matches, nothing is prepended, and every piece is read back -/
theorem safe_urlsplit_https (host path query : Str) (hhost : HostOk host)
    (hp0 : ∃ r, path = '/' :: r)
    (hpath : ∀ c ∈ path, c ≠ '?' ∧ c ≠ '#' ∧ isUnsafeUrlChar c = false)
    (hquery : ∀ c ∈ query, c ≠ '#' ∧ isUnsafeUrlChar c = false) :
    safe_urlsplit ("https://".toList ++ host ++ path ++ (if query = [] then [] else '?' :: query)) =
      some ⟨"https".toList, host, path, query, []⟩ := by
  have e : "https://".toList ++ host ++ path ++ (if query = [] then [] else '?' :: query) =
      ['h', 't', 't', 'p', 's'] ++ ':' :: '/' :: '/' :: (host ++ (path ++
        (UrlRoundTrip.queryPart query ++ UrlRoundTrip.fragPart []))) := by
    unfold UrlRoundTrip.queryPart UrlRoundTrip.fragPart
    by_cases h : query = [] <;> simp [h]
  have hsafe : ∀ c ∈ path ++ (UrlRoundTrip.queryPart query ++ UrlRoundTrip.fragPart []), isUnsafeUrlChar c = false := by
    intro c hc
    rw [show UrlRoundTrip.fragPart [] = [] from rfl, List.append_nil] at hc
    rcases List.mem_append.1 hc with hc | hc
    · exact (hpath c hc).2.2
    · rcases UrlRoundTrip.mem_queryPart hc with hc | rfl
      · exact (hquery c hc).2
      · decide
  rw [e, safe_urlsplit_of_scheme (by decide),
    splitRest_auth_unsafe _ (fun c hc => ⟨(hhost c hc).1, (hhost c hc).2.1⟩)
      (UrlRoundTrip.pathTail_head path query [] (Or.inr hp0)),
    netlocOk_of_no_bracket (fun h => (hhost _ h).2.2.1 rfl) (fun h => (hhost _ h).2.2.2.1 rfl), if_pos rfl,
    dropUnsafe_eq_self hsafe, withTail_parts _ _ [] (fun h => (hpath _ h).1 rfl) (fun h => (hpath _ h).2.1 rfl)
      (fun h => (hquery _ h).1 rfl)]
  rfl

/-- `SplitResult.hostname` of a netloc without userinfo, port, brackets or `%`: its lower case -/
theorem pyHostname_plain (host : Str) (h1 : '@' ∉ host) (h2 : '[' ∉ host) (h3 : ':' ∉ host)
    (h4 : '%' ∉ host) : pyHostname host = lower host :=
  Netloc.pyHostname_bare h1 h2 h3 h4

/-! ## what a path returned by `urlsplit` is made of -/

/-- the path of a split url holds no `?`, no `#`, no TAB / CR / LF, and only characters of the url -/
theorem urlsplit_path_chars (url dflt : Str) (r : SplitResult) (h : urlsplit url dflt = some r) :
    ∀ c ∈ r.path, c ≠ '?' ∧ c ≠ '#' ∧ isUnsafeUrlChar c = false ∧ c ∈ url := by
  obtain ⟨_, _, _, _, _, _, hq, hh, _⟩ := urlsplit_tailOf h
  exact fun c hc => ⟨fun e => hq (e ▸ hc), fun e => hh (e ▸ hc), mem_cleanUrl ((urlsplit_subset h).2.1 hc)⟩

/-- `safe_urlsplit` always reads an authority (it puts `http://` in front of a url without protocol): the path
that follows is empty or starts with a slash -/
theorem safe_urlsplit_path_abs (u : Str) (sp : SplitResult) (h : safe_urlsplit u = some sp) :
    sp.path = [] ∨ ∃ p, sp.path = '/' :: p := by
  obtain ⟨sch, _, y, _, _, _, hy⟩ := safe_urlsplit_auth u
  exact splitRest_slashes_path_abs (hy ▸ h)

/-- the path of a split url is a piece of the url, when the url holds no TAB / CR / LF (which
`urlsplit` would remove from the middle of it) -/
theorem _root_.Ural.Youtube.urlsplit_path_infix (url dflt : Str) (r : SplitResult) (h : urlsplit url dflt = some r)
    (hu : ∀ c ∈ url, isUnsafeUrlChar c = false) : r.path <:+: url := by
  obtain ⟨pre, tl, h1, _, _, _, _, _, _, qs, fs, he, _⟩ := urlsplit_tailOf h
  exact (List.IsInfix.trans ⟨pre, qs ++ fs, by rw [h1, he, List.append_assoc]⟩ (cleanUrl_suffix hu).isInfix)

theorem safe_urlsplit_path_chars (url : Str) (r : SplitResult) (h : safe_urlsplit url = some r) :
    ∀ c ∈ r.path, c ≠ '?' ∧ c ≠ '#' ∧ isUnsafeUrlChar c = false := by
  unfold safe_urlsplit at h
  intro c hc
  have := urlsplit_path_chars _ _ r h c hc
  exact ⟨this.1, this.2.1, this.2.2.1⟩

/-- the query of a split url holds no TAB / CR / LF (`urlsplit` removes them from the whole url
before it splits) -/
theorem urlsplit_query_chars (url dflt : Str) (r : SplitResult) (h : urlsplit url dflt = some r) :
    ∀ c ∈ r.query, isUnsafeUrlChar c = false :=
  fun _ hc => (mem_cleanUrl ((urlsplit_subset h).2.2.1 hc)).1

theorem safe_urlsplit_query_chars (url : Str) (r : SplitResult) (h : safe_urlsplit url = some r) :
    ∀ c ∈ r.query, isUnsafeUrlChar c = false := by
  unfold safe_urlsplit at h
  exact urlsplit_query_chars _ _ r h

end Ural.C19
