import UralModel.Lemmas.CanonClosure
/-!
# C03: what the cleaning pass deletes is never produced raw by the safe unquoters

`normalize_url(canonicalize_url(u)) == normalize_url(u)` crosses the string level: the second
call *cleans* the printed canonical form (`CONTROL_CHARS_RE.sub("", …)`, `str.strip()`) before
parsing it.  The hierarchy only survives that because the two steps agree on one decision taken
from two different tables: every character the cleaning pass would delete (class of
`CONTROL_CHARS_RE`; white space of `str.strip` at the ends) is one the safe unquoters keep
escaped — or escape again when it was raw — so the printed canonical form holds none of them
(outside the host, which is not unquoted).

This file has

* the decision procedure for "a finite union of ranges is included in another one"
  (`subRanges`, sound by `subRanges_sound`), so that the inclusion is a `decide` over the
  *regenerated* range lists (`Gen/C03Classes.lean`, used in `Props/C03Control.lean`) and still a statement about all code points;
* `escapedClass_of_tables`: the two table facts give an `EscapedClass` (`Lemmas/QuoteClass.lean`: "the
  unquoters bring in no character of the class");
* the lift of that to the printed result of `canonicalize_url` (`class_of_printed`).
-/
set_option linter.unusedSimpArgs false
set_option linter.unusedSectionVars false

namespace Ural.C03Control
open Ural.Py Ural.UrlParts Ural.Quote Ural.Canonicalize Ural.UrlRoundTrip Ural.CanonRoundTrip
  Ural.CanonTexts

/-! ## finite unions of inclusive ranges of code points -/

/-- `n` lies in one of the inclusive ranges -/
def inRanges (rs : List (Nat × Nat)) (n : Nat) : Bool :=
  rs.any fun r => decide (r.1 ≤ n) && decide (n ≤ r.2)

/-- the first range holding `n` -/
def firstWith (rs : List (Nat × Nat)) (n : Nat) : Option (Nat × Nat) :=
  rs.find? fun r => decide (r.1 ≤ n) && decide (n ≤ r.2)

/-- every `n` with `lo ≤ n ≤ hi` lies in one of the ranges: walk from `lo`, jumping to the end
of the range that holds the current point (`fuel` ≥ number of ranges + 1 is enough) -/
def covers (rs : List (Nat × Nat)) : Nat → Nat → Nat → Bool
  | 0, _, _ => false
  | fuel + 1, lo, hi =>
    if hi < lo then true
    else
      match firstWith rs lo with
      | none => false
      | some r => if hi ≤ r.2 then true else covers rs fuel (r.2 + 1) hi

/-- the union `xs` is included in the union `ys` -/
def subRanges (xs ys : List (Nat × Nat)) : Bool :=
  xs.all fun r => covers ys (ys.length + 1) r.1 r.2

theorem firstWith_spec {rs : List (Nat × Nat)} {n : Nat} {r : Nat × Nat}
    (h : firstWith rs n = some r) : r ∈ rs ∧ r.1 ≤ n ∧ n ≤ r.2 := by
  unfold firstWith at h
  have h1 := List.mem_of_find?_eq_some h
  have h2 := List.find?_some h
  simp only [Bool.and_eq_true, decide_eq_true_eq] at h2
  exact ⟨h1, h2⟩

theorem inRanges_of_mem {rs : List (Nat × Nat)} {r : Nat × Nat} {n : Nat} (hr : r ∈ rs)
    (h1 : r.1 ≤ n) (h2 : n ≤ r.2) : inRanges rs n = true := by
  simp only [inRanges, List.any_eq_true, Bool.and_eq_true, decide_eq_true_eq]
  exact ⟨r, hr, h1, h2⟩

theorem mem_of_inRanges {rs : List (Nat × Nat)} {n : Nat} (h : inRanges rs n = true) :
    ∃ r ∈ rs, r.1 ≤ n ∧ n ≤ r.2 := by
  simpa only [inRanges, List.any_eq_true, Bool.and_eq_true, decide_eq_true_eq] using h

theorem covers_sound (rs : List (Nat × Nat)) :
    ∀ (fuel lo hi : Nat), covers rs fuel lo hi = true →
      ∀ n, lo ≤ n → n ≤ hi → inRanges rs n = true
  | 0, _, _, h => by simp [covers] at h
  | fuel + 1, lo, hi, h => by
    intro n h1 h2
    simp only [covers] at h
    split at h
    · omega
    · split at h
      · cases h
      · rename_i r hr
        obtain ⟨hm, ha, hb⟩ := firstWith_spec hr
        split at h
        · exact inRanges_of_mem hm (by omega) (by omega)
        · by_cases hn : n ≤ r.2
          · exact inRanges_of_mem hm (by omega) hn
          · exact covers_sound rs fuel (r.2 + 1) hi h n (by omega) h2

/-- **soundness of the decision procedure**: from the Boolean (checked by `decide` on the
regenerated lists) to every code point -/
theorem subRanges_sound {xs ys : List (Nat × Nat)} (h : subRanges xs ys = true) (n : Nat)
    (hn : inRanges xs n = true) : inRanges ys n = true := by
  obtain ⟨r, hr, h1, h2⟩ := mem_of_inRanges hn
  have := List.all_eq_true.1 h r hr
  exact covers_sound ys _ _ _ this n h1 h2

theorem inRanges_eq_of_sub {xs ys : List (Nat × Nat)} (h1 : subRanges xs ys = true)
    (h2 : subRanges ys xs = true) (n : Nat) : inRanges xs n = inRanges ys n := by
  rw [Bool.eq_iff_iff]
  exact ⟨subRanges_sound h1 n, subRanges_sound h2 n⟩

theorem inRanges_cons (r : Nat × Nat) (rs : List (Nat × Nat)) (n : Nat) :
    inRanges (r :: rs) n = ((decide (r.1 ≤ n) && decide (n ≤ r.2)) || inRanges rs n) := by
  simp [inRanges]

theorem inRanges_append (xs ys : List (Nat × Nat)) (n : Nat) :
    inRanges (xs ++ ys) n = (inRanges xs n || inRanges ys n) := by
  simp [inRanges]

theorem inRanges_nil (n : Nat) : inRanges [] n = false := rfl

/-- a list of code points as a union of one-point ranges -/
theorem contains_eq_inRanges (l : List Nat) (n : Nat) :
    l.contains n = inRanges (l.map fun x => (x, x)) n := by
  induction l with
  | nil => rfl
  | cons x l ih =>
    rw [List.map_cons, inRanges_cons, ← ih, List.contains_cons]
    congr 1
    rw [Bool.eq_iff_iff]
    simp only [beq_iff_eq, Bool.and_eq_true, decide_eq_true_eq]
    omega

/-! ## the classes, as the model spells them -/

theorem isControlChar_eq (c : Char) :
    isControlChar c = inRanges [(0, 0x1f), (0x7f, 0x9f)] c.toNat := by
  simp [isControlChar, inRanges]

theorem isSpace_eq (c : Char) :
    isSpace c = inRanges (spaceCodes.map fun x => (x, x)) c.toNat := by
  unfold isSpace; exact contains_eq_inRanges _ _

theorem staysEscaped_eq (c : Char) :
    staysEscaped c = inRanges ((0x80, 0x9f) :: uSpaces.map fun x => (x, x)) c.toNat := by
  rw [inRanges_cons, ← contains_eq_inRanges]
  simp [staysEscaped, isC1]

/-! ## what the safe unquoters keep escaped, from the regenerated tables -/

/-- the code points a safe unquoter never hands out raw unless they were raw in its input, as
a union of ranges: with `only_printable`, C0 controls and DEL (`_unquote_impl`:
`b < b" " or b == b"\x7f"`, the escape is kept) and the class of `NON_PRINTABLE_RE`
(`nonPrintable`: escaped again after decoding, raw occurrences included); with
`normalize_space`, the space (`%20`).  Instantiated in `Props/C03Control.lean` with the
regenerated flags of the four partials and the regenerated class of `NON_PRINTABLE_RE`. -/
def escRangesOf (onlyPrintable normalizeSpace : Bool) (nonPrintable : List (Nat × Nat)) :
    List (Nat × Nat) :=
  (if onlyPrintable then (0, 0x1f) :: (0x7f, 0x7f) :: nonPrintable else []) ++
    (if normalizeSpace then [(0x20, 0x20)] else [])

/-- membership of a character in a regenerated class -/
def inClass (rs : List (Nat × Nat)) (c : Char) : Bool := inRanges rs c.toNat

theorem escapedClass_of_tables (op ns : Bool) (np rs : List (Nat × Nat))
    (hsub : ∀ n, inRanges rs n = true → inRanges (escRangesOf op ns np) n = true)
    (hnp : ∀ c : Char, staysEscaped c = inRanges np c.toNat) :
    EscapedClass (inClass rs) := by
  have key : ∀ c : Char, inClass rs c = true →
      c.toNat ≤ 0x20 ∨ c.toNat = 0x7f ∨ staysEscaped c = true := by
    intro c hc
    have h := hsub c.toNat hc
    unfold escRangesOf at h
    rw [inRanges_append, Bool.or_eq_true] at h
    rcases h with h | h
    · split at h
      · rw [inRanges_cons, inRanges_cons, ← hnp c] at h
        simp only [Bool.or_eq_true, Bool.and_eq_true, decide_eq_true_eq] at h
        rcases h with h | h | h
        · left; omega
        · right; left; omega
        · right; right; exact h
      · simp [inRanges_nil] at h
    · split at h
      · rw [inRanges_cons, inRanges_nil] at h
        simp only [Bool.or_false, Bool.and_eq_true, decide_eq_true_eq] at h
        left; omega
      · simp [inRanges_nil] at h
  constructor
  · intro c hc hlt
    rcases key c hc with h | h | h
    · exact Or.inl h
    · exact Or.inr h
    · have := staysEscaped_high h; omega
  · intro c hc hge
    rcases key c hc with h | h | h
    · omega
    · omega
    · exact h

/-! ## the printed result of `canonicalize_url` -/

theorem mem_urlunsplit {c : Char} {sp : Split} (h : c ∈ urlunsplit sp) :
    c ∈ sp.scheme ∨ c ∈ sp.netloc ∨ c ∈ sp.path ∨ c ∈ sp.query ∨ c ∈ sp.fragment.getD [] ∨
      c ∈ [':', '/', '?', '#'] := by
  rw [urlunsplit_eq_urlunsplit20, urlunsplit20_eq] at h
  simp only [List.mem_append] at h
  rcases h with h | h | h | h
  · unfold schemePart at h
    split at h
    · rcases List.mem_append.1 h with h | h
      · exact .inl h
      · simp at h; simp [h]
    · cases h
  · rcases mem_bodyOf h with h | h | rfl <;> simp [*]
  · rcases mem_queryPart h with h | rfl <;> simp [*]
  · rcases mem_fragPart h with h | rfl <;> simp [*]

theorem mem_printSplit {c : Char} {sp : Split} (h : c ∈ printSplit sp) :
    c ∈ sp.scheme ∨ c ∈ sp.netloc ∨ c ∈ sp.path ∨ c ∈ sp.query ∨ c ∈ sp.fragment.getD [] ∨
      c ∈ [':', '/', '?', '#'] := by
  unfold printSplit at h
  extract_lets r at h
  split at h
  · rcases List.mem_append.1 h with h | h
    · rcases List.mem_append.1 h with h | h
      · exact .inl h
      · simp only [List.mem_cons, List.not_mem_nil, or_false] at h
        rcases h with h | h | h <;> simp [h]
    · exact mem_urlunsplit (List.mem_of_mem_drop h)
  · exact mem_urlunsplit h

theorem isSchemeChar_printable {c : Char} (h : isSchemeChar c = true) : Printable c := by
  unfold Printable
  simp only [isSchemeChar, isAsciiAlpha, isAsciiDigit, Bool.or_eq_true, decide_eq_true_eq,
    char_le_iff] at h
  have e1 : 'a'.toNat = 97 := rfl
  have e2 : 'z'.toNat = 122 := rfl
  have e3 : 'A'.toNat = 65 := rfl
  have e4 : 'Z'.toNat = 90 := rfl
  have e5 : '0'.toNat = 48 := rfl
  have e6 : '9'.toNat = 57 := rfl
  rw [e1, e2, e3, e4, e5, e6] at h
  rcases h with (((h | h) | h) | h) | h
  · omega
  · omega
  · subst h; decide
  · subst h; decide
  · subst h; decide

theorem printable_lowerChar {c : Char} (h : Printable c) : Printable (lowerChar c) := by
  unfold Printable at *
  rw [lowerChar_toNat]
  split <;> omega

theorem digit_printable {c : Char} (h : isAsciiDigit c = true) : Printable c :=
  isSchemeChar_printable (by simp [isSchemeChar, h])

section
variable {puny : Str → Str} (hpc : PunyClean puny) {K : Char → Bool} (hK : EscapedClass K)
  (quoted sf : Bool) {S rest : Str} {p : Parsed} (h : FromParse S rest p)
include hpc hK h

/-- a character of the class in the printed authority was raw in the parsed hostname (the one
component `canonicalize_url` does not unquote) -/
theorem class_netloc {c : Char} (hc : c ∈ (canonParts puny quoted sf p).netloc)
    (hk : K c = true) (hbad : isPunyBad c = true) : ∃ h0, p.hostname = some h0 ∧ c ∈ h0 := by
  have hnp : ∀ {d : Char}, Printable d → c ≠ d := by
    intro d hd e; subst e
    have := hK.not_printable hd; rw [hk] at this; cases this
  obtain ⟨nu, np, _⟩ := noClass_canonT (puny := puny) hK quoted sf (in₀_textsOf h)
  rw [(canonParts_texts puny quoted sf p).1] at hc
  rcases mem_printed_netloc hc with h1 | h1 | h1 | h1 | h1
  · rw [nu c h1] at hk; cases hk
  · rw [np c h1] at hk; cases hk
  · have hm : c ∈ strOf p.hostname := canonHost_bad puny hpc _ hbad h1
    cases hh : p.hostname with
    | none => rw [hh, strOf_none] at hm; cases hm
    | some h0 => rw [hh, strOf_some] at hm; exact ⟨h0, rfl, hm⟩
  · simp only [List.mem_cons, List.not_mem_nil, or_false] at h1
    rcases h1 with e | e | e | e <;> exact absurd e (hnp (by unfold Printable; decide))
  · exact absurd rfl (hnp (digit_printable h1))

theorem class_of_parts {c : Char}
    (hc : c ∈ (canonParts puny quoted sf p).scheme ∨ c ∈ (canonParts puny quoted sf p).netloc ∨
      c ∈ (canonParts puny quoted sf p).path ∨ c ∈ (canonParts puny quoted sf p).query ∨
      c ∈ (canonParts puny quoted sf p).fragment.getD [] ∨ c ∈ [':', '/', '?', '#'])
    (hk : K c = true) (hbad : isPunyBad c = true) : ∃ h0, p.hostname = some h0 ∧ c ∈ h0 := by
  have hnp : ∀ {d : Char}, Printable d → c ≠ d := by
    intro d hd e; subst e
    have := hK.not_printable hd; rw [hk] at this; cases this
  have hscheme : (canonParts puny quoted sf p).scheme = lower S := h.split.scheme
  rcases hc with h1 | h1 | h1 | h1 | h1 | h1
  · exfalso
    rw [hscheme] at h1
    simp only [Py.lower, List.mem_map] at h1
    obtain ⟨d, hd, rfl⟩ := h1
    exact hnp (printable_lowerChar (isSchemeChar_printable (schemeShaped_mem h.shaped d hd))) rfl
  · exact class_netloc hpc hK quoted sf h h1 hk hbad
  · rw [(canonParts_texts puny quoted sf p).2.1] at h1
    rw [(noClass_canonT hK quoted sf (in₀_textsOf h)).2.2.1 c h1] at hk; cases hk
  · rw [(canonParts_texts puny quoted sf p).2.2.1] at h1
    rw [(noClass_canonT hK quoted sf (in₀_textsOf h)).2.2.2.1 c h1] at hk; cases hk
  · rw [(canonParts_texts puny quoted sf p).2.2.2] at h1
    rw [(noClass_canonT hK quoted sf (in₀_textsOf h)).2.2.2.2 c h1] at hk; cases hk
  · exfalso
    simp only [List.mem_cons, List.not_mem_nil, or_false] at h1
    rcases h1 with e | e | e | e
    · exact hnp (d := ':') (by unfold Printable; decide) e
    · exact hnp (d := '/') (by unfold Printable; decide) e
    · exact hnp (d := '?') (by unfold Printable; decide) e
    · exact hnp (d := '#') (by unfold Printable; decide) e

/-- the same for what `urlunsplit` alone prints -/
theorem class_of_urlunsplit {c : Char} (hc : c ∈ urlunsplit (canonParts puny quoted sf p))
    (hk : K c = true) (hbad : isPunyBad c = true) : ∃ h0, p.hostname = some h0 ∧ c ∈ h0 :=
  class_of_parts hpc hK quoted sf h (mem_urlunsplit hc) hk hbad

/-- **the printed canonical form holds no character of an escaped class — except what was raw
in the parsed hostname** (the one component `canonicalize_url` does not unquote) -/
theorem class_of_printed {c : Char} (hc : c ∈ printSplit (canonParts puny quoted sf p))
    (hk : K c = true) (hbad : isPunyBad c = true) : ∃ h0, p.hostname = some h0 ∧ c ∈ h0 :=
  class_of_parts hpc hK quoted sf h (mem_printSplit hc) hk hbad

end

/-! ## the last character of the printed result -/

section
variable {puny : Str → Str} (hpc : PunyClean puny) (hK : EscapedClass isSpace)
  (quoted sf : Bool) {S rest : Str} {p : Parsed} (h : FromParse S rest p)
include hpc hK h

/-- **the printed result does not end with a white-space character** — both modes, no side
condition: path, query and fragment hold none (escaped class), the port is digits, a
bracketed host ends with `]`, and a bare host ending with white space is followed by a slash -/
theorem printed_last_modes :
    ∀ c, (printSplit (canonParts puny quoted sf p)).getLast? = some c → isSpace c = false :=
  printed_last_noSpace hpc quoted sf h

end
end Ural.C03Control
