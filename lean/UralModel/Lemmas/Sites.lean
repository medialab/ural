import UralModel.Model.Sites
import UralModel.Lemmas.ReWords
import UralModel.Lemmas.HostTok
import UralModel.Lemmas.Str
import UralModel.Lemmas.StrSplit
/-!
Helper definitions and lemmas for C18 (property theorems are in `Props/C18.lean`):

* the decidable check `SiteTableOK r P` tying a regenerated hostname pattern `r` to a domain
  family `P`, and `site_search_spec`: for every pair passing the check, `bool(re.search(r, h))`
  is the whole-label membership of `h` in the family;
* literal patterns (`underPattern_literal_iff`), label lists vs string suffixes
  (`labels_suffix_iff`), case mapping.
-/

namespace Ural.Sites
open Ural.Py Ural.Py.Re Ural.HostnameTrieSet

/-! ## characters -/

/-- the code points of a (positive) class, enumerated -/
def points (C : CharClass) : List Nat := C.ranges.flatMap fun r => List.range' r.1 (r.2 + 1 - r.1)

/-- code of the upper-case form of a lower-case ASCII letter, identity elsewhere -/
def upCode (n : Nat) : Nat := if 97 ≤ n ∧ n ≤ 122 then n - 32 else n

/-- the class `C` is "the character `d` under IGNORECASE | ASCII": positive, `d` is not an
upper-case ASCII letter, `C` contains `d` and its upper-case form, and nothing else (in
particular none of U+0130, U+0131, U+017F, U+212A, which `re.IGNORECASE` alone folds onto
`i`, `s`, `k`) -/
def litClassOK (C : CharClass) (d : Char) : Bool :=
  !C.neg && !(decide (65 ≤ d.toNat ∧ d.toNat ≤ 90)) &&
  CharClass.inRanges C.ranges d.toNat && CharClass.inRanges C.ranges (upCode d.toNat) &&
  (points C).all fun n => n == d.toNat || n == upCode d.toNat

theorem mem_points {C : CharClass} {n : Nat} (h : CharClass.inRanges C.ranges n = true) :
    n ∈ points C := by
  rw [CharClass.inRanges_iff] at h
  obtain ⟨r, hr, h1, h2⟩ := h
  simp only [points, List.mem_flatMap, List.mem_range']
  exact ⟨r, hr, n - r.1, by omega, by omega⟩

/-- membership in a class that is "`d` under IGNORECASE | ASCII" is `lower(c) == d`, for every
character -/
theorem litClassOK_mem {C : CharClass} {d : Char} (hok : litClassOK C d = true) (c : Char) :
    C.mem c = true ↔ lowerChar c = d := by
  simp only [litClassOK, Bool.and_eq_true, Bool.not_eq_true', decide_eq_false_iff_not,
    List.all_eq_true, Bool.or_eq_true, beq_iff_eq] at hok
  obtain ⟨⟨⟨⟨hneg, hup⟩, hd⟩, hu⟩, hall⟩ := hok
  -- the class holds `d` and its upper-case form, nothing else; the rest is arithmetic on codes
  have hmem : C.mem c = true ↔ c.toNat = d.toNat ∨ c.toNat = upCode d.toNat := by
    simp only [CharClass.mem, hneg, Bool.false_bne]
    constructor
    · exact fun h => hall _ (mem_points h)
    · rintro (h | h) <;> rw [h] <;> assumption
  rw [hmem, ← Char.toNat_inj, lowerChar_toNat]
  unfold upCode
  split <;> split <;> omega

theorem nl_mem_upper {x : Str} : '\n' ∈ upper x ↔ '\n' ∈ x := by
  simp only [upper, List.mem_map]
  exact ⟨fun ⟨c, hc, h⟩ => (upperChar_eq_iff_of_not_letter (by decide) (by decide)).1 h ▸ hc,
    fun h => ⟨'\n', h, by decide⟩⟩

/-! ## words of a pattern vs domain patterns -/

/-- the class `[^.]` as the translator prints it -/
def notDotClass : CharClass := ⟨true, [(46, 46)]⟩

theorem notDotClass_mem (c : Char) : notDotClass.mem c = true ↔ c ≠ '.' := by
  have e : notDotClass.mem c = !dotClass.mem c := by simp [notDotClass, dotClass, CharClass.mem]
  rw [e, Bool.not_eq_true', ← Bool.not_eq_true, dotClass_mem]

def atomIs : WAtom → Option Char → Bool
  | .one C, some d => litClassOK C d
  | .many C lo, none => lo == 1 && decide (C = notDotClass)
  | _, _ => false

/-- the word `w` (of a regenerated pattern) denotes the domain pattern `p` -/
def wordIs : List WAtom → DomPat → Bool
  | [], [] => true
  | a :: w, b :: p => atomIs a b && wordIs w p
  | _, _ => false

theorem notDot_run_iff (run : Str) :
    (1 ≤ run.length ∧ ∀ c ∈ run, notDotClass.mem c = true) ↔ (lower run ≠ [] ∧ '.' ∉ lower run) := by
  rw [Ne, lower_eq_nil, dot_mem_lower]
  simp only [notDotClass_mem]
  exact ⟨fun h => ⟨List.length_pos_iff.1 h.1, fun hd => h.2 _ hd rfl⟩,
    fun h => ⟨List.length_pos_iff.2 h.1, fun c hc e => h.2 (e ▸ hc)⟩⟩

/-- a word that denotes the pattern `p` reads a string `x` exactly when `lower x` is an
instance of `p` -/
theorem wordIs_spec : ∀ {w : List WAtom} {p : DomPat}, wordIs w p = true → ∀ {x : Str},
    (MWf w x ↔ PatMatches p (lower x))
  | [], [], _, x => by simp only [MWf, PatMatches, lower_eq_nil]
  | [], _ :: _, hw, _ => by simp [wordIs] at hw
  | _ :: _, [], hw, _ => by simp [wordIs] at hw
  | .one C :: w, some d :: p, hw, x => by
    simp only [wordIs, atomIs, Bool.and_eq_true] at hw
    simp only [MWf, PatMatches, lower, List.map_eq_cons_iff, litClassOK_mem hw.1, wordIs_spec hw.2]
    constructor
    · rintro ⟨c, x', rfl, hc, hm⟩; exact ⟨_, ⟨c, x', rfl, hc, rfl⟩, hm⟩
    · rintro ⟨_, ⟨c, x', rfl, hc, rfl⟩, hm⟩; exact ⟨c, x', rfl, hc, hm⟩
  | .many C lo :: w, none :: p, hw, x => by
    simp only [wordIs, atomIs, Bool.and_eq_true, beq_iff_eq, decide_eq_true_eq] at hw
    obtain ⟨⟨rfl, rfl⟩, hw⟩ := hw
    simp only [MWf, PatMatches, wordIs_spec hw]
    constructor
    · rintro ⟨run, x', hl, hall, rfl, hm⟩
      obtain ⟨h1, h2⟩ := (notDot_run_iff run).1 ⟨hl, hall⟩
      exact ⟨lower run, lower x', h1, h2, List.map_append, hm⟩
    · rintro ⟨run', y', hne, hnd, hy, hm⟩
      obtain ⟨run, x', rfl, rfl, rfl⟩ := List.map_eq_append_iff.1 hy
      obtain ⟨h1, h2⟩ := (notDot_run_iff run).2 ⟨hne, hnd⟩
      exact ⟨run, x', h1, h2, rfl, hm⟩
  | .one _ :: _, none :: _, hw, _ => by simp [wordIs, atomIs] at hw
  | .many _ _ :: _, some _ :: _, hw, _ => by simp [wordIs, atomIs] at hw

/-- **the check.**  `r` is `(?:^|\.) body $`, the executable matcher is complete on it, the
body is in the word fragment, and its words denote exactly the patterns of `P` (each word
some pattern, each pattern some word) -/
def SiteTableOK (r : Re) (P : List DomPat) : Bool :=
  decide (Framed labelStart r) && noNullRep r &&
  match words (midOf r) with
  | some W => W.all (fun w => P.any (wordIs w)) && P.all (fun p => W.any (fun w => wordIs w p))
  | none => false

/-- **search = whole-label membership**, for *every* pattern / family pair passing the check
and every subject -/
theorem site_search_spec {r : Re} {P : List DomPat} (hok : SiteTableOK r P = true) (h : Str) :
    pySearch r h = true ↔
      ∃ pre x b, h = pre ++ x ++ b ∧ Boundary pre ∧ Tail b ∧ ∃ p ∈ P, PatMatches p (lower x) := by
  simp only [SiteTableOK, Bool.and_eq_true, decide_eq_true_eq] at hok
  obtain ⟨⟨hf, hn⟩, hW⟩ := hok
  cases hw : words (midOf r) with
  | none => simp [hw] at hW
  | some W =>
    simp only [hw, Bool.and_eq_true, List.all_eq_true, List.any_eq_true] at hW
    obtain ⟨h1, h2⟩ := hW
    rw [labelStart_search_iff hf hn hw]
    constructor
    · rintro ⟨pre, x, b, rfl, hpre, hb, w, hwW, hm⟩
      obtain ⟨p, hpP, hwp⟩ := h1 w hwW
      exact ⟨pre, x, b, rfl, hpre, hb, p, hpP, (wordIs_spec hwp).1 hm⟩
    · rintro ⟨pre, x, b, rfl, hpre, hb, p, hpP, hm⟩
      obtain ⟨w, hwW, hwp⟩ := h2 p hpP
      exact ⟨pre, x, b, rfl, hpre, hb, w, hwW, (wordIs_spec hwp).2 hm⟩

theorem boundary_lower {a : Str} : Boundary (lower a) ↔ Boundary a := by
  unfold Boundary
  constructor
  · rintro (h | ⟨q, h⟩)
    · exact Or.inl (lower_eq_nil.1 h)
    · obtain ⟨a1, a2, rfl, _, h2⟩ := List.map_eq_append_iff.1 h
      obtain ⟨c, rfl, hc⟩ := List.map_eq_singleton_iff.1 h2
      exact Or.inr ⟨a1, by rw [(Py.lowerChar_eq_dot _).1 hc]⟩
  · rintro (rfl | ⟨q, rfl⟩)
    · left; rfl
    · right; exact ⟨lower q, by simp [lower]; decide⟩

/-- for a subject without newline the search is the whole-label membership of `lower h` -/
theorem site_search_spec_nl {r : Re} {P : List DomPat} (hok : SiteTableOK r P = true) (h : Str)
    (hnl : '\n' ∉ h) :
    pySearch r h = true ↔ ∃ p ∈ P, UnderPattern p (lower h) := by
  rw [site_search_spec hok h]
  constructor
  · rintro ⟨pre, x, b, rfl, hpre, hb, p, hpP, hm⟩
    rcases hb with rfl | rfl
    · refine ⟨p, hpP, lower pre, lower x, by simp [lower], boundary_lower.2 hpre, hm⟩
    · exact absurd (by simp) hnl
  · rintro ⟨p, hpP, pre', x', he, hb, hm⟩
    simp only [lower, List.map_eq_append_iff] at he
    obtain ⟨a, b, rfl, ha, hb'⟩ := he
    refine ⟨a, b, [], by simp, boundary_lower.1 (by simp only [lower]; rw [ha]; exact hb), Or.inl rfl,
      p, hpP, ?_⟩
    simp only [lower]; rw [hb']; exact hm

/-! ## literal patterns -/

theorem patMatches_literal_append (d : Str) (p : DomPat) (x : Str) :
    PatMatches (d.map some ++ p) x ↔ ∃ x', x = d ++ x' ∧ PatMatches p x' := by
  induction d generalizing x with
  | nil => simp
  | cons c d ih =>
    simp only [List.map_cons, List.cons_append, PatMatches, ih]
    constructor
    · rintro ⟨_, rfl, x', rfl, h⟩; exact ⟨x', rfl, h⟩
    · rintro ⟨x', rfl, h⟩; exact ⟨_, rfl, x', rfl, h⟩

theorem patMatches_literal (d x : Str) : PatMatches (d.map some) x ↔ x = d := by
  simpa [PatMatches] using patMatches_literal_append d [] x

/-- for a pattern without wild card, "at or under the pattern" is "equals the domain or ends
with `.` + the domain" -/
theorem underPattern_literal_iff (d h : Str) : UnderPattern (d.map some) h ↔ HostUnder d h := by
  unfold UnderPattern HostUnder Boundary
  constructor
  · rintro ⟨pre, x, rfl, hb, hm⟩
    rw [patMatches_literal] at hm
    subst hm
    rcases hb with rfl | ⟨q, rfl⟩
    · left; rfl
    · right; exact ⟨q, by simp⟩
  · rintro (rfl | ⟨q, rfl⟩)
    · exact ⟨[], h, rfl, Or.inl rfl, (patMatches_literal _ _).2 rfl⟩
    · exact ⟨q ++ ['.'], d, by simp, Or.inr ⟨q, rfl⟩, (patMatches_literal _ _).2 rfl⟩

/-! ## label lists vs string suffixes -/

/-- the labels of `d` are the last labels of `h` exactly when `h` is `d` or ends with
`"." + d` -/
theorem labels_suffix_iff (d h : Str) : splitOn d '.' <:+ splitOn h '.' ↔ HostUnder d h := by
  unfold HostUnder
  constructor
  · rintro ⟨pre, hp⟩
    cases pre with
    | nil =>
      left
      simp only [List.nil_append] at hp
      rw [← join_splitOn '.' h, ← hp, join_splitOn]
    | cons a pre =>
      right
      have hj := join_append ['.'] (a :: pre) (splitOn d '.') (by simp) (splitOn_ne_nil d '.')
      rw [hp, join_splitOn, join_splitOn] at hj
      exact ⟨join ['.'] (a :: pre), by rw [hj]; simp⟩
  · rintro (rfl | ⟨q, rfl⟩)
    · exact List.suffix_refl _
    · rw [splitOn_append]
      exact List.suffix_append _ _

end Ural.Sites
