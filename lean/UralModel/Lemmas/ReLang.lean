import UralModel.Lemmas.ReExtra
/-!
# The language of a pattern, constructor by constructor, and the frames `^ rs` / `^ rs $`

`Lang` of each constructor in terms of `Lang` of its parts, and `LangL rs`: a word of `rs[0]`
followed by a word of `rs[1]`, …  What `pattern.match` accepts for `^ rs` and `^ rs $`:
`accepts_bos_spine_iff`, `accepts_bos_eos_spine_iff` in terms of `MatchL rs` (any `rs`; the frame
lemmas of `Lemmas/IsUrl.lean` and `Lemmas/ReAlt.lean` rest on them), `accepts_bos_iff`,
`accepts_bos_eos_iff` in terms of `LangL rs` for anchor-free `rs`.  (`Framed` in `Lemmas/ReWords.lean`
is about `search`, a match at any position.)  `LangL` is rewritten with `langL_nil`,
`langL_cls_cons`, `langL_opt_cons`, `langL_cons`, not with its own equations, which would unfold a
class head before `langL_cls_cons` applies.
-/
theorem List.exists_map_of_forall_exists {α β : Type} {P : α → Prop} {f : α → β} :
    ∀ {ws : List β}, (∀ x ∈ ws, ∃ l, P l ∧ x = f l) → ∃ ls : List α, ws = ls.map f ∧ ∀ l ∈ ls, P l
  | [], _ => ⟨[], rfl, by simp⟩
  | x :: ws, h => by
    obtain ⟨l, hl, rfl⟩ := h x (by simp)
    obtain ⟨ls, rfl, hls⟩ := exists_map_of_forall_exists (ws := ws) fun y hy => h y (by simp [hy])
    exact ⟨l :: ls, rfl, List.forall_mem_cons.mpr ⟨hl, hls⟩⟩


namespace Ural.Py.Re
open Extra

theorem lang_cls_iff {C : CharClass} {w : List Char} :
    Lang (.cls C) w ↔ ∃ c, w = [c] ∧ C.mem c = true := match_cls_iff

theorem lang_alt_iff {p q : Re} {w : List Char} : Lang (.alt p q) w ↔ Lang p w ∨ Lang q w :=
  match_alt_iff

theorem lang_opt_iff {p : Re} {g : Bool} {w : List Char} :
    Lang (.rep p 0 (some 1) g) w ↔ w = [] ∨ Lang p w := match_opt_iff

theorem lang_seq_iff {p q : Re} (hp : anchorFree p = true) (hq : anchorFree q = true)
    {w : List Char} : Lang (.seq p q) w ↔ ∃ a b, w = a ++ b ∧ Lang p a ∧ Lang q b := by
  unfold Lang
  rw [match_seq_iff]
  constructor
  · rintro ⟨t, h1, h2⟩
    obtain ⟨a, rfl, ha⟩ := (match_iff_lang hp).mp h1
    have hb : Lang q t := by simpa [consumed] using h2.lang_consumed hq
    exact ⟨a, t, rfl, ha, hb⟩
  · rintro ⟨a, b, rfl, ha, hb⟩
    exact ⟨b, (lang_iff_match_anywhere hp).mp ha _ b,
      by simpa using (lang_iff_match_anywhere hq).mp hb (a ++ b).length []⟩

theorem lang_rep_iff {p : Re} {lo : Nat} {hi : Option Nat} {g : Bool} (hp : anchorFree p = true)
    {w : List Char} : Lang (.rep p lo hi g) w ↔
      ∃ ws : List (List Char), w = ws.flatten ∧ (∀ x ∈ ws, Lang p x) ∧ lo ≤ ws.length ∧
        ∀ b, hi = some b → ws.length ≤ b := by
  show Match w.length _ w [] ↔ _
  simp only [match_rep_iff hp, List.append_nil]

theorem lang_rep_cls_iff {C : CharClass} {lo : Nat} {hi : Option Nat} {g : Bool} {w : List Char} :
    Lang (.rep (.cls C) lo hi g) w ↔
      (∀ c ∈ w, C.mem c = true) ∧ lo ≤ w.length ∧ ∀ b, hi = some b → w.length ≤ b := by
  have hfl : ∀ l : List Char, (l.map fun c => [c]).flatten = l := fun l => by induction l <;> simp [*]
  rw [lang_rep_iff rfl]
  simp only [lang_cls_iff]
  constructor
  · rintro ⟨ws, rfl, hws, hlo, hb⟩
    obtain ⟨l, rfl, hl⟩ := List.exists_map_of_forall_exists (f := fun c => [c])
      (P := fun c => C.mem c = true) fun x hx => (hws x hx).imp fun c h => ⟨h.2, h.1⟩
    rw [hfl]
    rw [List.length_map] at hlo hb
    exact ⟨hl, hlo, hb⟩
  · rintro ⟨hw, hlo, hb⟩
    refine ⟨w.map fun c => [c], (hfl w).symm, ?_, by rwa [List.length_map], by rwa [List.length_map]⟩
    intro x hx
    obtain ⟨c, hc, rfl⟩ := List.mem_map.mp hx
    exact ⟨c, rfl, hw c hc⟩

theorem lang_run_cls_iff {L K : CharClass} {lo : Nat} {hi : Option Nat} {g : Bool} {w : List Char} :
    Lang (.seq (.rep (.cls L) lo hi g) (.cls K)) w ↔
      ∃ r k, w = r ++ [k] ∧ ((∀ c ∈ r, L.mem c = true) ∧ lo ≤ r.length ∧
        ∀ b, hi = some b → r.length ≤ b) ∧ K.mem k = true := by
  simp only [lang_seq_iff (p := .rep (.cls L) lo hi g) (q := .cls K) rfl rfl, lang_rep_cls_iff,
    lang_cls_iff]
  constructor
  · rintro ⟨r, _, rfl, hr, k, rfl, hk⟩; exact ⟨r, k, rfl, hr, hk⟩
  · rintro ⟨r, k, rfl, hr, hk⟩; exact ⟨r, [k], rfl, hr, k, rfl, hk⟩

theorem lang_cls_run_iff {L K : CharClass} {lo : Nat} {hi : Option Nat} {g : Bool} {w : List Char} :
    Lang (.seq (.cls K) (.rep (.cls L) lo hi g)) w ↔
      ∃ k r, w = k :: r ∧ K.mem k = true ∧ (∀ c ∈ r, L.mem c = true) ∧ lo ≤ r.length ∧
        ∀ b, hi = some b → r.length ≤ b := by
  simp only [lang_seq_iff (p := .cls K) (q := .rep (.cls L) lo hi g) rfl rfl, lang_rep_cls_iff,
    lang_cls_iff]
  constructor
  · rintro ⟨_, r, rfl, ⟨k, rfl, hk⟩, hr⟩; exact ⟨k, r, rfl, hk, hr⟩
  · rintro ⟨k, r, rfl, hk, hr⟩; exact ⟨[k], r, rfl, ⟨k, rfl, hk⟩, hr⟩

theorem lang_seq_assoc {p q r : Re} {w : List Char} :
    Lang (.seq p (.seq q r)) w ↔ Lang (.seq (.seq p q) r) w := by
  unfold Lang
  simp only [match_seq_iff]
  constructor
  · rintro ⟨t, h1, u, h2, h3⟩; exact ⟨u, ⟨t, h1, h2⟩, h3⟩
  · rintro ⟨u, ⟨t, h1, h2⟩, h3⟩; exact ⟨t, h1, u, h2, h3⟩

/-! ## words of a list of patterns -/

def LangL : List Re → List Char → Prop
  | [], w => w = []
  | r :: rs, w => ∃ a b, w = a ++ b ∧ Lang r a ∧ LangL rs b

theorem matchL_iff_langL {n : Nat} : ∀ {rs : List Re}, rs.all anchorFree = true → ∀ {s t},
    MatchL n rs s t ↔ ∃ w, s = w ++ t ∧ LangL rs w
  | [], _, s, t => by
    rw [matchL_nil]
    exact ⟨fun h => ⟨[], h, rfl⟩, fun ⟨w, e, hw⟩ => by rw [e, show w = [] from hw]; rfl⟩
  | r :: rs, h, s, t => by
    simp only [List.all_cons, Bool.and_eq_true] at h
    rw [matchL_cons]
    constructor
    · rintro ⟨m, h1, h2⟩
      obtain ⟨a, rfl, ha⟩ := (match_iff_lang h.1).mp h1
      obtain ⟨b, rfl, hb⟩ := (matchL_iff_langL h.2).mp h2
      exact ⟨a ++ b, (List.append_assoc ..).symm, a, b, rfl, ha, hb⟩
    · rintro ⟨w, rfl, a, b, rfl, ha, hb⟩
      refine ⟨b ++ t, ?_, (matchL_iff_langL h.2).mpr ⟨b, rfl, hb⟩⟩
      rw [List.append_assoc]
      exact (lang_iff_match_anywhere h.1).mp ha n _

theorem langL_nil {w : List Char} : LangL [] w ↔ w = [] := Iff.rfl

theorem langL_cls_cons {C : CharClass} {rs : List Re} {w : List Char} :
    LangL (.cls C :: rs) w ↔ ∃ c b, w = c :: b ∧ C.mem c = true ∧ LangL rs b := by
  simp only [LangL, lang_cls_iff]
  constructor
  · rintro ⟨_, b, rfl, ⟨c, rfl, hc⟩, hb⟩; exact ⟨c, b, rfl, hc, hb⟩
  · rintro ⟨c, b, rfl, hc, hb⟩; exact ⟨[c], b, rfl, ⟨c, rfl, hc⟩, hb⟩

theorem langL_opt_cons {p : Re} {g : Bool} {rs : List Re} {w : List Char} :
    LangL (.rep p 0 (some 1) g :: rs) w ↔ ∃ a b, w = a ++ b ∧ (a = [] ∨ Lang p a) ∧ LangL rs b := by
  simp only [LangL, lang_opt_iff]

theorem langL_cons {r : Re} {rs : List Re} {w : List Char} :
    LangL (r :: rs) w ↔ ∃ a b, w = a ++ b ∧ Lang r a ∧ LangL rs b := Iff.rfl

/-! ## the two frames -/

theorem accepts_bos_spine_iff {R : Re} {rs : List Re} (hR : spine R = .bos :: rs) {s : List Char} :
    Accepts R s ↔ ∃ t, MatchL s.length rs s t := by
  constructor
  · rintro ⟨t, ht⟩
    rw [match_iff_spine, hR, matchL_cons] at ht
    obtain ⟨m, hb, hm⟩ := ht
    obtain ⟨rfl, _⟩ := match_bos_iff.mp hb
    exact ⟨t, hm⟩
  · rintro ⟨t, ht⟩
    exact ⟨t, by rw [match_iff_spine, hR]; exact MatchL.cons (Match.bos s rfl) ht⟩

theorem accepts_bos_eos_spine_iff {R : Re} {rs : List Re} (hR : spine R = .bos :: (rs ++ [.eos]))
    {s : List Char} : Accepts R s ↔ ∃ t, MatchL s.length rs s t ∧ Tail t := by
  rw [accepts_bos_spine_iff hR]
  constructor
  · rintro ⟨u, hu⟩
    obtain ⟨t, h1, h2⟩ := matchL_append.mp hu
    exact ⟨t, h1, (match_eos_iff.mp (matchL_singleton.mp h2)).2⟩
  · rintro ⟨t, h1, ht⟩
    exact ⟨t, matchL_append.mpr ⟨t, h1, matchL_singleton.mpr (match_eos_iff.mpr ⟨rfl, ht⟩)⟩⟩

theorem accepts_bos_iff {R : Re} {rs : List Re} (hR : spine R = .bos :: rs)
    (ha : rs.all anchorFree = true) {s : List Char} :
    Accepts R s ↔ ∃ w t, s = w ++ t ∧ LangL rs w := by
  simp only [accepts_bos_spine_iff hR, matchL_iff_langL ha]
  exact exists_comm

theorem accepts_bos_eos_iff {R : Re} {rs : List Re} (hR : spine R = .bos :: (rs ++ [.eos]))
    (ha : rs.all anchorFree = true) {s : List Char} :
    Accepts R s ↔ ∃ w t, s = w ++ t ∧ LangL rs w ∧ Tail t := by
  simp only [accepts_bos_eos_spine_iff hR, matchL_iff_langL ha]
  exact ⟨fun ⟨t, ⟨w, e, hw⟩, ht⟩ => ⟨w, t, e, hw, ht⟩, fun ⟨w, t, e, hw, ht⟩ => ⟨t, ⟨w, e, hw⟩, ht⟩⟩

end Ural.Py.Re
