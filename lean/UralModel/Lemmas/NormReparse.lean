import UralModel.Lemmas.NormBridge
import UralModel.Lemmas.StrLit
import UralModel.Lemmas.Normalize
import UralModel.Lemmas.C03
import UralModel.Lemmas.C07Canon
import UralModel.Lemmas.C07Bridge
import UralModel.Lemmas.CanonTexts
/-!
# The result of `normalize_url` reparses to its tuple (C07: stems, hostname helpers; C11)

`lru_stems(normalize_url(u))` parses, after `ensure_protocol`, the string `normalize_url` printed;
`normalized_lru_stems(u)` tokenises the tuple `normalize_url(u, unsplit=False)` assembled.  That the
two see the same five components is a fact about the printer / parser pair: here it is proved for
the modelled parser (`Py.urlsplit`, compared with CPython on every run), for every option set, on
the grammar class of `Lemmas/NormBridge.lean` (`UrlG`, host not an IP literal), whenever the
result is printed unambiguously (`HasNet`: it has a netloc, or no scheme, or a scheme of
`uses_netloc`):

* every text component of `normParts` keeps its delimiters out (what `UrlRoundTrip.WF` asks of the
  tuple, with `http` for a stripped scheme);
* `ensure_protocol` puts back exactly what `normalize_url` cut (`printed_cases`): the printed string
  without scheme does not look like a protocol, because its netloc does not end with `:` after
  letters only;
* `urlsplit_urlunsplit20` (the round trip of `Lemmas/UrlRoundTrip.lean`) then gives `norm_reparse`.
-/
set_option linter.unusedSimpArgs false
set_option linter.unusedSectionVars false

namespace Ural.NormReparse
open Ural Ural.Py Ural.UrlParts Ural.Quote Ural.Normalize Ural.UrlRoundTrip
open Ural.Canonicalize (canonHost canonOpt requote unquotePath unquoteAuthItem unquoteQueryItem
  unquoteFragment unquoteQsl quoteQsl)
open Ural.CanonRoundTrip Ural.NormBridge

/-! ## the host steps bring in no delimiter -/

/-- a "bad" character (delimiter, `%`, control, white space) of a decoded hostname was in the
hostname -/
theorem decodePuny_bad (puny : Str → Str) (hp : PunyClean puny) (h : Str) {c : Char}
    (hb : isPunyBad c = true) (hc : c ∈ decodePunycodeHostname puny h) : c ∈ h := by
  have hnl := punyBad_not_lower hb
  unfold decodePunycodeHostname at hc
  rcases mem_join _ _ hc with h2 | ⟨q, hq, hx⟩
  · simp only [List.mem_singleton] at h2; subst h2; exact absurd hb (by decide +kernel)
  · simp only [List.mem_map] at hq
    obtain ⟨part, hpart, rfl⟩ := hq
    have hsub := piece_subset h '.' part hpart
    split at hx
    · have h3 := hp.clean _ c hx hb
      rcases List.mem_append.1 h3 with h4 | h4
      · exact hsub (List.mem_of_mem_take (mem_of_mem_lower hnl h4))
      · exact hsub (List.mem_of_mem_drop h4)
    · exact hsub hx

/-- **a "bad" character of the normalized hostname was in the hostname** -/
theorem normHost_bad (puny : Str → Str) (hp : PunyClean puny) (o : Normalize.Opts) (h : Str) {c : Char}
    (hb : isPunyBad c = true) (hc : c ∈ normHost puny o h) : c ∈ h := by
  rw [normHost_eq_tail] at hc
  exact canonHost_bad puny hp h hb (hostTail_ind (P := fun t => c ∈ t → c ∈ canonHost puny h) puny o _
    id (fun hs k hm => k (hs hm)) (fun k hm => k (decodePuny_bad puny hp _ hb hm)) hc)

theorem lowerHost_bad (h : Str) {c : Char} (hb : isPunyBad c = true) (hc : c ∈ lowerHost h) :
    c ∈ h := by
  cases hd : decide (c ∈ h) with
  | true => exact of_decide_eq_true hd
  | false =>
    exact absurd hc ((Netloc.lowerOf_lowerHost h h (fun _ hx => hx)).not_mem (of_decide_eq_false hd)
      (punyBad_not_lower hb))


/-! ## the class -/

/-- the strings of the reparse theorems: a string of the grammar (`UrlG.wf`) whose host is not
an IP literal, whose port text is a port (or absent), and which holds no control character
(what the cleaning pass of `normalize_url` returns never does) -/
structure Good (g : UrlG) (po : Option Nat) : Prop where
  wf : g.wf = true
  nobr : g.br = false
  port : portVal g.port = some po
  noCtl : NoCtl g.rest

theorem good_of_inClassOf {ir : Bool} {g : UrlG} {u : Str} {po : Option Nat}
    (hg : InClassOf ir g u) (hbr : g.br = false) (hpo : portVal g.port = some po) : Good g po := by
  refine ⟨hg.wf, hbr, hpo, ?_⟩
  intro c hc
  apply noCtl_resolvedClean ir u c
  rw [hg.reaches]
  unfold UrlG.str
  exact List.mem_append_right _ hc

section
variable {g : UrlG} {po : Option Nat} (G : Good g po)
include G

theorem Good.facts : WFacts g := wf_facts G.wf

theorem Good.hostPart_eq : g.hostPart = g.host := by
  unfold UrlG.hostPart; rw [G.nobr]; rfl

theorem Good.ui_sub {u : Str} (hu : g.ui = some u) : u ⊆ g.rest := by
  intro x hx
  unfold UrlG.rest UrlG.netloc
  rw [hu]
  simp [uiPart, hx]

theorem Good.host_sub : g.host ⊆ g.rest := by
  intro x hx
  unfold UrlG.rest UrlG.netloc
  rw [G.hostPart_eq]
  simp [hx]

theorem Good.path_sub : g.path ⊆ g.rest := by
  intro x hx
  unfold UrlG.rest UrlG.tail
  simp [hx]

theorem Good.query_sub : g.query.getD [] ⊆ g.rest := by
  intro x hx
  unfold UrlG.rest UrlG.tail
  cases hq : g.query with
  | none => rw [hq] at hx; simp at hx
  | some q => rw [hq] at hx; simp only [Option.getD_some] at hx; simp [qPart, hx]

theorem Good.fragment_sub : g.fragment.getD [] ⊆ g.rest := by
  intro x hx
  unfold UrlG.rest UrlG.tail
  cases hf : g.fragment with
  | none => rw [hf] at hx; simp at hx
  | some f => rw [hf] at hx; simp only [Option.getD_some] at hx; simp [fPart, hx]

theorem Good.noCtl_sub {x : Str} (hx : x ⊆ g.rest) : NoCtl x := NoCtl.of_subset hx G.noCtl

/-- the host text: no delimiter of the URL or of the authority -/
theorem Good.host_free {d : Char} (hd : d ∈ ['/', '?', '#', '@', ':', '[', ']']) : d ∉ g.host := by
  have hh := G.facts.host
  rw [G.nobr] at hh
  simp only [Bool.false_eq_true, if_false] at hh
  exact free_not_mem hh hd

omit G in
theorem auth_sub {x : Char}
    (hx : x ∈ strOf (g.record po).username ∨ x ∈ strOf (g.record po).password) :
    ∃ w, g.ui = some w ∧ x ∈ w := by
  simp only [UrlG.record] at hx
  cases hui : g.ui with
  | none => rw [hui] at hx; simp [strOf_none] at hx
  | some w =>
    rw [hui] at hx
    simp only [Option.map_some, Option.bind_some, strOf_some] at hx
    refine ⟨w, rfl, ?_⟩
    rcases hx with hx | hx
    · exact splitFirst_fst_subset w ':' hx
    · rw [strOf_eq_getD] at hx; exact splitFirst_snd_subset w ':' hx

theorem Good.ui_ok {w : Str} (hw : g.ui = some w) {c : Char} (hc : c ∈ w) :
    c ∉ ['/', '?', '#', '[', ']'] ∧ isControlChar c = false := by
  have := G.facts.ui
  rw [hw] at this
  exact ⟨fun hd => free_not_mem (freeOpt_some this) hd hc, G.noCtl_sub (G.ui_sub hw) c hc⟩

end


/-! ## the components of the result -/

theorem delim_bad {d : Char} (hd : d ∈ ['/', '?', '#', '@', ':', '[', ']']) : isPunyBad d = true := by
  simp only [List.mem_cons, List.not_mem_nil, or_false] at hd
  rcases hd with rfl | rfl | rfl | rfl | rfl | rfl | rfl <;> decide +kernel


section
variable {puny : Str → Str} (hpc : PunyClean puny) (o : Normalize.Opts) (hp : Bool)
  {g : UrlG} {po : Option Nat} (G : Good g po)
include hpc G

omit hpc G in
theorem auth_texts :
    strOf (normComps puny o hp (g.record po)).user =
      (if o.stripAuthentication then [] else requote o.quoted unquoteAuthItem (strOf (g.record po).username)) ∧
    strOf (normComps puny o hp (g.record po)).pass =
      (if o.stripAuthentication then [] else requote o.quoted unquoteAuthItem (strOf (g.record po).password)) := by
  simp only [normComps]
  cases o.stripAuthentication
  · simp only [Bool.false_eq_true, if_false, CanonTexts.strOf_canonOpt _ Canonicalize.unquoteAuthItem_nil, and_self]
  · simp only [if_true, strOf_none, and_self]

omit G in
theorem host_mem_bad {x : Char} (hb : isPunyBad x = true)
    (hx : x ∈ strOf (normComps puny o hp (g.record po)).host) : x ∈ g.host := by
  simp only [normComps, UrlG.record, UrlG.hostname] at hx
  split at hx
  · simp [strOf_none] at hx
  · simp only [Option.map_some, strOf_some] at hx
    exact lowerHost_bad _ hb (normHost_bad puny hpc o _ hb hx)

/-- no delimiter of the authority in the host -/
theorem host_free {d : Char} (hd : d ∈ ['/', '?', '#', '@', ':', '[', ']']) :
    d ∉ strOf (normComps puny o hp (g.record po)).host :=
  fun hm => G.host_free hd (host_mem_bad hpc o hp (delim_bad hd) hm)

omit hpc in
/-- a reserved character that the userinfo rule hands out stood in the userinfo text -/
theorem auth_ok {c : Char} (hx : c ∈ strOf (normComps puny o hp (g.record po)).user ∨
    c ∈ strOf (normComps puny o hp (g.record po)).pass) :
    c ∉ ['/', '?', '#', '[', ']'] ∧ isControlChar c = false := by
  have key : AuthReserved c → c ∉ ['/', '?', '#', '[', ']'] ∧ isControlChar c = false := by
    intro hR
    obtain ⟨e1, e2⟩ := auth_texts (puny := puny) o hp (g := g) (po := po)
    rw [e1, e2] at hx
    cases hs : o.stripAuthentication with
    | true => rw [hs] at hx; simp at hx
    | false =>
      rw [hs] at hx
      simp only [Bool.false_eq_true, if_false] at hx
      obtain ⟨w, hw, hc⟩ := auth_sub (hx.imp (keeps_requote_auth _ _ c hR) (keeps_requote_auth _ _ c hR))
      exact G.ui_ok hw hc
  constructor
  · exact fun hd => (key (.inr ((by decide : ['/', '?', '#', '[', ']'] ⊆
      ['@', ':', '/', '?', '#', '[', ']']) hd))).1 hd
  · cases hcc : isControlChar c with
    | false => rfl
    | true => rw [(key (.inl hcc)).2] at hcc; cases hcc

theorem noCtl_host : NoCtl (strOf (normComps puny o hp (g.record po)).host) :=
  (G.noCtl_sub G.host_sub).of_keeps fun _ hcc => host_mem_bad hpc o hp (ctl_bad hcc)

end


/-! ## the path -/

theorem abs_unquotePath {s : Str} (hs : AbsPath s) : AbsPath (unquotePath s) := by
  rcases hs with rfl | ⟨q, rfl⟩
  · left; exact Canonicalize.safelyUnquote_nil _
  · right; exact ⟨_, safelyUnquote_cons_slash _ q⟩

theorem abs_lower {s : Str} (hs : AbsPath s) : AbsPath (lower s) := by
  rcases hs with rfl | ⟨q, rfl⟩
  · left; rfl
  · right; exact ⟨lower q, by simp [lower]; decide +kernel⟩

theorem pathSteps_ind {P : Str → Prop} (o : Normalize.Opts) (s : Str)
    (h0 : P (resolveUnquoted o.stripTrailingSlash
      (if o.lowercase then lower (unquotePath s) else unquotePath s)))
    (hamp : ∀ {a : Str}, P a → P (ampSuffixSub a)) (hidx : ∀ {a : Str}, P a → P (stripIndex a)) :
    P (pathSteps o s) := by
  unfold pathSteps
  extract_lets p0 p1 p2 p3
  have h3 : P p3 := by
    unfold p3
    split
    · exact hamp h0
    · exact h0
  split
  · exact hidx h3
  · exact h3

theorem normPath_ind {P : Str → Prop} (o : Normalize.Opts) (fragment query s : Str)
    (hsteps : P (pathSteps o s)) (hnil : P [])
    (hpre : ∀ {a b : Str}, b <+: a → P a → P b)
    (hfin : ∀ {a : Str}, P a → P (finishPath o.quoted a)) : P (normPath o s fragment query) := by
  unfold normPath
  extract_lets p0 p1 p2
  have h1 : P p1 := by
    unfold p1
    split
    · exact hnil
    · exact hsteps
  have h2 : P p2 := by
    unfold p2
    split
    · obtain ⟨t, ht, _⟩ := rstripChars_decomp p1 ['/']
      exact hpre ⟨t, ht.symm⟩ h1
    · exact h1
  exact hfin h2

/-- what the printer needs of a path: empty or absolute, no `?`, no `#`, no control character -/
structure PathOk (s : Str) : Prop where
  abs : AbsPath s
  noq : '?' ∉ s
  noh : '#' ∉ s
  noCtl : NoCtl s

/-- no AMP marker starts at the slash that opens an absolute path -/
theorem ampSuffixSub_cons_slash (r : Str) :
    ampSuffixSub ('/' :: r) = '/' :: ampSuffixSubFrom r true 0 := by
  have hm : matchLit ".amp".toList ('/' :: r) = none := by
    simp only [toList_lit, matchLit]
    exact if_neg (by decide +kernel)
  have h : ampSuffixHere false ('/' :: r) = none := by
    simp only [ampSuffixHere, hm, Option.bind_none, Bool.false_eq_true, if_false, Option.or_none]
  rw [ampSuffixSub, ampSuffixSubFrom, h]
  rfl

/-! ## the path does not start with two slashes -/

/-- empty, the root, or a slash followed by a non-slash -/
def Head1 (s : Str) : Prop := s = [] ∨ s = ['/'] ∨ ∃ d r, s = '/' :: d :: r ∧ d ≠ '/'

theorem Head1.of_prefix {s t : Str} (h : t <+: s) (hs : Head1 s) : Head1 t := by
  rcases hs with rfl | rfl | ⟨d, r, rfl, hd⟩
  · left; exact List.prefix_nil.1 h
  · obtain ⟨u, hu⟩ := h
    cases t with
    | nil => left; rfl
    | cons a b =>
      simp only [List.cons_append, List.cons.injEq] at hu
      obtain ⟨rfl, hb⟩ := hu
      have : b = [] := by cases b <;> simp_all
      subst this; right; left; rfl
  · obtain ⟨u, hu⟩ := h
    cases t with
    | nil => left; rfl
    | cons a b =>
      simp only [List.cons_append, List.cons.injEq] at hu
      obtain ⟨rfl, hb⟩ := hu
      cases b with
      | nil => right; left; rfl
      | cons c b' =>
        simp only [List.cons_append, List.cons.injEq] at hb
        obtain ⟨rfl, _⟩ := hb
        right; right; exact ⟨_, _, rfl, hd⟩

theorem Head1.no2 {s : Str} (hs : Head1 s) : startsWith s ['/', '/'] = false := by
  rcases hs with rfl | rfl | ⟨d, r, rfl, hd⟩
  · rfl
  · rfl
  · simp [startsWith_cons_cons, startsWith_nil, hd]

theorem head1_resolveUnquoted (sts : Bool) {s : Str} (hs : AbsPath s) : Head1 (resolveUnquoted sts s) := by
  unfold resolveUnquoted
  rcases hs with rfl | ⟨q, rfl⟩
  · left; rfl
  · simp only [List.isEmpty_cons, Bool.false_eq_true, if_false]
    rcases Normpath.normpath_abs_shape q with h | ⟨d, r, h, hd⟩
    · rw [h]
      split
      · right; left; rfl
      · left; rfl
    · rw [h]
      split
      · right; right; exact ⟨d, r ++ ['/'], rfl, hd⟩
      · right; right; exact ⟨d, r, rfl, hd⟩

theorem head1_ampSuffixSub {s : Str} (hs : Head1 s) : Head1 (ampSuffixSub s) := by
  rcases hs with rfl | rfl | ⟨d, r, rfl, hd⟩
  · left; decide +kernel
  · right; left; decide +kernel
  · rw [ampSuffixSub_cons_slash]
    have hdel := ampSuffixSubFrom_del (d :: r) true
    generalize hy : ampSuffixSubFrom (d :: r) true 0 = y at hdel
    generalize hz : d :: r = z at hdel
    cases hdel with
    | nil => cases hz
    | keep b c hrest =>
      simp only [List.cons.injEq] at hz
      right; right; exact ⟨c, _, rfl, by rw [← hz.1]; exact hd⟩
    | cut b m hne hcut hrest =>
      have hno := ampCut_rest_no_slash hcut
      have hsub := hrest.sublist.subset
      cases y with
      | nil => right; left; rfl
      | cons a y' =>
        right; right
        refine ⟨a, y', rfl, ?_⟩
        intro e; subst e
        exact hno (hsub (by simp))

theorem head1_stripIndex {s : Str} (hs : Head1 s) : Head1 (stripIndex s) := by
  rcases stripIndex_spec s with h | h
  · rw [h]; exact hs
  · exact hs.of_prefix h.prefix

theorem head1_finishPath (quoted : Bool) {s : Str} (hs : Head1 s) : Head1 (finishPath quoted s) := by
  rcases hs with rfl | rfl | ⟨d, r, rfl, hd⟩
  · left; exact finishPath_nil quoted
  · right; left; rw [finishPath_cons_slash, finishPath_nil]
  · rw [finishPath_cons_slash]
    have := finishPath_head quoted d r hd
    cases hf : finishPath quoted (d :: r) with
    | nil => right; left; rfl
    | cons c t =>
      rw [hf] at this
      right; right
      exact ⟨c, t, rfl, by simpa using this⟩

/-- **the path of the result does not start with `//`** -/
theorem normPath_head1 (o : Normalize.Opts) (fragment query : Str) {s : Str} (hs : AbsPath s) :
    Head1 (normPath o s fragment query) := by
  refine normPath_ind o fragment query s ?_ (Or.inl rfl) Head1.of_prefix (head1_finishPath o.quoted)
  refine pathSteps_ind o s (head1_resolveUnquoted _ ?_) head1_ampSuffixSub head1_stripIndex
  split
  · exact abs_lower (abs_unquotePath hs)
  · exact abs_unquotePath hs

/-! ## the path holds no `?`, `#` or control character -/

theorem Head1.abs {s : Str} (h : Head1 s) : AbsPath s := by
  rcases h with rfl | rfl | ⟨d, r, rfl, _⟩
  · exact .inl rfl
  · exact .inr ⟨[], rfl⟩
  · exact .inr ⟨_, rfl⟩

theorem PathOk.of_keeps {s t : Str} (hs : PathOk s) (habs : AbsPath t)
    (k : ∀ c, PathReserved c → c ∈ t → c ∈ s) : PathOk t :=
  ⟨habs, fun h => hs.noq (k _ (.inl rfl) h), fun h => hs.noh (k _ (.inr (.inl rfl)) h),
    hs.noCtl.of_keeps fun c hcc => k c (.inr (.inr hcc))⟩

theorem keeps_lower : Keeps PathReserved lower := fun _ _ hR hc => mem_of_mem_lower hR.not_lower hc

theorem pathOk_lower {s : Str} (hs : PathOk s) : PathOk (lower s) :=
  hs.of_keeps (abs_lower hs.abs) (keeps_lower s)

theorem keeps_resolveUnquoted (sts : Bool) {s : Str} (hs : AbsPath s) {c : Char} (hR : PathReserved c)
    (hc : c ∈ resolveUnquoted sts s) : c ∈ s := by
  have hn : c ∈ normpath s → c ∈ s := fun h =>
    (Normpath.mem_normpath (absPath_of_AbsPath hs) h).resolve_right hR.ne_slash
  unfold resolveUnquoted at hc
  split at hc
  · exact hc
  · simp only at hc
    split at hc
    · rcases List.mem_append.1 hc with h | h
      · exact hn h
      · exact absurd (List.mem_singleton.1 h) hR.ne_slash
    · exact hn hc

theorem keeps_normPath (o : Normalize.Opts) (fragment query : Str) {s : Str} (hs : AbsPath s) {c : Char}
    (hR : PathReserved c) : c ∈ normPath o s fragment query → c ∈ s := by
  refine normPath_ind (P := fun t => c ∈ t → c ∈ s) o fragment query s ?_ (fun h => by simp at h)
    (fun hpre h hc => h (hpre.subset hc)) (fun h hc => h (keeps_finishPath _ _ c hR hc))
  refine pathSteps_ind (P := fun t => c ∈ t → c ∈ s) o s ?_
    (fun h hc => h ((ampSuffixSub_del _).sublist.subset hc))
    (fun {a} h hc => h (by
      rcases stripIndex_spec a with e | e
      · rwa [e] at hc
      · exact e.prefix.subset hc))
  intro hc
  split at hc
  · exact keeps_unquotePath s c hR (keeps_lower _ c hR
      (keeps_resolveUnquoted _ (abs_lower (abs_unquotePath hs)) hR hc))
  · exact keeps_unquotePath s c hR (keeps_resolveUnquoted _ (abs_unquotePath hs) hR hc)

/-- **the path of the result**: empty or absolute, without `?`, `#` or control character -/
theorem pathOk_normPath (o : Normalize.Opts) (fragment query : Str) {s : Str} (hs : PathOk s) :
    PathOk (normPath o s fragment query) :=
  hs.of_keeps (normPath_head1 o fragment query hs.abs).abs
    fun _ hR => keeps_normPath o fragment query hs.abs hR

/-! ## the query -/

/-- what the printer needs of a query (or of a piece of it): no `#`, no control character -/
def QOk (s : Str) : Prop := '#' ∉ s ∧ NoCtl s

theorem QOk.of_subset {s t : Str} (h : t ⊆ s) (hs : QOk s) : QOk t :=
  ⟨fun hm => hs.1 (h hm), NoCtl.of_subset h hs.2⟩

theorem qOk_unquoteQueryItem {s : Str} (hs : QOk s) : QOk (unquoteQueryItem s) :=
  ⟨not_mem_safelyUnquote _ ⟨by decide +kernel, by decide +kernel⟩ (by decide +kernel) (by decide +kernel) s hs.1,
    noCtl_safelyUnquote _ hs.2⟩

theorem qOk_lower {s : Str} (hs : QOk s) : QOk (lower s) :=
  ⟨fun hm => hs.1 (mem_of_mem_lower (by decide +kernel) hm), hs.2.lower⟩

theorem qOk_safelyQuote (s : Str) : QOk (safelyQuote s) :=
  ⟨Ural.Canonicalize.not_mem_safelyQuote ⟨by decide +kernel, by decide +kernel⟩ (by decide +kernel) s, noCtl_safelyQuote s⟩

theorem qOk_quoteQueryItem (s : Str) : QOk (quoteQueryItem s) :=
  ⟨Ural.Canonicalize.not_mem_quoteQueryItem ⟨by decide +kernel, by decide +kernel⟩ (by decide +kernel) s,
    noCtl_safelyQuoteBy safeSet_quoteSafeQ s⟩

theorem qOk_serialize {qsl : List (Str × Option Str)} (h : ∀ x ∈ qslStrs qsl, QOk x) :
    QOk (safeSerializeQsl qsl) := by
  constructor
  · intro hm
    rcases mem_serialize hm with h1 | h1 | ⟨x, hx, hc⟩
    · cases h1
    · cases h1
    · exact (h x hx).1 hc
  · intro c hc
    rcases mem_serialize hc with rfl | rfl | ⟨x, hx, hcx⟩
    · decide +kernel
    · decide +kernel
    · exact (h x hx).2 c hcx

theorem mem_fixMistakesFrom {x : Char} : ∀ (s : Str) (k : Nat), x ∈ fixMistakesFrom s k → x ∈ s ∨ x = '&' := by
  intro s
  induction s with
  | nil => intro k h; simp [fixMistakesFrom] at h
  | cons c cs ih =>
    intro k h
    cases k with
    | succ k =>
      simp only [fixMistakesFrom] at h
      rcases ih _ h with h1 | h1
      · exact Or.inl (List.mem_cons_of_mem _ h1)
      · exact Or.inr h1
    | zero =>
      simp only [fixMistakesFrom] at h
      split at h
      · rcases List.mem_cons.1 h with h1 | h1
        · exact Or.inr h1
        · rcases ih _ h1 with h2 | h2
          · exact Or.inl (List.mem_cons_of_mem _ h2)
          · exact Or.inr h2
      · rcases List.mem_cons.1 h with h1 | h1
        · exact Or.inl (by simp [h1])
        · rcases ih _ h1 with h2 | h2
          · exact Or.inl (List.mem_cons_of_mem _ h2)
          · exact Or.inr h2

theorem qOk_fixMistakes {s : Str} (hs : QOk s) : QOk (fixCommonQueryMistakes s) := by
  constructor
  · intro hm
    rcases mem_fixMistakesFrom s 0 hm with h | h
    · exact hs.1 h
    · cases h
  · intro c hc
    rcases mem_fixMistakesFrom s 0 hc with h | rfl
    · exact hs.2 c h
    · decide +kernel

theorem qOk_iter_unquote {q : Str} (hq : QOk q) : ∀ x ∈ qslStrs (unquoteQsl (safeQslIter q)), QOk x := by
  intro x hx
  obtain ⟨y, hy, rfl⟩ := qslStrs_unquoteQsl _ x hx
  exact qOk_unquoteQueryItem (hq.of_subset (qslStrs_safeQslIter q y hy))

theorem qOk_fixedQuery (o : Normalize.Opts) (p : Parsed) (hq : QOk p.query) : QOk (fixedQuery o p) := by
  unfold fixedQuery
  split
  · exact qOk_fixMistakes (qOk_serialize (qOk_iter_unquote hq))
  · exact hq

theorem qOk_filterQuery (o : Normalize.Opts) (h : Option Str) {q : Str} (hq : QOk q) :
    ∀ x ∈ qslStrs (filterQuery o h q), QOk x := by
  intro x hx
  simp only [qslStrs, List.mem_flatMap] at hx
  obtain ⟨it, hit, hx⟩ := hx
  obtain ⟨it0, h0, rfl⟩ := mem_filterQuery hit
  have hq0 : ∀ y ∈ it0.1 :: it0.2.toList, QOk y := fun y hy =>
    qOk_iter_unquote hq y (List.mem_flatMap.2 ⟨it0, h0, hy⟩)
  split at hx
  · obtain ⟨y, hy, rfl⟩ := qslStrs_map lower [it0] x (by simpa [qslStrs] using hx)
    exact qOk_lower (hq0 y (by simpa [qslStrs] using hy))
  · exact hq0 x hx

/-- **the query of the result**: no `#`, no control character -/
theorem qOk_query (puny : Str → Str) (o : Normalize.Opts) (hp : Bool) (p : Parsed) (hq : QOk p.query) :
    QOk (normParts puny o hp p).query := by
  show QOk (safeSerializeQsl (normComps puny o hp p).qsl)
  apply qOk_serialize
  intro x hx
  simp only [normComps] at hx
  have h1 : ∀ y ∈ qslStrs (unquoteQsl (filterQuery o
      ((p.hostname.map fun h => if h.isEmpty then h else lower (decodePunycodeHostname puny h)))
      (fixedQuery o p))), QOk y := by
    intro y hy
    obtain ⟨z, hz, rfl⟩ := qslStrs_unquoteQsl _ y hy
    exact qOk_unquoteQueryItem (qOk_filterQuery o _ (qOk_fixedQuery o p hq) z hz)
  split at hx
  · obtain ⟨z, hz, rfl⟩ := qslStrs_quoteQsl _ x hx
    exact qOk_quoteQueryItem z
  · exact h1 x hx

/-- the fragment of the result: no control character -/
theorem noCtl_fragment (puny : Str → Str) (o : Normalize.Opts) (hp : Bool) (p : Parsed)
    (hf : NoCtl p.fragment) : NoCtl (normComps puny o hp p).fragment := by
  have hnf : ∀ f, NoCtl f → NoCtl (normFragment o.stripFragment f) := fun f hf =>
    (normFragment_cases o.stripFragment f).2.elim (fun e => e.symm ▸ hf) (fun e => e.symm ▸ fun _ h => by cases h)
  simp only [normComps]
  apply noCtl_requote
  apply hnf
  split
  · exact (noCtl_safelyUnquote _ hf).lower
  · exact noCtl_safelyUnquote _ hf


/-! ## `ensure_protocol` on a printed result without scheme -/

/-- a netloc followed by a path / query / fragment does not start like a protocol, unless the
netloc is "letters, then a colon" -/
theorem protoLen_netloc_rest (NL rest : Str) (hne : NL ≠ [])
    (hnd : ∀ c ∈ NL, isNetlocDelim c = false)
    (hrest : ∀ c, rest.head? = some c → isNetlocDelim c = true)
    (hns : ∀ L : Str, (∀ c ∈ L, isAsciiAlpha c = true) → NL ≠ L ++ [':']) :
    UrlParts.protoLen (NL ++ rest) = none :=
  protoLen_netloc_none hne hnd hrest (Or.inl hns)

/-! ## printing a well-formed tuple, reparsing it after `ensure_protocol` -/

/-- a string that starts with a delimiter (or is empty), but not with `//`, does not start like
a protocol -/
theorem protoLen_of_delim_head (s : Str) (h : ∀ c, s.head? = some c → isNetlocDelim c = true)
    (h2 : startsWith s ['/', '/'] = false) : UrlParts.protoLen s = none := by
  apply protoLen_none_of
  · rintro r rfl; cases h2
  · rintro (_ | ⟨c, l⟩) r hl rfl
    · exact absurd (h ':' rfl) (by decide)
    · have hc := hl c (by simp)
      have := h c rfl
      simp only [isNetlocDelim, Bool.or_eq_true, decide_eq_true_eq] at this
      rcases this with (rfl | rfl) | rfl <;> exact absurd hc (by decide)

/-- what the printer needs of a netloc -/
structure NetlocOk (NL : Str) : Prop where
  nodelim : ∀ c ∈ NL, isNetlocDelim c = false
  ok : netlocOk NL = true
  notScheme : ∀ L : Str, (∀ c ∈ L, isAsciiAlpha c = true) → NL ≠ L ++ [':']
  noCtl : NoCtl NL

theorem NetlocOk.nil : NetlocOk [] :=
  ⟨fun _ h => by simp at h, by decide +kernel, fun L _ e => by cases L <;> simp at e, fun _ h => by simp at h⟩

theorem netlocOk_printed {U P H : Str} (port : Option Nat)
    (hU : ∀ c ∈ U, c ∉ ['/', '?', '#', '[', ']'] ∧ isControlChar c = false)
    (hP : ∀ c ∈ P, c ∉ ['/', '?', '#', '[', ']'] ∧ isControlChar c = false)
    (hH : ∀ d ∈ ['/', '?', '#', '@', ':', '[', ']'], d ∉ H) (nH : NoCtl H) :
    NetlocOk (authPart U P ++ (hostPartB false H ++ portPart port)) := by
  have hf : HostFacts false H :=
    ⟨hH _ (by simp), hH _ (by simp), fun _ => ⟨hH _ (by simp), hH _ (by simp)⟩, fun h => by cases h⟩
  have sub : ∀ {d : Char}, d ∈ ['/', '?', '#'] → d ∈ ['/', '?', '#', '[', ']'] ∧
      d ∈ ['/', '?', '#', '@', ':', '[', ']'] := by decide
  have chars := printed_netloc_chars (b := false) (port := port)
    (fun d hd hm => (hU d hm).1 (sub hd).1) (fun d hd hm => (hP d hm).1 (sub hd).1)
    (fun d hd => hH d (sub hd).2) (fun c hc => (hU c hc).2) (fun c hc => (hP c hc).2) nH
  refine ⟨fun c hc => (chars c hc).1, hf.netlocOk U P port
    ⟨fun hm => (hU _ hm).1 (by simp), fun hm => (hU _ hm).1 (by simp)⟩
    ⟨fun hm => (hP _ hm).1 (by simp), fun hm => (hP _ hm).1 (by simp)⟩, ?_, fun c hc => (chars c hc).2⟩
  -- not "letters, then a colon": the accessors read `L:` as the host `L` and an empty port text,
  -- the printed netloc as `H` and the digits of the port, if any
  intro L hL e
  have r := hf.reads U P port
  have hl : ∀ {d : Char}, isAsciiAlpha d = false → d ∉ L := fun hd hm => by rw [hL _ hm] at hd; cases hd
  have r' : Netloc.Reads (L ++ [':']) none false L (some []) :=
    Netloc.Reads.of_plain none (some []) ⟨hl (by decide), hl (by decide), hl (by decide)⟩ (by simp)
  rw [e] at r
  have e1 := r.splitLast.symm.trans r'.splitLast
  simp only [Prod.mk.injEq] at e1
  have e2 := r.hostPortStr.symm.trans ((congrArg Py.hostPortStr e1.2).trans r'.hostPortStr)
  simp only [Prod.mk.injEq] at e2
  cases port with
  | none => have := e1.2; rw [e2.1] at this; simp [Netloc.hostB, Netloc.colon] at this
  | some n => exact natToStr_ne_nil n e2.2

/-- what `normalize_url` / `fingerprint_url` return for a tuple: `urlunsplit`, then (when the
scheme was stripped) the leading `//` is cut -/
def printed (strip : Bool) (SC NL PA Q F : Str) : Str :=
  if (strip && startsWith (urlunsplit20 SC NL PA Q F) ['/', '/']) = true
  then (urlunsplit20 SC NL PA Q F).drop 2 else urlunsplit20 SC NL PA Q F

/-- the scheme the parser finds after `ensure_protocol` -/
def reSchemeOf (SC : Str) : Str := if SC = [] then ['h', 't', 't', 'p'] else SC

theorem no2_path_tail (PA Q F : Str) (hh : Head1 PA) :
    startsWith (PA ++ (queryPart Q ++ fragPart F)) ['/', '/'] = false := by
  have htail : ∀ c, (queryPart Q ++ fragPart F).head? = some c → c ≠ '/' := by
    intro c hc
    rcases tail_head Q F c hc with rfl | rfl <;> decide +kernel
  rcases hh with rfl | rfl | ⟨d, r, rfl, hd⟩
  · cases ht : queryPart Q ++ fragPart F with
    | nil => rfl
    | cons c r =>
      have := htail c (by rw [ht]; rfl)
      simp [startsWith_cons_cons, this]
  · cases ht : queryPart Q ++ fragPart F with
    | nil => rfl
    | cons c r =>
      have := htail c (by rw [ht]; rfl)
      simp [startsWith_cons_cons, startsWith_nil, this]
  · simp [startsWith_cons_cons, startsWith_nil, hd]

theorem printed_hostless (strip : Bool) (PA Q F : Str) (hh : Head1 PA) :
    printed strip [] [] PA Q F = PA ++ (queryPart Q ++ fragPart F) := by
  unfold printed
  rw [urlunsplit20_eq, bodyOf_false [] [] PA (by simp)]
  simp only [schemePart, ne_eq, not_true_eq_false, if_false, List.nil_append]
  rw [no2_path_tail PA Q F hh, Bool.and_false]
  simp only [Bool.false_eq_true, if_false]

theorem printed_cases (strip : Bool) (SC NL PA Q F : Str)
    (hsc : SC = [] ∨ (strip = false ∧ ∃ sc, SC = lower sc ∧ sc ≠ [] ∧ sc.length ≤ 64 ∧
      sc.all isAsciiAlpha = true))
    (hnet : NL ≠ [] ∨ SC = [] ∨ inTable usesNetloc20 SC = true)
    (hNL : NetlocOk NL) (hpath : PathOk PA) (hhead : Head1 PA) :
    (SC = [] ∧ UrlParts.protoLen (printed strip SC NL PA Q F) = none ∧
      printed strip SC NL PA Q F = NL ++ (PA ++ (queryPart Q ++ fragPart F))) ∨
    (SC = [] ∧
      printed strip SC NL PA Q F = '/' :: '/' :: ((NL ++ PA) ++ (queryPart Q ++ fragPart F))) ∨
    (SC ≠ [] ∧ SC.length ≤ 64 ∧ SC.all isAsciiAlpha = true ∧ lower SC = SC ∧
      urlunsplit20 SC NL PA Q F = printed strip SC NL PA Q F ∧
      printed strip SC NL PA Q F =
        SC ++ ':' :: '/' :: '/' :: ((NL ++ PA) ++ (queryPart Q ++ fragPart F))) := by
  have hno2 := hhead.no2
  rcases hsc with rfl | ⟨rfl, sc, rfl, h1, h2, h3⟩
  · by_cases hn : NL = []
    · subst hn
      rw [printed_hostless strip PA Q F hhead]
      exact .inl ⟨rfl, protoLen_of_delim_head _ (pathTail_head PA Q F hpath.abs) (no2_path_tail PA Q F hhead), rfl⟩
    · unfold printed
      have hsw : startsWith ('/' :: '/' :: (NL ++ PA) ++ (queryPart Q ++ fragPart F)) ['/', '/'] = true := by
        simp [startsWith_cons_cons, startsWith_nil]
      have hb : urlunsplit20 [] NL PA Q F = '/' :: '/' :: (NL ++ PA) ++ (queryPart Q ++ fragPart F) := by
        rw [urlunsplit20_eq, bodyOf_true _ NL PA (by simp [hn]) hpath.abs]
        simp [schemePart]
      rw [hb, hsw, Bool.and_true]
      cases strip with
      | true =>
        have e : List.drop 2 ('/' :: '/' :: (NL ++ PA) ++ (queryPart Q ++ fragPart F)) =
            NL ++ (PA ++ (queryPart Q ++ fragPart F)) := by simp
        rw [if_pos rfl, e]
        exact .inl ⟨rfl, protoLen_netloc_rest NL _ hn hNL.nodelim (pathTail_head PA Q F hpath.abs)
          hNL.notScheme, rfl⟩
      | false => exact .inr (.inl ⟨rfl, by simp⟩)
  · unfold printed
    obtain ⟨hne, hal, hlen⟩ := UrlParts.letters_lower ⟨h1, List.all_eq_true.1 h3, h2⟩
    have hcond : (decide (NL ≠ []) || (decide (lower sc ≠ []) && inTable usesNetloc20 (lower sc) &&
        !startsWith PA ['/', '/'])) = true := by
      rcases hnet with h | h | h
      · simp [h]
      · exact absurd h hne
      · simp [hne, h, hno2]
    refine .inr (.inr ⟨hne, hlen, List.all_eq_true.2 hal, Ural.Py.lower_idem sc, ?_, ?_⟩)
    · simp only [Bool.false_and, Bool.false_eq_true, if_false]
    · simp only [Bool.false_and, Bool.false_eq_true, if_false]
      rw [urlunsplit20_eq, bodyOf_true _ NL PA hcond hpath.abs]
      simp only [schemePart, ne_eq, hne, not_false_eq_true, if_true]
      simp

/-- **a well-formed tuple, printed the way the two URL functions print it, is read back by the
modelled parser after `ensure_protocol`** — `http` standing for a stripped scheme.  `hnet`: a
tuple without netloc and with a scheme outside `uses_netloc` is printed `scheme:/path` and is
not read back (`custom:///path`). -/
theorem print_reparse (strip : Bool) (SC NL PA Q F : Str)
    (hsc : SC = [] ∨ (strip = false ∧ ∃ sc, SC = lower sc ∧ sc ≠ [] ∧ sc.length ≤ 64 ∧
      sc.all isAsciiAlpha = true))
    (hnet : NL ≠ [] ∨ SC = [] ∨ inTable usesNetloc20 SC = true)
    (hNL : NetlocOk NL) (hpath : PathOk PA) (hhead : Head1 PA) (hq : QOk Q) (hf : NoCtl F) :
    Ural.LruVariants.modelSplit5 (ensureProtocol (printed strip SC NL PA Q F) Ural.LruVariants.httpStr) =
      some ⟨reSchemeOf SC, NL, PA, Q, F⟩ := by
  have hp3 : Ural.LruVariants.httpStr = ['h', 't', 't', 'p'] := rfl
  have hr : rstripChars ['h', 't', 't', 'p'] [':', '/'] = ['h', 't', 't', 'p'] := by decide +kernel
  have hno2 := hhead.no2
  have hre : reSchemeOf [] = ['h', 't', 't', 'p'] := if_pos rfl
  have hH : SchemeShaped ['h', 't', 't', 'p'] ∧ lower ['h', 't', 't', 'p'] = ['h', 't', 't', 'p'] :=
    ⟨schemeShaped_of_letters (by simp) (by decide +kernel), by decide +kernel⟩
  -- with `http` in front every tuple is printed with `//`
  have hU : urlunsplit20 ['h', 't', 't', 'p'] NL PA Q F =
      'h' :: 't' :: 't' :: 'p' :: ':' :: '/' :: '/' :: ((NL ++ PA) ++ (queryPart Q ++ fragPart F)) := by
    have hhttp : inTable usesNetloc20 ['h', 't', 't', 'p'] = true := by decide +kernel
    rw [urlunsplit20_eq, bodyOf_true _ NL PA (by simp [hhttp, hno2]) hpath.abs]
    simp [schemePart]
  obtain ⟨hsch, e1⟩ : (SchemeShaped (reSchemeOf SC) ∧ lower (reSchemeOf SC) = reSchemeOf SC) ∧
      ensureProtocol (printed strip SC NL PA Q F) Ural.LruVariants.httpStr =
        urlunsplit20 (reSchemeOf SC) NL PA Q F := by
    rcases printed_cases strip SC NL PA Q F hsc hnet hNL hpath hhead with
      ⟨rfl, hpl, e⟩ | ⟨rfl, e⟩ | ⟨hne, hlen, hal, hlow, eu, e⟩
    · refine ⟨hre ▸ hH, ?_⟩
      rw [ensureProtocol_none hpl, e, hre, hU, hp3, hr]
      simp
    · refine ⟨hre ▸ hH, ?_⟩
      rw [e, hre, hU, hp3, ensureProtocol_slashes, hr]
      simp
    · have hrs : reSchemeOf SC = SC := if_neg hne
      rw [hrs]
      refine ⟨⟨schemeShaped_of_letters hne hal, hlow⟩, ?_⟩
      rw [eu, e]
      exact Ural.C07.ensureProtocol_of_scheme _ _ _ hne (List.all_eq_true.1 hal) hlen
  have hrne : reSchemeOf SC ≠ [] := by
    obtain ⟨⟨c, r, e, _⟩, _⟩ := hsch.1
    rw [e]; simp
  have hwf : WF (reSchemeOf SC) NL PA Q F :=
    { scheme_ok := Or.inr hsch
      netloc_nodelim := hNL.nodelim
      netloc_ok := hNL.ok
      path_noq := hpath.noq
      path_noh := hpath.noh
      query_noh := hq.1
      path_abs := fun _ => hpath.abs
      path_no2 := fun _ => hno2
      rel_nocolon := fun h => absurd h hrne
      rel_nolead := fun h => absurd h hrne
      clean := by
        intro c hc
        apply unsafe_of_ctl
        simp only [List.mem_append] at hc
        rcases hc with (((hc | hc) | hc) | hc) | hc
        · exact hsch.1.noCtl c hc
        · exact hNL.noCtl c hc
        · exact hpath.noCtl c hc
        · exact hq.2 c hc
        · exact hf c hc }
  rw [e1]
  unfold Ural.LruVariants.modelSplit5
  rw [urlsplit_urlunsplit20 _ _ _ _ _ hwf]
  rfl

/-- "the scheme was kept", read off the printed string: it starts with letters and `://` -/
def schemeKept (X : Str) : Bool := (UrlParts.protoLen X).isSome && !startsWith X ['/', '/']

/-- **whether the scheme was stripped can be read off the printed result** -/
theorem schemeKept_printed (strip : Bool) (SC NL PA Q F : Str)
    (hsc : SC = [] ∨ (strip = false ∧ ∃ sc, SC = lower sc ∧ sc ≠ [] ∧ sc.length ≤ 64 ∧
      sc.all isAsciiAlpha = true))
    (hnet : NL ≠ [] ∨ SC = [] ∨ inTable usesNetloc20 SC = true)
    (hNL : NetlocOk NL) (hpath : PathOk PA) (hhead : Head1 PA) :
    schemeKept (printed strip SC NL PA Q F) = !SC.isEmpty := by
  unfold schemeKept
  rcases printed_cases strip SC NL PA Q F hsc hnet hNL hpath hhead with
    ⟨rfl, hpl, _⟩ | ⟨rfl, e⟩ | ⟨hne, hlen, hal, _, _, e⟩
  · rw [hpl]
    rfl
  · rw [e]
    simp [startsWith_cons_cons, startsWith_nil]
  · have hhp := hasProtocol_scheme SC ((NL ++ PA) ++ (queryPart Q ++ fragPart F)) hne hlen hal
    unfold hasProtocol at hhp
    rw [Ural.C07.protoLen_eq] at hhp
    rw [e, hhp, UrlParts.letters_not_slashes hne (List.all_eq_true.1 hal) _]
    cases SC with
    | nil => exact absurd rfl hne
    | cons _ _ => rfl

/-! ## the tuple is well-formed and reparses -/

section
variable {puny : Str → Str} (hpc : PunyClean puny) (o : Normalize.Opts)
  {g : UrlG} {po : Option Nat} (G : Good g po)
include hpc G

omit hpc in
theorem Good.pathOk : PathOk g.path := by
  refine ⟨?_, free_not_mem G.facts.path (by simp), free_not_mem G.facts.path (by simp),
    G.noCtl_sub G.path_sub⟩
  have := G.facts.pabs
  cases hpath : g.path with
  | nil => left; rfl
  | cons c r =>
    rw [hpath] at this
    simp only [List.isEmpty_cons, Bool.false_or, startsWith_cons_cons, startsWith_nil,
      Bool.and_true, beq_iff_eq] at this
    right; exact ⟨r, by rw [this]⟩

omit hpc in
theorem Good.qOk : QOk (g.query.getD []) := by
  refine ⟨?_, G.noCtl_sub G.query_sub⟩
  cases hq : g.query with
  | none => simp
  | some q =>
    have := G.facts.query
    rw [hq] at this
    simpa using free_not_mem (freeOpt_some this) (c := '#') (by simp)

omit hpc in
theorem parts_pathOk (hp : Bool) : PathOk (normParts puny o hp (g.record po)).path :=
  pathOk_normPath o _ _ (G.pathOk)

omit hpc in
theorem parts_qOk (hp : Bool) : QOk (normParts puny o hp (g.record po)).query :=
  qOk_query puny o _ _ (G.qOk)

omit hpc in
theorem parts_noCtl_fragment (hp : Bool) : NoCtl (normComps puny o hp (g.record po)).fragment :=
  noCtl_fragment puny o _ _ (G.noCtl_sub G.fragment_sub)

omit hpc G in
theorem parts_fragment (hp : Bool) :
    (normParts puny o hp (g.record po)).fragment = some (normComps puny o hp (g.record po)).fragment := rfl

omit hpc in
/-- the scheme of the result: none, or the lower-cased letters in front of `://` -/
theorem scheme_cases :
    (normParts puny o g.proto.hasProto (g.record po)).scheme = [] ∨
    ((o.stripProtocol || !g.proto.hasProto) = false ∧
      ∃ sc, (normParts puny o g.proto.hasProto (g.record po)).scheme = lower sc ∧
        sc ≠ [] ∧ sc.length ≤ 64 ∧ sc.all isAsciiAlpha = true) := by
  have hval : (normParts puny o g.proto.hasProto (g.record po)).scheme =
      if (o.stripProtocol || !g.proto.hasProto) = true then [] else g.proto.parsedScheme := rfl
  rw [hval]
  by_cases hs : (o.stripProtocol || !g.proto.hasProto) = true
  · left; simp [hs]
  · have hs' : (o.stripProtocol || !g.proto.hasProto) = false := by simpa using hs
    rw [if_neg hs]
    have hp := G.facts.proto
    cases hpr : g.proto with
    | scheme sc =>
      rw [hpr] at hp
      right
      exact ⟨by rw [hpr] at hs'; exact hs', sc, rfl, Proto.ok_scheme hp⟩
    | slashes => left; rfl
    | bare => rw [hpr] at hs'; simp [Proto.hasProto] at hs'

def reScheme (t : Split) : Str := reSchemeOf t.scheme

omit hpc in
theorem parts_head1 (hp : Bool) : Head1 (normParts puny o hp (g.record po)).path :=
  normPath_head1 o _ _ (G.pathOk).abs

theorem parts_netlocOk (hp : Bool) : NetlocOk (normParts puny o hp (g.record po)).netloc := by
  show NetlocOk (unsplitNetloc _ _ _ _)
  rw [unsplitNetloc_eq]
  exact netlocOk_printed _ (fun c hc => auth_ok o hp G (.inl hc)) (fun c hc => auth_ok o hp G (.inr hc))
    (fun d hd => host_free hpc o hp G hd) (noCtl_host hpc o hp G)

/-- the tuples that are printed unambiguously: with a netloc, or without scheme, or with a scheme
of `uses_netloc` (`custom:///path` is none of these) -/
def HasNet (t : Split) : Prop :=
  t.netloc ≠ [] ∨ t.scheme = [] ∨ inTable usesNetloc20 t.scheme = true

instance (t : Split) : Decidable (HasNet t) := by unfold HasNet; infer_instance

omit hpc G in
theorem finalString_eq (o : Normalize.Opts) (hp : Bool) (t : Split) :
    finalString o hp t =
      printed (o.stripProtocol || !hp) t.scheme t.netloc t.path t.query (t.fragment.getD []) := by
  unfold finalString printed
  rw [urlunsplit_eq_urlunsplit20]

/-- **the printed result of `normalize_url` reparses to its tuple** (modelled parser, after
`ensure_protocol`; `http` for a stripped scheme): every option set, every string of the class
whose result is printed unambiguously (`HasNet`) -/
theorem norm_reparse (hn : HasNet (normParts puny o g.proto.hasProto (g.record po))) :
    Ural.LruVariants.modelSplit5
        (ensureProtocol (finalString o g.proto.hasProto (normParts puny o g.proto.hasProto (g.record po)))
          Ural.LruVariants.httpStr) =
      some ⟨reScheme (normParts puny o g.proto.hasProto (g.record po)),
        (normParts puny o g.proto.hasProto (g.record po)).netloc,
        (normParts puny o g.proto.hasProto (g.record po)).path,
        (normParts puny o g.proto.hasProto (g.record po)).query,
        (normParts puny o g.proto.hasProto (g.record po)).fragment.getD []⟩ := by
  rw [finalString_eq o]
  have hf : NoCtl ((normParts puny o g.proto.hasProto (g.record po)).fragment.getD []) :=
    parts_noCtl_fragment o G _
  exact print_reparse _ _ _ _ _ _ (scheme_cases o G) hn (parts_netlocOk hpc o G _)
    (parts_pathOk o G _) (parts_head1 o G _) (parts_qOk o G _) hf

/-- … for `normalize_url`: the scheme of the tuple is empty iff the printed string does not start
with letters and `://` -/
theorem norm_schemeKept (hn : HasNet (normParts puny o g.proto.hasProto (g.record po))) :
    schemeKept (finalString o g.proto.hasProto (normParts puny o g.proto.hasProto (g.record po))) =
      !(normParts puny o g.proto.hasProto (g.record po)).scheme.isEmpty := by
  rw [finalString_eq o]
  exact schemeKept_printed _ _ _ _ _ _ (scheme_cases o G) hn (parts_netlocOk hpc o G _)
    (parts_pathOk o G _) (parts_head1 o G _)

end

section
variable {puny : Str → Str} (hpc : PunyClean puny) (o : Normalize.Opts) (hp : Bool)
  {g : UrlG} {po : Option Nat} (G : Good g po)
include hpc G

/-- the netloc is not "letters, then a colon": what `PROTOCOL_RE` would need in front of `//` -/
theorem netloc_not_scheme (L : Str) (hL : ∀ c ∈ L, isAsciiAlpha c = true) :
    (normParts puny o hp (g.record po)).netloc ≠ L ++ [':'] :=
  (parts_netlocOk hpc o G hp).notScheme L hL

end

end Ural.NormReparse
