import UralModel.Model.Protocol
import UralModel.Gen.ProtocolRe
import UralModel.Lemmas.UrlSplit
import UralModel.Lemmas.StrLit
/-! `PROTOCOL_RE` and `ensure_protocol` are modelled twice, in `Model/Protocol.lean` (with `strip_protocol`,
`force_protocol`; the model of C20) and in `Model/UrlParts.lean` (what the parser lemmas of `Lemmas/UrlSplit.lean`
speak of).  Here the two are shown to be the same functions (`protoLen_urlParts`, `ensureProtocol_urlParts`), the
facts of `Lemmas/UrlSplit.lean` are carried over, and the laws of the three protocol functions that
`Props/C20.lean` uses are proved. -/
namespace Ural
open Ural.Py

/-- `PROTOCOL_RE` as regenerated from ural is the pattern `protoLen` models, with no flag
beyond the default `re.UNICODE` -/
theorem protocolRe_modelled :
    Gen.protocolRePattern = protocolPatternModelled ∧ Gen.protocolReFlags = 32 := by decide

theorem startsWith_slashes_iff (u : Str) :
    startsWith u ['/', '/'] = true ↔ ∃ r, u = '/' :: '/' :: r :=
  startsWith_iff_prefix.trans ⟨fun ⟨r, h⟩ => ⟨r, h.symm⟩, fun ⟨r, h⟩ => ⟨r, h.symm⟩⟩

theorem slash_not_alpha : isAsciiAlpha '/' = false := by decide

theorem protoLen_urlParts (s : Str) : UrlParts.protoLen s = protoLen s := by
  unfold protoLen UrlParts.protoLen
  simp only [protoMaxLetters]
  cases hs : startsWith s ['/', '/'] with
  | true =>
    obtain ⟨r, rfl⟩ := (startsWith_slashes_iff s).mp hs
    simp [slash_not_alpha]
  | false =>
    rw [drop_length_takeWhile]
    by_cases h0 : (s.takeWhile isAsciiAlpha).length = 0
    · simp [h0]
    · have h1 : 1 ≤ (s.takeWhile isAsciiAlpha).length := Nat.one_le_iff_ne_zero.2 h0
      by_cases hk : (s.takeWhile isAsciiAlpha).length ≤ 64 <;> simp [h0, h1, hk]

/-- a protocol followed by `://` is recognised again, with the expected length -/
theorem protoLen_proto_sep (q r : Str) (h : AlphaProto q) :
    protoLen (q ++ sepFull ++ r) = some (q.length + 3) := by
  rw [← protoLen_urlParts, show q ++ sepFull ++ r = q ++ ':' :: '/' :: '/' :: r by simp [sepFull]]
  exact UrlParts.protoLen_letters h r

theorem protoLen_slashes (r : Str) : protoLen ('/' :: '/' :: r) = some 2 :=
  (protoLen_urlParts _).symm.trans (UrlParts.protoLen_slashes_eq r)

theorem protoLen_some_shape {v : Str} {n : Nat} (h : protoLen v = some n) :
    (∃ r, v = '/' :: '/' :: r) ∨ (∃ l r, AlphaProto l ∧ v = l ++ ':' :: '/' :: '/' :: r) :=
  UrlParts.protoLen_some ((protoLen_urlParts v).trans h)

theorem AlphaProto.shaped {l : Str} (h : AlphaProto l) : UrlRoundTrip.SchemeShaped l :=
  UrlParts.letters_shaped h.1 h.2.1

theorem ensureProtocol_urlParts (u p : Str) : UrlParts.ensureProtocol u p = ensure_protocol u p := by
  unfold ensure_protocol UrlParts.ensureProtocol normProto
  rw [protoLen_urlParts]
  cases protoLen u <;> simp [sepFull, toList_lit]

/-- `force_protocol` always rebuilds `protocol + "://" + strip_protocol(url)` -/
theorem force_protocol_eq (u p : Str) :
    force_protocol u p = normProto p ++ sepFull ++ strip_protocol u := by
  unfold force_protocol strip_protocol
  cases hpl : protoLen u with
  | none => rfl
  | some n =>
    simp only []
    split
    · rename_i hs
      obtain ⟨r, hr⟩ := (startsWith_slashes_iff u).mp hs
      subst hr
      rw [protoLen_slashes] at hpl
      injection hpl with hpl
      subst hpl
      simp [sepFull]
    · rfl

theorem ensure_protocol_force_or_id (u p : Str) :
    ensure_protocol u p = force_protocol u p ∨
    ((protoLen u).isSome = true ∧ startsWith u ['/', '/'] = false ∧ ensure_protocol u p = u) := by
  unfold ensure_protocol force_protocol
  cases protoLen u with
  | none => exact Or.inl rfl
  | some n =>
    cases hs : startsWith u ['/', '/'] with
    | true => exact Or.inl rfl
    | false => exact Or.inr ⟨rfl, rfl, rfl⟩

theorem strip_protocol_proto_sep (q r : Str) (h : AlphaProto q) :
    strip_protocol (q ++ sepFull ++ r) = r := by
  unfold strip_protocol
  rw [protoLen_proto_sep q r h]
  simp only []
  rw [List.append_assoc, show q.length + 3 = q.length + sepFull.length from rfl,
    ← List.drop_drop, List.drop_left, List.drop_left]

/-- `rstrip(":/")` removes exactly a trailing run of `:` and `/` after an alphabetic word -/
theorem normProto_append (q t : Str) (h : AlphaProto q) (ht : ∀ c ∈ t, c = ':' ∨ c = '/') :
    normProto (q ++ t) = q := by
  refine rstripChars_unique (fun c hc => by simpa using ht c hc) fun c hc hm => ?_
  have ha := h.2.1 c (List.mem_of_getLast? hc)
  rcases (by simpa using hm : c = ':' ∨ c = '/') with rfl | rfl
  · exact absurd ha (by decide)
  · exact absurd ha (by decide)

theorem normProto_self (q : Str) (h : AlphaProto q) : normProto q = q := by
  simpa using normProto_append q [] h (by simp)

end Ural
