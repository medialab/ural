import UralModel.Lemmas.QuoteRoundTrip
/-!
# The safe unquoters in the order of the Python code

`unquote` decodes first and re-escapes afterwards, on the decoded string:
`NON_PRINTABLE_RE.sub(_requote_match, q)`, then `q.replace(" ", "%20")`
(`Model/Quote.lean` `safelyUnquotePost`).  The model the theorems are about,
`safelyUnquote U = render ∘ unquoteToks U ∘ escapeRaw ∘ tokens`, escapes the RAW non-printable
characters of the input before decoding and handles the decoded ones in `flush`.

`safelyUnquotePost_eq`: the two are the same function, for every unsafe set of ASCII bytes.

The only step that is not bookkeeping: a raw non-printable character `c` that stands between
two runs of decoded bytes (`%E2\xa0%A0`) is, in the model, spelled as escapes first, so that its
bytes join the pending run — `segment_insert` (self-synchronisation of UTF-8: the first byte
of an encoding is never a continuation byte) says the run still splits at `c`, and `flush`
escapes `c` like the regex does afterwards.

The file also introduces the string pass `requoteBy P` (`requoteNonPrintable`, `requoteNfkc`,
`q.replace(" ", "%20")`) and shows it is the token pass `escToksBy P` (`requoteBy_render`);
`Lemmas/QuoteAuth.lean` takes it from here.
-/

namespace Ural.Quote
open Ural.Py

/-! ### the two string passes, token by token -/

/-- `q.replace(" ", "%20")` on one token -/
def spTok : Tok → Tok
  | .raw c => if c = ' ' then .esc '2' '0' else .raw c
  | t => t

/-- the two passes that follow decoding, on tokens -/
def postToks (ts : List Tok) : List Tok := (escapeRaw ts).map spTok

/-- `requoteNonPrintable`, `requoteNfkc` and `q.replace(" ", "%20")` as one string pass -/
def requoteBy (P : Char → Bool) (q : Str) : Str :=
  q.flatMap fun c => if P c then render ((utf8 c).map escOfByte) else [c]

theorem requoteNonPrintable_eq_by (q : Str) : requoteNonPrintable q = requoteBy staysEscaped q := rfl

theorem requoteBy_append (P : Char → Bool) (a b : Str) :
    requoteBy P (a ++ b) = requoteBy P a ++ requoteBy P b := by
  simp [requoteBy]

theorem requoteBy_eq_self {P : Char → Bool} {s : Str} (h : ∀ c ∈ s, P c = false) :
    requoteBy P s = s := by
  induction s with
  | nil => rfl
  | cons c r ih =>
    have := ih (fun x hx => h x (by simp [hx]))
    simp only [requoteBy, List.flatMap_cons, h c (by simp), Bool.false_eq_true, if_false] at this ⊢
    rw [this]; rfl

theorem mem_requoteBy {P : Char → Bool} {s : Str} {d : Char} (h : d ∈ requoteBy P s) :
    (d ∈ s ∧ P d = false) ∨ d = '%' ∨ isHexDigit d = true := by
  obtain ⟨c, hc, hd⟩ := List.mem_flatMap.1 h
  split at hd
  · exact .inr (mem_render_escOfByte hd)
  · rename_i hn
    rw [List.mem_singleton.1 hd]
    exact .inl ⟨hc, by simpa using hn⟩

theorem count_requoteBy_le (P : Char → Bool) {d : Char} (hd : Sep d) (q : Str) :
    (requoteBy P q).count d ≤ q.count d := by
  induction q with
  | nil => exact Nat.le_refl _
  | cons c r ih =>
    rw [show requoteBy P (c :: r) = requoteBy P [c] ++ requoteBy P r from requoteBy_append P [c] r,
      List.count_append, List.count_cons]
    have : (requoteBy P [c]).count d ≤ if c == d then 1 else 0 := by
      simp only [requoteBy, List.flatMap_cons, List.flatMap_nil, List.append_nil]
      split
      · rw [List.count_eq_zero.2 fun hm =>
          (mem_render_escOfByte hm).elim hd.1 (by rw [hd.2]; exact Bool.false_ne_true)]
        exact Nat.zero_le _
      · simp [List.count_cons]
    omega

theorem requoteBy_render {P : Char → Bool} (hp : P '%' = false)
    (hx : ∀ c : Char, isHexDigit c = true → P c = false)
    (ts : List Tok) (h : EscHex ts) : requoteBy P (render ts) = render (escToksBy P ts) := by
  induction ts with
  | nil => rfl
  | cons t r ih =>
    rw [render_cons, requoteBy_append, ih (fun h1 h2 hm => h h1 h2 (by simp [hm])), escToksBy_cons,
      render_append]
    congr 1
    cases t with
    | raw c =>
      simp only [renderTok, escBy, requoteBy, List.flatMap_cons, List.flatMap_nil, List.append_nil]
      split <;> simp [renderTok]
    | esc h1 h2 =>
      obtain ⟨a, b⟩ := h h1 h2 (by simp)
      apply requoteBy_eq_self
      intro c hc
      simp only [renderTok, List.mem_cons, List.not_mem_nil, or_false] at hc
      rcases hc with rfl | rfl | rfl
      · exact hp
      · exact hx _ a
      · exact hx _ b
    | stray =>
      simp only [escBy, hp, Bool.false_eq_true, if_false]
      exact requoteBy_eq_self fun c hc => by
        simp only [renderTok, List.mem_singleton] at hc; rw [hc]; exact hp

theorem map_spTok_eq_by (ts : List Tok) : ts.map spTok = escToksBy (· == ' ') ts := by
  induction ts with
  | nil => rfl
  | cons t r ih =>
    rw [List.map_cons, escToksBy_cons, ih]
    have e : (utf8 ' ').map escOfByte = [Tok.esc '2' '0'] := by decide
    cases t with
    | raw c =>
      by_cases h : c = ' '
      · subst h; simp only [spTok, escBy, beq_self_eq_true, if_true, e]; rfl
      · simp [spTok, escBy, h]
    | esc h1 h2 => rfl
    | stray => rfl

theorem normalizeSpace_eq_by (q : Str) : normalizeSpace q = requoteBy (· == ' ') q := by
  unfold normalizeSpace requoteBy
  congr 1; funext c
  by_cases h : c = ' '
  · subst h; simp only [beq_self_eq_true, if_true]; decide
  · simp [h]

theorem normalizeSpace_render (ts : List Tok) (h : EscHex ts) :
    normalizeSpace (render ts) = render (ts.map spTok) := by
  rw [normalizeSpace_eq_by, map_spTok_eq_by]
  refine requoteBy_render (by decide) (fun c hc => ?_) ts h
  rw [beq_eq_false_iff_ne]
  rintro rfl
  revert hc
  decide

/-- **the string passes are the token passes** on every token list whose escapes are escapes -/
theorem post_render (ts : List Tok) (h : EscHex ts) :
    normalizeSpace (requoteNonPrintable (render ts)) = render (postToks ts) := by
  have e : requoteNonPrintable (render ts) = render (escapeRaw ts) := by
    rw [escapeRaw_eq_by, requoteNonPrintable_eq_by]
    exact requoteBy_render (staysEscaped_of_lt (by decide))
      (fun c hc => staysEscaped_of_lt (isHexDigit_lt hc)) ts h
  rw [e]
  exact normalizeSpace_render _ (escapeRaw_eq_by ts ▸ escHex_escToksBy h)

/-! ### decoding first: the token passes after `assemblePlain` are `assemble` after `escapeRaw` -/

theorem flushPlain_post (bs : List UInt8) (hb : ∀ b ∈ bs, 0x80 ≤ b.toNat) :
    postToks (flushPlain bs) = flush bs := by
  have key : ∀ x ∈ segment bs, SegHigh x := segment_high bs hb
  rw [flush_eq]
  unfold flushPlain postToks escapeRaw
  generalize segment bs = segs at key
  induction segs with
  | nil => rfl
  | cons x r ih =>
    have ihr := ih (fun y hy => key y (by simp [hy]))
    simp only [List.flatMap_cons, List.flatMap_append, List.map_append] at ihr ⊢
    rw [ihr]
    congr 1
    cases x with
    | inr b => simp [escTok, escOfByte, spTok, tokOfSeg]
    | inl c =>
      have hc : 0x80 ≤ c.toNat := key (.inl c) (by simp)
      have hne : c ≠ ' ' := by
        rintro rfl
        have : (' ' : Char).toNat = 32 := rfl
        omega
      simp only [List.flatMap_cons, List.flatMap_nil, List.append_nil, escTok, tokOfSeg]
      split
      · apply map_eq_self
        intro x hx
        simp only [List.mem_map] at hx
        obtain ⟨b, _, rfl⟩ := hx
        rfl
      · simp [spTok, hne]

theorem postToks_append (a b : List Tok) : postToks (a ++ b) = postToks a ++ postToks b := by
  simp [postToks, escapeRaw_append]

theorem postToks_cons (t : Tok) (r : List Tok) :
    postToks (t :: r) = (escTok t).map spTok ++ postToks r := by
  simp [postToks, escapeRaw_cons]

def postItem : Item → List Item
  | .lit (.raw c) => if staysEscaped c then (utf8 c).map .byte else [.lit (spTok (.raw c))]
  | it => [it]

theorem post_assemblePlain_items (its : List Item) (hits : ∀ b, Item.byte b ∈ its → 0x80 ≤ b.toNat) :
    ∀ (acc : List UInt8), (∀ b ∈ acc, 0x80 ≤ b.toNat) →
      postToks (assemblePlain its acc) = assemble (its.flatMap postItem) acc := by
  induction its with
  | nil => intro acc hacc; exact flushPlain_post acc hacc
  | cons it r ih =>
    intro acc hacc
    have ihr := ih (fun b hb => hits b (by simp [hb]))
    cases it with
    | byte b =>
      simp only [assemblePlain, List.flatMap_cons, postItem, List.singleton_append, assemble]
      exact ihr _ (forall_mem_snoc hacc (hits b (by simp)))
    | lit t =>
      simp only [assemblePlain, List.flatMap_cons]
      rw [postToks_append, postToks_cons, flushPlain_post acc hacc, ihr [] (by simp)]
      cases t with
      | raw c =>
        simp only [postItem, escTok]
        split
        · -- the bytes of `c` join the pending run, which still splits at `c`
          rename_i hs
          rw [assemble_bytes]
          have := assemble_insert_any c acc (r.flatMap postItem) []
          simp only [List.append_nil] at this
          rw [this]
          simp only [tokOfSeg, hs, if_true]
          congr 2
          exact map_eq_self fun t ht => by
            obtain ⟨b, _, rfl⟩ := List.mem_map.1 ht
            rfl
        · simp [assemble]
      | esc h1 h2 => simp [postItem, escTok, spTok, assemble]
      | stray => simp [postItem, escTok, spTok, assemble]

theorem itemOf_escTok (U : List UInt8) (hU : AsciiSet U) (t : Tok) :
    (escTok t).map (itemOf U) = postItem (itemOfPlain U t) := by
  cases t with
  | stray => rfl
  | raw c =>
    simp only [escTok, itemOfPlain, postItem]
    split
    · rename_i hs
      exact map_itemOf_escOfByte U hU (utf8_high (staysEscaped_high hs))
    · simp only [List.map_cons, List.map_nil, itemOf, spTok]
      split <;> rfl
  | esc h1 h2 =>
    have hlt' : byteOf h1 h2 < 0x80 ↔ (byteOf h1 h2).toNat < 0x80 := UInt8.lt_iff_toNat_lt
    simp only [escTok, List.map_cons, List.map_nil, itemOfPlain]
    rcases itemOf_esc U h1 h2 with ⟨hk, e⟩ | ⟨hk, h20, e⟩ | ⟨hk, hlt, h20, e⟩ | ⟨hk, hge, e⟩ <;>
      rw [e]
    · simp [hk, postItem]
    · rw [h20] at hk ⊢
      simp only [hk, Bool.false_eq_true, if_false]
      decide
    · have hst := staysEscaped_of_lt
        (c := Char.ofNat (byteOf h1 h2).toNat) (by rw [toNat_ofNat_small _ (by omega)]; exact hlt)
      have hsp : Char.ofNat (byteOf h1 h2).toNat ≠ ' ' := fun e => h20 (byte_of_ofNat_eq e)
      simp [hk, hlt'.2 hlt, postItem, hst, spTok, hsp]
    · simp [hk, mt hlt'.1 (Nat.not_lt.2 hge), postItem]

/-- **decode, then the two passes = escape the raw non-printables, then the model's `assemble`** -/
theorem post_assemblePlain (U : List UInt8) (hU : AsciiSet U) (ts : List Tok) :
    ∀ (acc : List UInt8), (∀ b ∈ acc, 0x80 ≤ b.toNat) →
      postToks (assemblePlain (ts.map (itemOfPlain U)) acc) =
        assemble ((escapeRaw ts).map (itemOf U)) acc := by
  have e : (escapeRaw ts).map (itemOf U) = (ts.map (itemOfPlain U)).flatMap postItem := by
    simp only [escapeRaw, List.map_flatMap, List.flatMap_map, itemOf_escTok U hU]
  rw [e]
  apply post_assemblePlain_items
  intro b hb
  obtain ⟨t, _, ht⟩ := List.mem_map.1 hb
  cases t with
  | raw c => cases ht
  | stray => cases ht
  | esc h1 h2 =>
    -- on an escape `itemOfPlain` leaves a byte pending only where `itemOf` does, and those are ≥ 0x80
    have h := itemOf_escTok U hU (.esc h1 h2)
    rw [ht] at h
    exact byte_itemOf_high (List.singleton_inj.1 h)

/-! ### the decoded token list only holds escapes that are escapes -/

theorem escHex_of_postToks {ts : List Tok} (h : EscHex (postToks ts)) : EscHex ts := fun h1 h2 hm =>
  h h1 h2 (List.mem_map.2 ⟨.esc h1 h2, List.mem_flatMap.2 ⟨_, hm, List.mem_singleton.2 rfl⟩, rfl⟩)

/-! ### the theorem -/

/-- **the model in the order of the code is the model the theorems are about**: decoding
first and re-escaping the non-printable characters / the spaces of the decoded string
afterwards (`unquote` of `quote.py`, step by step) gives `safelyUnquote U s`, for every string
and every unsafe set of ASCII bytes (the four regenerated sets are: `tables_ascii`) -/
theorem safelyUnquotePost_eq (U : List UInt8) (hU : AsciiSet U) (s : Str) :
    safelyUnquotePost U s = safelyUnquote U s := by
  have e := post_assemblePlain U hU (tokens s) [] (by simp)
  unfold safelyUnquotePost decodeOnly safelyUnquote
  -- `post_render` wants the decoded list to have hex escapes; `e`, which needs no such condition, says that
  -- its `postToks` is the model's output, and that has hex escapes (`escHex_unquoteToks`): read them back
  rw [post_render _ (escHex_of_postToks (e ▸ escHex_unquoteToks U (wf_escapeRaw (wf_tokens s)))), e]
  rfl

end Ural.Quote
