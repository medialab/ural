import UralModel.Lemmas.QuoteRoundTrip
/-!
# `upper_quoted`, and how the functions of `quote.py` compose

For the `upper_quoted` clause of C14 (`Props/C14.lean`).  `Scan`, the exact image of the scanner
(`Lemmas/Quote.lean`), is closed under upper-casing of escapes, hence
`tokens (upper_quoted s) = (tokens s).map upperTok`.  A `%XX` with two hex digits is a token of the scan
*wherever* it occurs in a string (`tokens_append_esc`), which turns the token-level statements into
statements about plain string decompositions `s = a ++ %XX ++ b`; the position mask of the scan (`upMask`)
links the two.  `upper_quoted` commutes with `safely_quote` and with every safe unquoter.
-/

namespace Ural.QuoteUpper
open Ural.Py Ural.Quote

/-! ### characters -/

/-- upper-casing neither creates nor destroys a percent sign -/
theorem upperChar_eq_pct (c : Char) : upperChar c = '%' ↔ c = '%' :=
  upperChar_eq_iff_of_not_letter (by decide) (by decide)

/-- an upper-case hex digit: `0-9A-F` -/
def isUpperHex (c : Char) : Bool := isAsciiDigit c || ('A' ≤ c ∧ c ≤ 'F')

theorem isUpperHex_iff (c : Char) : isUpperHex c = true ↔
    (48 ≤ c.toNat ∧ c.toNat ≤ 57) ∨ (65 ≤ c.toNat ∧ c.toNat ≤ 70) := by
  simp only [isUpperHex, isAsciiDigit, Bool.or_eq_true, decide_eq_true_eq, char_le_iff]
  rfl

/-- an upper-case hex digit is a hex digit that upper-casing leaves alone, and conversely -/
theorem isUpperHex_iff_fixed (c : Char) :
    isUpperHex c = true ↔ isHexDigit c = true ∧ upperChar c = c := by
  rw [isUpperHex_iff, isHexDigit_toNat_iff, upperChar_eq_self_iff]
  omega

theorem isUpperHex_upperChar {c : Char} (h : isHexDigit c = true) : isUpperHex (upperChar c) = true := by
  rw [isUpperHex_iff_fixed, isHexDigit_upperChar, upperChar_idem]
  exact ⟨h, rfl⟩

theorem hexVal_eq (c : Char) : hexVal c =
    if 48 ≤ c.toNat ∧ c.toNat ≤ 57 then c.toNat - 48
    else if 97 ≤ c.toNat ∧ c.toNat ≤ 102 then c.toNat - 97 + 10
    else if 65 ≤ c.toNat ∧ c.toNat ≤ 70 then c.toNat - 65 + 10 else 0 := by
  unfold hexVal
  simp only [char_le_iff]
  rfl

theorem hexVal_upperChar (c : Char) : hexVal (upperChar c) = hexVal c := by
  rw [hexVal_eq, hexVal_eq, upperChar_toNat]
  split
  · -- a lower-case letter and its capital are hex digits exactly when the letter is at most `f`; the `if`s
    -- are settled one by one because splitting all of them first and calling `omega` on each of the
    -- branches checks at twice the cost
    rename_i h
    rw [if_neg (by omega : ¬ (48 ≤ c.toNat - 32 ∧ c.toNat - 32 ≤ 57)),
      if_neg (by omega : ¬ (97 ≤ c.toNat - 32 ∧ c.toNat - 32 ≤ 102)),
      if_neg (by omega : ¬ (48 ≤ c.toNat ∧ c.toNat ≤ 57))]
    by_cases h2 : c.toNat ≤ 102
    · rw [if_pos (by omega : 65 ≤ c.toNat - 32 ∧ c.toNat - 32 ≤ 70), if_pos ⟨h.1, h2⟩]
      omega
    · rw [if_neg (by omega : ¬ (65 ≤ c.toNat - 32 ∧ c.toNat - 32 ≤ 70)),
        if_neg (fun h3 => h2 h3.2), if_neg (by omega : ¬ (65 ≤ c.toNat ∧ c.toNat ≤ 70))]
  · rfl

theorem byteOf_upperChar (h1 h2 : Char) : byteOf (upperChar h1) (upperChar h2) = byteOf h1 h2 := by
  simp only [byteOf, hexVal_upperChar]

theorem upperChar_hexDigitUpper : ∀ n, n < 16 → upperChar (hexDigitUpper n) = hexDigitUpper n := by
  decide

theorem upperTok_escOfByte (b : UInt8) : upperTok (escOfByte b) = escOfByte b := by
  have h1 : b.toNat / 16 < 16 := by have := b.toNat_lt; omega
  have h2 : b.toNat % 16 < 16 := by omega
  simp only [escOfByte, upperTok, upperChar_hexDigitUpper _ h1, upperChar_hexDigitUpper _ h2]

theorem upperTok_idem (t : Tok) : upperTok (upperTok t) = upperTok t := by
  cases t <;> simp [upperTok, upperChar_idem]

theorem pctTok_upperTok (t : Tok) : pctTok (upperTok t) = pctTok t := by
  cases t <;> simp [upperTok, pctTok, byteOf_upperChar]

/-! ### upper-casing the escapes of a scan gives a scan -/

theorem hexPat_render_upper (ts : List Tok) :
    (render (ts.map upperTok)).map isHexDigit = (render ts).map isHexDigit := by
  induction ts with
  | nil => rfl
  | cons t r ih =>
    simp only [List.map_cons, render_cons, List.map_append, ih]
    cases t <;> simp [upperTok, renderTok, isHexDigit_upperChar]

theorem startsHex2_of_hexPat {x y : Str} (h : x.map isHexDigit = y.map isHexDigit) :
    startsHex2 x = startsHex2 y := by
  match x, y with
  | [], [] => rfl
  | [], _ :: _ => simp at h
  | _ :: _, [] => simp at h
  | [a], [b] => rfl
  | [a], _ :: _ :: _ => simp at h
  | _ :: _ :: _, [b] => simp at h
  | a :: a' :: x, b :: b' :: y =>
    simp only [List.map_cons, List.cons.injEq] at h
    simp only [startsHex2, h.1, h.2.1]

theorem scan_map_upperTok : ∀ (ts : List Tok), Scan ts → Scan (ts.map upperTok)
  | [], _ => trivial
  | .raw c :: r, h => ⟨h.1, scan_map_upperTok r h.2⟩
  | .esc h1 h2 :: r, h =>
    ⟨⟨by rw [isHexDigit_upperChar]; exact h.1.1, by rw [isHexDigit_upperChar]; exact h.1.2⟩,
      scan_map_upperTok r h.2⟩
  | .stray :: r, h =>
    ⟨by rw [startsHex2_of_hexPat (hexPat_render_upper r)]; exact h.1, scan_map_upperTok r h.2⟩

/-- **the scan of `upper_quoted s`** is the scan of `s` with the hex digits of its escapes
upper-cased: no escape appears, disappears or moves -/
theorem tokens_upperQuoted (s : Str) : tokens (upperQuoted s) = (tokens s).map upperTok :=
  tokens_render_of_scan _ (scan_map_upperTok _ (scan_tokens s))

theorem pct_map_upperTok (ts : List Tok) : pct (ts.map upperTok) = pct ts := by
  simp only [pct, List.flatMap_map, pctTok_upperTok]

theorem count_map_upperTok {x : Tok} (hx : ∀ h1 h2, .esc h1 h2 ≠ x) (ts : List Tok) :
    (ts.map upperTok).count x = ts.count x := by
  induction ts with
  | nil => rfl
  | cons t r ih =>
    simp only [List.map_cons, List.count_cons, ih]
    cases t <;> simp [upperTok, hx]

/-! ### an escape is a token wherever it occurs -/

theorem isHexDigit_pct : isHexDigit '%' = false := by decide

/-- `%` followed by two hex digits is an escape token of the scan whatever precedes it: what
precedes is scanned as if it stood alone (a trailing `%` or `%X` of it cannot use the `%`
of the escape as a hex digit) -/
theorem tokens_append_esc {h1 h2 : Char} (hh1 : isHexDigit h1 = true) (hh2 : isHexDigit h2 = true) :
    ∀ (a b : Str), tokens (a ++ '%' :: h1 :: h2 :: b) = tokens a ++ .esc h1 h2 :: tokens b := by
  intro a b
  rw [tokens_append_of_not_hex isHexDigit_pct, tokens_esc hh1 hh2]

/-- `upper_quoted` works piecewise around every escape of the string -/
theorem upperQuoted_append_esc {h1 h2 : Char} (hh1 : isHexDigit h1 = true) (hh2 : isHexDigit h2 = true)
    (a b : Str) :
    upperQuoted (a ++ '%' :: h1 :: h2 :: b) =
      upperQuoted a ++ '%' :: upperChar h1 :: upperChar h2 :: upperQuoted b := by
  unfold upperQuoted
  rw [tokens_append_esc hh1 hh2]
  simp [render_append, upperTok, renderTok]

/-- `safely_quote` works piecewise around every escape of the string, and keeps it as written -/
theorem safelyQuoteBy_append_esc (f : Char → Bool) {h1 h2 : Char} (hh1 : isHexDigit h1 = true) (hh2 : isHexDigit h2 = true)
    (a b : Str) :
    safelyQuoteBy f (a ++ '%' :: h1 :: h2 :: b) = safelyQuoteBy f a ++ '%' :: h1 :: h2 :: safelyQuoteBy f b := by
  unfold safelyQuoteBy
  rw [tokens_append_esc hh1 hh2]
  simp [quoteToksBy, quoteTokBy, renderTok, render]

/-! ### the position mask of the scan -/

def maskTok : Tok → List Bool
  | .esc _ _ => [false, true, true]
  | _ => [false]

/-- `true` at the positions (of the rendering) of the two hex digits of every escape token -/
def upMask (ts : List Tok) : List Bool := ts.flatMap maskTok

/-- upper-case the characters at the `true` positions -/
def applyMask (s : Str) (m : List Bool) : Str := List.zipWith (fun c b => bif b then upperChar c else c) s m

theorem upMask_cons (t : Tok) (r : List Tok) : upMask (t :: r) = maskTok t ++ upMask r := by
  simp [upMask]

theorem upMask_map_upperTok (ts : List Tok) : upMask (ts.map upperTok) = upMask ts := by
  simp only [upMask, List.flatMap_map]
  congr 1; funext t; cases t <;> rfl

theorem length_upMask (ts : List Tok) : (upMask ts).length = (render ts).length := by
  induction ts with
  | nil => rfl
  | cons t r ih =>
    simp only [upMask_cons, render_cons, List.length_append, ih]
    cases t <;> simp [maskTok, renderTok]

theorem render_map_upperTok (ts : List Tok) :
    render (ts.map upperTok) = applyMask (render ts) (upMask ts) := by
  induction ts with
  | nil => rfl
  | cons t r ih =>
    simp only [List.map_cons, render_cons, upMask_cons, ih]
    cases t <;> simp [upperTok, renderTok, maskTok, applyMask]

/-- a `true` of the mask lies in an escape token -/
theorem upMask_true (ts : List Tok) (i : Nat) (h : (upMask ts)[i]? = some true) :
    ∃ ta h1 h2 tb, ts = ta ++ .esc h1 h2 :: tb ∧
      (i = (render ta).length + 1 ∨ i = (render ta).length + 2) := by
  induction ts generalizing i with
  | nil => simp [upMask] at h
  | cons t r ih =>
    have hl : (maskTok t).length = (renderTok t).length := by cases t <;> rfl
    rw [upMask_cons, List.getElem?_append] at h
    split at h
    · -- inside the mask of `t`: only an escape has a `true`, at its two digits
      rename_i hi
      cases t with
      | esc g1 g2 =>
        refine ⟨[], g1, g2, r, rfl, ?_⟩
        match i, h, hi with
        | 1, _, _ => exact .inl rfl
        | 2, _, _ => exact .inr rfl
      | raw c => match i, h, hi with | 0, h, _ => cases h
      | stray => match i, h, hi with | 0, h, _ => cases h
    · obtain ⟨ta, h1, h2, tb, e, hi⟩ := ih _ h
      exact ⟨t :: ta, h1, h2, tb, by rw [e]; rfl, by rw [render_cons, List.length_append]; omega⟩
/-! ### `upper_quoted` commutes with the safe unquoters and with `safely_quote` -/

theorem upperChar_digits : upperChar '2' = '2' ∧ upperChar '0' = '0' ∧ upperChar '5' = '5' := by decide

theorem itemOf_upperTok (U : List UInt8) (t : Tok) :
    itemOf U (upperTok t) = mapLit upperTok (itemOf U t) := by
  obtain ⟨e2, e0, e5⟩ := upperChar_digits
  cases t with
  | raw c =>
    simp only [upperTok, itemOf]
    split <;> simp [mapLit, upperTok, e2, e0]
  | stray => simp [upperTok, itemOf, mapLit, e2, e5]
  | esc h1 h2 =>
    simp only [upperTok, itemOf, byteOf_upperChar]
    split
    · simp [mapLit, upperTok]
    · split
      · split <;> simp [mapLit, upperTok, e2, e0]
      · simp [mapLit]

theorem flush_map_upperTok (bs : List UInt8) : (flush bs).map upperTok = flush bs := by
  apply map_eq_self
  intro t ht
  rcases mem_flush ht with ⟨b, rfl⟩ | ⟨c, rfl, _⟩
  · exact upperTok_escOfByte b
  · rfl

theorem unquoteToks_map_upperTok (U : List UInt8) (ts : List Tok) :
    unquoteToks U (ts.map upperTok) = (unquoteToks U ts).map upperTok := by
  unfold unquoteToks
  rw [assemble_mapLit upperTok (fun _ => True) (fun bs _ => flush_map_upperTok bs) _ []
    (by simp) (by simp)]
  simp only [List.map_map]
  congr 1
  apply List.map_congr_left
  intro t _
  exact itemOf_upperTok U t

theorem escToksBy_map_upperTok (P : Char → Bool) (ts : List Tok) :
    escToksBy P (ts.map upperTok) = (escToksBy P ts).map upperTok := by
  induction ts with
  | nil => rfl
  | cons t r ih =>
    simp only [List.map_cons, escToksBy_cons, List.map_append, ih]
    congr 1
    cases t with
    | raw c =>
      simp only [upperTok, escBy]
      split
      · rw [List.map_map]
        exact List.map_congr_left fun b _ => (upperTok_escOfByte b).symm
      · rfl
    | esc h1 h2 => rfl
    | stray => simp only [upperTok, escBy]; split <;> rfl

theorem escapeRaw_map_upperTok (ts : List Tok) :
    escapeRaw (ts.map upperTok) = (escapeRaw ts).map upperTok := by
  rw [escapeRaw_eq_by, escapeRaw_eq_by]; exact escToksBy_map_upperTok _ ts

/-- `upper_quoted` and a safe unquoter can be applied in either order -/
theorem safelyUnquote_upperQuoted (U : List UInt8) (hU : (0x25 : UInt8) ∈ U) (s : Str) :
    safelyUnquote U (upperQuoted s) = upperQuoted (safelyUnquote U s) := by
  show render (unquoteToks U (escapeRaw (tokens (upperQuoted s)))) =
    render ((tokens (safelyUnquote U s)).map upperTok)
  rw [tokens_upperQuoted, escapeRaw_map_upperTok, unquoteToks_map_upperTok, tokens_safelyUnquote U hU]

theorem quoteToksBy_map_upperTok (f : Char → Bool) (ts : List Tok) :
    quoteToksBy f (ts.map upperTok) = (quoteToksBy f ts).map upperTok := by
  rw [quoteToksBy_eq_escToksBy, quoteToksBy_eq_escToksBy]; exact escToksBy_map_upperTok _ ts

theorem quoteToks_map_upperTok (ts : List Tok) :
    quoteToks (ts.map upperTok) = (quoteToks ts).map upperTok := by
  rw [quoteToks_fun]; exact quoteToksBy_map_upperTok _ ts

theorem safelyQuoteBy_upperQuoted {f : Char → Bool} (hf : SafeSet f) (s : Str) :
    safelyQuoteBy f (upperQuoted s) = upperQuoted (safelyQuoteBy f s) := by
  show render (quoteToksBy f (tokens (upperQuoted s))) = render ((tokens (safelyQuoteBy f s)).map upperTok)
  rw [tokens_upperQuoted, quoteToksBy_map_upperTok, tokens_safelyQuoteBy hf]

/-! ### the default `safe="/"` -/

/-- `hardenBy` for `safely_quote`'s default set -/
def harden (U : List UInt8) : Tok → Tok
  | .raw c => if cleanRaw U c = true then .raw c else escOfByte (UInt8.ofNat c.toNat)
  | t => t

theorem harden_fun : harden = hardenBy quoteSafe := by
  funext U t; cases t <;> rfl

end Ural.QuoteUpper
