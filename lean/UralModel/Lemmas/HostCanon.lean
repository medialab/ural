import UralModel.Lemmas.UrlPatternLang
import UralModel.Lemmas.CanonRoundTrip
import UralModel.Model.IsUrl
/-!
# The host rule of `canonicalize_url` on a host the `is_url` patterns accept

`canonicalize_url` lower-cases the host and decodes its punycode labels
(`canonHost puny = lower ∘ decodePunycodeHostname puny`).  On a host that holds no `x` / `X`, hence
no `xn--` label (IPv4, `localhost`, special hosts), the rule only lower-cases (`host_canon_id`).  On
any host of the host language of the `is_url` patterns the result is again a word of that language,
**provided the idna decoder maps labels to labels** (`PunyLabelSafeOn`, `PunyLabelSafe`; false for
the real codec on `xn---a-cja` ↦ `-aé`, KF-C17-4), and its last label
(`hostname.rsplit(".", 1)[-1]`, what `has_valid_tld` looks at) is unchanged (`host_canon_on`).
-/
namespace Ural.UrlPattern
open Ural.Py Ural.Py.Re Ural.Py.Re.Extra Ural.Gen.Patterns Ural.UrlParts Ural.Canonicalize Ural.CanonRoundTrip

/-- the idna decoder maps a host label (a word of `(?:[F][M]{0,62})?[F]`) to a host label -/
def PunyLabelSafe (puny : Str → Str) : Prop := ∀ l, Label l → Label (puny l)

/-- the decoder maps to labels those punycode labels that OCCUR in the (lower-cased) host `h`:
the pieces of `h.split(".")` that start with `xn--`.  This is all `host_canon_on` needs, and unlike `PunyLabelSafe` it is
satisfied by CPython's codec on every host none of whose labels decodes to a string with a
leading / trailing hyphen (or another character outside the label classes) -/
def PunyLabelSafeOn (puny : Str → Str) (h : Str) : Prop :=
  ∀ l ∈ splitOn h '.', l.take 4 = "xn--".toList → Label l → Label (puny l)

theorem PunyLabelSafe.on {puny : Str → Str} (hp : PunyLabelSafe puny) (h : Str) :
    PunyLabelSafeOn puny h := fun l _ _ hl => hp l hl

/-- what `decode_punycode_hostname` does to one piece -/
def decodePiece (puny : Str → Str) (part : Str) : Str :=
  if lower (part.take 4) = "xn--".toList then puny (lower (part.take 4) ++ part.drop 4) else part

theorem decodePunycodeHostname_eq (puny : Str → Str) (h : Str) :
    decodePunycodeHostname puny h = join ['.'] ((splitOn h '.').map (decodePiece puny)) := rfl

theorem canonHost_lower_pieces (puny : Str → Str) (h : Str) :
    canonHost puny (lower h) =
      join ['.'] ((splitOn h '.').map fun p => lower (decodePiece puny (lower p))) := by
  rw [canonHost_eq, splitOn_lower lowerChar_eq_dot, List.map_map]
  rfl

theorem mem_of_xn_prefix {part : Str} (h : lower (part.take 4) = "xn--".toList) :
    ('x' ∈ part ∨ 'X' ∈ part) ∧ '-' ∈ part := by
  have key : ∀ (i : Nat) c, "xn--".toList[i]? = some c → ∃ d ∈ part, lowerChar d = c := by
    intro i c hi
    rw [← h] at hi
    simp only [lower, List.getElem?_map, Option.map_eq_some_iff] at hi
    obtain ⟨d, hd, e⟩ := hi
    exact ⟨d, List.mem_of_mem_take (List.mem_of_getElem? hd), e⟩
  obtain ⟨d, hd, e⟩ := key 0 'x' rfl
  obtain ⟨d', hd', e'⟩ := key 2 '-' rfl
  refine ⟨?_, lowerChar_eq_of_not_lower (by decide) e' ▸ hd'⟩
  rcases lowerChar_eq_x e with rfl | rfl
  · exact Or.inl hd
  · exact Or.inr hd

theorem decodePiece_of_not_xn (puny : Str → Str) {part : Str}
    (h : ¬ (('x' ∈ part ∨ 'X' ∈ part) ∧ '-' ∈ part)) : decodePiece puny part = part :=
  if_neg fun hh => h (mem_of_xn_prefix hh)

theorem decode_id (puny : Str → Str) {h : Str} (hx : 'x' ∉ h ∧ 'X' ∉ h) :
    decodePunycodeHostname puny h = h := by
  have : (splitOn h '.').map (decodePiece puny) = splitOn h '.' := by
    conv => rhs; rw [← List.map_id (splitOn h '.')]
    refine List.map_congr_left fun part hp => decodePiece_of_not_xn puny fun hm => ?_
    have hsub := piece_subset h '.' part hp
    exact hm.1.elim (fun hm => hx.1 (hsub hm)) (fun hm => hx.2 (hsub hm))
  rw [decodePunycodeHostname_eq, this, join_splitOn]

theorem host_canon_id (puny : Str → Str) {h : Str} (hx : 'x' ∉ h ∧ 'X' ∉ h) :
    canonHost puny h = lower h := by
  unfold canonHost
  rw [decode_id puny hx]

/-! ## the third alternative, label by label -/

theorem label_no_dot {l : Str} (h : Label l) : '.' ∉ l := by
  intro hm
  have := lang_all_of_allCls (P := fun C => C.avoids [46]) (Q := fun c => c.toNat ∉ [46])
    (fun C c hC hc => CharClass.avoids_sound hC hc) labelRe_no_dot h '.' hm
  exact this (by decide)

theorem label_lower {l : Str} (h : Label l) : Label (lower l) :=
  lang_lower h labelRe_lowerClosed labelRe_anchorFree

theorem tld_no_dot_dash {t : Str} (h : Tld t) : '.' ∉ t ∧ '-' ∉ t := by
  constructor
  · intro hm
    exact CharClass.avoids_sound cT_no_dash_dot (h.2 _ hm) (by decide)
  · intro hm
    exact CharClass.avoids_sound cT_no_dash_dot (h.2 _ hm) (by decide)

theorem tld_lower {t : Str} (h : Tld t) : Tld (lower t) := by
  refine ⟨by simpa [lower] using h.1, ?_⟩
  intro c hc
  obtain ⟨d, hd, rfl⟩ := List.mem_map.1 hc
  exact lowerClosed_sound cT_lowerClosed (h.2 d hd)

/-- the pieces of the host: labels, TLD, and an empty piece after a trailing dot -/
def pieces (ls : List Str) (t : Str) (d : Bool) : List Str := ls ++ (t :: (if d then [[]] else []))

theorem pieces_no_dot {ls : List Str} {t : Str} (d : Bool) (hls : ∀ l ∈ ls, '.' ∉ l) (ht : '.' ∉ t) :
    ∀ p ∈ pieces ls t d, '.' ∉ p := by
  intro p hp
  simp only [pieces, List.mem_append, List.mem_cons] at hp
  rcases hp with hp | rfl | hp
  · exact hls p hp
  · exact ht
  · cases d
    · cases hp
    · rw [List.mem_singleton.mp hp]
      exact List.not_mem_nil

theorem pieces_map_lower (ls : List Str) (t : Str) (d : Bool) :
    (pieces ls t d).map lower = pieces (ls.map lower) (lower t) d := by
  cases d <;> simp [pieces, lower]

theorem namesStr_eq_join (ls : List Str) (t : Str) (d : Bool) :
    namesStr ls t d = join ['.'] (pieces ls t d) := by
  induction ls with
  | nil => cases d <;> simp [namesStr, dotted, pieces, join]
  | cons l r ih =>
    have hne : pieces r t d ≠ [] := by simp [pieces]
    cases hp : pieces r t d with
    | nil => exact absurd hp hne
    | cons q qs =>
      have e : pieces (l :: r) t d = l :: q :: qs := by simp [pieces] at hp ⊢; exact hp
      rw [e, join_cons_cons, ← hp, ← ih]
      simp [namesStr, dotted]

theorem splitOn_names {ls : List Str} {t : Str} (d : Bool) (hls : ∀ l ∈ ls, '.' ∉ l) (ht : '.' ∉ t) :
    splitOn (namesStr ls t d) '.' = pieces ls t d := by
  rw [namesStr_eq_join]
  exact splitOn_join '.' _ (by simp [pieces]) (pieces_no_dot d hls ht)

/-- one piece: only the value of the decoder on `lower l` itself is used, and only when it
starts with `xn--` -/
theorem decodePiece_lower_label_on (puny : Str → Str) {l : Str} (h : Label l)
    (hp : (lower l).take 4 = "xn--".toList → Label (puny (lower l))) :
    Label (lower (decodePiece puny (lower l))) := by
  unfold decodePiece
  have e : lower ((lower l).take 4) = (lower l).take 4 := by
    have : (lower l).take 4 = lower (l.take 4) := by simp [lower, List.map_take]
    rw [this, lower_idem]
  split
  · rename_i hh
    rw [e] at hh ⊢
    rw [List.take_append_drop]
    exact label_lower (hp hh)
  · rw [lower_idem]; exact label_lower h

theorem decodePiece_lower_label (puny : Str → Str) (hp : PunyLabelSafe puny) {l : Str} (h : Label l) :
    Label (lower (decodePiece puny (lower l))) :=
  decodePiece_lower_label_on puny h (fun _ => hp _ (label_lower h))

/-- **the host rule on the third alternative** -/
theorem canonHost_names (puny : Str → Str) (ls : List Str) (t : Str) (d : Bool)
    (hls : ∀ l ∈ ls, Label l) (ht : Tld t) :
    canonHost puny (lower (namesStr ls t d)) =
      namesStr (ls.map fun l => lower (decodePiece puny (lower l))) (lower t) d := by
  rw [canonHost_lower_pieces, splitOn_names d (fun l hl => label_no_dot (hls l hl)) (tld_no_dot_dash ht).1,
    namesStr_eq_join]
  -- the TLD holds no hyphen, the piece after a final dot is empty: neither is decoded
  have et : lower (decodePiece puny (lower t)) = lower t := by
    rw [decodePiece_of_not_xn puny fun h => (tld_no_dot_dash (tld_lower ht)).2 h.2, lower_idem]
  have en : lower (decodePiece puny (lower [])) = [] := by
    rw [show lower [] = [] from rfl, decodePiece_of_not_xn puny (by simp)]
    rfl
  cases d <;> simp [pieces, et, en]

theorem lower_namesStr (ls : List Str) (t : Str) (d : Bool) :
    lower (namesStr ls t d) = namesStr (ls.map lower) (lower t) d := by
  rw [namesStr_eq_join, lower_join_dot, namesStr_eq_join, pieces_map_lower]

/-! ## the last label -/

/-- `hostname.rsplit(".", 1)[-1]` -/
def lastLabel (h : Str) : Str := (splitLast h '.').2

theorem lastLabel_eq_model (h : Str) : lastLabel h = IsUrl.lastLabel h := rfl

theorem dotted_concat (ls : List Str) (l : Str) : dotted (ls ++ [l]) = dotted ls ++ l ++ ['.'] := by
  simp [dotted]

theorem lastLabel_names (ls : List Str) (t : Str) (d : Bool) (hne : ls ≠ []) (ht : '.' ∉ t) :
    lastLabel (namesStr ls t d) = if d then [] else t := by
  unfold lastLabel
  obtain ⟨ls', l, rfl⟩ : ∃ ls' l, ls = ls' ++ [l] :=
    ⟨ls.dropLast, ls.getLast hne, (List.dropLast_concat_getLast hne).symm⟩
  cases d
  · have e : namesStr (ls' ++ [l]) t false = (dotted ls' ++ l) ++ '.' :: t := by
      simp [namesStr, dotted_concat]
    rw [e, UrlRoundTrip.splitLast_append_sep _ _ _ ht]
    rfl
  · have e : namesStr (ls' ++ [l]) t true = (dotted (ls' ++ [l]) ++ t) ++ '.' :: [] := by
      simp [namesStr]
    rw [e, UrlRoundTrip.splitLast_append_sep _ _ _ (by simp)]
    rfl

theorem lang_host_no_x_of_ip_lh {H : Str} (h : Lang ipRe H ∨ Lang lhRe H) : 'x' ∉ H ∧ 'X' ∉ H := by
  obtain ⟨r, hr, h⟩ : ∃ r, allCls (fun C => C.avoids [88, 120]) r = true ∧ Lang r H :=
    h.elim (fun h => ⟨_, ipRe_no_x, h⟩) (fun h => ⟨_, lhRe_no_x, h⟩)
  have key : ∀ c ∈ H, c.toNat ∉ [88, 120] :=
    lang_all_of_allCls (Q := fun c => c.toNat ∉ [88, 120])
      (fun C c hC hc => CharClass.avoids_sound hC hc) hr h
  exact ⟨fun hm => key _ hm (by decide), fun hm => key _ hm (by decide)⟩

/-- **the canonical host is a host again** when the decoder maps the labels that occur in the
lower-cased host to labels, and its last label is the last label of the lower-cased host -/
theorem host_canon_on (puny : Str → Str) {H : Str} (hH : Lang hostRe H)
    (hp : PunyLabelSafeOn puny (lower H)) :
    Lang hostRe (canonHost puny (lower H)) ∧
      lastLabel (canonHost puny (lower H)) = lastLabel (lower H) := by
  rcases or_assoc.mpr (lang_host_iff.mp hH) with h | h
  · -- IPv4, `localhost`: no `x` at all, the rule only lower-cases
    rw [host_canon_id puny (no_x_lower (lang_host_no_x_of_ip_lh h)), lower_idem]
    exact ⟨lang_lower hH hostRe_lowerClosed hostRe_anchorFree, rfl⟩
  · obtain ⟨ls, t, d, hne, hls, ht, rfl⟩ := lang_names_iff.mp h
    rw [canonHost_names puny ls t d hls ht]
    -- the pieces of the lower-cased host
    have hsplit : splitOn (lower (namesStr ls t d)) '.' = pieces (ls.map lower) (lower t) d := by
      rw [splitOn_lower lowerChar_eq_dot,
        splitOn_names d (fun l hl => label_no_dot (hls l hl)) (tld_no_dot_dash ht).1, pieces_map_lower]
    constructor
    · apply lang_host_iff.mpr
      right; right
      apply lang_names_iff.mpr
      refine ⟨_, _, d, by simpa using hne, ?_, tld_lower ht, rfl⟩
      intro l hl
      simp only [List.mem_map] at hl
      obtain ⟨l0, hl0, rfl⟩ := hl
      refine decodePiece_lower_label_on puny (hls l0 hl0)
        (fun hx => hp _ ?_ hx (label_lower (hls l0 hl0)))
      rw [hsplit]
      simp only [pieces, List.mem_append, List.mem_map]
      exact Or.inl ⟨l0, hl0, rfl⟩
    · rw [lower_namesStr, lastLabel_names _ _ _ (by simpa using hne) (tld_no_dot_dash (tld_lower ht)).1,
        lastLabel_names _ _ _ (by simpa using hne) (tld_no_dot_dash (tld_lower ht)).1]

/-- **the canonical host is a host again** (under `PunyLabelSafe`), and its last label is the
last label of the lower-cased host -/
theorem host_canon (puny : Str → Str) (hp : PunyLabelSafe puny) {H : Str} (hH : Lang hostRe H) :
    Lang hostRe (canonHost puny (lower H)) ∧
      lastLabel (canonHost puny (lower H)) = lastLabel (lower H) :=
  host_canon_on puny hH (hp.on _)

/-! ## special hosts have no punycode label -/

theorem special_no_x_mem {h : Str} (hs : pyMatch SPECIAL_HOSTS_RE h = true) : 'x' ∉ h ∧ 'X' ∉ h := by
  have key := pyMatch_avoids special_no_x special_ends_eos hs
  exact ⟨fun hm => (key _ hm).elim (fun h => h (by decide)) (by decide),
    fun hm => (key _ hm).elim (fun h => h (by decide)) (by decide)⟩

end Ural.UrlPattern
