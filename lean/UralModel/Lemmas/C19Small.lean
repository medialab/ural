import UralModel.Model.C19SmallUtil
import UralModel.Py.ReSearch
import UralModel.Lemmas.ReLang
import UralModel.Lemmas.StrSplit
import UralModel.Lemmas.UrlSplit
import UralModel.Lemmas.Pathsplit
/-!
# Lemmas for the twitter / instagram / telegram models (C19, part `small`)

Positional access, `subAnchored`, the measure that makes the hashbang re-entry of `parse_twitter_url`
terminate (a non-empty fragment holds fewer `#` than the url it was split from), `searchB` (it is
`pySearch`, the other executable spelling of `re.search(...) is not None`; on a validator `^[C]+$` it is
membership in `PlusWord C`), and the non-empty ends of what `pathsplit` returns.
-/
namespace Ural.C19Small
open Ural.Py Ural.Py.Re

/-! ## positional access -/

theorem getIdx_lt {α : Type} (xs : List α) (i : Nat) (h : i < xs.length) :
    getIdx xs i = .ok xs[i] := by
  simp [getIdx, h]

theorem getIdx_ok_mem {α : Type} {xs : List α} {i : Nat} {x : α} (h : getIdx xs i = .ok x) :
    x ∈ xs := by
  unfold getIdx at h
  cases hx : xs[i]? with
  | none => rw [hx] at h; cases h
  | some y =>
    rw [hx] at h
    injection h with h
    subst h
    exact List.mem_of_getElem? hx

theorem getLastE_ne_nil {α : Type} (xs : List α) (h : xs ≠ []) : ∃ x, getLastE xs = .ok x := by
  unfold getLastE
  cases hx : xs.getLast? with
  | none => exact absurd (List.getLast?_eq_none_iff.mp hx) h
  | some x => exact ⟨x, rfl⟩

theorem splitOnce_ne_nil (s sep : Str) : splitOnce s sep ≠ [] := by
  unfold splitOnce
  split <;> simp

/-! ## `subAnchored` -/

/-- `re.sub` of an anchored pattern: the replacement, then a suffix of the subject — or the
subject itself -/
theorem subAnchored_spec (r : Re) (repl s : Str) :
    subAnchored r repl s = s ∨ ∃ t, t <:+ s ∧ subAnchored r repl s = repl ++ t := by
  unfold subAnchored
  cases h : (matchEnds s.length r s).head? with
  | none => exact Or.inl rfl
  | some t =>
    refine Or.inr ⟨t, ?_, rfl⟩
    have hm : t ∈ matchEnds s.length r s := List.mem_of_head? h
    exact (matchEnds_sound hm).isSuffix

/-- with an empty replacement the result is a suffix of the subject -/
theorem subAnchored_nil_suffix (r : Re) (s : Str) : subAnchored r [] s <:+ s := by
  rcases subAnchored_spec r [] s with h | ⟨t, ht, h⟩
  · rw [h]; exact List.suffix_refl s
  · rw [h]; simpa using ht

/-! ## the `#` measure of `safe_urlsplit` -/

/-- a non-empty fragment found by `urlsplit` holds at least one `#` less than the url -/
theorem urlsplit_fragment_count (url dflt : Str) (r : SplitResult) (h : urlsplit url dflt = some r)
    (hne : r.fragment ≠ []) : r.fragment.count '#' + 1 ≤ url.count '#' := by
  obtain ⟨pre, tl, h1, _, _, _, _, _, _, qs, fs, he, _, hf⟩ := urlsplit_tailOf h
  rcases hf with ⟨_, e⟩ | rfl
  · exact absurd e hne
  · have := (cleanUrl_sublist url).count_le '#'
    rw [h1, he] at this
    simp only [List.count_append, List.count_cons_self] at this
    omega

theorem safe_urlsplit_fragment_count (url : Str) (r : SplitResult) (h : safe_urlsplit url = some r)
    (hne : r.fragment ≠ []) : r.fragment.count '#' + 1 ≤ url.count '#' := by
  unfold safe_urlsplit at h
  have := urlsplit_fragment_count _ _ r h hne
  split at this
  · have hc : ("http://".toList ++ url).count '#' = url.count '#' := by
      rw [List.count_append]
      have : "http://".toList.count '#' = 0 := by decide
      omega
    omega
  · exact this

/-! ## `searchB` -/

theorem searchFrom_eq_any (n : Nat) (r : Re) :
    ∀ t : Str, (tails t).any (fun u => !(matchEnds n r u).isEmpty) = searchFrom n r t
  | [] => by simp [tails, searchFrom]
  | c :: cs => by
    simp only [tails, List.any_cons, searchFrom, searchFrom_eq_any n r cs]

/-- `searchB` (C19) and `pySearch` (C18) are the same function -/
theorem searchB_eq_pySearch (r : Re) (s : Str) : searchB r s = pySearch r s := by
  unfold searchB pySearch
  exact searchFrom_eq_any s.length r s

theorem searchFrom_bos (n : Nat) (q : Re) : ∀ t : Str, t.length < n → searchFrom n (.seq .bos q) t = false
  | [], h => by simp [searchFrom, matchEnds, Nat.ne_of_lt (show 0 < n from h)]
  | c :: cs, h => by
    simp only [searchFrom, matchEnds, if_neg (Nat.ne_of_lt h), List.flatMap_nil, List.isEmpty_nil, Bool.not_true,
      Bool.false_or]
    exact searchFrom_bos n q cs (Nat.lt_of_succ_lt h)

/-- a pattern that starts with `^` can only match at position 0: `re.search` is `re.match` -/
theorem searchB_bos (q : Re) (s : Str) : searchB (.seq .bos q) s = pyMatch (.seq .bos q) s := by
  rw [searchB_eq_pySearch]
  unfold pySearch pyMatch
  cases s with
  | nil => rfl
  | cons a s => rw [searchFrom, searchFrom_bos (a :: s).length q s (Nat.lt_succ_self _), Bool.or_false]

/-! ## validators of the shape `^[class]+$` -/

/-- the class `C` of a pattern `^[C]+$`, if the pattern has that shape -/
def plusClass? : Re → Option CharClass
  | .seq .bos (.seq (.rep (.cls C) 1 none true) .eos) => some C
  | _ => none

theorem plusClass?_eq {r : Re} {C : CharClass} (h : plusClass? r = some C) :
    r = .seq .bos (.seq (.rep (.cls C) 1 none true) .eos) := by
  unfold plusClass? at h
  split at h
  · injection h with h; rw [h]
  · cases h

/-- what a validator `^[C]+$` accepts: a non-empty word over `C`, possibly followed by one
final newline (Python's `$`) -/
def PlusWord (C : CharClass) (v : Str) : Prop :=
  ∃ w, w ≠ [] ∧ (∀ c ∈ w, C.mem c = true) ∧ (v = w ∨ v = w ++ ['\n'])

/-- **`re.search` of `^[C]+$`** is membership in `PlusWord C` -/
theorem searchB_plus_iff (r : Re) (C : CharClass) (hr : plusClass? r = some C) (v : Str) :
    searchB r v = true ↔ PlusWord C v := by
  rw [plusClass?_eq hr, searchB_bos, pyMatch_iff (by simp [noNullRep, nullable]),
    accepts_bos_eos_iff (rs := [.rep (.cls C) 1 none true]) rfl rfl]
  simp only [langL_cons, langL_nil, lang_rep_cls_iff, reduceCtorEq, false_imp_iff, implies_true,
    and_true]
  constructor
  · rintro ⟨_, t, rfl, ⟨w, _, rfl, ⟨hw, hlo⟩, rfl⟩, ht⟩
    refine ⟨w, by rintro rfl; simp at hlo, hw, ?_⟩
    rcases ht with rfl | rfl <;> simp
  · rintro ⟨w, hne, hw, rfl | rfl⟩
    · exact ⟨v, [], by simp, ⟨v, [], by simp, ⟨hw, List.length_pos_iff.mpr hne⟩, rfl⟩, Or.inl rfl⟩
    · exact ⟨w, ['\n'], rfl, ⟨w, [], by simp, ⟨hw, List.length_pos_iff.mpr hne⟩, rfl⟩, Or.inr rfl⟩

theorem PlusWord.ne_nil {C : CharClass} {v : Str} (h : PlusWord C v) : v ≠ [] := by
  obtain ⟨w, hne, _, hv | hv⟩ := h
  · rw [hv]; exact hne
  · rw [hv]; simp

/-! ## `pathsplit`: the first and the last segment are not empty -/

/-- both ends of a list of segments are non-empty strings -/
def Ends (path : List Str) : Prop :=
  (∀ seg, path.head? = some seg → seg ≠ []) ∧ (∀ seg, path.getLast? = some seg → seg ≠ [])

/-- joined by `/` the segments are the core, which is empty if the one segment is, and else starts (ends)
with a slash if the first (last) segment is empty -/
theorem pathsplit_ends (urlpath : Str) : Ends (pathsplit urlpath) := by
  have hj := C19.join_pathsplit urlpath
  have hnil : pathsplit urlpath ≠ [[]] := fun e => by
    rw [e] at hj
    exact absurd (C19.pathsplit_eq_nil.mpr hj.symm) (by rw [e]; simp)
  constructor
  · intro seg hh hs
    subst hs
    obtain ⟨rest, e⟩ : ∃ rest, pathsplit urlpath = [] :: rest := by
      cases h : pathsplit urlpath with
      | nil => rw [h] at hh; cases hh
      | cons x rest => rw [h] at hh; cases hh; exact ⟨rest, rfl⟩
    have hr : rest ≠ [] := fun h => hnil (h ▸ e)
    have := head?_join ['/'] [] rest
    rw [← e, hj, if_neg hr] at this
    exact (C19.pathCore_ends urlpath).1 this
  · intro seg hl hs
    subst hs
    obtain ⟨init, e⟩ : ∃ init, pathsplit urlpath = init ++ [[]] := by
      have hne : pathsplit urlpath ≠ [] := fun h => by rw [h] at hl; cases hl
      refine ⟨(pathsplit urlpath).dropLast, ?_⟩
      have := List.dropLast_concat_getLast hne
      rw [List.getLast?_eq_some_getLast hne] at hl
      rw [Option.some.inj hl] at this
      exact this.symm
    have hi : init ≠ [] := fun h => hnil (by rw [e, h]; rfl)
    have := getLast?_join ['/'] init []
    rw [← e, hj, if_neg hi] at this
    exact (C19.pathCore_ends urlpath).2 (by simpa using this)

end Ural.C19Small
