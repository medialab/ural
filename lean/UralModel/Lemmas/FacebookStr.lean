import UralModel.Model.FacebookScope
import UralModel.Lemmas.Str
import UralModel.Lemmas.StrSplit
import UralModel.Lemmas.PctCodec
import UralModel.Lemmas.UrlSplit
/-!
`str.split(sep, 1)` of the facebook model (C19) on a string that starts with the separator.  The general facts the
facebook theorems use (prefixes of a segment followed by a slash, `str.replace`, `unquote` of a non-empty string) are in
`Lemmas/Str.lean` and `Lemmas/PctCodec.lean`.
-/
namespace Ural.Facebook
open Ural.Py Ural

/-- `(p + x).split(p, 1)[1] == x` -/
theorem splitStr1_prefix (p x : Str) : splitStr1 (p ++ x) p = [[], x] := by
  unfold splitStr1
  rw [find_of_prefix _ _ (List.isPrefixOf_iff_prefix.mpr ⟨x, rfl⟩)]
  simp

/-- `s.split(p, 1)` has a second piece when `s.startswith(p)` -/
theorem splitStr1_length_of_startsWith (s p : Str) (h : startsWith s p = true) :
    (splitStr1 s p).length = 2 := by
  unfold splitStr1
  rw [find_of_prefix _ _ h]
  rfl

end Ural.Facebook
