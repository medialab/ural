import UralModel.Model.LruSpec
import UralModel.Lemmas.Split
/-!
# `lru_to_url`: the index built from a list of rendered stems

The loop of `lru_to_url` as a fold of `updT` per tag (`child_foldl_stepT`), and `Groups`: a stem
list laid out in groups of one tag each, the shape of what `lru_stems` emits.
-/
namespace Ural.Lru
open Ural Ural.Py

/-- value stored under `tag` once a stem `(tag, v)` is processed, `old` being what was there -/
def updT (tag : Char) (old : Option Str) (v : Str) : Str :=
  match old with
  | none => v
  | some o => if tag = 'h' then v ++ '.' :: o else if tag = 'p' then o ++ '/' :: v else v

/-- one loop iteration on a tagged stem -/
def stepT (idx : Index) (t : TStem) : Index := setChild idx [t.1] (updT t.1 (child idx [t.1]) t.2)

theorem indexStep_render (idx : Index) (t : TStem) (ht : t.1 ≠ ':') :
    indexStep idx (render t) = .ok (stepT idx t) := by
  have hs : splitAtFirst ':' (render t) = some ([t.1], t.2) := by
    have := splitAtFirst_append (sep := ':') (a := [t.1]) t.2 (by simp; exact fun e => ht e.symm)
    simpa [render] using this
  simp only [indexStep, hs, indexUpdate, stepT, updT]
  cases child idx [t.1] with
  | none => rfl
  | some o =>
    by_cases h1 : t.1 = 'h'
    · simp [h1]
    · by_cases h2 : t.1 = 'p'
      · simp [h2]
      · simp [h1, h2]

theorem buildIndex_render (ts : List TStem) (hts : ∀ t ∈ ts, t.1 ≠ ':') (idx : Index) :
    buildIndex (ts.map render) idx = .ok (ts.foldl stepT idx) := by
  induction ts generalizing idx with
  | nil => rfl
  | cons t ts ih =>
    simp only [List.map_cons, buildIndex, indexStep_render idx t (hts t (by simp)), List.foldl_cons]
    exact ih (fun t' ht' => hts t' (by simp [ht'])) _

/-- the values of tag `x`, in order -/
def valuesOf (x : Char) (ts : List TStem) : List Str := (ts.filter (·.1 == x)).map (·.2)

/-- what the index holds under `x` after the loop: the fold of `updT` over the values of `x` -/
theorem child_foldl_stepT (ts : List TStem) (idx : Index) (x : Char) :
    child (ts.foldl stepT idx) [x] =
      (valuesOf x ts).foldl (fun o v => some (updT x o v)) (child idx [x]) := by
  induction ts generalizing idx with
  | nil => rfl
  | cons t ts ih =>
    rw [List.foldl_cons, ih]
    by_cases h : t.1 = x
    · subst h
      simp [valuesOf, stepT, child_setChild_same]
    · have h' : ¬ ([x] = [t.1]) := by simp; exact fun e => h e.symm
      have hb : (t.1 == x) = false := by simp [h]
      simp [valuesOf, stepT, child_setChild_other _ _ _ _ h', hb]

theorem valuesOf_append (x : Char) (a b : List TStem) :
    valuesOf x (a ++ b) = valuesOf x a ++ valuesOf x b := by simp [valuesOf]

theorem valuesOf_of_tag {x y : Char} {ts : List TStem} (h : ∀ t ∈ ts, t.1 = y) :
    valuesOf x ts = if y = x then ts.map (·.2) else [] := by
  induction ts with
  | nil => simp [valuesOf]
  | cons t ts ih =>
    have ht : t.1 = y := h t (by simp)
    have ih' := ih (fun t' ht' => h t' (by simp [ht']))
    simp only [valuesOf, List.filter_cons, ht] at ih' ⊢
    by_cases hyx : y = x
    · simp [hyx] at ih' ⊢; exact ih'
    · have : (y == x) = false := by simp [hyx]
      simp [hyx, this] at ih' ⊢; exact ih'

/-! ## stems laid out in tag groups

`lru_stems` emits eight groups of stems, each under one tag, in a fixed order (`groupsOf`,
`Lemmas/LruStems.lean`).  Which tags occur, what `lru_to_url` reads back under a tag, and the
prefix order (`Lemmas/LruPrefix.lean`) are facts about any such layout. -/

abbrev Groups := List (Char × List TStem)

namespace Groups

def flat (gs : Groups) : List TStem := gs.flatMap (·.2)
def tags (gs : Groups) : List Char := gs.map (·.1)
def Tagged (gs : Groups) : Prop := ∀ g ∈ gs, ∀ t ∈ g.2, t.1 = g.1

theorem flat_cons (g : Char × List TStem) (r : Groups) : flat (g :: r) = g.2 ++ flat r := by
  simp [flat]

theorem Tagged.tail {g : Char × List TStem} {r : Groups} (h : Tagged (g :: r)) : Tagged r :=
  fun g' hg => h g' (List.mem_cons_of_mem _ hg)

theorem tag_mem_flat {gs : Groups} (h : gs.Tagged) {t : TStem} (ht : t ∈ gs.flat) :
    t.1 ∈ gs.tags := by
  simp only [flat, List.mem_flatMap] at ht
  obtain ⟨g, hg, htg⟩ := ht
  exact List.mem_map.2 ⟨g, hg, (h g hg t htg).symm⟩

theorem valuesOf_of_mem {gs : Groups} (h : gs.Tagged) (hnd : gs.tags.Nodup) {x : Char}
    {A : List TStem} (hm : (x, A) ∈ gs) : valuesOf x gs.flat = A.map (·.2) := by
  induction gs with
  | nil => cases hm
  | cons g r ih =>
    have hnd' : g.1 ∉ tags r ∧ (tags r).Nodup := List.nodup_cons.1 hnd
    rw [flat_cons, valuesOf_append, valuesOf_of_tag (h g (by simp))]
    rcases List.mem_cons.1 hm with e | hm
    · subst e
      have : valuesOf x (flat r) = [] := by
        simp only [valuesOf, List.map_eq_nil_iff, List.filter_eq_nil_iff, beq_iff_eq]
        exact fun t ht e => hnd'.1 (e ▸ tag_mem_flat h.tail ht)
      simp [this]
    · have hne : g.1 ≠ x := fun e => hnd'.1 (e ▸ List.mem_map.2 ⟨_, hm, rfl⟩)
      simp [hne, ih h.tail hnd'.2 hm]

end Groups

/-! ## the folds -/

theorem foldl_updT_h (vs : List Str) (acc : Str) :
    vs.foldl (fun o v => some (updT 'h' o v)) (some acc) = some (joinChar '.' (vs.reverse ++ [acc])) := by
  induction vs generalizing acc with
  | nil => simp [joinChar]
  | cons v vs ih =>
    have e : updT 'h' (some acc) v = v ++ '.' :: acc := by simp [updT]
    simp only [List.foldl_cons, e]
    rw [ih, List.reverse_cons, List.append_assoc]
    simp only [List.singleton_append]
    rw [joinChar_append_pair]

/-- the `h` entry: labels re-joined right to left -/
theorem foldl_updT_h_none (vs : List Str) :
    vs.foldl (fun o v => some (updT 'h' o v)) none =
      if vs = [] then none else some (joinChar '.' vs.reverse) := by
  cases vs with
  | nil => rfl
  | cons v vs =>
    have e : updT 'h' none v = v := by simp [updT]
    simp only [List.foldl_cons, e]
    rw [foldl_updT_h]; simp

theorem foldl_updT_p (vs : List Str) (acc : Str) :
    vs.foldl (fun o v => some (updT 'p' o v)) (some acc) = some (joinChar '/' (acc :: vs)) := by
  induction vs generalizing acc with
  | nil => simp [joinChar]
  | cons v vs ih =>
    have e : updT 'p' (some acc) v = acc ++ '/' :: v := by simp [updT]
    simp only [List.foldl_cons, e]
    rw [ih, joinChar_cons_append]
    simp only [joinChar]

/-- the `p` entry: segments joined left to right -/
theorem foldl_updT_p_none (vs : List Str) :
    vs.foldl (fun o v => some (updT 'p' o v)) none =
      if vs = [] then none else some (joinChar '/' vs) := by
  cases vs with
  | nil => rfl
  | cons v vs =>
    have e : updT 'p' none v = v := by simp [updT]
    simp only [List.foldl_cons, e]
    rw [foldl_updT_p]; simp

/-- any other tag: last value wins; for at most one value -/
theorem foldl_updT_single (x : Char) (vs : List Str) (h : vs.length ≤ 1) :
    vs.foldl (fun o v => some (updT x o v)) none = vs.head? := by
  match vs, h with
  | [], _ => rfl
  | [v], _ => simp [updT]

end Ural.Lru
