import UralModel.Lemmas.Re
import UralModel.Lemmas.Str
/-!
# Further generic lemmas on the regex framework

An `iff` for every constructor; an anchor-free pattern in context as a word of its language
(`match_iff_lang`, `match_rep_iff`); `Match.map`: a character map under which every class of an
anchor-free pattern is closed maps matches to matches (used with ASCII lower-casing); projections
to *read off* sub-patterns and classes from a generated term.
-/
namespace Ural.Py.Re.Extra
open Ural.Py Ural.Py.Re

theorem match_eps_iff {n s t} : Match n .eps s t ↔ s = t := by
  constructor
  · intro h; cases h; rfl
  · rintro rfl; exact Match.eps _

theorem match_cls_iff {n C s t} : Match n (.cls C) s t ↔ ∃ c, s = c :: t ∧ C.mem c = true := by
  constructor
  · intro h; cases h with | cls _ c _ hc => exact ⟨c, rfl, hc⟩
  · rintro ⟨c, rfl, hc⟩; exact Match.cls C c t hc

theorem match_seq_iff {n p q s u} :
    Match n (.seq p q) s u ↔ ∃ t, Match n p s t ∧ Match n q t u := by
  constructor
  · intro h; cases h with | seq h1 h2 => exact ⟨_, h1, h2⟩
  · rintro ⟨t, h1, h2⟩; exact Match.seq h1 h2

theorem match_alt_iff {n p q s t} : Match n (.alt p q) s t ↔ Match n p s t ∨ Match n q s t := by
  constructor
  · intro h
    cases h with
    | altL h => exact Or.inl h
    | altR h => exact Or.inr h
  · rintro (h | h)
    · exact Match.altL h
    · exact Match.altR h

theorem match_bos_iff {n s t} : Match n .bos s t ↔ s = t ∧ s.length = n := by
  constructor
  · intro h; cases h with | bos _ hl => exact ⟨rfl, hl⟩
  · rintro ⟨rfl, hl⟩; exact Match.bos _ hl

theorem match_eos_iff {n s t} : Match n .eos s t ↔ s = t ∧ (s = [] ∨ s = ['\n']) := by
  constructor
  · intro h
    cases h with
    | eosEnd => exact ⟨rfl, Or.inl rfl⟩
    | eosNl => exact ⟨rfl, Or.inr rfl⟩
  · rintro ⟨rfl, (rfl | rfl)⟩
    · exact Match.eosEnd
    · exact Match.eosNl

theorem not_match_empty {n s t} : ¬ Match n .empty s t := by
  intro h; cases h

/-- `p?` -/
theorem match_opt_iff {n p g s t} : Match n (.rep p 0 (some 1) g) s t ↔ s = t ∨ Match n p s t := by
  constructor
  · intro h
    cases h with
    | repStop => exact Or.inl rfl
    | repStep hhi h1 h2 =>
      right
      cases h2 with
      | repStop => exact h1
      | repStep hhi' _ _ => exact absurd rfl hhi'
  · rintro (rfl | h)
    · exact Match.repStop s
    · exact Match.repStep (by simp) h (Match.repStop t)

/-- a match of an anchor-free pattern, as a word of its language followed by the rest -/
theorem match_iff_lang {n r s t} (ha : anchorFree r = true) :
    Match n r s t ↔ ∃ w, s = w ++ t ∧ Lang r w := by
  constructor
  · intro h
    exact ⟨consumed s t, h.eq_consumed, h.lang_consumed ha⟩
  · rintro ⟨w, rfl, hw⟩
    exact (lang_iff_match_anywhere ha).mp hw n t

theorem decHi_bound {hi : Option Nat} {k : Nat} (h0 : hi ≠ some 0)
    (h : ∀ b, decHi hi = some b → k ≤ b) : ∀ b, hi = some b → k + 1 ≤ b := by
  intro b hb
  subst hb
  have := h (b - 1) (by simp [decHi])
  have hb0 : b ≠ 0 := fun e => h0 (by rw [e])
  omega

theorem match_rep_iff {n p lo hi g s t} (hp : anchorFree p = true) :
    Match n (.rep p lo hi g) s t ↔ ∃ ws : List (List Char), s = ws.flatten ++ t ∧ (∀ x ∈ ws, Lang p x) ∧
      lo ≤ ws.length ∧ ∀ b, hi = some b → ws.length ≤ b := by
  constructor
  · intro h
    generalize hr : Re.rep p lo hi g = r at h
    induction h generalizing lo hi with
    | repStop s =>
      cases hr
      exact ⟨[], rfl, by simp, Nat.le_refl 0, fun b _ => Nat.zero_le b⟩
    | repStep hhi h1 _ _ ih2 =>
      cases hr
      obtain ⟨x, rfl, hx⟩ := (match_iff_lang hp).mp h1
      obtain ⟨ws, rfl, hws, hlo, hb⟩ := ih2 rfl
      exact ⟨x :: ws, by simp, List.forall_mem_cons.mpr ⟨hx, hws⟩, by simp only [List.length_cons]; omega,
        decHi_bound hhi hb⟩
    | _ => cases hr
  · rintro ⟨ws, rfl, hws, hlo, hb⟩
    induction ws generalizing lo hi with
    | nil =>
      obtain rfl : lo = 0 := Nat.le_zero.mp hlo
      exact Match.repStop _
    | cons x ws ih =>
      have hhi : hi ≠ some 0 := fun e => absurd (hb 0 e) (by simp)
      rw [List.flatten_cons, List.append_assoc]
      refine Match.repStep hhi ((match_iff_lang hp).mpr ⟨x, rfl, hws x (by simp)⟩)
        (ih (fun y hy => hws y (by simp [hy])) (by simp only [List.length_cons] at hlo; omega) ?_)
      intro b hb'
      cases hi with
      | none => simp [decHi] at hb'
      | some c =>
        simp only [decHi, Option.map_some, Option.some.injEq] at hb'
        have := hb c rfl
        simp only [List.length_cons] at this
        omega

/-! ## character maps -/

/-- `C` is closed under ASCII lower-casing (decidable: 26 tests) -/
def _root_.Ural.Py.CharClass.lowerClosed (C : CharClass) : Bool :=
  (List.range 26).all fun i => !(C.neg != CharClass.inRanges C.ranges (65 + i)) ||
    (C.neg != CharClass.inRanges C.ranges (97 + i))

theorem lowerClosed_sound {C : CharClass} (h : C.lowerClosed = true) {c : Char}
    (hc : C.mem c = true) : C.mem (lowerChar c) = true := by
  rcases lowerChar_cases c with e | ⟨h1, h2, e⟩
  · rw [e]; exact hc
  · unfold CharClass.mem at hc ⊢
    rw [e]
    unfold CharClass.lowerClosed at h
    rw [List.all_eq_true] at h
    have := h (c.toNat - 65) (by simp; omega)
    have e1 : 65 + (c.toNat - 65) = c.toNat := by omega
    have e2 : 97 + (c.toNat - 65) = c.toNat + 32 := by omega
    rw [e1, e2] at this
    simp only [Bool.or_eq_true, Bool.not_eq_true'] at this
    rcases this with h' | h'
    · rw [h'] at hc; cases hc
    · exact h'

/-- a map `f` under which every class of the anchor-free `r` is closed maps matches of `r` to
matches of `r` -/
theorem Match.map {n r s t} (h : Match n r s t) (f : Char → Char) {P : CharClass → Bool}
    (hP : ∀ C c, P C = true → C.mem c = true → C.mem (f c) = true)
    (hr : allCls P r = true) (ha : anchorFree r = true) :
    ∀ m, Match m r (s.map f) (t.map f) := by
  intro m
  have := h.relabel f hP hr ha m (t.map f)
  rwa [← List.map_append, ← h.eq_consumed] at this

/-- lower-casing a word of a pattern whose classes are closed under lower-casing -/
theorem lang_lower {r : Re} {w : List Char} (h : Lang r w)
    (hr : allCls CharClass.lowerClosed r = true) (ha : anchorFree r = true) :
    Lang r (lower w) := by
  have := Match.map h lowerChar (fun _ _ hC hc => lowerClosed_sound hC hc) hr ha (lower w).length
  simpa [Lang, lower] using this

/-! ## projections (to read sub-patterns and classes off a generated term) -/

def altL : Re → Re | .alt a _ => a | _ => .empty
def altR : Re → Re | .alt _ b => b | _ => .empty
def seqL : Re → Re | .seq a _ => a | _ => .empty
def seqR : Re → Re | .seq _ b => b | _ => .empty
def repBody : Re → Re | .rep p _ _ _ => p | _ => .empty
def clsOf : Re → CharClass | .cls C => C | _ => ⟨false, []⟩

/-- every code point of the class is in the list `ns` (non-negated classes) -/
def _root_.Ural.Py.CharClass.within (C : CharClass) (ns : List Nat) : Bool :=
  !C.neg && C.ranges.all fun r => (List.range (r.2 + 1 - r.1)).all fun i => ns.contains (r.1 + i)

theorem mem_of_inRanges {rs : List (Nat × Nat)} {ns : List Nat}
    (h : (rs.all fun r => (List.range (r.2 + 1 - r.1)).all fun i => ns.contains (r.1 + i)) = true)
    {n : Nat} (hn : CharClass.inRanges rs n = true) : n ∈ ns := by
  simp only [List.all_eq_true] at h
  rw [CharClass.inRanges_iff] at hn
  obtain ⟨r, hr1, hlo, hhi⟩ := hn
  have := h r hr1 (n - r.1) (by simp; omega)
  rw [show r.1 + (n - r.1) = n by omega] at this
  simpa using this

theorem within_sound {C : CharClass} {ns : List Nat} (h : C.within ns = true) {c : Char}
    (hc : C.mem c = true) : c.toNat ∈ ns := by
  unfold CharClass.within at h
  simp only [Bool.and_eq_true, Bool.not_eq_true'] at h
  unfold CharClass.mem at hc
  rw [h.1, Bool.false_bne] at hc
  exact mem_of_inRanges h.2 hc

/-- the complement of the class is inside the list `ns` (negated classes): every character
whose code is not in `ns` is in the class -/
def _root_.Ural.Py.CharClass.coWithin (C : CharClass) (ns : List Nat) : Bool :=
  C.neg && C.ranges.all fun r => (List.range (r.2 + 1 - r.1)).all fun i => ns.contains (r.1 + i)

theorem coWithin_sound {C : CharClass} {ns : List Nat} (h : C.coWithin ns = true) {c : Char}
    (hc : c.toNat ∉ ns) : C.mem c = true := by
  unfold CharClass.coWithin at h
  simp only [Bool.and_eq_true] at h
  unfold CharClass.mem
  rw [h.1]
  cases hin : CharClass.inRanges C.ranges c.toNat with
  | false => rfl
  | true => exact absurd (mem_of_inRanges h.2 hin) hc

end Ural.Py.Re.Extra
