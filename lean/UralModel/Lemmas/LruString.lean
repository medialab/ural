import UralModel.Model.LruUrl
import UralModel.Lemmas.CanonRoundTrip
import UralModel.Lemmas.LruRoundTrip
/-!
# The parser inside the LRU model: what `urlsplit(ensure_protocol(u))` returns, and why the
# components `lru_to_url` hands to `urlunsplit` are printed unambiguously (C12 / C13, strings)

* `ensure_shape`, `urlsplit_proto`, `splitFacts_proto`: `ensure_protocol(u)` is
  `letters://rest`; `urlsplit` of such a string, stage by stage (the cleaning step removes tab,
  CR, LF from `rest` — unlike `canonicalize_url`, `lru_stems` does not strip control characters
  first), and the facts about its result (`CanonRoundTrip.SplitFacts`), gathered for the
  string-level theorems as `UrlFacts u p` (`urlFacts`);
* `pyUrlunsplit_eq20`: the `urlunsplit` model of `Py/Split.lean` (used by `Model/Lru.lean`) is
  `Py.urlunsplit20` (used by `Lemmas/UrlRoundTrip.lean`);
* `netlocOk_canon`: the bracket check of `urlsplit` passes on the re-assembled netloc;
* `wf_expected`: the expected components satisfy `UrlRoundTrip.WF`, hence
  `urlsplit (urlunsplit t) = t` (`urlsplit_urlunsplit20`) applies to them;
* `printed_shape`: the printed URL starts with `scheme://`, so `ensure_protocol` leaves it alone;
* `mem_pyHostname`, `accessors_grammar`: CPython's `.hostname` holds characters of the netloc only,
  and its accessors on a netloc of the grammar are the components of the grammar reading.
-/
set_option linter.unusedSimpArgs false
set_option linter.unusedVariables false
set_option linter.unusedSectionVars false

namespace Ural.LruString
open Ural Ural.Py Ural.Lru Ural.UrlRoundTrip

/-! ## `ensure_protocol(u)` -/

theorem httpProto_shaped : SchemeShaped (rstripChars httpProto [':', '/']) :=
  ⟨⟨'h', ['t', 't', 'p'], by decide, by decide⟩, by decide⟩

/-- 1 to 64 ASCII letters: what `PROTOCOL_RE` recognises again -/
def Letters (S : Str) : Prop := S ≠ [] ∧ (∀ c ∈ S, isAsciiAlpha c = true) ∧ S.length ≤ 64

theorem Letters.shaped {S : Str} (h : Letters S) : SchemeShaped S :=
  UrlParts.letters_shaped h.1 h.2.1

theorem Letters.lower {S : Str} (h : Letters S) : Letters (Py.lower S) := UrlParts.letters_lower h

/-- `ensure_protocol(u)` is `letters://rest` with `rest` made of characters of `u` -/
theorem ensure_shape (u : Str) :
    ∃ S rest, Letters S ∧ UrlParts.ensureProtocol u httpProto = S ++ ':' :: '/' :: '/' :: rest ∧
      rest ⊆ u := by
  obtain ⟨S, rest, hS, he, hsub, hl⟩ := CanonRoundTrip.ensureProtocol_shape u httpProto httpProto_shaped
  have := hl (by decide) (by decide)
  refine ⟨S, rest, ⟨?_, this.1, this.2⟩, he, hsub⟩
  obtain ⟨⟨c, r, e, _⟩, _⟩ := hS
  rw [e]; simp

/-! ## `urlsplit` on `letters://rest` -/

/-- the cleaning step of `urlsplit` on what follows `://`: tab, CR, LF removed -/
def cleanRest (rest : Str) : Str := rest.filter (fun c => !isUnsafeUrlChar c)

theorem cleanRest_subset (rest : Str) : cleanRest rest ⊆ rest :=
  (List.filter_sublist).subset

theorem cleanRest_clean (rest : Str) : ∀ c ∈ cleanRest rest, isUnsafeUrlChar c = false := by
  intro c hc
  simp only [cleanRest, List.mem_filter, Bool.not_eq_true'] at hc
  exact hc.2

/-- `urlsplit` on `letters://rest`, stage by stage -/
theorem urlsplit_proto (S rest : Str) (hS : SchemeShaped S) :
    urlsplit (S ++ ':' :: '/' :: '/' :: rest) [] =
      (if !netlocOk ((cleanRest rest).takeWhile (fun c => !isNetlocDelim c)) then none
       else some ⟨Py.lower S, (cleanRest rest).takeWhile (fun c => !isNetlocDelim c),
         (splitFirst (splitFirst ((cleanRest rest).dropWhile (fun c => !isNetlocDelim c)) '#').1 '?').1,
         (splitFirst (splitFirst ((cleanRest rest).dropWhile (fun c => !isNetlocDelim c)) '#').1 '?').2.getD [],
         (splitFirst ((cleanRest rest).dropWhile (fun c => !isNetlocDelim c)) '#').2.getD []⟩) := by
  rw [urlsplit_scheme_slashes hS, splitRest_slashes]
  unfold withTail cleanRest Sites.dropUnsafe
  cases netlocOk ((rest.filter fun c => !isUnsafeUrlChar c).takeWhile fun c => !isNetlocDelim c) <;> rfl

open CanonRoundTrip in
/-- the facts about the split result (as `CanonRoundTrip.splitFacts`, for a string that was not
stripped of its control characters) -/
theorem splitFacts_proto {S rest0 : Str} (hS : SchemeShaped S) {r : SplitResult}
    (hr : urlsplit (S ++ ':' :: '/' :: '/' :: rest0) [] = some r) :
    SplitFacts S (cleanRest rest0) r :=
  splitFacts_of_splitRest (urlsplit_scheme_slashes hS rest0 [] ▸ hr)

/-- everything the theorems need to know about `urlsplit(ensure_protocol(u))` -/
structure UrlFacts (u : Str) (p : Parts) : Prop where
  /-- the scheme is 1–64 lower-cased ASCII letters -/
  scheme_letters : Letters p.scheme
  scheme_lower : Py.lower p.scheme = p.scheme
  nodelim : ∀ ch ∈ p.netloc, isNetlocDelim ch = false
  ok : netlocOk p.netloc = true
  path_noq : '?' ∉ p.path
  path_noh : '#' ∉ p.path
  query_noh : '#' ∉ p.query
  path_abs : p.path = [] ∨ ∃ q, p.path = '/' :: q
  /-- no tab, CR, LF in any component -/
  clean : ∀ c, c ∈ p.netloc ∨ c ∈ p.path ∨ c ∈ p.query ∨ c ∈ p.fragment → isUnsafeUrlChar c = false
  /-- the characters of the components are characters of `u` -/
  sub : ∀ c, c ∈ p.netloc ∨ c ∈ p.path ∨ c ∈ p.query ∨ c ∈ p.fragment → c ∈ u

theorem urlFacts {u : Str} {p : Parts} (h : urlParts u = some p) : UrlFacts u p := by
  unfold urlParts at h
  obtain ⟨S, rest, hL, he, hsub⟩ := ensure_shape u
  rw [he] at h
  cases hr : urlsplit (S ++ ':' :: '/' :: '/' :: rest) [] with
  | none => rw [hr] at h; cases h
  | some r =>
    rw [hr] at h
    simp only [Option.map_some, Option.some.injEq] at h
    subst h
    have f := splitFacts_proto hL.shaped hr
    have hin : ∀ c, c ∈ r.netloc ∨ c ∈ r.path ∨ c ∈ r.query ∨ c ∈ r.fragment → c ∈ cleanRest rest := by
      intro c hc
      rcases hc with hc | hc | hc | hc
      · exact f.sub_netloc hc
      · exact f.sub_path hc
      · exact f.sub_query hc
      · exact f.sub_fragment hc
    refine ⟨?_, ?_, f.nodelim, f.ok, f.path_noq, f.path_noh, f.query_noh, f.path_abs, ?_, ?_⟩
    · show Letters r.scheme
      rw [f.scheme]; exact hL.lower
    · show Py.lower r.scheme = r.scheme
      rw [f.scheme]; exact Py.lower_idem S
    · intro c hc; exact cleanRest_clean rest c (hin c hc)
    · intro c hc; exact hsub (cleanRest_subset rest (hin c hc))


/-! ## the two models of `urlunsplit` used by the LRU model and by the round-trip lemma agree -/

theorem pyUsesNetloc_contains (s : Str) :
    Py.usesNetloc.contains (String.ofList s) = inTable usesNetloc20 s := by
  rw [contains_ofList]; rfl

/-- `Py.urlunsplit` (`Py/Split.lean`, used by `lru_to_url`'s model) is `Py.urlunsplit20` -/
theorem pyUrlunsplit_eq20 (scheme netloc path query fragment : Str) :
    Py.urlunsplit scheme netloc path query fragment =
      urlunsplit20 scheme netloc path query fragment := by
  simp only [Py.urlunsplit, urlunsplit20, take2_ne, take1_ne, pyUsesNetloc_contains,
    Bool.or_eq_true, Bool.and_eq_true, decide_eq_true_eq, Bool.not_eq_true',
    List.cons_append, List.nil_append, and_assoc, ne_eq]

theorem renderParts_eq20 (p : Parts) :
    renderParts p = urlunsplit20 p.scheme p.netloc p.path p.query p.fragment :=
  pyUrlunsplit_eq20 _ _ _ _ _

/-! ## the bracket check of `urlsplit` on the re-assembled netloc -/

/-- **the bracket check passes again**: when the userinfo holds no raw bracket, and the host is
kept as written (always so when it is a bracketed literal) or is a plain host lower-cased -/
theorem netlocOk_canon {n h' : Str} (hwf : wfNetloc n = true)
    (hauth : noneOf ['[', ']'] ((authOf n).getD []) = true) (hok : netlocOk n = true)
    (hh : h' = specHost n ∨ (Plain (specHost n) ∧ h' = Py.lower (specHost n))) :
    netlocOk (canonNetloc n h') = true := by
  have g := grammar_of_wf hwf
  have r' := (g.canon_lower hh).reads
  have hau : ∀ c, c = '[' ∨ c = ']' → c ∉ (authOf n).getD [] := fun c hc hm => by
    have := noneOf_iff.mp hauth c hm
    rcases hc with rfl | rfl <;> simp at this
  have hui : ∀ u, canonUi n = some u → '[' ∉ u ∧ ']' ∉ u := fun u e =>
    ⟨fun hm => (mem_canonUi e hm).elim (hau _ (Or.inl rfl)) (by decide),
      fun hm => (mem_canonUi e hm).elim (hau _ (Or.inr rfl)) (by decide)⟩
  rcases g.host with ⟨inner, hin, _⟩ | hplain
  · -- bracketed: the host is kept, and the check is the check of its text, before and after
    have e : h' = specHost n := hh.elim id fun ⟨hp, _⟩ => absurd hin (not_bracket_of_plain hp _)
    subst e
    have hb : ((specHost n).head? == some '[') = true := by rw [hin]; rfl
    rw [r'.netlocOk_bracketed hb fun u e => (hui u e).1,
      ← g.reads.netlocOk_bracketed hb fun u e hm => hau _ (Or.inl rfl) (by rw [e]; exact hm)]
    exact hok
  · -- plain host: no bracket anywhere
    have hp' : Plain h' := by
      rcases hh with rfl | ⟨_, rfl⟩
      · exact hplain
      · exact plain_lower hplain
    exact r'.netlocOk_plain (head_bracket_plain hp') hui
      (by rw [unbracket_plain hp']; exact fun h => (hp' _ h).2.2 rfl)
      fun p e h => (g.port p e _ h).2.2 rfl

/-! ## the expected components are printed unambiguously -/

section
variable (sp : Str → Option (Str × Str))

/-- **the components `lru_to_url` hands to `urlunsplit` satisfy `UrlRoundTrip.WF`** -/
theorem wf_expected {u : Str} {p : Parts} (sa : Bool) (hf : UrlFacts u p)
    (hwf : wfNetloc p.netloc = true) (hhost : specHost p.netloc ≠ [])
    (hok : netlocOk (canonNetloc p.netloc (expectedHost sp sa p.netloc)) = true) :
    WF p.scheme (canonNetloc p.netloc (expectedHost sp sa p.netloc)) p.path p.query p.fragment := by
  have hne : canonNetloc p.netloc (expectedHost sp sa p.netloc) ≠ [] :=
    expected_netloc_ne_nil sp sa hhost
  have g := grammar_of_wf hwf
  have hcases := expectedHost_cases sp sa p.netloc g.host
  have hsne : p.scheme ≠ [] := hf.scheme_letters.1
  refine ⟨Or.inr ⟨hf.scheme_letters.shaped, hf.scheme_lower⟩, ?_, hok, hf.path_noq, hf.path_noh,
    hf.query_noh, fun _ => hf.path_abs, fun e => absurd e hne, fun e => absurd e hsne,
    fun e => absurd e hsne, ?_⟩
  · intro c hc
    cases hd : isNetlocDelim c with
    | false => rfl
    | true =>
      exfalso
      have hcn : c ∈ p.netloc := by
        simp only [isNetlocDelim, Bool.or_eq_true, decide_eq_true_eq] at hd
        rcases hd with (rfl | rfl) | rfl <;>
          exact g.mem_canon_lower hcases (by decide) (by decide) (by decide) hc
      rw [hf.nodelim c hcn] at hd; cases hd
  · intro c hc
    cases hd : isUnsafeUrlChar c with
    | false => rfl
    | true =>
      exfalso
      simp only [List.mem_append] at hc
      rcases hc with (((hc | hc) | hc) | hc) | hc
      · have := unsafe_of_ctl (isSchemeChar_not_ctl (schemeShaped_mem hf.scheme_letters.shaped c hc))
        rw [this] at hd; cases hd
      · have hcn : c ∈ p.netloc := by
          simp only [isUnsafeUrlChar, Bool.or_eq_true, decide_eq_true_eq] at hd
          rcases hd with (rfl | rfl) | rfl <;>
            exact g.mem_canon_lower hcases (by decide) (by decide) (by decide) hc
        rw [hf.clean c (Or.inl hcn)] at hd; cases hd
      · rw [hf.clean c (Or.inr (Or.inl hc))] at hd; cases hd
      · rw [hf.clean c (Or.inr (Or.inr (Or.inl hc)))] at hd; cases hd
      · rw [hf.clean c (Or.inr (Or.inr (Or.inr hc)))] at hd; cases hd

end


/-! ## CPython's `.hostname` (model of `Py/Split.lean`) only holds characters of the netloc -/

/-- a character that is neither a lower-case letter nor `%` occurs in `.hostname` only if it
occurs in the netloc -/
theorem mem_pyHostname {n : Str} {c : Char} (hx : ¬ (97 ≤ c.toNat ∧ c.toNat ≤ 122)) (h : c ∈ pyHostname n) :
    c ∈ n :=
  Classical.byContradiction fun hn =>
    (Netloc.lowerOf_pyHostname n).not_mem hn hx h

theorem pyHostname_congr {a b : Str} (h : pyHostinfoHost a = pyHostinfoHost b) :
    pyHostname a = pyHostname b := by
  unfold pyHostname; rw [h]

/-! ## the printed URL starts with `scheme://` -/

theorem printed_shape (p : Parts) (hs : Letters p.scheme) (hn : p.netloc ≠ [])
    (hpath : p.path = [] ∨ ∃ q, p.path = '/' :: q) :
    ∃ rest, renderParts p = p.scheme ++ ':' :: '/' :: '/' :: rest := by
  rw [renderParts_eq20, urlunsplit20_eq,
    bodyOf_true _ _ _ (by simp [hn]) hpath]
  refine ⟨p.netloc ++ p.path ++ (queryPart p.query ++ fragPart p.fragment), ?_⟩
  simp [schemePart, hs.1]


/-! ## CPython's accessors (`Py/UrlAccessors.lean`: `.username .password .hostname .port`) on a
netloc of the grammar -/

theorem userOfAuth_eq (auth : Str) : userOfAuth auth = (splitFirst auth ':').1 := by
  unfold userOfAuth; rw [Netloc.splitFirst_eq_splitAtFirst]
  cases splitAtFirst ':' auth <;> rfl

theorem passwordOfAuth_eq (auth : Str) : passwordOfAuth auth = (splitFirst auth ':').2 := by
  unfold passwordOfAuth; rw [Netloc.splitFirst_eq_splitAtFirst]
  cases splitAtFirst ':' auth <;> rfl

/-- **the accessors of CPython's `SplitResult` on a netloc of the grammar** are the components
of the grammar reading: `.username` / `.password` are what stems.py calls `user` / `password`,
`_hostinfo` is the host without its brackets and the port (`None` when empty) -/
theorem accessors_grammar {n : Str} (hwf : wfNetloc n = true) :
    Py.username n = userOf n ∧ Py.password n = passwordOf n ∧
    Py.hostinfo n = (unbracket (specHost n),
      if (specPort n).getD [] = [] then none else some ((specPort n).getD [])) := by
  have r := reads_wf hwf
  refine ⟨?_, ?_, r.hostinfo⟩
  · unfold Py.username userOf; rw [r.userinfo, funext userOfAuth_eq]
  · unfold Py.password passwordOf; rw [r.userinfo, funext passwordOfAuth_eq]

end Ural.LruString
