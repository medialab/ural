import UralModel.Model.Normalize
import UralModel.Lemmas.C04Query
import UralModel.Lemmas.C04Host
import UralModel.Lemmas.C04Path
/-!
# C04 — how each component enters the result, for BOTH values of `lowercase`

The result of `normalize_url(…, unsplit=False)` component by component (`normParts_eq`), and the
congruences that follow from it.  `fingerprint_url` calls `normalize_url(…, lowercase=True)`: what
has just been unescaped is lower-cased before the case-sensitive steps look at it.  So the component
facts are proved for every `o : Opts`, the case folding (`lcStr`, `lcItem`) being part of the
statement.  `outQuery_eq`, `normParts_congr_query`, `pathSteps_trailing_slash` and `pathSteps_index` are
the instances at `lowercase = False` of the `…_lc` lemma in front of each; the proofs of `Props/C04.lean`
use the `…_lc` forms.
-/
set_option linter.unusedSimpArgs false
namespace Ural.Normalize
open Ural Ural.Py Ural.UrlParts Ural.Quote Ural.Canonicalize Ural.Normpath

/-- the hostname the per-domain filter looks at -/
def hostKey (puny : Str → Str) (h : Option Str) : Option Str :=
  h.map fun h => if h.isEmpty then h else lower (decodePunycodeHostname puny h)

/-- the fragment after unescaping (and case folding under `lowercase`) and the routing test -/
def fragStep (o : Opts) (f : Str) : Str :=
  normFragment o.stripFragment (if o.lowercase then lower (unquoteFragment f) else unquoteFragment f)

def normPort (port : Option Nat) : Option Nat :=
  match port with
  | some n => if n = 80 ∨ n = 443 then none else some n
  | none => none

/-- **the result, component by component** -/
theorem normParts_eq (puny : Str → Str) (o : Opts) (hp : Bool) (p : Parsed) :
    normParts puny o hp p =
      { scheme := if o.stripProtocol || !hp then [] else p.scheme
        netloc := unsplitNetloc
          (if o.stripAuthentication then none else canonOpt o.quoted unquoteAuthItem p.username)
          (if o.stripAuthentication then none else canonOpt o.quoted unquoteAuthItem p.password)
          (p.hostname.map (normHost puny o)) (normPort p.port)
        path := normPath o p.path (fragStep o p.fragment) (fixedQ o p.query)
        query := renderQsl o.quoted (filterQuery o (hostKey puny p.hostname) (fixedQ o p.query))
        fragment := some (requote o.quoted unquoteFragment (fragStep o p.fragment)) } := rfl

/-- with `strip_trailing_slash` the path does not depend on whether there is a query -/
theorem normPath_query_irrelevant (o : Opts) (hts : o.stripTrailingSlash = true)
    (path f q q' : Str) : normPath o path f q = normPath o path f q' :=
  normPath_irrelevant o hts path f q f q'

/-- the hostname enters through its decoded, lower-cased form only -/
theorem hostKey_eq (puny : Str → Str) (h : Str) :
    hostKey puny (some h) = some (canonHost puny h) := by
  unfold hostKey canonHost
  by_cases hh : h = []
  · subst hh
    have := canonHost_nil puny
    unfold canonHost at this
    simp [this]
  · have : h.isEmpty = false := by cases h <;> simp_all
    simp [this, hh]

/-- `s.lower()` under `lowercase`, else `s` -/
def lcStr (o : Opts) (s : Str) : Str := if o.lowercase then lower s else s

/-- key and value lower-cased under `lowercase` -/
def lcItem (o : Opts) (it : QItem) : QItem :=
  if o.lowercase then (lower it.1, it.2.map lower) else it

theorem lcStr_false (o : Opts) (h : o.lowercase = false) (s : Str) : lcStr o s = s := by
  simp [lcStr, h]

theorem lcItem_false (o : Opts) (h : o.lowercase = false) (it : QItem) : lcItem o it = it := by
  simp [lcItem, h]

theorem map_lcItem_false (o : Opts) (h : o.lowercase = false) (l : List QItem) :
    l.map (lcItem o) = l :=
  (List.map_congr_left fun it _ => lcItem_false o h it).trans (List.map_id' l)

theorem lcItem_empty (o : Opts) : lcItem o ([], none) = ([], none) := by
  unfold lcItem; cases o.lowercase <;> rfl

theorem lcStr_nil (o : Opts) : lcStr o [] = [] := by
  unfold lcStr; cases o.lowercase <;> rfl

theorem lcStr_append (o : Opts) (a b : Str) : lcStr o (a ++ b) = lcStr o a ++ lcStr o b := by
  unfold lcStr; cases o.lowercase <;> simp [lower]

theorem lcStr_slash_cons (o : Opts) (a : Str) : lcStr o ('/' :: a) = '/' :: lcStr o a := by
  have h : lowerChar '/' = '/' := by decide
  unfold lcStr; cases o.lowercase <;> simp [lower, h]

theorem lcStr_slash (o : Opts) : lcStr o ['/'] = ['/'] := by
  rw [lcStr_slash_cons, lcStr_nil]

theorem absPath_lower (u : Str) : absPath (lower u) = absPath u := by
  unfold absPath
  rw [startsWith_one_lower '/' lowerChar_slash_iff]
  cases u <;> rfl

theorem absPath_lcStr (o : Opts) (u : Str) : absPath (lcStr o u) = absPath u := by
  unfold lcStr; cases o.lowercase <;> simp [absPath_lower]

/-! ## the query -/

theorem filterQuery_lc (o : Opts) (host : Option Str) (query : Str) :
    filterQuery o host query =
      if query.isEmpty then []
      else sortIf o.sortQuery (((unquoteQsl (safeQslIter query)).map (lcItem o)).filter (keepItem o host)) := by
  unfold filterQuery sortIf keepItem lcItem
  cases o.lowercase <;> simp

/-- **the query of the result depends on the raw query only through
`(seenItems (decoded q)).map (lcItem o)`**, for both values of `lowercase`: repair, unescape, fold
the case on request, filter, sort on request, quote on request, serialise -/
theorem outQuery_eq_lc (hk : KeepsEmpty) (o : Opts) (host : Option Str) (q : Str) :
    renderQsl o.quoted (filterQuery o host (fixedQ o q)) =
      renderQsl o.quoted (sortIf o.sortQuery
        (((seenItems o.fixCommonMistakes (decoded q)).map (lcItem o)).filter (keepItem o host))) := by
  have hd := decoded_fixedQ o q
  rw [filterQuery_lc]
  by_cases he : (fixedQ o q).isEmpty = true
  · simp only [he, if_true]
    have hq0 : fixedQ o q = [] := by cases h : fixedQ o q <;> simp_all
    rw [hq0, decoded_nil] at hd
    rw [← hd]
    have hkeep := keepItem_empty hk o host
    simp only [List.map_cons, List.map_nil, lcItem_empty, List.filter_cons, hkeep, if_true,
      List.filter_nil, sortIf_singleton]
    rw [renderQsl_nil, renderQsl_empty_item]
  · have he' : (fixedQ o q).isEmpty = false := by simpa using he
    simp only [he', Bool.false_eq_true, if_false]
    unfold decoded at hd
    rw [hd]
    rfl

/-- **the query of the result depends on the raw query only through `seenItems (decoded q)`**
(`lowercase = False`): filter, sort on request, quote on request, serialise -/
theorem outQuery_eq (hk : KeepsEmpty) (o : Opts) (hl : o.lowercase = false) (host : Option Str)
    (q : Str) :
    renderQsl o.quoted (filterQuery o host (fixedQ o q)) =
      renderQsl o.quoted (sortIf o.sortQuery
        ((seenItems o.fixCommonMistakes (decoded q)).filter (keepItem o host))) := by
  rw [outQuery_eq_lc hk o host q, map_lcItem_false o hl]

/-- the query string of the result, as a function of the decoded items of the raw query -/
theorem normParts_query_lc (hk : KeepsEmpty) (puny : Str → Str) (o : Opts) (hp : Bool) (p : Parsed) :
    (normParts puny o hp p).query =
      renderQsl o.quoted (sortIf o.sortQuery
        (((seenItems o.fixCommonMistakes (decoded p.query)).map (lcItem o)).filter
          (keepItem o (hostKey puny p.hostname)))) := by
  rw [normParts_eq]
  exact outQuery_eq_lc hk o _ _

/-- two parsed URLs that differ in the query only give the same result as soon as the kept,
sorted, re-quoted items serialise alike (`strip_trailing_slash` on; any `lowercase`) -/
theorem normParts_congr_query_lc (hk : KeepsEmpty) (puny : Str → Str) (o : Opts)
    (hts : o.stripTrailingSlash = true) (hp : Bool) (p : Parsed) (q q' : Str)
    (h : renderQsl o.quoted (sortIf o.sortQuery
          (((seenItems o.fixCommonMistakes (decoded q)).map (lcItem o)).filter
            (keepItem o (hostKey puny p.hostname)))) =
        renderQsl o.quoted (sortIf o.sortQuery
          (((seenItems o.fixCommonMistakes (decoded q')).map (lcItem o)).filter
            (keepItem o (hostKey puny p.hostname))))) :
    normParts puny o hp { p with query := q } = normParts puny o hp { p with query := q' } := by
  have h1 := normParts_query_lc hk puny o hp { p with query := q }
  have h2 := normParts_query_lc hk puny o hp { p with query := q' }
  simp only at h1 h2
  rw [normParts_eq, normParts_eq] at *
  simp only at h1 h2 ⊢
  rw [h1, h2, h, normPath_query_irrelevant o hts _ _ (fixedQ o q) (fixedQ o q')]

theorem normParts_congr_fixedQ (hk : KeepsEmpty) (puny : Str → Str) (o : Opts)
    (hts : o.stripTrailingSlash = true) (hp : Bool) (p : Parsed) (q q' : Str)
    (h : renderQsl o.quoted (sortIf o.sortQuery
          (((decoded (fixedQ o q)).map (lcItem o)).filter (keepItem o (hostKey puny p.hostname)))) =
        renderQsl o.quoted (sortIf o.sortQuery
          (((decoded (fixedQ o q')).map (lcItem o)).filter (keepItem o (hostKey puny p.hostname))))) :
    normParts puny o hp { p with query := q } = normParts puny o hp { p with query := q' } := by
  apply normParts_congr_query_lc hk puny o hts
  rw [← decoded_fixedQ, ← decoded_fixedQ]
  exact h

/-- two parsed URLs that differ in the query only give the same result as soon as the kept,
sorted, re-quoted items serialise alike (`strip_trailing_slash` on) -/
theorem normParts_congr_query (hk : KeepsEmpty) (puny : Str → Str) (o : Opts)
    (hl : o.lowercase = false) (hts : o.stripTrailingSlash = true) (hp : Bool) (p : Parsed)
    (q q' : Str)
    (h : renderQsl o.quoted (sortIf o.sortQuery
          ((seenItems o.fixCommonMistakes (decoded q)).filter (keepItem o (hostKey puny p.hostname)))) =
        renderQsl o.quoted (sortIf o.sortQuery
          ((seenItems o.fixCommonMistakes (decoded q')).filter (keepItem o (hostKey puny p.hostname))))) :
    normParts puny o hp { p with query := q } = normParts puny o hp { p with query := q' } := by
  apply normParts_congr_query_lc hk puny o hts
  rw [map_lcItem_false o hl, map_lcItem_false o hl]
  exact h

/-! ## the path -/

/-- the path steps after unescaping and case folding: `normpath`, AMP suffixes, index file -/
def pathStepsTail (o : Opts) (p : Str) : Str :=
  let p := resolveUnquoted o.stripTrailingSlash p
  let p := if o.normalizeAmp then ampSuffixSub p else p
  if o.stripIndex then stripIndex p else p

theorem pathSteps_eq_tail (o : Opts) (path : Str) :
    pathSteps o path = pathStepsTail o (lcStr o (unquotePath path)) := by
  unfold pathSteps pathStepsTail lcStr
  cases o.lowercase <;> rfl

/-- **a trailing slash** (`strip_trailing_slash`, absolute path), any `lowercase`: the path steps
do not see it -/
theorem pathSteps_trailing_slash_lc (o : Opts) (hts : o.stripTrailingSlash = true) (path : Str)
    (habs : absPath path = true) : pathSteps o (path ++ ['/']) = pathSteps o path := by
  rw [pathSteps_eq_tail, pathSteps_eq_tail]
  unfold pathStepsTail
  simp only [hts]
  rw [unquotePath_append_slash, unquotePath_nil, lcStr_append, lcStr_slash,
    resolve_append_slash _ (by rw [absPath_lcStr]; exact absPath_unquotePath path habs)]

/-- `pathSteps_trailing_slash_lc` with the hypothesis `lowercase = False`, which it does not need -/
theorem pathSteps_trailing_slash (o : Opts) (hl : o.lowercase = false)
    (hts : o.stripTrailingSlash = true) (path : Str) (habs : absPath path = true) :
    pathSteps o (path ++ ['/']) = pathSteps o path :=
  pathSteps_trailing_slash_lc o hts path habs

/-- **a trailing index file name** (`strip_index`, `strip_trailing_slash`, absolute path), any
`lowercase`: when the resolved path `r` of the base does not end in an AMP marker
(`ampSuffixSub r = r`, under `normalize_amp`) nor in an index file name (`stripIndex r = r`),
appending a segment whose unescaped **and case-folded** form `n` has the `splitext` root `index` /
`default` and carries no AMP marker itself gives the path steps of the base -/
theorem pathSteps_index_lc (o : Opts) (hts : o.stripTrailingSlash = true)
    (hi : o.stripIndex = true) (path name : Str) (habs : absPath path = true)
    (hn : '/' ∉ lcStr o (unquotePath name))
    (hroot : splitextRoot (lcStr o (unquotePath name)) = "index".toList ∨
      splitextRoot (lcStr o (unquotePath name)) = "default".toList)
    (hnamp : o.normalizeAmp = true →
      ampSuffixSubFrom (lcStr o (unquotePath name)) true 0 = lcStr o (unquotePath name))
    (hbamp : o.normalizeAmp = true →
      ampSuffixSub (resolveUnquoted true (lcStr o (unquotePath path))) =
        resolveUnquoted true (lcStr o (unquotePath path)))
    (hbidx : stripIndex (resolveUnquoted true (lcStr o (unquotePath path))) =
      resolveUnquoted true (lcStr o (unquotePath path))) :
    pathSteps o (path ++ '/' :: name) = pathSteps o path := by
  generalize hN : lcStr o (unquotePath name) = N at hn hroot hnamp
  have hne : N ≠ [] := by
    intro e; rw [e] at hroot; revert hroot; decide
  have hnl : N ≠ ['\n'] := by
    intro e; rw [e] at hroot; revert hroot; decide
  have hd1 : N ≠ ['.'] := by
    intro e; rw [e] at hroot; revert hroot; decide
  have hd2 : N ≠ ['.', '.'] := by
    intro e; rw [e] at hroot; revert hroot; decide
  have hnormal : Normal N := ⟨hne, hd1, hd2, hn⟩
  have hseg : SegOk N := ⟨hn, hne, hnl⟩
  rw [pathSteps_eq_tail, pathSteps_eq_tail]
  unfold pathStepsTail
  simp only [hts, hi, if_true]
  rw [unquotePath_append_slash, lcStr_append, lcStr_slash_cons, hN,
    resolve_append_segment _ _ (by rw [absPath_lcStr]; exact absPath_unquotePath path habs) hnormal]
  by_cases ha : o.normalizeAmp = true
  · simp only [ha, if_true]
    unfold ampSuffixSub at hbamp ⊢
    rw [ampSub_append_segment _ _ hseg, hnamp ha, hbamp ha,
      stripIndex_append_segment _ _ hn hroot, hbidx]
  · have ha' : o.normalizeAmp = false := by simpa using ha
    simp only [ha', Bool.false_eq_true, if_false]
    rw [stripIndex_append_segment _ _ hn hroot, hbidx]

/-- `pathSteps_index_lc` at `lowercase = False` -/
theorem pathSteps_index (o : Opts) (hl : o.lowercase = false) (hts : o.stripTrailingSlash = true)
    (hi : o.stripIndex = true) (path name : Str) (habs : absPath path = true)
    (hn : '/' ∉ unquotePath name)
    (hroot : splitextRoot (unquotePath name) = "index".toList ∨
      splitextRoot (unquotePath name) = "default".toList)
    (hnamp : o.normalizeAmp = true → ampSuffixSubFrom (unquotePath name) true 0 = unquotePath name)
    (hbamp : o.normalizeAmp = true →
      ampSuffixSub (resolveUnquoted true (unquotePath path)) = resolveUnquoted true (unquotePath path))
    (hbidx : stripIndex (resolveUnquoted true (unquotePath path)) = resolveUnquoted true (unquotePath path)) :
    pathSteps o (path ++ '/' :: name) = pathSteps o path := by
  have h := pathSteps_index_lc o hts hi path name habs
  simp only [lcStr_false o hl] at h
  exact h hn hroot hnamp hbamp hbidx

/-! ## the fragment -/

theorem shouldStripFragment_lower (f : Str) :
    shouldStripFragment (lower f) = shouldStripFragment f := by
  unfold shouldStripFragment
  have fix : ∀ c ∈ ['!', '/'], ∀ d, lowerChar d = c ↔ d = c := by
    intro c hc d
    simp only [List.mem_cons, List.not_mem_nil, or_false] at hc
    rcases hc with rfl | rfl
    · exact lowerChar_bang_iff d
    · exact lowerChar_slash_iff d
  have e1 : lower f = "!/".toList ↔ f = "!/".toList :=
    lower_eq_lit_iff _ (fun c hc => fix c (by simpa using hc)) f
  have e2 : lower f = "/".toList ↔ f = "/".toList :=
    lower_eq_lit_iff _ (fun c hc => fix c (by simp at hc; simp [hc])) f
  have e3 : lower f = "!".toList ↔ f = "!".toList :=
    lower_eq_lit_iff _ (fun c hc => fix c (by simp at hc; simp [hc])) f
  rw [startsWith_one_lower '/' lowerChar_slash_iff, startsWith_one_lower '!' lowerChar_bang_iff]
  simp only [e1, e2, e3]

theorem shouldStripFragment_lcStr (o : Opts) (f : Str) :
    shouldStripFragment (lcStr o f) = shouldStripFragment f := by
  unfold lcStr; cases o.lowercase <;> simp [shouldStripFragment_lower]

theorem fragStep_eq_lc (o : Opts) (f : Str) :
    fragStep o f = normFragment o.stripFragment (lcStr o (unquoteFragment f)) := by
  unfold fragStep lcStr; cases o.lowercase <;> rfl

end Ural.Normalize
