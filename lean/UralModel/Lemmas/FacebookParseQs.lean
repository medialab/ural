import UralModel.Lemmas.FacebookUrlJoin
import UralModel.Lemmas.PctCodec
/-!
The query of a canonical url, read back (C19, `ural/facebook.py`): `fix_common_query_mistakes`,
`parse_qs` and `unquote` on `k1=v1&k2=v2…` with good keys and values give the items back (a string
without percent escape is left alone by `unquote`); and `parse_qs` holds no blank value.
-/
namespace Ural.Facebook
open Ural.Py Ural

/-- a query key of the builders: as a value, moreover without `=`, and not starting with `a`/`A`
(what follows `&` must not read `amp;`) -/
def qkeyOk (k : Str) : Bool :=
  qvalOk k && !k.contains '=' && (match k with | c :: _ => lowerChar c ≠ 'a' | [] => false)

theorem qvalChar_spec {c : Char} (h : qvalChar c = true) :
    c ≠ '&' ∧ c ≠ '#' ∧ c ≠ '+' ∧ isUnsafeUrlChar c = false := by
  unfold qvalChar at h
  simp only [Bool.and_eq_true, decide_eq_true_eq, Bool.not_eq_true'] at h
  exact ⟨h.1.1.1, h.1.1.2, h.1.2, h.2⟩

theorem qvalChar_queryChar {c : Char} (h : qvalChar c = true) : queryChar c = true := by
  obtain ⟨_, h2, _, h5⟩ := qvalChar_spec h
  simp [queryChar, h2, h5]

theorem qvalOk_spec {s : Str} (h : qvalOk s = true) : s ≠ [] ∧ ∀ c ∈ s, qvalChar c = true := by
  unfold qvalOk at h
  simp only [Bool.and_eq_true, Bool.not_eq_true', List.all_eq_true] at h
  exact ⟨by intro e; rw [e] at h; simp at h, h.1.2⟩

theorem qvalOk_noEscape {s : Str} (h : qvalOk s = true) : hasEscape s = false := by
  unfold qvalOk at h
  simp only [Bool.and_eq_true, Bool.not_eq_true'] at h
  exact h.2

theorem qkeyOk_spec {k : Str} (h : qkeyOk k = true) :
    qvalOk k = true ∧ '=' ∉ k ∧ ∃ c cs, k = c :: cs ∧ lowerChar c ≠ 'a' := by
  unfold qkeyOk at h
  simp only [Bool.and_eq_true, Bool.not_eq_true', List.contains_eq_mem, decide_eq_false_iff_not] at h
  refine ⟨h.1.1, h.1.2, ?_⟩
  cases k with
  | nil => simp at h
  | cons c cs => exact ⟨c, cs, rfl, by simpa using h.2⟩

/-- `key=value` -/
def wireItem (kv : Str × Str) : Str := kv.1 ++ '=' :: kv.2

/-- the query string of the items -/
def qsWire (items : List (Str × Str)) : Str := join ['&'] (items.map wireItem)

def itemOk (kv : Str × Str) : Bool := qkeyOk kv.1 && qvalOk kv.2

theorem wireItem_chars {kv : Str × Str} (h : itemOk kv = true) :
    ∀ c ∈ wireItem kv, qvalChar c = true := by
  unfold itemOk at h
  simp only [Bool.and_eq_true] at h
  intro c hc
  simp only [wireItem, List.mem_append, List.mem_cons] at hc
  rcases hc with hc | hc | hc
  · exact (qvalOk_spec (qkeyOk_spec h.1).1).2 c hc
  · rw [hc]; decide
  · exact (qvalOk_spec h.2).2 c hc

theorem wireItem_no_amp {kv : Str × Str} (h : itemOk kv = true) : '&' ∉ wireItem kv :=
  fun hm => (qvalChar_spec (wireItem_chars h _ hm)).1 rfl

theorem qsWire_queryChar (items : List (Str × Str)) (h : ∀ kv ∈ items, itemOk kv = true) :
    ∀ c ∈ qsWire items, queryChar c = true := by
  intro c hc
  rcases mem_join _ _ hc with hc | ⟨p, hp, hc⟩
  · simp only [List.mem_singleton] at hc
    rw [hc]; decide
  · obtain ⟨kv, hkv, rfl⟩ := List.mem_map.mp hp
    exact qvalChar_queryChar (wireItem_chars (h kv hkv) c hc)

theorem qsWire_ne_nil (items : List (Str × Str)) (hne : items ≠ []) : qsWire items ≠ [] := by
  cases items with
  | nil => exact absurd rfl hne
  | cons kv rest =>
    cases rest with
    | nil => simp [qsWire, join, wireItem]
    | cons kv' more => simp [qsWire, join, wireItem]

/-! ## `fix_common_query_mistakes` -/

theorem fixMistakesGo_append (a t : Str) (h : '&' ∉ a) :
    fixMistakesGo (a ++ t) 0 = a ++ fixMistakesGo t 0 := by
  induction a with
  | nil => rfl
  | cons c cs ih =>
    have hc : c ≠ '&' := fun e => h (by simp [e])
    simp only [List.cons_append, fixMistakesGo, hc, if_false]
    rw [ih (fun e => h (by simp [e]))]

theorem fixMistakesGo_nil : fixMistakesGo [] 0 = [] := rfl

theorem fixMistakesGo_of_no_amp (a : Str) (h : '&' ∉ a) : fixMistakesGo a 0 = a := by
  have := fixMistakesGo_append a [] h
  simpa [fixMistakesGo_nil] using this

theorem mistakeLen_of_head (c : Char) (rest : Str) (h : lowerChar c ≠ 'a') : mistakeLen (c :: rest) = none := by
  unfold mistakeLen
  have h1 : lower ((c :: rest).take 6) ≠ "amp%3b".toList := by
    intro e
    have := congrArg List.head? e
    simp [lower] at this
    exact h this
  have h2 : lower ((c :: rest).take 4) ≠ "amp;".toList := by
    intro e
    have := congrArg List.head? e
    simp [lower] at this
    exact h this
  rw [if_neg h1, if_neg h2]

theorem wireItem_head {kv : Str × Str} (h : itemOk kv = true) (t : Str) :
    ∃ c rest, wireItem kv ++ t = c :: rest ∧ lowerChar c ≠ 'a' := by
  unfold itemOk at h
  simp only [Bool.and_eq_true] at h
  obtain ⟨_, _, c, cs, hk, hc⟩ := qkeyOk_spec h.1
  exact ⟨c, cs ++ '=' :: kv.2 ++ t, by simp [wireItem, hk], hc⟩

/-- the query strings of the builders have no `&amp;` to repair -/
theorem fixMistakes_qsWire (items : List (Str × Str)) (h : ∀ kv ∈ items, itemOk kv = true) :
    fixMistakes (qsWire items) = qsWire items := by
  unfold fixMistakes
  induction items with
  | nil => rfl
  | cons kv rest ih =>
    have hkv := h kv (by simp)
    cases rest with
    | nil =>
      simp only [qsWire, List.map, join]
      exact fixMistakesGo_of_no_amp _ (wireItem_no_amp hkv)
    | cons kv' more =>
      have ih' := ih (fun x hx => h x (by simp [hx]))
      have e : qsWire (kv :: kv' :: more) = wireItem kv ++ '&' :: qsWire (kv' :: more) := by
        simp [qsWire, join]
      rw [e, fixMistakesGo_append _ _ (wireItem_no_amp hkv)]
      simp only [fixMistakesGo, if_true]
      have hhead : ∃ c r, qsWire (kv' :: more) = c :: r ∧ lowerChar c ≠ 'a' := by
        have hkv' := h kv' (by simp)
        cases more with
        | nil =>
          obtain ⟨c, r, hc, hl⟩ := wireItem_head hkv' []
          exact ⟨c, r, by simpa [qsWire, join] using hc, hl⟩
        | cons kv'' more' =>
          obtain ⟨c, r, hc, hl⟩ := wireItem_head hkv' ('&' :: qsWire (kv'' :: more'))
          exact ⟨c, r, by simpa [qsWire, join] using hc, hl⟩
      obtain ⟨c, r, hc, hl⟩ := hhead
      rw [hc, mistakeLen_of_head c r hl, ← hc]
      simp only [Option.getD_none]
      rw [ih']

/-! ## `parse_qsl` -/

theorem plusToSpace_of_not_mem (s : Str) (h : '+' ∉ s) : plusToSpace s = s := by
  unfold plusToSpace
  induction s with
  | nil => rfl
  | cons c cs ih =>
    have hc : c ≠ '+' := fun e => h (by simp [e])
    simp only [List.map_cons, hc, if_false]
    rw [ih (fun e => h (by simp [e]))]

theorem unquote_of_no_pct (s : Str) (h : '%' ∉ s) : unquote s = s := by
  unfold unquote
  simp only [List.contains_iff_mem, h, if_false]

/-! ### a string without percent escape is left alone by `unquote` (a bare `%` stays) -/

theorem pctHead_append_none (x b : Str) (h : pctHead (x ++ b) = none) : pctHead x = none := by
  match x with
  | [] => rfl
  | [_] => rfl
  | a :: c :: rest => simpa [pctHead] using h

theorem hasEscape_append_left (a b : Str) (h : hasEscape (a ++ b) = false) : hasEscape a = false := by
  induction a with
  | nil => rfl
  | cons c cs ih =>
    simp only [List.cons_append, hasEscape, Bool.or_eq_false_iff, Bool.and_eq_false_iff] at h ⊢
    refine ⟨?_, ih h.2⟩
    rcases h.1 with h1 | h1
    · left; exact h1
    · right
      have : pctHead (cs ++ b) = none := by simpa using h1
      simp [pctHead_append_none cs b this]

theorem hasEscape_append_right (a b : Str) (h : hasEscape (a ++ b) = false) : hasEscape b = false := by
  induction a with
  | nil => simpa using h
  | cons c cs ih =>
    simp only [List.cons_append, hasEscape, Bool.or_eq_false_iff] at h
    exact ih h.2

theorem hasEscape_append_of_no_pct (a b : Str) (h : '%' ∉ a) : hasEscape (a ++ b) = hasEscape b := by
  induction a with
  | nil => rfl
  | cons c cs ih =>
    have hc : c ≠ '%' := fun e => h (by simp [e])
    have hb : (c == '%') = false := by simpa using hc
    simp only [List.cons_append, hasEscape, hb, Bool.false_and, Bool.false_or]
    exact ih (fun e => h (by simp [e]))

theorem unquoteToBytesGo_noEscape (t : Str) (hascii : ∀ c ∈ t, c.toNat < 128) (h : hasEscape t = false) :
    unquoteToBytesGo t 0 = utf8Encode t := by
  induction t with
  | nil => simp [unquoteToBytesGo, utf8Encode]
  | cons c t ih =>
    have h1 := hascii c (by simp)
    have henc : utf8Encode (c :: t) = String.utf8EncodeChar c ++ utf8Encode t := by simp [utf8Encode]
    simp only [hasEscape, Bool.or_eq_false_iff, Bool.and_eq_false_iff] at h
    have iht := ih (fun x hx => hascii x (by simp [hx])) h.2
    rw [henc, utf8EncodeChar_ascii c h1]
    by_cases hc : c = '%'
    · subst hc
      have hp : pctHead t = none := by
        rcases h.1 with h0 | h0
        · simp at h0
        · simpa using h0
      simp only [unquoteToBytesGo, if_true, hp, List.cons_append, List.nil_append]
      rw [iht]; rfl
    · simp only [unquoteToBytesGo, hc, if_false, List.cons_append, List.nil_append]
      rw [iht]

theorem unquoteRuns_noEscape : ∀ (s acc : Str), (∀ c ∈ acc, c.toNat < 128) → hasEscape (acc.reverse ++ s) = false →
    unquoteRuns s acc = acc.reverse ++ s := by
  intro s
  induction s with
  | nil =>
    intro acc hacc h
    simp only [List.append_nil] at h ⊢
    simp only [unquoteRuns, unquoteFlush, unquoteToBytes]
    rw [unquoteToBytesGo_noEscape _ (by intro c hc; exact hacc c (by simpa using hc)) h, utf8DecodeReplace_encode]
  | cons c cs ih =>
    intro acc hacc h
    by_cases hc : c.toNat < 128
    · simp only [unquoteRuns, hc, if_true]
      have hacc' : ∀ x ∈ c :: acc, x.toNat < 128 := by
        intro x hx
        rcases List.mem_cons.mp hx with e | e
        · rw [e]; exact hc
        · exact hacc x e
      rw [ih (c :: acc) hacc' (by simpa using h)]
      simp
    · simp only [unquoteRuns, hc, if_false]
      have hl := hasEscape_append_left _ _ h
      have hr := hasEscape_append_right _ _ h
      have hcs : hasEscape cs = false := by
        simp only [hasEscape, Bool.or_eq_false_iff] at hr; exact hr.2
      rw [ih [] (by simp) (by simpa using hcs)]
      simp only [unquoteFlush, unquoteToBytes, List.reverse_nil, List.nil_append]
      rw [unquoteToBytesGo_noEscape _ (by intro x hx; exact hacc x (by simpa using hx)) hl, utf8DecodeReplace_encode]

/-- **`unquote(s) == s` when `s` has no percent escape** -/
theorem unquote_of_noEscape (s : Str) (h : hasEscape s = false) : unquote s = s := by
  unfold unquote
  split
  · exact unquoteRuns_noEscape s [] (by simp) (by simpa using h)
  · rfl

theorem hasEscape_plusToSpace (s : Str) (h : '+' ∉ s) : plusToSpace s = s := plusToSpace_of_not_mem s h

theorem qvalOk_decode {s : Str} (h : qvalOk s = true) : unquote (plusToSpace s) = s := by
  have hs := (qvalOk_spec h).2
  have h1 : '+' ∉ s := fun hm => (qvalChar_spec (hs _ hm)).2.2.1 rfl
  rw [plusToSpace_of_not_mem s h1, unquote_of_noEscape s (qvalOk_noEscape h)]

theorem qslPair_wireItem {kv : Str × Str} (h : itemOk kv = true) : qslPair? (wireItem kv) = some kv := by
  unfold itemOk at h
  simp only [Bool.and_eq_true] at h
  obtain ⟨hk, heq, _⟩ := qkeyOk_spec h.1
  unfold qslPair? wireItem
  have hne : (kv.1 ++ '=' :: kv.2).isEmpty = false := by simp
  rw [splitFirst_append_sep kv.1 kv.2 '=' heq]
  have hv : kv.2.isEmpty = false := by
    have := (qvalOk_spec h.2).1
    cases hx : kv.2 with
    | nil => exact absurd hx this
    | cons c cs => rfl
  simp only [hne, Bool.false_eq_true, if_false, hv, qvalOk_decode hk, qvalOk_decode h.2]

/-- **`safe_parse_qs` of a query the builders make gives its items back** -/
theorem safe_parse_qs_qsWire (items : List (Str × Str)) (hne : items ≠ [])
    (h : ∀ kv ∈ items, itemOk kv = true) : safe_parse_qs (qsWire items) = items := by
  unfold safe_parse_qs
  rw [fixMistakes_qsWire items h]
  unfold parse_qsl
  have hq : (qsWire items).isEmpty = false := by
    have := qsWire_ne_nil items hne
    cases hx : qsWire items with
    | nil => exact absurd hx this
    | cons c cs => rfl
  simp only [hq, Bool.false_eq_true, if_false]
  unfold qsWire
  rw [splitOn_join '&' (items.map wireItem) (by simpa using hne)
    (by
      intro p hp
      obtain ⟨kv, hkv, rfl⟩ := List.mem_map.mp hp
      exact wireItem_no_amp (h kv hkv))]
  rw [List.filterMap_map]
  induction items with
  | nil => rfl
  | cons kv rest ih =>
    simp only [List.filterMap_cons, Function.comp, qslPair_wireItem (h kv (by simp))]
    cases rest with
    | nil => rfl
    | cons kv' more =>
      rw [ih (by simp) (fun x hx => h x (by simp [hx]))]
      · cases hx : qsWire (kv' :: more) with
        | nil => exact absurd hx (qsWire_ne_nil _ (by simp))
        | cons c cs => rfl

/-! ## `parse_qs` holds no blank value -/

theorem plusToSpace_ne_nil (s : Str) (h : s ≠ []) : plusToSpace s ≠ [] := by
  unfold plusToSpace
  simpa using h

theorem qslPair_value_ne_nil (nv : Str) (kv : Str × Str) (h : qslPair? nv = some kv) : kv.2 ≠ [] := by
  unfold qslPair? at h
  split at h
  · cases h
  · split at h
    · cases h
    · rename_i n v _
      split at h
      · cases h
      · rename_i hv
        injection h with h
        rw [← h]
        exact unquote_ne_nil _ (plusToSpace_ne_nil _ (by simpa using hv))

theorem parse_qsl_values_ne_nil (qs : Str) : ∀ kv ∈ parse_qsl qs, kv.2 ≠ [] := by
  unfold parse_qsl
  split
  · simp
  · intro kv hkv
    obtain ⟨nv, _, hnv⟩ := List.mem_filterMap.mp hkv
    exact qslPair_value_ne_nil nv kv hnv

/-- **every value `safe_parse_qs` holds is a non-empty string** -/
theorem qsValues_ne_nil (query key : Str) : ∀ v ∈ qsValues (safe_parse_qs query) key, v ≠ [] := by
  intro v hv
  unfold qsValues at hv
  obtain ⟨kv, hkv, rfl⟩ := List.mem_map.mp hv
  exact parse_qsl_values_ne_nil _ kv (List.mem_filter.mp hkv).1

theorem qsGet_ne_nil (query key : Str) (vs : List Str) (h : qsGet (safe_parse_qs query) key = some vs) :
    ∀ v ∈ vs, v ≠ [] := by
  unfold qsGet at h
  split at h
  · injection h with h; rw [← h]; exact qsValues_ne_nil query key
  · cases h

end Ural.Facebook
