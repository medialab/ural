import UralModel.Py.ReSearch
import UralModel.Lemmas.ReLang
/-!
# `re.search` as a proposition, and a normal form for patterns whose only repetitions are `p?`
# and `[class]{lo,}`

* `pySearch_iff` — `Re.pySearch r s = true` iff `r` matches (denotationally) at some position
  of `s`, for every pattern on which the executable matcher is complete (`noNullRep`).
* `Re.words` — a computable normal form for patterns built from classes, concatenation,
  alternation, `p?` and `[class]{lo,}`: the finite list of *words*, each a list of atoms
  `one C` (one character of the class) / `many C lo` (at least `lo` characters of the class).
  `words_spec` proves that the pattern matches exactly what one of its words matches.  This is
  what lets a table obligation *compute* the language of a regenerated pattern
  (`decide`) instead of trusting the translator that extracted it.
* `labelStart_search_iff`, `bos_search_iff` — the search semantics of a pattern of the shape
  `HEAD body $` with `HEAD` either `^` or `(?:^|\.)`.
-/
namespace Ural.Py.Re
open Extra (match_alt_iff match_cls_iff match_eps_iff match_bos_iff match_eos_iff not_match_empty)

/-! ## `pySearch` -/

theorem searchFrom_iff (n : Nat) (r : Re) (s : List Char) :
    searchFrom n r s = true ↔ ∃ pre suf, s = pre ++ suf ∧ matchEnds n r suf ≠ [] := by
  induction s with
  | nil =>
    simp only [searchFrom, Bool.not_eq_true', List.isEmpty_eq_false_iff]
    constructor
    · intro h; exact ⟨[], [], rfl, h⟩
    · rintro ⟨pre, suf, h, hm⟩
      have : suf = [] := by
        have := congrArg List.length h
        simp at this
        exact List.eq_nil_of_length_eq_zero (by omega)
      rw [this] at hm; exact hm
  | cons c cs ih =>
    simp only [searchFrom, Bool.or_eq_true, Bool.not_eq_true', List.isEmpty_eq_false_iff, ih]
    constructor
    · rintro (h | ⟨pre, suf, h, hm⟩)
      · exact ⟨[], c :: cs, rfl, h⟩
      · exact ⟨c :: pre, suf, by rw [h]; rfl, hm⟩
    · rintro ⟨pre, suf, h, hm⟩
      cases pre with
      | nil => left; simp only [List.nil_append] at h; rw [h]; exact hm
      | cons p pre =>
        right
        simp only [List.cons_append, List.cons.injEq] at h
        exact ⟨pre, suf, h.2, hm⟩

/-- **`bool(pattern.search(s))`** is true exactly when the pattern matches at some position of
`s` (the subject staying whole: `n = s.length` is what `^` and `$` see) -/
theorem pySearch_iff {r : Re} (hr : noNullRep r = true) (s : List Char) :
    pySearch r s = true ↔ ∃ pre suf t, s = pre ++ suf ∧ Match s.length r suf t := by
  unfold pySearch
  rw [searchFrom_iff]
  constructor
  · rintro ⟨pre, suf, h, hm⟩
    obtain ⟨t, ht⟩ := List.exists_mem_of_ne_nil _ hm
    exact ⟨pre, suf, t, h, matchEnds_sound ht⟩
  · rintro ⟨pre, suf, t, h, hm⟩
    exact ⟨pre, suf, h, List.ne_nil_of_mem (matchEnds_complete hr hm)⟩

/-! ## words -/

/-- an atom of a word -/
inductive WAtom where
  /-- one character of the class -/
  | one (C : CharClass)
  /-- at least `lo` characters of the class -/
  | many (C : CharClass) (lo : Nat)
deriving DecidableEq, Repr

/-- `x` is read, in full, by the word -/
def MWf : List WAtom → List Char → Prop
  | [], x => x = []
  | .one C :: w, x => ∃ c x', x = c :: x' ∧ C.mem c = true ∧ MWf w x'
  | .many C lo :: w, x =>
    ∃ run x', lo ≤ run.length ∧ (∀ c ∈ run, C.mem c = true) ∧ x = run ++ x' ∧ MWf w x'

theorem MWf_append (a b : List WAtom) (x : List Char) :
    MWf (a ++ b) x ↔ ∃ x1 x2, x = x1 ++ x2 ∧ MWf a x1 ∧ MWf b x2 := by
  induction a generalizing x with
  | nil =>
    simp only [List.nil_append, MWf]
    constructor
    · intro h; exact ⟨[], x, rfl, rfl, h⟩
    · rintro ⟨x1, x2, rfl, rfl, h⟩; exact h
  | cons at' a ih =>
    cases at' with
    | one C =>
      simp only [List.cons_append, MWf, ih]
      constructor
      · rintro ⟨c, x', rfl, hc, x1, x2, rfl, h1, h2⟩
        exact ⟨c :: x1, x2, rfl, ⟨c, x1, rfl, hc, h1⟩, h2⟩
      · rintro ⟨x1, x2, rfl, ⟨c, x', rfl, hc, h1⟩, h2⟩
        exact ⟨c, x' ++ x2, rfl, hc, x', x2, rfl, h1, h2⟩
    | many C lo =>
      simp only [List.cons_append, MWf, ih]
      constructor
      · rintro ⟨run, x', hl, hall, rfl, x1, x2, rfl, h1, h2⟩
        exact ⟨run ++ x1, x2, by simp, ⟨run, x1, hl, hall, rfl, h1⟩, h2⟩
      · rintro ⟨x1, x2, rfl, ⟨run, x', hl, hall, rfl, h1⟩, h2⟩
        exact ⟨run, x' ++ x2, hl, hall, by simp, x', x2, rfl, h1, h2⟩

/-- the class of a one-character pattern -/
def clsOf : Re → Option CharClass
  | .cls C => some C
  | _ => none

theorem clsOf_some {r C} (h : clsOf r = some C) : r = .cls C := by
  cases r <;> simp [clsOf] at h
  rw [h]

/-- the words of a pattern (`none`: the pattern is outside the fragment) -/
def words : Re → Option (List (List WAtom))
  | .empty => some []
  | .eps => some [[]]
  | .cls C => some [[.one C]]
  | .seq p q =>
    match words p, words q with
    | some a, some b => some (a.flatMap fun x => b.map fun y => x ++ y)
    | _, _ => none
  | .alt p q =>
    match words p, words q with
    | some a, some b => some (a ++ b)
    | _, _ => none
  | .rep p lo hi _ =>
    match hi with
    | none => (clsOf p).map fun C => [[.many C lo]]
    | some k => if lo = 0 ∧ k = 1 then (words p).map fun a => [] :: a else none
  | .bos => none
  | .eos => none

theorem anchorFree_of_words {r : Re} : ∀ {W : List (List WAtom)}, words r = some W → anchorFree r = true := by
  induction r with
  | seq p q ihp ihq | alt p q ihp ihq =>
    intro W h
    simp only [words] at h
    split at h
    · rename_i hp hq; simp [anchorFree, ihp hp, ihq hq]
    · cases h
  | rep p lo hi g ih =>
    intro W h
    cases hi with
    | none =>
      obtain ⟨C, hC, _⟩ := Option.map_eq_some_iff.mp h
      rw [clsOf_some hC]; rfl
    | some k =>
      simp only [words] at h
      split at h
      · obtain ⟨a, ha, _⟩ := Option.map_eq_some_iff.mp h
        simpa [anchorFree] using ih ha
      · cases h
  | bos | eos => intro W h; simp [words] at h
  | _ => intro _ _; rfl

theorem mem_products {a b : List (List WAtom)} {w : List WAtom} :
    w ∈ a.flatMap (fun x => b.map fun y => x ++ y) ↔ ∃ x ∈ a, ∃ y ∈ b, w = x ++ y := by
  simp only [List.mem_flatMap, List.mem_map, eq_comm]

theorem lang_words : ∀ {r : Re} {W : List (List WAtom)}, words r = some W →
    ∀ {x : List Char}, Lang r x ↔ ∃ w ∈ W, MWf w x
  | .empty, W, hW, x => by
    cases hW; simp [Lang, not_match_empty]
  | .eps, W, hW, x => by
    cases hW; simp [Lang, match_eps_iff, MWf]
  | .cls C, W, hW, x => by
    cases hW
    simp only [lang_cls_iff, List.mem_singleton, exists_eq_left, MWf]
    exact ⟨fun ⟨c, e, hc⟩ => ⟨c, [], e, hc, rfl⟩, fun ⟨c, _, e, hc, rfl⟩ => ⟨c, e, hc⟩⟩
  | .seq p q, W, hW, x => by
    simp only [words] at hW
    split at hW
    · rename_i a b hp hq
      cases hW
      simp only [lang_seq_iff (anchorFree_of_words hp) (anchorFree_of_words hq), lang_words hp,
        lang_words hq, mem_products]
      constructor
      · rintro ⟨x1, x2, rfl, ⟨w1, h1, m1⟩, w2, h2, m2⟩
        exact ⟨_, ⟨w1, h1, w2, h2, rfl⟩, (MWf_append _ _ _).2 ⟨x1, x2, rfl, m1, m2⟩⟩
      · rintro ⟨_, ⟨w1, h1, w2, h2, rfl⟩, m⟩
        obtain ⟨x1, x2, rfl, m1, m2⟩ := (MWf_append _ _ _).1 m
        exact ⟨x1, x2, rfl, ⟨w1, h1, m1⟩, w2, h2, m2⟩
    · cases hW
  | .alt p q, W, hW, x => by
    simp only [words] at hW
    split at hW
    · rename_i a b hp hq
      cases hW
      simp only [lang_alt_iff, lang_words hp, lang_words hq, List.mem_append, or_and_right, exists_or]
    · cases hW
  | .rep p lo none g, W, hW, x => by
    simp only [words, Option.map_eq_some_iff] at hW
    obtain ⟨C, hC, rfl⟩ := hW
    rw [clsOf_some hC, lang_rep_cls_iff]
    simp only [List.mem_singleton, exists_eq_left, MWf, reduceCtorEq, false_imp_iff, implies_true,
      and_true]
    exact ⟨fun ⟨h1, h2⟩ => ⟨x, [], h2, h1, by simp, rfl⟩,
      fun ⟨run, _, h2, h1, e, rfl⟩ => by rw [e, List.append_nil]; exact ⟨h1, h2⟩⟩
  | .rep p lo (some k) g, W, hW, x => by
    simp only [words] at hW
    split at hW
    · rename_i hk
      obtain ⟨rfl, rfl⟩ := hk
      obtain ⟨a, ha, rfl⟩ := Option.map_eq_some_iff.mp hW
      simp only [lang_opt_iff, lang_words ha, List.mem_cons, exists_eq_or_imp, MWf]
    · cases hW
  | .bos, _, hW, _ => by simp [words] at hW
  | .eos, _, hW, _ => by simp [words] at hW

/-- **normal form.**  A pattern of the fragment matches `s` leaving `t` exactly when one of
its words reads, in full, what lies between -/
theorem words_spec {n : Nat} : ∀ {r : Re} {W : List (List WAtom)}, words r = some W →
    ∀ {s t : List Char}, Match n r s t ↔ ∃ w ∈ W, ∃ x, s = x ++ t ∧ MWf w x := by
  intro r W hW s t
  simp only [Extra.match_iff_lang (anchorFree_of_words hW), lang_words hW]
  exact ⟨fun ⟨x, e, w, hw, m⟩ => ⟨w, hw, x, e, m⟩, fun ⟨w, hw, x, e, m⟩ => ⟨x, e, w, hw, m⟩⟩

/-! ## `HEAD body $` under `search` -/

/-- the class of the literal `.` as the translator prints it -/
def dotClass : CharClass := ⟨false, [(46, 46)]⟩

/-- `(?:^|\.)` -/
def labelStart : Re := .alt .bos (.cls dotClass)

theorem dotClass_mem (c : Char) : dotClass.mem c = true ↔ c = '.' :=
  CharClass.mem_single '.' c

/-- everything between the first and the last element of the top-level sequence -/
def midOf (r : Re) : Re := ofList ((spine r).drop 1).dropLast

/-- `r` is `hd · body · $` (compared on flattened top-level sequences) -/
def Framed (hd r : Re) : Prop := spine r = hd :: (((spine r).drop 1).dropLast ++ [.eos])

instance (hd r : Re) : Decidable (Framed hd r) := by unfold Framed; infer_instance

theorem framed_match_iff {hd r : Re} (hf : Framed hd r) {n s t} :
    Match n r s t ↔ ∃ a b, Match n hd s a ∧ Match n (midOf r) a b ∧ Match n .eos b t := by
  rw [match_iff_spine, hf, matchL_cons]
  constructor
  · rintro ⟨a, h1, h2⟩
    obtain ⟨b, h3, h4⟩ := matchL_append.1 h2
    exact ⟨a, b, h1, matchL_ofList.2 h3, matchL_singleton.1 h4⟩
  · rintro ⟨a, b, h1, h2, h3⟩
    exact ⟨a, h1, matchL_append.2 ⟨b, matchL_ofList.1 h2, matchL_singleton.2 h3⟩⟩

theorem framed_search_iff {hd r : Re} {W : List (List WAtom)} (hf : Framed hd r)
    (hn : noNullRep r = true) (hW : words (midOf r) = some W) (s : List Char) :
    pySearch r s = true ↔
      ∃ pre suf x b, s = pre ++ suf ∧ Match s.length hd suf (x ++ b) ∧ Tail b ∧
        ∃ w ∈ W, MWf w x := by
  rw [pySearch_iff hn]
  constructor
  · rintro ⟨pre, suf, t, rfl, hm⟩
    obtain ⟨a, b, h1, h2, h3⟩ := (framed_match_iff hf).1 hm
    obtain ⟨rfl, hb⟩ := match_eos_iff.1 h3
    obtain ⟨w, hw, x, rfl, hx⟩ := (words_spec hW).1 h2
    exact ⟨pre, suf, x, b, rfl, h1, hb, w, hw, hx⟩
  · rintro ⟨pre, suf, x, b, rfl, h1, hb, w, hw, hx⟩
    exact ⟨pre, suf, b, rfl, (framed_match_iff hf).2 ⟨x ++ b, b, h1,
      (words_spec hW).2 ⟨w, hw, x, rfl, hx⟩, match_eos_iff.2 ⟨rfl, hb⟩⟩⟩

theorem bos_at {pre suf t : List Char} (h : Match (pre ++ suf).length .bos suf t) :
    pre = [] ∧ suf = t := by
  obtain ⟨rfl, hl⟩ := match_bos_iff.1 h
  simp only [List.length_append] at hl
  exact ⟨List.eq_nil_of_length_eq_zero (by omega), rfl⟩

/-- **`(?:^|\.) body $` under `search`**: some whole-label suffix of the subject (minus an
optional final newline) is read by one of the words of the body -/
theorem labelStart_search_iff {r : Re} {W : List (List WAtom)} (hf : Framed labelStart r)
    (hn : noNullRep r = true) (hW : words (midOf r) = some W) (s : List Char) :
    pySearch r s = true ↔
      ∃ pre x b, s = pre ++ x ++ b ∧ (pre = [] ∨ ∃ q, pre = q ++ ['.']) ∧ Tail b ∧
        ∃ w ∈ W, MWf w x := by
  rw [framed_search_iff hf hn hW]
  constructor
  · rintro ⟨pre, suf, x, b, rfl, h1, hb, hw⟩
    rcases match_alt_iff.1 h1 with h | h
    · obtain ⟨rfl, rfl⟩ := bos_at h
      exact ⟨[], x, b, by simp, Or.inl rfl, hb, hw⟩
    · obtain ⟨c, rfl, hc⟩ := match_cls_iff.1 h
      rw [dotClass_mem] at hc
      subst hc
      exact ⟨pre ++ ['.'], x, b, by simp, Or.inr ⟨pre, rfl⟩, hb, hw⟩
  · rintro ⟨pre, x, b, rfl, hpre, hb, hw⟩
    rcases hpre with rfl | ⟨q, rfl⟩
    · exact ⟨[], x ++ b, x, b, by simp,
        match_alt_iff.2 (Or.inl (match_bos_iff.2 ⟨rfl, by simp⟩)), hb, hw⟩
    · exact ⟨q, '.' :: (x ++ b), x, b, by simp,
        match_alt_iff.2 (Or.inr (match_cls_iff.2 ⟨'.', rfl, (dotClass_mem _).2 rfl⟩)), hb, hw⟩

/-- **`^ body $` under `search`**: the subject (minus an optional final newline) is read by
one of the words of the body -/
theorem bos_search_iff {r : Re} {W : List (List WAtom)} (hf : Framed .bos r)
    (hn : noNullRep r = true) (hW : words (midOf r) = some W) (s : List Char) :
    pySearch r s = true ↔ ∃ x b, s = x ++ b ∧ Tail b ∧ ∃ w ∈ W, MWf w x := by
  rw [framed_search_iff hf hn hW]
  constructor
  · rintro ⟨pre, suf, x, b, rfl, h1, hb, hw⟩
    obtain ⟨rfl, rfl⟩ := bos_at h1
    exact ⟨x, b, by simp, hb, hw⟩
  · rintro ⟨x, b, rfl, hb, hw⟩
    exact ⟨[], x ++ b, x, b, by simp, match_bos_iff.2 ⟨rfl, rfl⟩, hb, hw⟩

end Ural.Py.Re
