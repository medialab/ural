import UralModel.Lemmas.Netloc
/-!
# What the accessors return on ANY netloc

`Reads` (`Lemmas/Netloc.lean`) says what the accessors answer on an authority put together from
its pieces.  Here the other direction: whatever the netloc, what they return is made of its
characters, the hostname possibly lower-cased (`LowerOf`), and a port is at most 65535 (`NetlocFacts`).
-/
namespace Ural.Netloc
open Ural.Py

/-- `h` is made of characters of `nl`, possibly lower-cased -/
def LowerOf (h nl : Str) : Prop := ∀ ch ∈ h, ∃ d ∈ nl, ch = d ∨ ch = lowerChar d

theorem LowerOf.not_mem {h nl : Str} (hl : LowerOf h nl) {c : Char} (hc : c ∉ nl)
    (hnl : ¬ (97 ≤ c.toNat ∧ c.toNat ≤ 122)) : c ∉ h := by
  intro hm
  obtain ⟨d, hd, rfl | e⟩ := hl c hm
  · exact hc hd
  · have := lowerChar_eq_of_not_lower hnl e.symm
    subst this; exact hc hd

theorem lowerOf_lower (s nl : Str) (h : s ⊆ nl) : LowerOf (lower s) nl := by
  intro c hc
  simp only [Py.lower, List.mem_map] at hc
  obtain ⟨d, hd, rfl⟩ := hc
  exact ⟨d, h hd, Or.inr rfl⟩

theorem lowerOf_lowerHost (h0 nl : Str) (h : h0 ⊆ nl) : LowerOf (lowerHost h0) nl := by
  intro c hc
  unfold lowerHost at hc
  rcases splitFirst_cases h0 '%' with ⟨_, e⟩ | ⟨a, z, _, rfl, e⟩ <;> rw [e] at hc
  · exact lowerOf_lower _ nl h c (by simpa using hc)
  · rcases List.mem_append.1 hc with h1 | h1
    · exact lowerOf_lower _ nl (fun x hx => h (List.mem_append_left _ hx)) c h1
    · exact ⟨c, h (List.mem_append_right _ h1), Or.inl rfl⟩

structure NetlocFacts (nl : Str) : Prop where
  user_sub : ∀ u, username nl = some u → u ⊆ nl ∧ ':' ∉ u
  pass_sub : ∀ pw, password nl = some pw → pw ⊆ nl
  user_ui : ∀ u, username nl = some u → u ⊆ (splitLast nl '@').1.getD []
  pass_ui : ∀ pw, password nl = some pw → pw ⊆ (splitLast nl '@').1.getD []
  host_lower : ∀ h, hostname nl = some h → LowerOf h nl ∧ '@' ∉ h ∧ h ≠ []
  port_le : ∀ n, Py.port nl = some (some n) → n ≤ 65535

theorem hostPortStr_fst_subset (hi : Str) : (hostPortStr hi).1 ⊆ hi := by
  unfold hostPortStr
  rcases splitFirst_cases hi '[' with ⟨_, e⟩ | ⟨a, b, _, rfl, e⟩ <;> rw [e]
  · exact splitFirst_fst_subset hi ':'
  · intro x hx
    have := splitFirst_fst_subset b ']' hx
    simp [this]

theorem hostinfoStr_subset (nl : Str) : hostinfoStr nl ⊆ nl := by
  unfold hostinfoStr
  rcases splitLast_cases nl '@' with ⟨_, e⟩ | ⟨a, b, _, rfl, e⟩ <;> rw [e]
  · exact fun x hx => hx
  · intro x hx; simp [hx]

theorem userinfo_facts (nl : Str) :
    (splitLast nl '@').1.getD [] ⊆ nl ∧
    (∀ u, username nl = some u → u ⊆ (splitLast nl '@').1.getD [] ∧ ':' ∉ u) ∧
    (∀ pw, password nl = some pw → pw ⊆ (splitLast nl '@').1.getD []) := by
  unfold username password userinfo
  rcases splitLast_cases nl '@' with ⟨_, e⟩ | ⟨ui, b, _, rfl, e⟩ <;> rw [e]
  · exact ⟨fun x hx => (nomatch hx), fun u hu => (nomatch hu), fun pw hpw => (nomatch hpw)⟩
  · simp only [Option.getD_some]
    refine ⟨fun x hx => List.mem_append_left _ hx, fun u hu => ?_, fun pw hpw => ?_⟩
    · cases hu
      exact ⟨splitFirst_fst_subset ui ':', (splitFirst_spec ui ':').1⟩
    · have := splitFirst_snd_subset ui ':'
      rw [show (splitFirst ui ':').2 = some pw from hpw] at this
      exact this

theorem netlocFacts (nl : Str) : NetlocFacts nl := by
  obtain ⟨hsub, hu, hp⟩ := userinfo_facts nl
  refine ⟨fun u h => ⟨fun x hx => hsub ((hu u h).1 hx), (hu u h).2⟩, fun pw h x hx => hsub (hp pw h hx),
    fun u h => (hu u h).1, hp, ?_, ?_⟩
  · intro h hh
    unfold hostname hostinfo at hh
    simp only at hh
    split at hh
    · cases hh
    · rename_i hne
      simp only [Option.some.injEq] at hh
      have hsub : (hostPortStr (hostinfoStr nl)).1 ⊆ nl :=
        fun x hx => hostinfoStr_subset nl (hostPortStr_fst_subset _ hx)
      have hl := lowerOf_lowerHost _ nl hsub
      rw [hh] at hl
      have hat : '@' ∉ (hostPortStr (hostinfoStr nl)).1 := by
        intro hm
        have := hostPortStr_fst_subset _ hm
        exact splitLast_snd_not_mem nl '@' this
      refine ⟨hl, ?_, ?_⟩
      · exact fun hm => (lowerOf_lowerHost _ _ fun x hx => hx).not_mem hat (by decide) (hh ▸ hm)
      · intro he
        subst he
        exact hne (lowerHost_eq_nil.1 hh)
  · intro n hn
    unfold Py.port at hn
    generalize (hostinfo nl).2 = po at hn
    cases po with
    | none => cases hn
    | some ps =>
      simp only at hn
      generalize strToNat? ps = r at hn
      cases r with
      | none => cases hn
      | some m =>
        simp only at hn
        split at hn
        · rename_i hle; cases hn; exact hle
        · cases hn

end Ural.Netloc
