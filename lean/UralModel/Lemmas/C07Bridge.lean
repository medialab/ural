import UralModel.Model.C07
import UralModel.Lemmas.UrlSplit
import UralModel.Lemmas.NetlocSplit
import UralModel.Lemmas.C04Host
import UralModel.Lemmas.QuoteSplit
import UralModel.Lemmas.StrLit
import UralModel.Lemmas.Protocol
/-!
# C07: the hostname helpers against the url-level functions

What the hostname theorems of `Props/C07.lean` need of the hand model of CPython's `urlsplit` /
`SplitResult.hostname` (compared with the real parser on every run) and of `normalize_url`'s hostname
pass: the parser finds the same host in the strings the helpers and the url-level functions hand to it,
that host is clean, and on a clean host the hostname pass is `normalize_hostname`.  At the end, under
the namespaces of the property files that use them: `Props.C03.parse_defaults` (it needs `protoLen_eq`)
and a few `Props.C07` helpers.
-/
namespace Ural.C07
open Ural.Py Ural.UrlParts Ural.LruVariants Ural.Normalize Ural.Quote

/-! ## the host the modelled parser reports

The scheme is only carried along by `urlsplit` (`Py.splitRest_scheme`), so `http:` in front of a string
that starts with `//` — the only way `safe_urlsplit` and `ensure_protocol` hand different strings to
`urlsplit` — does not change the host. -/

theorem splitFirst_nil (sep : Char) : splitFirst [] sep = ([], none) := rfl

theorem splitFirst_of_not_mem {s : Str} {sep : Char} (h : sep ∉ s) : splitFirst s sep = (s, none) :=
  splitFirst_notMem s sep h

/-- **`http:` in front of a scheme-relative URL does not change the host** (modelled parser) -/
theorem hostOfModel_scheme_relative (r : Str) :
    hostOfModel ("http:".toList ++ '/' :: '/' :: r) = hostOfModel ('/' :: '/' :: r) := by
  have e : urlsplit ("http:".toList ++ '/' :: '/' :: r) [] = _ :=
    urlsplit_scheme_slashes (S := ['h', 't', 't', 'p']) ⟨⟨_, _, rfl, by decide⟩, by decide⟩ r []
  unfold hostOfModel
  rw [e, urlsplit_slashes, splitRest_scheme _ []]
  cases splitRest [] ('/' :: '/' :: Sites.dropUnsafe r) <;> rfl

/-- a hostname without userinfo / port / path delimiters, without `%`, without control
character -/
def BareHost (h : Str) : Prop :=
  (∀ c ∈ h, c ∉ ['/', '?', '#', '@', ':', '[', ']', '%']) ∧ stripControl h = h

instance (h : Str) : Decidable (BareHost h) := by unfold BareHost; infer_instance

/-! ## the hostname pass of `normalize_url` is `normalize_hostname`

`normHost` (normalize_url.py lines 285-287, 360-366, 377-383, seen from the hostname the parser
returned) and `normalizeHostname` (`normalize_hostname`, lines 150-170) run the same four steps — decode
punycode + lower, drop irrelevant labels, cut a leading `amp-` and decode again — after
`normalize_hostname` has cleaned its argument (`strip`, `lower`, control characters). -/

/-- a hostname `normalize_hostname`'s own cleaning leaves alone: no leading/trailing whitespace,
lower-case, no control character.  What `SplitResult.hostname` returns for a URL string that was
cleaned (`CONTROL_CHARS_RE`, `strip`) has the last two properties (the accessor lower-cases
everything but an IPv6 zone id); the first one is the reading of C07 (DESIGN §6). -/
def CleanHost (h : Str) : Prop := stripControl (lower (strip h)) = h

instance (h : Str) : Decidable (CleanHost h) := by unfold CleanHost; infer_instance

theorem cleanHost_nil : CleanHost [] := by decide

theorem subdomainSub_nil (amp : Bool) : subdomainSub amp [] = [] := rfl

/-- **core of the two hostname claims**: on a clean hostname the hostname pass of
`normalize_url` (irrelevant subdomains stripped, `normalize_amp` as given) is
`normalize_hostname`.  No assumption on the punycode decoder. -/
theorem normHost_eq_normalizeHostname (puny : Str → Str) (o : Opts)
    (hs : o.stripIrrelevantSubdomains = true) (h : Str) (hc : CleanHost h) :
    normHost puny o h = normalizeHostname puny o.normalizeAmp h := by
  rw [normHost_eq_tail]
  unfold normalizeHostname hostTail
  rw [show stripControl (lower (strip h)) = h from hc]
  simp only [hs, if_true]
  rfl

/-- the same for the options of the quantifier (`normalize_amp` given, the other defaults) -/
theorem normHost_ampOpts (puny : Str → Str) (amp : Bool) (h : Str) (hc : CleanHost h) :
    normHost puny (ampOpts amp) h = normalizeHostname puny amp h :=
  normHost_eq_normalizeHostname puny (ampOpts amp) rfl h hc

/-- and for the options `fingerprint_url` passes -/
theorem normHost_fpOpts (puny : Str → Str) (h : Str) (hc : CleanHost h) :
    normHost puny Fingerprint.fpOpts h = normalizeHostname puny true h :=
  normHost_eq_normalizeHostname puny Fingerprint.fpOpts rfl h hc

/-! ## the two strings handed to the parser, and the host it returns

`normalized_hostname_agrees` takes two facts about the parser as hypotheses: it finds the same host in
the string the helper builds (`ensure_protocol c`) and in the string `normalize_url` builds
(`"http://" +` / `upper_quoted c`), and that host is lower-case and free of control characters.  Both
are proved here for the modelled parser when the cleaned URL `c` holds no `%`: the two strings then
differ at most by `http:` in front of a leading `//`, and the hostname returned is `lower` of a part of
the string.  (With a `%` the two strings also differ by the case of the hex digits of escapes, and the
parser does not lower-case an IPv6 zone id: that region stays with the hypotheses, checked on every
run.) -/

/-- `Ural.protoLen` (Model/Protocol.lean, C20) and `Ural.UrlParts.protoLen` (Model/UrlParts.lean,
C01) are two hand matchers of the same `PROTOCOL_RE` = `^(?:[a-zA-Z]{1,64}:)?//` (`protoMaxLetters`
is its 64); they are the same function -/
theorem protoLen_eq (s : Str) : Ural.protoLen s = UrlParts.protoLen s := (protoLen_urlParts s).symm

/-- `"http://" +` of `normalize_url` is `safe_urlsplit`'s prefixing -/
theorem ensureHttp_eq_safeArg (s : Str) : ensureHttp s = safeUrlsplitArg s := by
  unfold ensureHttp safeUrlsplitArg hasProtocol httpStr
  rw [protoLen_eq]
  simp only [toList_lit, List.cons_append, List.nil_append]

/-- `safe_urlsplit` and `ensure_protocol` hand the same string to the parser, except for a
string that starts with `//`: there `ensure_protocol` adds `http:` and `safe_urlsplit` nothing -/
theorem safeArg_cases (url : Str) :
    safeUrlsplitArg url = ensureProtocol url httpStr ∨
    (∃ r, url = '/' :: '/' :: r ∧ safeUrlsplitArg url = url ∧
      ensureProtocol url httpStr = "http:".toList ++ url) := by
  unfold safeUrlsplitArg ensureProtocol
  cases UrlParts.protoLen url with
  | none => exact Or.inl rfl
  | some n =>
    cases hs : startsWith url ['/', '/'] with
    | false => exact Or.inl rfl
    | true =>
      refine Or.inr ⟨url.drop 2, ?_, rfl, ?_⟩
      · exact (List.prefix_iff_eq_append.1 (List.isPrefixOf_iff_prefix.1 hs)).symm
      · simp only [httpStr, toList_lit]
        rfl

/-- the modelled parser finds the same host in `ensure_protocol(c)` and in `"http://" + c` /
`c` (what `normalize_url` parses before `upper_quoted`) -/
theorem hostOfModel_ensureProtocol (c : Str) :
    hostOfModel (ensureProtocol c httpStr) = hostOfModel (ensureHttp c) := by
  rw [ensureHttp_eq_safeArg]
  rcases safeArg_cases c with h | ⟨r, hr, h1, h2⟩
  · rw [h]
  · rw [h1, h2, hr]
    exact hostOfModel_scheme_relative r

/-- **same host in both prepared strings** (modelled parser, percent-free cleaned URL) -/
theorem same_host_model (c : Str) (h : '%' ∉ c) :
    hostOfModel (ensureProtocol c httpStr) = hostOfModel (ensureHttp (upperQuoted c)) := by
  rw [upperQuoted_of_no_pct h]
  exact hostOfModel_ensureProtocol c

/-- without `%` in the netloc the hostname is the lower-cased host part -/
theorem pyHostname_of_no_pct (n : Str) (h : '%' ∉ n) : pyHostname n = lower (pyHostinfoHost n) := by
  unfold pyHostname
  have : '%' ∉ pyHostinfoHost n := fun hm => h (Netloc.mem_pyHostinfoHost hm)
  simp only [splitAtFirst_of_not_mem this]

/-- **shape of the hostname the modelled parser returns** for a string without `%`: the
lower-casing of a string made of characters of the input -/
theorem hostOfModel_shape (s h : Str) (hp : '%' ∉ s) (hh : hostOfModel s = some h) :
    ∃ g, h = lower g ∧ ∀ x ∈ g, x ∈ s := by
  unfold hostOfModel at hh
  cases hu : Py.urlsplit s [] with
  | none => rw [hu] at hh; cases hh
  | some r =>
    have hsub : ∀ x ∈ r.netloc, x ∈ s := fun x hx => (mem_cleanUrl ((urlsplit_subset hu).1 hx)).2
    rw [hu] at hh
    simp only at hh
    split at hh
    · cases hh
    · rw [pyHostname_of_no_pct _ (fun hm => hp (hsub _ hm))] at hh
      exact ⟨_, (Option.some.inj hh).symm, fun x hx => hsub x (Netloc.mem_pyHostinfoHost hx)⟩

/-- **the host is clean** (modelled parser): for a control-free string without `%`, the hostname
the parser returns is lower-case and control-free; with the whitespace reading (`strip h = h`) it
is a `CleanHost` -/
theorem cleanHost_of_model (s h : Str) (hp : '%' ∉ s) (hctl : stripControl s = s)
    (hh : hostOfModel s = some h) (hstrip : strip h = h) : CleanHost h := by
  obtain ⟨g, rfl, hg⟩ := hostOfModel_shape s h hp hh
  unfold CleanHost
  rw [hstrip, Ural.Py.lower_idem]
  apply stripControl_eq_self_iff.2
  intro c hc
  simp only [lower, List.mem_map] at hc
  obtain ⟨d, hd, rfl⟩ := hc
  rw [isControlChar_lowerChar]
  exact stripControl_eq_self_iff.1 hctl d (hg d hd)

end Ural.C07

namespace Ural.Props.C03
open Ural Ural.Py Ural.UrlParts Ural.Quote Ural.Normalize Ural.UrlRoundTrip

theorem parse_defaults (c dp : Str) (hdp : SchemeShaped (rstripChars dp [':', '/'])) :
    ∃ s0, parseUrl (ensureProtocol c dp) =
      (parseUrl (ensureHttp c)).map fun p => { p with scheme := s0 } := by
  obtain ⟨s0, h⟩ := urlsplit_ensureProtocol c dp hdp
  have e : ensureHttp c =
      if (UrlParts.protoLen c).isSome then c else 'h' :: 't' :: 't' :: 'p' :: ':' :: '/' :: '/' :: c := by
    unfold ensureHttp hasProtocol
    rw [C07.protoLen_eq]
    simp only [toList_lit, List.cons_append, List.nil_append]
  refine ⟨s0, ?_⟩
  unfold parseUrl
  rw [h, e]
  cases urlsplit (if (UrlParts.protoLen c).isSome then c else 'h' :: 't' :: 't' :: 'p' :: ':' :: '/' :: '/' :: c) [] with
  | none => rfl
  | some r =>
    simp only [Option.map_some]
    cases port r.netloc <;> rfl

end Ural.Props.C03

namespace Ural.Props.C07
open Ural.Py Ural.UrlParts Ural.Normalize Ural.Fingerprint Ural.LruVariants Ural.C07

theorem ensureHttp_subset (c : Str) : ensureHttp c ⊆ "http://".toList ++ c := by
  unfold ensureHttp
  split
  · exact List.subset_append_right _ _
  · exact List.Subset.refl _

theorem normalizeHostname_lower (puny : Str → Str) (amp : Bool) (h : Str) :
    normalizeHostname puny amp (lower h) = normalizeHostname puny amp h := by
  unfold normalizeHostname
  rw [Ural.Py.strip_lower, Ural.Py.lower_idem]

theorem normalizeHostname_lower_strip (puny : Str → Str) (amp : Bool) (h : Str) :
    normalizeHostname puny amp (lower (strip h)) = normalizeHostname puny amp h := by
  rw [normalizeHostname_lower]
  unfold normalizeHostname
  rw [Ural.Py.strip_strip]

theorem dropSchemeStem_cons (sch : Str) (rest : List Str) :
    dropSchemeStem (('s' :: ':' :: sch) :: rest) = rest := by
  simp [dropSchemeStem]

end Ural.Props.C07
