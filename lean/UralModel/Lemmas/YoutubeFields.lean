import UralModel.Lemmas.YoutubeReparse
/-!
What the fields of a record returned by `parse_youtube_url` are made of: a playlist id is a
non-empty run without `&`, `#`, `?`, `/`, `%` (the regex group) and without TAB / CR / LF (they are
removed from the url before the regex runs), a name / channel id is a piece of the path of the
split url (no `/`, `?`, `#`, TAB, CR, LF), hence a piece of a url in which neither continuation
pattern was found.  With these, the hypothesis `Good` of the round trip is discharged for every
record the parser returns (`good_of_fields`).
-/
namespace Ural.Youtube
open Ural Ural.Py Ural.C19 Ural.HostnameTrieSet

/-- a piece of a path handed out by `urlsplit` -/
def PathPiece (s : Str) : Prop := ∀ c ∈ s, c ≠ '/' ∧ c ≠ '?' ∧ c ≠ '#' ∧ isUnsafeUrlChar c = false

def Fields : Record → Prop
  | .video _ (some p) => PlainPlaylist p
  | .video _ none => True
  | .user name => PathPiece name ∧ '&' ∉ name ∧ Stripped name
  | .channel (some cid) _ => PathPiece cid ∧ '&' ∉ cid ∧ Stripped cid
  | .channel none (some name) => PathPiece name ∧ '&' ∉ name
  | .channel none none => True
  | .short _ => True

/-! ## the playlist -/

theorem queryList_fields (s : Str) (hs : ∀ c ∈ s, isUnsafeUrlChar c = false) (pl : Option Str)
    (h : queryList s = pl) (id : Str) : Fields (.video id pl) := by
  cases pl with
  | none => trivial
  | some p =>
    obtain ⟨h1, h2, _⟩ := litValueSearch_some _ _ _ _ h
    refine ⟨h1, fun c hc => ?_⟩
    have := h2 c hc
    simp only [stopsList, List.mem_cons, List.not_mem_nil, or_false, not_or] at this
    exact ⟨this.1, this.2.1, this.2.2.1, this.2.2.2.1, this.2.2.2.2,
      hs c ((litValueSearch_infix _ _ _ _ h).subset hc)⟩

/-- the name / id a user or channel record is made of: what its canonical url ends with -/
def nameField : Record → Option Str
  | .user name => some name
  | .channel (some cid) _ => some cid
  | .channel none (some name) => some name
  | _ => none

/-- the name / id of the record, if it has one, is a piece of `path` -/
def InPath (path : Str) (r : Record) : Prop := ∀ x, nameField r = some x → x <:+: path

theorem inPath_video (path id : Str) (pl : Option Str) : InPath path (.video id pl) := by
  intro x hx; simp [nameField] at hx

/-! ## inversion of the routes -/

theorem pathPiece_lstrip (x : Str) (cs : List Char) (h : PathPiece x) : PathPiece (lstripChars x cs) :=
  fun c hc => h c ((lstripChars_suffix x cs).subset hc)

theorem pathPiece_cutAmp (x : Str) (h : PathPiece x) : PathPiece (cutAmp x) ∧ '&' ∉ cutAmp x := by
  unfold cutAmp
  refine ⟨fun c hc => h c ((List.takeWhile_sublist _).subset hc), fun hm => ?_⟩
  have := mem_takeWhile_pos _ _ _ hm
  simp at this

theorem routeName_fields (path : Str) (r : Record)
    (hp : ∀ c ∈ path, c ≠ '?' ∧ c ≠ '#' ∧ isUnsafeUrlChar c = false)
    (hshape : path = [] ∨ ∃ p, path = '/' :: p) (h : routeName path = some r) :
    Fields r ∧ InPath path r := by
  -- the name is cut out of the path (behind its leading `/` and `@`, before the first `&` and the trailing `/`),
  -- so it is a piece of it; it holds no `/`, or the stripped path would count two (`hcount`: the route asks for one)
  unfold routeName at h
  simp only [] at h
  split at h
  · rename_i hcount
    split at h
    · simp at h
    · simp only [Option.some.injEq] at h
      subst h
      refine ⟨?_, fun x hx => by
        simp only [nameField, Option.some.injEq] at hx
        subst hx
        exact (((cutAmp_prefix _).isInfix.trans (lstripChars_suffix _ _).isInfix).trans
          (lstripChars_suffix _ _).isInfix).trans (rstripChars_isPrefix _ _).isInfix⟩
      -- the stripped path is `/` followed by a `/`-free rest
      have hsub : ∀ c ∈ rstripChars path ['/'], c ∈ path := by
        exact fun c hc => (rstripChars_isPrefix path ['/']).subset hc
      show PathPiece _ ∧ _
      apply pathPiece_cutAmp
      apply pathPiece_lstrip
      intro c hc
      have hc1 : c ∈ rstripChars path ['/'] := (lstripChars_suffix _ _).subset hc
      have := hp c (hsub c hc1)
      refine ⟨?_, this.1, this.2.1, this.2.2⟩
      intro e
      subst e
      -- a `/` in the name: then the stripped path has two
      rcases hshape with e | ⟨p, e⟩
      · rw [e] at hcount; simp [rstripChars] at hcount
      · obtain ⟨suf, hs⟩ := rstripChars_isPrefix path ['/']
        cases hr : rstripChars path ['/'] with
        | nil => rw [hr] at hcount; simp at hcount
        | cons a as =>
          rw [hr] at hs hcount hc
          have ha : a = '/' := by
            rw [e] at hs
            simp only [List.cons_append, List.cons.injEq] at hs
            exact hs.1
          subst ha
          rw [List.count_cons_self] at hcount
          have has : '/' ∉ as := by
            intro hm
            have := List.count_pos_iff.mpr hm
            omega
          unfold lstripChars at hc
          rw [List.dropWhile_cons_of_pos (by simp)] at hc
          exact has ((List.dropWhile_sublist _).subset hc)
  · simp at h

theorem routePath_fields (fix : Bool) (path query : Str) (pl : Option Str) (r : Record)
    (hp : ∀ c ∈ path, c ≠ '?' ∧ c ≠ '#' ∧ isUnsafeUrlChar c = false)
    (hshape : path = [] ∨ ∃ p, path = '/' :: p)
    (hpl : ∀ id, Fields (.video id pl)) (h : PathRec fix path query pl r) : Fields r ∧ InPath path r := by
  rcases h with ⟨v, _, hr⟩ | ⟨w, f, x, hwf, _, hx, hr⟩ | hr
  · obtain ⟨id, e⟩ := videoOf_shape fix v pl r hr
    rw [e]; exact ⟨hpl id, inPath_video _ _ _⟩
  · have hpx : PathPiece x := pathsplit_chars path x hx hp
    have hin := pathsplit_infix path x hx
    -- `/user/` and `/channel/` make the same field of the segment
    have hpp := pathPiece_cutAmp x hpx
    have hf : PathPiece (strip (cutAmp x)) ∧ '&' ∉ strip (cutAmp x) ∧ Stripped (strip (cutAmp x)) :=
      ⟨fun c hc => hpp.1 c (strip_subset _ hc), fun hm => hpp.2 (strip_subset _ hm), strip_stripped _⟩
    have hi : strip (cutAmp x) <:+: path := ((strip_infix _).trans (cutAmp_prefix _).isInfix).trans hin
    simp only [secondRoutes, List.mem_cons, Prod.mk.injEq, List.not_mem_nil, or_false] at hwf
    rcases hwf with ⟨rfl, rfl⟩ | ⟨rfl, rfl⟩ | ⟨rfl, rfl⟩ | ⟨rfl, rfl⟩
    · obtain ⟨_, rfl⟩ := ite_eq_some hr
      exact ⟨hf, fun y hy => by simp only [nameField, Option.some.injEq] at hy; exact hy ▸ hi⟩
    · obtain ⟨_, rfl⟩ := ite_eq_some hr
      exact ⟨pathPiece_cutAmp _ (pathPiece_lstrip x _ hpx), fun y hy => by
        simp only [nameField, Option.some.injEq] at hy
        exact hy ▸ ((cutAmp_prefix _).isInfix.trans (lstripChars_suffix _ _).isInfix).trans hin⟩
    · obtain ⟨_, rfl⟩ := ite_eq_some hr
      exact ⟨hf, fun y hy => by simp only [nameField, Option.some.injEq] at hy; exact hy ▸ hi⟩
    · unfold shortOf at hr
      split at hr
      · cases hr
        exact ⟨trivial, fun y hy => by simp [nameField] at hy⟩
      · cases hr
  · exact routeName_fields path r hp hshape hr

theorem parseSplit_fields (fix : Bool) (parsed : SplitResult) (pl : Option Str) (r : Record)
    (hp : ∀ c ∈ parsed.path, c ≠ '?' ∧ c ≠ '#' ∧ isUnsafeUrlChar c = false)
    (hshape : parsed.path = [] ∨ ∃ p, parsed.path = '/' :: p)
    (hpl : ∀ id, Fields (.video id pl)) (h : SplitRec fix parsed pl r) : Fields r ∧ InPath parsed.path r := by
  rcases h with ⟨v, _, hr⟩ | ⟨v, _, _, rfl⟩ | hr
  · obtain ⟨id, rfl⟩ := videoOf_shape fix v pl r hr
    exact ⟨hpl id, inPath_video _ _ _⟩
  · exact ⟨hpl v, inPath_video _ _ _⟩
  · exact routePath_fields fix _ _ pl r hp hshape hpl hr

theorem stripUnsafe_safe (u : Str) : ∀ c ∈ stripUnsafe u, isUnsafeUrlChar c = false := by
  intro c hc
  have := (List.mem_filter.mp hc).2
  simpa using this

/-- the path of the split url is a piece of a url without continuation pattern -/
theorem safe_urlsplit_path_noCont (u : Str) (parsed : SplitResult) (hu : ∀ c ∈ u, isUnsafeUrlChar c = false)
    (hn : NoCont u) (hs : safe_urlsplit u = some parsed) : NoCont parsed.path := by
  unfold safe_urlsplit at hs
  split at hs
  · have h1 : ∀ c ∈ "http://".toList ++ u, isUnsafeUrlChar c = false := by
      intro c hc
      rcases List.mem_append.mp hc with h | h
      · exact (show ∀ c ∈ "http://".toList, isUnsafeUrlChar c = false by decide) c h
      · exact hu c h
    exact noCont_of_infix _ _ (urlsplit_path_infix _ _ parsed hs h1)
      (noCont_prefix "http://".toList u (by simp only [toList_lit]; decide +kernel)
        (by simp only [toList_lit]; decide +kernel) hn)
  · exact noCont_of_infix _ _ (urlsplit_path_infix _ _ parsed hs hu) hn

/-- **what the parser guarantees about the fields of the record it returns**, and: the name /
id of a user or channel holds no continuation pattern -/
theorem parse_fields_noCont (puny : Str → Str) (t : T) (url : Str) (fix : Bool) (r : Record)
    (h : parse_youtube_url puny t url fix = .ok (some r)) :
    Fields r ∧ ∀ x, nameField r = some x → NoCont x := by
  have hsafe := stripUnsafe_safe (infer url)
  have hpl : ∀ id, Fields (.video id (queryList (stripUnsafe (infer url)))) :=
    fun id => queryList_fields _ hsafe _ rfl id
  rcases (parse_youtube_url_yields puny t url fix).of_some h with ⟨v, _, hr⟩ | ⟨hcont, parsed, hs, hyt, hr⟩
  · obtain ⟨id, e⟩ := videoOf_shape fix _ _ r hr
    rw [e]; exact ⟨hpl id, fun x hx => by simp [nameField] at hx⟩
  · have hshape := safe_urlsplit_path_abs _ parsed hs
    have hf := parseSplit_fields fix parsed _ r (safe_urlsplit_path_chars _ parsed hs) hshape hpl hr
    have hnc := safe_urlsplit_path_noCont _ parsed hsafe (noCont_of_or _ hcont) hs
    exact ⟨hf.1, fun x hx => noCont_of_infix _ _ (hf.2 x hx) hnc⟩

theorem plain_of_pathPiece {s : Str} (h : PathPiece s) (ha : '&' ∉ s) : Plain s :=
  fun c hc => ⟨(h c hc).1, (h c hc).2.1, (h c hc).2.2.1, fun e => ha (e ▸ hc), (h c hc).2.2.2⟩

/-- every record the parser returns (with either value of `fix_common_mistakes`) has what the
round trip needs -/
theorem good_of_fields (r : Record) (hv : Valid r) (hf : Fields r)
    (hn : ∀ x, nameField r = some x → NoCont x) : Good r := by
  match r, hv, hf, hn with
  | .video _ none, _, _, _ => trivial
  | .short _, _, _, _ => trivial
  | .video _ (some p), _, hf, _ => exact hf
  | .user name, _, hf, hn => exact ⟨plain_of_pathPiece hf.1 hf.2.1, hf.2.2, hn _ rfl⟩
  | .channel (some cid) none, _, hf, hn => exact ⟨plain_of_pathPiece hf.1 hf.2.1, hf.2.2, hn _ rfl⟩
  | .channel none (some name), _, hf, hn => exact ⟨plain_of_pathPiece hf.1 hf.2, hn _ rfl⟩

end Ural.Youtube
