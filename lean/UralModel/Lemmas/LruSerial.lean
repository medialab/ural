import UralModel.Model.LruSpec
import UralModel.Lemmas.Split
/-!
# Serialisation lemmas (`serialize_lru` / `unserialize_lru`)

`unserialize_lru` cuts at a `|` only where a tag (`x:`, `x` in `shtpqfuw`) follows.  `StemsOK` is the
class of stem lists on which it therefore inverts `serialize_lru` (`unserialize_serialize_ok`): no `|`
inside a stem, a tag at the head of every stem but the first.
-/
namespace Ural.Lru
open Ural Ural.Py

/-- the stem lists on which serialisation is invertible: non-empty, no `|` in any stem, every
non-first stem starts with a tag (`x:` with `x` in `shtpqfuw`) -/
structure StemsOK (stems : List Str) : Prop where
  ne : stems ≠ []
  nobar : ∀ s ∈ stems, '|' ∉ s
  tagged : ∀ s ∈ stems.tail, ∀ r, tagAhead (s ++ r) = true

theorem rstripChars_snoc_bar (s : Str) (h : s.getLast? ≠ some '|') :
    rstripChars (s ++ ['|']) ['|'] = s :=
  rstripChars_unique (by simp) fun c hc hm => h (List.mem_singleton.1 hm ▸ hc)

theorem getLast?_joinChar_ne_bar (xs : List Str) (h1 : ∀ x ∈ xs, '|' ∉ x)
    (h2 : ∀ y ∈ xs.tail, y ≠ []) : (joinChar '|' xs).getLast? ≠ some '|' := by
  induction xs with
  | nil => simp [joinChar]
  | cons x rest ih =>
    cases rest with
    | nil =>
      simp only [joinChar]
      intro h
      exact h1 x (by simp) (List.mem_of_getLast? h)
    | cons y ys =>
      have ih' := ih (fun z hz => h1 z (by simp [hz]))
        (fun z hz => h2 z (by simp only [List.tail_cons] at hz ⊢; exact List.mem_of_mem_tail hz))
      rw [joinChar_cons _ _ (by simp)]
      have hne : joinChar '|' (y :: ys) ≠ [] := by
        rw [joinChar_eq_join]
        exact join_ne_nil _ List.mem_cons_self (h2 y (by simp))
      rw [List.getLast?_append]
      cases hj : joinChar '|' (y :: ys) with
      | nil => exact absurd hj hne
      | cons a as =>
        rw [hj] at ih'
        have : ('|' :: a :: as).getLast? = (a :: as).getLast? := by simp [List.getLast?_cons_cons]
        rw [this]
        cases hl : (a :: as).getLast? with
        | none => simp at hl
        | some l =>
          rw [hl] at ih'
          simpa using ih'

theorem tagAhead_nil : tagAhead [] = false := rfl

theorem StemsOK.tail_ne {stems : List Str} (h : StemsOK stems) : ∀ y ∈ stems.tail, y ≠ [] := by
  intro y hy e
  have := h.tagged y hy []
  simp [e, tagAhead] at this

/-- `unserialize_lru(serialize_lru(stems)) == stems` -/
theorem unserialize_serialize_ok {stems : List Str} (h : StemsOK stems) :
    unserializeLru (serializeLru stems) = stems := by
  unfold unserializeLru serializeLru
  rw [rstripChars_snoc_bar _ (getLast?_joinChar_ne_bar stems h.nobar h.tail_ne)]
  apply splitBy_joinChar '|' stems h.ne
  · intro x hx c hc r
    have : c ≠ '|' := by intro e; subst e; exact h.nobar x hx hc
    simp [this]
  · intro y hy r
    simp [h.tagged y hy r]

theorem tagAhead_render (t : TStem) (r : Str) : tagAhead (render t ++ r) = tagChars.contains t.1 := by
  simp [render, tagAhead]

end Ural.Lru
