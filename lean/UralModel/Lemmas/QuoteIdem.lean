import UralModel.Lemmas.Quote
import UralModel.Gen.QuoteTables
/-!
# A raw non-ASCII character and its escaped UTF-8 bytes are interchangeable for the safe unquoters; idempotence

`assemble_expand`: replacing a literal raw character `c ≥ U+0080` that `NON_PRINTABLE_RE` does not
match by the pending bytes of its UTF-8 encoding does not change the output of `assemble`.  The first
byte of an encoding is never a continuation byte (core: `UInt8.isUTF8FirstByte_getElem_utf8EncodeChar`),
so an ill-formed byte in front of the encoding stays ill-formed and the segmentation of the run splits
at the character (`segment_insert`).  Idempotence follows: the second pass turns the re-escaped bytes of
a run back into pending bytes and reads the decoded characters as literals; up to `expand` these are
the items of the first pass (`items_assemble`).
-/

namespace Ural.Quote
open Ural.Py

/-! ### good segment lists -/

/-- every ill-formed byte of the list is ill-formed in front of what follows it in the list
(and `more`) -/
def Good : List (Char ⊕ UInt8) → List UInt8 → Prop
  | [], _ => True
  | .inl _ :: r, more => Good r more
  | .inr b :: r, more => decodeHead (b :: (r.flatMap segBytes ++ more)) = none ∧ Good r more

theorem segment_of_good (segs : List (Char ⊕ UInt8)) (more : List UInt8) (h : Good segs more) :
    segment (segs.flatMap segBytes ++ more) = segs ++ segment more := by
  induction segs with
  | nil => simp
  | cons x r ih =>
    cases x with
    | inl c =>
      have e : (Sum.inl c :: r).flatMap segBytes ++ more = utf8 c ++ (r.flatMap segBytes ++ more) := by
        simp [segBytes]
      rw [e, segment_utf8_append, ih h]; rfl
    | inr b =>
      have e : (Sum.inr b :: r).flatMap segBytes ++ more = b :: (r.flatMap segBytes ++ more) := by
        simp [segBytes]
      rw [e, segment_cons_none h.1, ih h.2]; rfl

theorem good_segment (bs : List UInt8) : Good (segment bs) [] := by
  induction bs using segment_induction with
  | nil => simp [Good]
  | char c l ih => rw [segment_utf8_append]; exact ih
  | bad b l hd ih =>
    rw [segment_cons_none hd]
    exact ⟨by rw [segment_bytes, List.append_nil]; exact hd, ih⟩

/-- tokens of one segment, as `flush` emits them -/
def tokOfSeg : Char ⊕ UInt8 → List Tok
  | .inl c => if staysEscaped c then (utf8 c).map escOfByte else [.raw c]
  | .inr b => [escOfByte b]

theorem flush_eq (bs : List UInt8) : flush bs = (segment bs).flatMap tokOfSeg := by
  unfold flush
  congr 1

/-- the unsafe set only holds ASCII bytes (true of the four regenerated sets) -/
def AsciiSet (U : List UInt8) : Prop := ∀ b ∈ U, b.toNat < 0x80

theorem itemOf_esc_high (U : List UInt8) (hA : AsciiSet U) (h1 h2 : Char)
    (hb : 0x80 ≤ (byteOf h1 h2).toNat) : itemOf U (.esc h1 h2) = .byte (byteOf h1 h2) := by
  rcases itemOf_esc U h1 h2 with ⟨hk, _⟩ | ⟨_, h20, _⟩ | ⟨_, hlt, _⟩ | ⟨_, _, e⟩
  · rcases (keepEsc_iff U _).1 hk with hk | hk | hk
    · omega
    · omega
    · have := hA _ hk; omega
  · rw [h20] at hb; simp at hb
  · omega
  · exact e

theorem itemOf_escOfByte (U : List UInt8) (hU : AsciiSet U) (b : UInt8) (hb : 0x80 ≤ b.toNat) :
    itemOf U (escOfByte b) = .byte b := by
  have := itemOf_esc_high U hU _ _ (by rw [byteOf_escOfByte]; exact hb)
  rwa [byteOf_escOfByte] at this

theorem map_itemOf_escOfByte (U : List UInt8) (hU : AsciiSet U) {bs : List UInt8}
    (hb : ∀ b ∈ bs, 0x80 ≤ b.toNat) : (bs.map escOfByte).map (itemOf U) = bs.map .byte := by
  induction bs with
  | nil => rfl
  | cons b r ih =>
    simp only [List.map_cons]
    rw [itemOf_escOfByte U hU b (hb b (by simp)), ih fun b' h => hb b' (by simp [h])]

theorem flush_nil : flush [] = [] := by simp [flush]

/-! ### an encoded character among pending bytes: `segment_insert`, `assemble_expand` -/

theorem utf8_getElem_first (c : Char) (i : Nat) (hi : i < (utf8 c).length) :
    ((utf8 c)[i]).IsUTF8FirstByte ↔ i = 0 :=
  UInt8.isUTF8FirstByte_getElem_utf8EncodeChar (c := c) (i := i) (hi := hi)

theorem decodeHead_of_prefix {x z l : List UInt8} {d : Char} (hl : x ++ z = utf8 d ++ l)
    (hk : (utf8 d).length ≤ x.length) : decodeHead x = some d := by
  have e1 : (x ++ z).take (utf8 d).length = x.take (utf8 d).length := by
    rw [List.take_append_of_le_length hk]
  have e2 : (utf8 d ++ l).take (utf8 d).length = utf8 d := by simp
  rw [hl, e2] at e1
  have e3 : x = utf8 d ++ x.drop (utf8 d).length := by
    conv => lhs; rw [← List.take_append_drop (utf8 d).length x, ← e1]
  rw [e3, decodeHead_utf8_append]

/-- an encoding does not start inside another one -/
theorem utf8_no_overlap {x y l : List UInt8} {c d : Char} (hl : x ++ (utf8 c ++ y) = utf8 d ++ l)
    (hn : x.length < (utf8 d).length) : x = [] := by
  have hcpos : 0 < (utf8 c).length := List.length_pos_iff.2 (utf8_ne_nil c)
  have g1 : (utf8 d)[x.length] = (utf8 c)[0] := by
    have a1 : (utf8 d ++ l)[x.length]'(by simp; omega) = (utf8 d)[x.length] :=
      List.getElem_append_left hn
    have a2 : (x ++ (utf8 c ++ y))[x.length]'(by simp; omega) = (utf8 c)[0] := by
      rw [List.getElem_append_right (by omega)]
      simp only [Nat.sub_self]
      exact List.getElem_append_left hcpos
    rw [← a1, ← a2]
    congr 1
    exact hl.symm
  have f1 : ((utf8 c)[0]).IsUTF8FirstByte := (utf8_getElem_first c 0 hcpos).2 rfl
  rw [← g1] at f1
  exact List.length_eq_zero_iff.1 ((utf8_getElem_first d x.length hn).1 f1)

/-- a character decoded from the whole would lie inside `x` or overlap the encoding of `c` -/
theorem decodeHead_none_extend {x : List UInt8} (hx : x ≠ []) (h : decodeHead x = none)
    (c : Char) (y : List UInt8) : decodeHead (x ++ (utf8 c ++ y)) = none := by
  cases hd : decodeHead (x ++ (utf8 c ++ y)) with
  | none => rfl
  | some d =>
    exfalso
    obtain ⟨l, hl⟩ := decodeHead_some hd
    by_cases hk : (utf8 d).length ≤ x.length
    · rw [decodeHead_of_prefix hl hk] at h
      cases h
    · exact hx (utf8_no_overlap hl (by omega))

theorem good_extend (segs : List (Char ⊕ UInt8)) (h : Good segs []) (c : Char) (y : List UInt8) :
    Good segs (utf8 c ++ y) := by
  induction segs with
  | nil => trivial
  | cons s r ih =>
    cases s with
    | inl d => exact ih h
    | inr b =>
      simp only [Good, List.append_nil] at h ⊢
      refine ⟨?_, ih h.2⟩
      have := decodeHead_none_extend (x := b :: r.flatMap segBytes) (by simp) h.1 c y
      simpa using this

theorem segment_insert (acc : List UInt8) (c : Char) (bs : List UInt8) :
    segment (acc ++ (utf8 c ++ bs)) = segment acc ++ .inl c :: segment bs := by
  have h1 := segment_of_good (segment acc) (utf8 c ++ bs) (good_extend (segment acc) (good_segment acc) c bs)
  rwa [segment_bytes acc, segment_utf8_append] at h1

theorem assemble_bytes (bs : List UInt8) (r : List Item) (acc : List UInt8) :
    assemble (bs.map .byte ++ r) acc = assemble r (acc ++ bs) := by
  induction bs generalizing acc with
  | nil => simp
  | cons b bs ih =>
    simp only [List.map_cons, List.cons_append, assemble]
    rw [ih]; simp

/-- pending bytes that contain an encoded character: the run splits at the character, which
comes out as `flush` writes it (raw, or escaped again when `NON_PRINTABLE_RE` matches it) -/
theorem assemble_insert_any (c : Char) (acc : List UInt8) :
    ∀ (r : List Item) (bs : List UInt8),
      assemble r (acc ++ (utf8 c ++ bs)) = flush acc ++ (tokOfSeg (.inl c) ++ assemble r bs) := by
  have hf : ∀ bs, flush (acc ++ (utf8 c ++ bs)) = flush acc ++ (tokOfSeg (.inl c) ++ flush bs) := by
    intro bs
    simp only [flush_eq, segment_insert, List.flatMap_append, List.flatMap_cons]
  intro r
  induction r with
  | nil => intro bs; simp only [assemble]; exact hf bs
  | cons it r ih =>
    intro bs
    cases it with
    | lit t =>
      simp only [assemble]
      rw [hf bs]
      simp
    | byte b =>
      simp only [assemble]
      have := ih (bs ++ [b])
      simpa [List.append_assoc] using this

theorem assemble_insert (c : Char) (hc : staysEscaped c = false) (acc : List UInt8)
    (r : List Item) (bs : List UInt8) :
    assemble r (acc ++ (utf8 c ++ bs)) = flush acc ++ .raw c :: assemble r bs := by
  rw [assemble_insert_any]
  simp [tokOfSeg, hc]

/-- a literal raw character `≥ U+0080` that would not be escaped again, as pending bytes -/
def expand : Item → List Item
  | .lit (.raw c) => if 0x80 ≤ c.toNat ∧ staysEscaped c = false then (utf8 c).map .byte else [.lit (.raw c)]
  | it => [it]

/-- **`assemble` does not see the difference** between such a character and its bytes -/
theorem assemble_expand (its : List Item) : ∀ (acc : List UInt8),
    assemble (its.flatMap expand) acc = assemble its acc := by
  induction its with
  | nil => intro acc; rfl
  | cons it r ih =>
    intro acc
    rw [List.flatMap_cons]
    cases it with
    | byte b => simp only [expand, List.singleton_append, assemble]; exact ih _
    | lit t =>
      cases t with
      | raw c =>
        simp only [expand]
        split
        · rename_i hc
          rw [assemble_bytes, ih]
          have := assemble_insert c hc.2 acc r []
          simp only [List.append_nil] at this
          rw [this]
          simp [assemble]
        · simp only [List.singleton_append, assemble]; rw [ih]
      | esc h1 h2 => simp only [expand, List.singleton_append, assemble]; rw [ih]
      | stray => simp only [expand, List.singleton_append, assemble]; rw [ih]

/-! ### the second pass: idempotence, `unquoteToks_escToksBy` -/

theorem and80_of_lt : ∀ n, n < 128 → (UInt8.ofNat n) &&& 0x80 = 0 := by decide +kernel

/-- a byte < 0x80 is a first byte, so it is the byte at index 0, and an ASCII first byte decodes to
an ASCII character -/
theorem utf8_high {c : Char} (hc : 0x80 ≤ c.toNat) : ∀ b ∈ utf8 c, 0x80 ≤ b.toNat := by
  intro b hb
  obtain ⟨i, hi, rfl⟩ := List.getElem_of_mem hb
  by_cases hlt : (utf8 c)[i].toNat < 0x80
  · exfalso
    have hz : (utf8 c)[i] &&& 0x80 = 0 := by
      have := and80_of_lt _ hlt
      rwa [UInt8.ofNat_toNat] at this
    have hfirst : ((utf8 c)[i]).IsUTF8FirstByte := Or.inl hz
    have hi0 := (utf8_getElem_first c i hi).1 hfirst
    subst hi0
    obtain ⟨b0, t, hbt⟩ := List.exists_cons_of_ne_nil (utf8_ne_nil c)
    have hb0 : (utf8 c)[0] = b0 := by simp [hbt]
    rw [hb0] at hlt
    have h1 := decodeHead_utf8_append c []
    rw [List.append_nil, hbt] at h1
    have hch : (Char.ofNat b0.toNat).toNat < 0x80 := by rw [toNat_ofNat_small _ (by omega)]; exact hlt
    have h2 := decodeHead_utf8_append (Char.ofNat b0.toNat) t
    rw [utf8_ascii hch, toNat_ofNat_small _ (by omega), UInt8.ofNat_toNat] at h2
    simp only [List.singleton_append] at h2
    rw [h1] at h2
    have := Option.some.inj h2
    rw [this] at hc
    omega
  · omega

/-- literal tokens produced by the first pass are literal for the second pass, unchanged -/
theorem itemOf_fixed (U : List UInt8) (hpct : (0x25 : UInt8) ∈ U) (t0 t : Tok)
    (h : itemOf U t0 = .lit t) : itemOf U t = .lit t := by
  cases t0 with
  | raw c =>
    simp only [itemOf] at h
    split at h
    · cases h; exact itemOf_esc20 U
    · rename_i hsp; cases h; exact itemOf_raw U hsp
  | stray =>
    cases h
    have hb : byteOf '2' '5' = 0x25 := by decide
    simp [itemOf, hb, keepEsc_of_mem hpct]
  | esc h1 h2 =>
    rcases itemOf_esc U h1 h2 with ⟨_, e⟩ | ⟨_, _, e⟩ | ⟨_, _, h20, e⟩ | ⟨_, _, e⟩ <;>
      rw [e] at h <;> cases h
    · exact e
    · exact itemOf_esc20 U
    · exact itemOf_raw U (fun e => h20 (byte_of_ofNat_eq e))

theorem flatMap_expand_bytes (bs : List UInt8) :
    (bs.map Item.byte).flatMap expand = bs.map .byte := by
  induction bs with
  | nil => rfl
  | cons b r ih => simp only [List.map_cons, List.flatMap_cons, ih, expand]; rfl

theorem items_flush (U : List UInt8) (hU : AsciiSet U) (bs : List UInt8)
    (hb : ∀ b ∈ bs, 0x80 ≤ b.toNat) :
    ((flush bs).map (itemOf U)).flatMap expand = bs.map .byte := by
  have key : ∀ x ∈ segment bs, SegHigh x := segment_high bs hb
  rw [flush_eq]
  conv => rhs; rw [← segment_bytes bs]
  clear hb
  generalize segment bs = segs at key
  induction segs with
  | nil => rfl
  | cons x r ih =>
    simp only [List.flatMap_cons, List.map_append, List.flatMap_append,
      ih (fun y hy => key y (by simp [hy]))]
    congr 1
    have hx := key x (by simp)
    cases x with
    | inr b => simp only [tokOfSeg, segBytes, List.map_cons, List.map_nil, List.flatMap_cons,
        List.flatMap_nil, List.append_nil, itemOf_escOfByte U hU b hx, expand]
    | inl c =>
      have hc : 0x80 ≤ c.toNat := hx
      simp only [tokOfSeg, segBytes]
      split
      · rw [map_itemOf_escOfByte U hU (utf8_high hc), flatMap_expand_bytes]
      · rename_i hs
        have hsp : c ≠ ' ' := by rintro rfl; revert hc; decide
        simp only [List.map_cons, List.map_nil, itemOf_raw U hsp, List.flatMap_cons,
          List.flatMap_nil, List.append_nil, expand]
        rw [if_pos ⟨hc, by simpa using hs⟩]

theorem items_assemble (U : List UInt8) (hU : AsciiSet U) (its : List Item)
    (hbyte : ∀ b, Item.byte b ∈ its → 0x80 ≤ b.toNat)
    (hlit : ∀ t, Item.lit t ∈ its → itemOf U t = .lit t) :
    ∀ (acc : List UInt8), (∀ b ∈ acc, 0x80 ≤ b.toNat) →
      ((assemble its acc).map (itemOf U)).flatMap expand = acc.map .byte ++ its.flatMap expand := by
  induction its with
  | nil => intro acc hacc; simpa [assemble] using items_flush U hU acc hacc
  | cons it r ih =>
    intro acc hacc
    have ihr := ih (fun b hb => hbyte b (by simp [hb])) (fun t ht => hlit t (by simp [ht]))
    cases it with
    | lit t =>
      simp only [assemble, List.map_append, List.map_cons, List.flatMap_append, List.flatMap_cons,
        items_flush U hU acc hacc, hlit t (by simp), ihr [] (by simp), List.map_nil, List.nil_append]
    | byte b =>
      simp only [assemble, List.flatMap_cons, expand]
      rw [ihr _ (forall_mem_snoc hacc (hbyte b (by simp)))]
      simp

/-- **idempotence of the safe unquoters on tokens** -/
theorem unquoteToks_idem (U : List UInt8) (hpct : (0x25 : UInt8) ∈ U) (hU : AsciiSet U)
    (ts : List Tok) : unquoteToks U (unquoteToks U ts) = unquoteToks U ts := by
  unfold unquoteToks
  rw [← assemble_expand, items_assemble U hU _ ?_ ?_ [] (by simp)]
  · exact assemble_expand _ []
  · intro b hb
    obtain ⟨t, _, ht⟩ := List.mem_map.1 hb
    exact byte_itemOf_high ht
  · intro t ht
    obtain ⟨t0, _, ht0⟩ := List.mem_map.1 ht
    exact itemOf_fixed U hpct t0 t ht0

/-- `assemble_expand` as a statement about passes: every set `Q` of non-ASCII characters that holds
those of `NON_PRINTABLE_RE` can stand for `escapeRaw` -/
theorem unquoteToks_escToksBy (U : List UInt8) (hU : AsciiSet U) {Q : Char → Bool}
    (hS : ∀ c, staysEscaped c = true → Q c = true) (hQ : ∀ c, Q c = true → 0x80 ≤ c.toNat)
    (ts : List Tok) : unquoteToks U (escToksBy Q ts) = unquoteToks U (escapeRaw ts) := by
  unfold unquoteToks
  rw [← assemble_expand ((escToksBy Q ts).map (itemOf U)),
    ← assemble_expand ((escapeRaw ts).map (itemOf U)), escapeRaw_eq_by]
  congr 1
  induction ts with
  | nil => rfl
  | cons t r ih =>
    rw [escToksBy_cons, escToksBy_cons, List.map_append, List.map_append, List.flatMap_append,
      List.flatMap_append, ih]
    congr 1
    cases t with
    | raw c =>
      simp only [escBy]
      by_cases hq : Q c = true
      · by_cases hs : staysEscaped c = true
        · simp [hq, hs]
        · -- escaped by `Q` only: read again, its bytes are what `expand` makes of the character
          have hge := hQ c hq
          have hst : staysEscaped c = false := by simpa using hs
          have hsp : c ≠ ' ' := by rintro rfl; revert hge; decide
          simp only [hq, hst, if_true, Bool.false_eq_true, if_false, List.map_cons, List.map_nil,
            itemOf_raw U hsp, List.flatMap_cons, List.flatMap_nil, List.append_nil, expand]
          rw [if_pos ⟨hge, trivial⟩, map_itemOf_escOfByte U hU (utf8_high hge), flatMap_expand_bytes]
      · have hs : staysEscaped c = false := by
          cases h : staysEscaped c
          · rfl
          · exact absurd (hS c h) hq
        simp [hq, hs]
    | esc h1 h2 => rfl
    | stray =>
      have hq : Q '%' = false := by
        cases h : Q '%'
        · rfl
        · exact absurd (hQ _ h) (by decide)
      simp [escBy, hq, staysEscaped_of_lt]

/-! ### the output has no raw character that `NON_PRINTABLE_RE` matches -/

/-- when the raw characters of the input are printable, so are those of the output -/
theorem raw_unquoteToks (U : List UInt8) {ts : List Tok}
    (h : ∀ c, Tok.raw c ∈ ts → staysEscaped c = false) :
    ∀ c, Tok.raw c ∈ unquoteToks U ts → staysEscaped c = false := by
  intro c hc
  rcases mem_unquoteToks hc with ⟨t0, h0, e⟩ | ⟨b, e⟩ | ⟨c', e, _, hs⟩
  · rcases lit_raw_itemOf e with ⟨rfl, _⟩ | ⟨b, rfl, hlt, _, _⟩
    · exact h _ h0
    · exact staysEscaped_of_lt (by rw [toNat_ofNat_small _ (by omega)]; exact hlt)
  · cases e
  · cases e; exact hs

/-- the output of the unquoter (on an `escapeRaw` input) is left alone by `escapeRaw` -/
theorem escapeRaw_unquoteToks (U : List UInt8) (ts : List Tok) :
    escapeRaw (unquoteToks U (escapeRaw ts)) = unquoteToks U (escapeRaw ts) :=
  escapeRaw_fixed (raw_unquoteToks U (fun _ hc => (raw_mem_escapeRaw hc).2))

theorem tokens_safelyUnquote (U : List UInt8) (hpct : (0x25 : UInt8) ∈ U) (s : Str) :
    tokens (safelyUnquote U s) = unquoteToks U (escapeRaw (tokens s)) :=
  tokens_render_of_canon _ (canon_unquoteToks hpct s)

theorem safelyUnquote_idem (U : List UInt8) (hU : (0x25 : UInt8) ∈ U) (hA : AsciiSet U) (s : Str) :
    safelyUnquote U (safelyUnquote U s) = safelyUnquote U s := by
  have h := tokens_safelyUnquote U hU s
  unfold safelyUnquote at h ⊢
  rw [h, escapeRaw_unquoteToks, unquoteToks_idem U hU hA]

theorem staysEscaped_safelyUnquote (U : List UInt8) (s : Str) :
    ∀ ch ∈ safelyUnquote U s, staysEscaped ch = false := by
  intro ch h
  rcases mem_render_escHex (escHex_unquoteToks U (wf_escapeRaw (wf_tokens s))) h with hr | rfl | h
  · exact raw_unquoteToks U (fun c hc => (raw_mem_escapeRaw hc).2) ch hr
  · exact staysEscaped_of_lt (by decide)
  · exact staysEscaped_of_lt (isHexDigit_lt h)

/-! The regenerated unsafe sets each hold `%` (so that nothing is decoded twice) and ASCII bytes only. -/

theorem unsafeForAuthItem_ok :
    (0x25 : UInt8) ∈ Gen.Quote.unsafeForAuthItem ∧ AsciiSet Gen.Quote.unsafeForAuthItem := by
  unfold AsciiSet
  decide

theorem unsafeForPath_ok :
    (0x25 : UInt8) ∈ Gen.Quote.unsafeForPath ∧ AsciiSet Gen.Quote.unsafeForPath := by
  unfold AsciiSet
  decide

theorem unsafeForQueryItem_ok :
    (0x25 : UInt8) ∈ Gen.Quote.unsafeForQueryItem ∧ AsciiSet Gen.Quote.unsafeForQueryItem := by
  unfold AsciiSet
  decide

theorem unsafeForFragment_ok :
    (0x25 : UInt8) ∈ Gen.Quote.unsafeForFragment ∧ AsciiSet Gen.Quote.unsafeForFragment := by
  unfold AsciiSet
  decide

end Ural.Quote
