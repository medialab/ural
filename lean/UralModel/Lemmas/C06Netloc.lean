import UralModel.Model.C06Netloc
import UralModel.Lemmas.StrSplit
import UralModel.Lemmas.UrlRoundTrip
/-!
# C06 — what the CPython accessors say about a netloc assembled by `unsplit_netloc`

`AccLaws acc`: the one fact the theorems of C06 use about `Env.netlocAcc` — a netloc that
`unsplit_netloc(None, None, host, port)` assembled is read back as "no userinfo, that host
(through `.hostname`'s lower-casing), that port", provided the host has none of `@ [ ]` and the
port is a port.  It is a hypothesis of the theorems, and **proved** here for the hand model
`pyNetlocAcc` of the CPython accessors (`accLaws_py`): that model agrees, accessor by accessor, with
the one of `Py/UrlAccessors.lean`, for which `Lemmas/UrlRoundTrip.lean` proves that the accessors
invert `unsplit_netloc`.
-/
-- results of the hand models are compared by `decide` (`pyWalkHost_nil`, the examples of `Props/C06*.lean`)
deriving instance DecidableEq for Except

namespace Ural.Fingerprint
open Ural.Py Ural.UrlParts Ural.Normalize

/-- the host as `unsplit_netloc` writes it: an IPv6 literal gets its brackets back -/
def bracket (x : Str) : Str :=
  if x.contains ':' ∧ ¬ startsWith x ['['] then ['['] ++ x ++ [']'] else x

/-- `":" + str(port)` -/
def portSuffix (port : Option Nat) : Str :=
  match port with
  | some n => ':' :: natToStr n
  | none => []

/-- `unsplit_netloc(None, None, host, port)` -/
theorem unsplitNetloc_noauth (h : Option Str) (port : Option Nat) :
    unsplitNetloc none none h port = bracket (h.getD []) ++ portSuffix port := by
  have hx : UrlRoundTrip.strOf h = h.getD [] := by
    cases h with
    | none => rfl
    | some x => exact UrlRoundTrip.strOf_some x
  rw [UrlRoundTrip.unsplitNetloc_eq, UrlRoundTrip.strOf_none, hx]
  rfl

/-- the host has none of the characters the accessors cut at -/
def HostSafe (h : Option Str) : Prop := ∀ x, h = some x → '@' ∉ x ∧ '[' ∉ x ∧ ']' ∉ x

def PortOk (port : Option Nat) : Prop := ∀ n, port = some n → n ≤ 65535

/-- the host the second pass of `fingerprint_url` reads back -/
def accHost (h : Option Str) : Option Str :=
  match h with
  | some x => if x.isEmpty then none else some (hostnameView x)
  | none => none

theorem strOf_accHost (h : Option Str) : UrlRoundTrip.strOf (accHost h) = hostnameView (UrlRoundTrip.strOf h) := by
  cases h with
  | none => rfl
  | some x =>
    rw [UrlRoundTrip.strOf_some]
    cases x with
    | nil => rfl
    | cons a b => exact UrlRoundTrip.strOf_some _

theorem hostnameView_ne_nil (y : Str) (hy : y ≠ []) : hostnameView y ≠ [] :=
  mt (Netloc.lowerHost_eq_nil (h := y)).1 hy

theorem accHost_some {x : Str} (hx : x ≠ []) : accHost (some x) = some (hostnameView x) := by
  cases x with
  | nil => exact absurd rfl hx
  | cons a b => rfl

theorem accHost_eq_some {h : Option Str} {v : Str} (hh : accHost h = some v) :
    h.getD [] ≠ [] ∧ v = hostnameView (h.getD []) := by
  cases h with
  | none => simp [accHost] at hh
  | some y =>
    cases y with
    | nil => simp [accHost] at hh
    | cons a b =>
      simp only [accHost, List.isEmpty_cons, Bool.false_eq_true, if_false, Option.some.injEq] at hh
      exact ⟨List.cons_ne_nil a b, hh.symm⟩

theorem accHost_nonempty (h : Option Str) (x : Str) (hh : accHost h = some x) : x.isEmpty = false := by
  obtain ⟨hne, rfl⟩ := accHost_eq_some hh
  cases hv : hostnameView (h.getD []) with
  | nil => exact absurd hv (hostnameView_ne_nil _ hne)
  | cons a b => rfl

/-- what the theorems assume of `Env.netlocAcc` -/
structure AccLaws (acc : Str → Except Err Accessors) : Prop where
  assembled : ∀ (h : Option Str) (port : Option Nat), HostSafe h → PortOk port →
    acc (unsplitNetloc none none h port) =
      .ok { username := none, password := none, hostname := accHost h, port := port }

theorem bracket_of_no_colon {x : Str} (hc : ':' ∉ x) : bracket x = x := by
  simp [bracket, hc]

theorem bracket_of_colon {x : Str} (hc : ':' ∈ x) (hl : '[' ∉ x) : bracket x = '[' :: (x ++ [']']) := by
  have hns : ¬ startsWith x ['['] = true := by
    cases x with
    | nil => cases hc
    | cons a b =>
      simp only [startsWith, List.isPrefixOf, Bool.and_true, beq_iff_eq]
      intro e; exact hl (List.mem_cons.2 (Or.inl e))
  simp [bracket, hc, hns]

/-! ## the hand model of this file and the accessors of `Py/UrlAccessors.lean` agree -/

theorem pyUserinfo_eq (netloc : Str) : pyUserinfo netloc = Py.userinfo netloc := by
  unfold pyUserinfo Py.userinfo
  cases (splitLast netloc '@').1 <;> rfl

theorem pyHostinfo_eq (netloc : Str) : pyHostinfo netloc = Py.hostinfo netloc := by
  show (let hp := Py.hostPortStr (Py.hostinfoStr netloc);
    (hp.1, if hp.2.isEmpty then none else some hp.2)) = _
  unfold Py.hostinfo
  generalize Py.hostPortStr (Py.hostinfoStr netloc) = hp
  obtain ⟨a, b⟩ := hp
  cases b <;> rfl

theorem pyHostname_eq (netloc : Str) : pyHostname netloc = Py.hostname netloc := by
  unfold pyHostname Py.hostname
  rw [pyHostinfo_eq]
  cases (Py.hostinfo netloc).1 <;> rfl

theorem pyPort_eq (netloc : Str) :
    pyPort netloc = match Py.port netloc with
      | some p => .ok p
      | none => .error .valueError := by
  unfold pyPort Py.port
  rw [pyHostinfo_eq]
  cases (Py.hostinfo netloc).2 with
  | none => rfl
  | some p =>
    simp only
    cases strToNat? p with
    | none => rfl
    | some n => simp only; split <;> rfl

theorem hostSafe_strOf {h : Option Str} (hs : HostSafe h) :
    '@' ∉ UrlRoundTrip.strOf h ∧ '[' ∉ UrlRoundTrip.strOf h ∧ ']' ∉ UrlRoundTrip.strOf h := by
  cases h with
  | none => simp [UrlRoundTrip.strOf_none]
  | some x => rw [UrlRoundTrip.strOf_some]; exact hs x rfl

theorem hostname_assembled (h : Option Str) (port : Option Nat) (hs : HostSafe h) (hp : PortOk port) :
    Py.hostname (unsplitNetloc none none h port) = accHost h := by
  obtain ⟨_, _, hhost, _⟩ := UrlRoundTrip.accessors_unsplitNetloc none none h port
    (by simp [UrlRoundTrip.strOf_none]) (hostSafe_strOf hs) (fun n hn => hp n hn)
  rw [hhost]
  cases h with
  | none => rfl
  | some x => rw [UrlRoundTrip.strOf_some]; cases x <;> rfl

/-- **the hand model of the CPython accessors obeys the law** -/
theorem accLaws_py : AccLaws pyNetlocAcc := by
  refine ⟨?_⟩
  intro h port hs hp
  obtain ⟨h1, h2, _, h4⟩ := UrlRoundTrip.accessors_unsplitNetloc none none h port
    (by simp [UrlRoundTrip.strOf_none]) (hostSafe_strOf hs) (fun n hn => hp n hn)
  unfold Py.username at h1
  unfold Py.password at h2
  unfold pyNetlocAcc
  rw [pyPort_eq, h4, pyUserinfo_eq, pyHostname_eq, hostname_assembled h port hs hp]
  simp only [h1, h2]
  simp [UrlRoundTrip.strOf_none]

end Ural.Fingerprint
