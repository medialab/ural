import UralModel.Lemmas.LruStems
import UralModel.Lemmas.LruHostname
/-!
# Component-level lemmas under the URL → LRU → URL round trip (`Props/C12.lean`)

Where the characters of a stem value come from, the path read back from its stems, and the host
`lru_to_url` re-assembles: the netloc it prints is in the grammar again (`expected_grammar`).
-/
set_option linter.unusedSectionVars false
set_option linter.unusedSimpArgs false

namespace Ural.Lru
open Ural Ural.Py

variable (sp : Str → Option (Str × Str))

theorem mem_value_lruStemsT {sa : Bool} {p : Parts} {t : TStem} (ht : t ∈ lruStemsT sp sa p)
    {c : Char} (hc : c ∈ t.2) :
    c ∈ p.scheme ∨ c ∈ p.netloc ∨ c ∈ p.path ∨ c ∈ p.query ∨ c ∈ p.fragment ∨
      (sa = true ∧ ((portSplit (hostportOf p.netloc)).headD []).head? ≠ some '[' ∧
        ∃ d s, splitSuffixParsed sp p.netloc = some (d, s) ∧ (c ∈ d ∨ c ∈ s)) := by
  have hpiece : ∀ x ∈ portSplit (hostportOf p.netloc), c ∈ x → c ∈ p.netloc :=
    fun x hx hcx => mem_hostportOf (mem_of_mem_splitBy hx hcx)
  have hhead : c ∈ (portSplit (hostportOf p.netloc)).headD [] → c ∈ p.netloc := by
    intro h
    cases hps : portSplit (hostportOf p.netloc) with
    | nil => simp [hps] at h
    | cons x xs => rw [hps] at h; exact hpiece x (by simp [hps]) (by simpa using h)
  have hlabel : ∀ s0 : Str, t ∈ labelStems s0 → c ∈ s0 := by
    intro s0 h
    simp only [labelStems, List.mem_map, List.mem_reverse] at h
    obtain ⟨l, hl, rfl⟩ := h
    exact mem_of_mem_splitBy hl hc
  have hnormal : t ∈ normalHostStems ((portSplit (hostportOf p.netloc)).headD []) → c ∈ p.netloc := by
    intro h
    unfold normalHostStems at h
    split at h
    · simp only [List.mem_singleton] at h; subst h; exact hhead hc
    · exact hhead (hlabel _ h)
  rw [lruStemsT_groups] at ht
  simp only [List.mem_append] at ht
  rcases ht with h | h | h | h | h | h | h | h
  · left; rw [eq_of_mem_strStem h] at hc; exact hc
  · right; left
    match hps : portSplit (hostportOf p.netloc), h with
    | [a, port], h =>
      simp only [portStems, List.mem_singleton] at h
      subst h
      exact hpiece port (by simp [hps]) hc
  · rw [hostStems_eq] at h
    split at h
    · next hsa0 =>
      simp only [Bool.and_eq_true, Bool.not_eq_true', beq_eq_false_iff_ne, ne_eq] at hsa0
      obtain ⟨hsa, hnb⟩ := hsa0
      cases hsp : splitSuffixParsed sp p.netloc with
      | none => rw [hsp] at h; right; left; exact hnormal h
      | some ds =>
        obtain ⟨d, s⟩ := ds
        rw [hsp] at h
        right; right; right; right; right
        refine ⟨hsa, hnb, d, s, rfl, ?_⟩
        simp only [hostStemsOfSplit, List.mem_append, List.mem_cons] at h
        rcases h with h | rfl | h
        · rw [(List.mem_replicate.1 h).2] at hc; simp at hc
        · right; exact hc
        · split at h
          · left; exact hlabel _ h
          · simp at h
    · right; left; exact hnormal h
  · right; right; left
    simp only [pathStems, List.mem_map] at h
    obtain ⟨l, hl, rfl⟩ := h
    exact mem_of_mem_splitBy (List.mem_of_mem_tail hl) hc
  · right; right; right; left; rw [eq_of_mem_strStem h] at hc; exact hc
  · right; right; right; right; left; rw [eq_of_mem_strStem h] at hc; exact hc
  · right; left; rw [eq_of_mem_optStem h] at hc; exact (mem_auth_netloc (mem_userOf_auth hc).1).1
  · right; left; rw [eq_of_mem_optStem h] at hc; exact (mem_auth_netloc (mem_passwordOf_auth hc)).1

theorem nobar_parts_of_rejoin {hn d s : Str} (h : '|' ∉ rejoinHost hn d s) : '|' ∉ d ∧ '|' ∉ s :=
  ⟨fun hm => h (mem_rejoinHost_parts (Or.inl hm)), fun hm => h (mem_rejoinHost_parts (Or.inr hm))⟩

theorem path_roundtrip (path : Str) (h : (path == [] || path.head? == some '/') = true) :
    optPart '/' (if (splitChar '/' path).tail = [] then none
      else some (joinChar '/' (splitChar '/' path).tail)) = path := by
  cases path with
  | nil => simp [splitChar, splitBy, optPart]
  | cons c cs =>
    simp at h
    subst h
    have e : splitChar '/' ('/' :: cs) = [] :: splitChar '/' cs := by simp [splitChar, splitBy]
    have hne : splitChar '/' cs ≠ [] := splitBy_ne_nil cs
    rw [e]
    simp [hne, optPart, joinChar_splitChar]

/-- the expected host is the re-joined one, given C08's clause -/
theorem hostOfStems_eq_expected (sa : Bool) (n : Str) (hs : sa = true → SplitLaw sp n) :
    hostOfStems sp sa n = expectedHost sp sa n := by
  unfold expectedHost hostOfStems
  cases sa with
  | false => simp
  | true =>
    cases hsp : hostSplit sp n with
    | none => simp [hostJoined]
    | some ds =>
      obtain ⟨d, s⟩ := ds
      simp [hostJoined, hs rfl d s hsp]

/-- the host handed to `urlunsplit` is the host as written — always so for a bracketed literal,
which stems.py never suffix-processes — or a plain host lower-cased -/
theorem expectedHost_cases (sa : Bool) (n : Str) (hshape : HostShape (specHost n)) :
    expectedHost sp sa n = specHost n ∨
      (Plain (specHost n) ∧ expectedHost sp sa n = lower (specHost n)) := by
  unfold expectedHost
  split
  · rename_i hc
    simp only [Bool.and_eq_true] at hc
    rcases hshape with ⟨inner, hin, _⟩ | hp
    · rw [hostSplit_bracketed sp hin] at hc
      simp at hc
    · exact Or.inr ⟨hp, rfl⟩
  · exact Or.inl rfl

theorem expected_netloc_ne_nil (sa : Bool) {n : Str} (hhost : specHost n ≠ []) :
    canonNetloc n (expectedHost sp sa n) ≠ [] := by
  have : expectedHost sp sa n ≠ [] := by
    unfold expectedHost
    split
    · simpa [lower] using hhost
    · exact hhost
  intro e
  unfold canonNetloc at e
  simp only [List.append_eq_nil_iff] at e
  exact this e.1.2

theorem hostSplit_of_specHost {nu nv : Str} (hwu : wfNetloc nu = true) (hwv : wfNetloc nv = true)
    (e : specHost nu = specHost nv) : hostSplit sp nu = hostSplit sp nv := by
  unfold hostSplit splitSuffixParsed
  rw [e, pyHostname_of_specHost hwu hwv e]

theorem hostStems_congr (sa : Bool) {nu nv : Str} (hwu : wfNetloc nu = true)
    (hwv : wfNetloc nv = true) (e : specHost nu = specHost nv) :
    hostStems sp sa nu (specHost nu) = hostStems sp sa nv (specHost nv) := by
  rw [hostStems_spec, hostStems_spec, hostSplit_of_specHost sp hwu hwv e, e, lowerHostname,
    pyHostname_of_specHost hwu hwv e]

/-- CPython's `.hostname` does not see the lower-casing of the expected host, unless a plain host
holds a `%` (what follows it keeps its case) -/
theorem lowerHost_expected (sa : Bool) {n : Str} (hwf : wfNetloc n = true)
    (hsa : sa = true → wfHostSA n = true) :
    lowerHost (unbracket (expectedHost sp sa n)) = lowerHost (unbracket (specHost n)) := by
  cases sa with
  | false => rfl
  | true =>
    rcases expectedHost_cases sp true n (grammar_of_wf hwf).host with he | ⟨hp, he⟩
    · rw [he]
    · have hpct : '%' ∉ specHost n := (wfHostSA_plain_iff hp).1 (hsa rfl)
      rw [he, unbracket_plain (plain_lower hp), unbracket_plain hp, Netloc.lowerHost_of_no_pct hpct,
        Netloc.lowerHost_of_no_pct fun h => hpct (mem_of_mem_lower (by decide) h), lower_idem]

theorem expected_grammar (sa : Bool) {n : Str} (hwf : wfNetloc n = true) :
    Grammar (canonNetloc n (expectedHost sp sa n)) (canonUi n) (expectedHost sp sa n) (specPort n) :=
  (grammar_of_wf hwf).canon_lower (expectedHost_cases sp sa n (grammar_of_wf hwf).host)

end Ural.Lru
