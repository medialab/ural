import UralModel.Lemmas.LruNetloc
import UralModel.Lemmas.NetlocSplit
/-!
# userinfo / hostport of a netloc, CPython's `.hostname`, and the canonical re-assembly

On a netloc of the grammar (`Lru.Grammar`, `Lemmas/LruNetloc.lean`) the readers of CPython are those of
`Lemmas/Netloc.lean`: `Grammar.reads` gives `Netloc.Reads`, from which `.hostname` on a well-formed netloc
is read (on a plain host without `%` it is the host lower-cased, `pyHostname_plain`).  `Grammar.canon`: the netloc `lru_to_url` prints,
with another host of the same shape, is in the grammar again, so the same readers apply to it.  A hostname
holding `%` is no special host (`not_isSpecialHost_of_percent`).
-/
namespace Ural.Lru
open Ural Ural.Py

/-! ## where the characters come from -/

theorem mem_userOfAuth {auth : Str} {c : Char} (h : c ∈ userOfAuth auth) : c ∈ auth := by
  unfold userOfAuth at h
  cases hs : splitAtFirst ':' auth with
  | none => simpa [hs] using h
  | some ab =>
    obtain ⟨a, b⟩ := ab
    simp only [hs] at h
    rw [(splitAtFirst_eq_some.mp hs).1]; simp [h]

theorem colon_not_mem_userOfAuth (auth : Str) : ':' ∉ userOfAuth auth := by
  unfold userOfAuth
  cases hs : splitAtFirst ':' auth with
  | none => simpa [hs] using splitAtFirst_eq_none.mp hs
  | some ab =>
    obtain ⟨a, b⟩ := ab
    simpa [hs] using (splitAtFirst_eq_some.mp hs).2

theorem mem_passwordOfAuth {auth w : Str} {c : Char} (hw : passwordOfAuth auth = some w) (h : c ∈ w) :
    c ∈ auth := by
  unfold passwordOfAuth at hw
  cases hs : splitAtFirst ':' auth with
  | none => simp [hs] at hw
  | some ab =>
    obtain ⟨a, b⟩ := ab
    simp only [hs, Option.map_some, Option.some.injEq] at hw
    subst hw
    rw [(splitAtFirst_eq_some.mp hs).1]; simp [h]

theorem mem_auth_netloc {n : Str} {c : Char} (h : c ∈ (authOf n).getD []) : c ∈ n ∧ c ≠ '@' := by
  cases ha : authOf n with
  | none => simp [ha] at h
  | some auth =>
    simp only [ha, Option.getD_some] at h
    refine ⟨?_, fun e => (netloc_eq n).2 auth ha (e ▸ h)⟩
    rw [(netloc_eq n).1, ha]
    exact List.mem_append_left _ (List.mem_append_left _ h)

theorem mem_userOf_auth {n : Str} {c : Char} (h : c ∈ (userOf n).getD []) :
    c ∈ (authOf n).getD [] ∧ c ≠ ':' := by
  unfold userOf at h
  cases ha : authOf n with
  | none => simp [ha] at h
  | some auth =>
    simp only [ha, Option.map_some, Option.getD_some] at h ⊢
    exact ⟨mem_userOfAuth h, fun e => colon_not_mem_userOfAuth auth (e ▸ h)⟩

theorem mem_passwordOf_auth {n : Str} {c : Char} (h : c ∈ (passwordOf n).getD []) :
    c ∈ (authOf n).getD [] := by
  unfold passwordOf at h
  cases ha : authOf n with
  | none => simp [ha] at h
  | some auth =>
    simp only [ha, Option.bind_some] at h
    cases hw : passwordOfAuth auth with
    | none => simp [hw] at h
    | some w =>
      simp only [hw, Option.getD_some] at h ⊢
      exact mem_passwordOfAuth hw h

theorem mem_specHost {n : Str} {c : Char} (h : c ∈ specHost n) : c ∈ hostportOf n := by
  rw [hostportOf_of_specHost (List.ne_nil_of_mem h)]
  exact List.mem_append_left _ h

/-! ## what `lru_to_url` prints is in the grammar again -/

def canonUi (n : Str) : Option Str :=
  let auth := (userOf n).getD [] ++
    (if (passwordOf n).getD [] ≠ [] then ':' :: (passwordOf n).getD [] else [])
  if auth ≠ [] then some auth else none

theorem canonAuth_eq (n : Str) : canonAuth n = Netloc.pre (canonUi n) := by
  unfold canonAuth canonUi
  simp only [apply_ite Netloc.pre]
  rfl

theorem mem_canonUi {n u : Str} {c : Char} (hu : canonUi n = some u) (h : c ∈ u) :
    c ∈ (authOf n).getD [] ∨ c = ':' := by
  simp only [canonUi, Option.ite_none_right_eq_some, Option.some.injEq] at hu
  obtain ⟨_, rfl⟩ := hu
  rcases List.mem_append.1 h with h | h
  · exact Or.inl (mem_userOf_auth h).1
  · split at h
    · rcases List.mem_cons.1 h with h | h
      · exact Or.inr h
      · exact Or.inl (mem_passwordOf_auth h)
    · cases h

theorem auth_assemble {u w : Str} (hu : ':' ∉ u) :
    let ui := if u ++ (if w ≠ [] then ':' :: w else []) ≠ []
      then some (u ++ (if w ≠ [] then ':' :: w else [])) else none
    (ui.map userOfAuth).getD [] = u ∧ (ui.bind passwordOfAuth).getD [] = w := by
  by_cases hw : w = []
  · subst hw
    by_cases hu0 : u = [] <;>
      simp [hu0, userOfAuth, passwordOfAuth, splitAtFirst_of_not_mem hu]
  · simp [hw, userOfAuth, passwordOfAuth, splitAtFirst_append w hu]

section
variable {n host : Str} {ui op : Option Str}

theorem Grammar.canon (g : Grammar n ui host op) {h' : Str} (hh : HostShape h')
    (hat : '@' ∉ h') : Grammar (canonNetloc n h') (canonUi n) h' op := by
  refine ⟨by rw [canonNetloc, canonAuth_eq, g.specPort, List.append_assoc], fun u hu hm => ?_, fun hm => ?_,
    hh, g.port⟩
  · rcases mem_canonUi hu hm with h | h
    · exact (mem_auth_netloc h).2 rfl
    · cases h
  · rcases List.mem_append.1 hm with hm | hm
    · exact hat hm
    · exact g.noat (List.mem_append_right _ hm)

theorem Grammar.canon_lower (g : Grammar n ui host op) {h' : Str}
    (hh : h' = host ∨ (Plain host ∧ h' = lower host)) :
    Grammar (canonNetloc n h') (canonUi n) h' op := by
  have hat : '@' ∉ host := fun h => g.noat (List.mem_append_left _ h)
  rcases hh with rfl | ⟨hp, rfl⟩
  · exact g.canon g.host hat
  · exact g.canon (Or.inr (plain_lower hp)) fun h => hat (mem_of_mem_lower (by decide) h)

theorem Grammar.mem_canon_lower (g : Grammar n ui host op) {h' : Str}
    (hh : h' = host ∨ (Plain host ∧ h' = lower host)) {c : Char} (hx : ¬ (97 ≤ c.toNat ∧ c.toNat ≤ 122))
    (h1 : c ≠ ':') (h2 : c ≠ '@') (h : c ∈ canonNetloc n h') : c ∈ n := by
  rw [(g.canon_lower hh).eq] at h
  rcases List.mem_append.1 h with h | h
  · exact Classical.byContradiction fun hn => Netloc.not_mem_pre h2 (fun u hu hm =>
      hn ((mem_canonUi hu hm).elim (fun h => (mem_auth_netloc h).1) fun h => absurd h h1)) h
  · rw [g.eq]
    refine List.mem_append_right _ ((List.mem_append.1 h).elim (fun h => ?_) (List.mem_append_right _))
    refine List.mem_append_left _ ?_
    rcases hh with rfl | ⟨_, rfl⟩
    · exact h
    · exact mem_of_mem_lower hx h

variable {n' h' : Str} (g' : Grammar n' (canonUi n) h' op)
include g'

theorem Grammar.userOf_canon : (userOf n').getD [] = (userOf n).getD [] := by
  rw [userOf, g'.authOf]
  exact (auth_assemble fun h => (mem_userOf_auth h).2 rfl).1

theorem Grammar.passwordOf_canon : (passwordOf n').getD [] = (passwordOf n).getD [] := by
  rw [passwordOf, g'.authOf]
  exact (auth_assemble fun h => (mem_userOf_auth h).2 rfl).2

end

/-! ## CPython's `.hostname` on a well-formed netloc -/

/-- the host without its brackets -/
def unbracket (h : Str) : Str :=
  match h with
  | '[' :: r => r.dropLast
  | _ => h

theorem unbracket_bracketed (inner : Str) : unbracket ('[' :: inner ++ [']']) = inner := by
  simp [unbracket]

theorem not_bracket_of_plain {h : Str} (hp : Plain h) (r : Str) : h ≠ '[' :: r := by
  intro e
  exact (hp '[' (by rw [e]; simp)).2.1 rfl

theorem unbracket_plain {h : Str} (hp : Plain h) : unbracket h = h := by
  unfold unbracket
  split
  · next r => exact absurd rfl (not_bracket_of_plain hp r)
  · rfl

theorem head_bracket_plain {h : Str} (hp : Plain h) : (h.head? == some '[') = false := by
  cases h with
  | nil => rfl
  | cons c r =>
    have : c ≠ '[' := (hp c (by simp)).2.1
    simp [this]

theorem optPart_colon (op : Option Str) : optPart ':' op = Netloc.colon op := by cases op <;> rfl

theorem Grammar.reads {n host : Str} {ui op : Option Str} (g : Grammar n ui host op) :
    Netloc.Reads n ui (host.head? == some '[') (unbracket host) op := by
  have hhB : Netloc.hostB (host.head? == some '[') (unbracket host) = host := by
    rcases g.host with ⟨inner, rfl, _⟩ | hp
    · rw [unbracket_bracketed]; simp [Netloc.hostB]
    · rw [head_bracket_plain hp, unbracket_plain hp]; rfl
  refine ⟨by rw [hhB, ← optPart_colon]; exact g.eq, by rw [hhB, ← optPart_colon]; exact g.noat,
    fun hb => ?_, fun hb => ?_⟩
  · rcases g.host with ⟨inner, rfl, _⟩ | hp
    · simp at hb
    · rw [unbracket_plain hp]
      exact ⟨fun h => (hp _ h).1 rfl, Netloc.not_mem_hostPort (b := false) (fun h => (hp _ h).2.1 rfl)
        (fun p e h => (g.port p e _ h).2.1 rfl) (by decide) (fun e => by cases e)⟩
  · rcases g.host with ⟨inner, rfl, hnb⟩ | hp
    · rw [unbracket_bracketed]; exact fun h => (hnb _ h).2 rfl
    · rw [head_bracket_plain hp] at hb; cases hb

theorem reads_wf {n : Str} (hwf : wfNetloc n = true) :
    Netloc.Reads n (authOf n) ((specHost n).head? == some '[') (unbracket (specHost n))
      (specPort n) :=
  (grammar_of_wf hwf).reads

theorem pyHostinfoHost_wf {n : Str} (hwf : wfNetloc n = true) :
    pyHostinfoHost n = unbracket (specHost n) :=
  (reads_wf hwf).pyHostinfoHost

theorem pyHostname_of_specHost {nu nv : Str} (hwu : wfNetloc nu = true) (hwv : wfNetloc nv = true)
    (e : specHost nu = specHost nv) : pyHostname nu = pyHostname nv := by
  rw [(reads_wf hwu).pyHostname, (reads_wf hwv).pyHostname, e]

theorem wfHostSA_plain_iff {n : Str} (hp : Plain (specHost n)) :
    wfHostSA n = true ↔ '%' ∉ specHost n := by
  unfold wfHostSA
  split
  · next r heq => exact absurd heq (not_bracket_of_plain hp r)
  · simp only [noneOf_iff, List.mem_singleton]
    exact ⟨fun h hm => h _ hm rfl, fun h c hc e => h (e ▸ hc)⟩

theorem wfHostSA_bracketed {n inner : Str} (h : specHost n = '[' :: inner ++ [']']) :
    wfHostSA n = true := by
  unfold wfHostSA
  rw [h]
  rfl

theorem wfHostSA_congr {n n' : Str} (h : specHost n' = specHost n) : wfHostSA n' = wfHostSA n := by
  unfold wfHostSA; rw [h]

/-- on a plain host without `%` (the suffix-aware grammar) `.hostname` is the lower-cased host -/
theorem pyHostname_plain {n : Str} (hwf : wfNetloc n = true) (hp : Plain (specHost n))
    (hpct : '%' ∉ specHost n) : pyHostname n = lower (specHost n) := by
  have r := reads_wf hwf
  rw [unbracket_plain hp] at r
  exact r.pyHostname_lower hpct

/-- on a plain host, `.hostname` lower-cased is the host lower-cased (with or without `%`) -/
theorem lower_pyHostname_plain {n : Str} (hwf : wfNetloc n = true) (hp : Plain (specHost n)) :
    lower (pyHostname n) = lower (specHost n) := by
  rw [Netloc.lower_pyHostname, pyHostinfoHost_wf hwf, unbracket_plain hp]

/-! ## a hostname holding `%` is no special host -/

theorem not_isIPv4_of_percent {s : Str} (h : '%' ∈ s) : isIPv4 s = false := by
  have hj : '%' ∈ joinChar '.' (splitChar '.' s) := by rw [joinChar_splitChar]; exact h
  rcases mem_joinChar hj with e | ⟨g, hg, hc⟩
  · cases e
  · unfold isIPv4
    simp only [Bool.and_eq_false_iff]
    right
    apply Bool.eq_false_iff.mpr
    intro hall
    have := List.all_eq_true.mp hall g hg
    simp only [Bool.and_eq_true] at this
    have := List.all_eq_true.mp this.2 _ hc
    revert this; decide

theorem not_localhost_of_percent {s : Str} (h : '%' ∈ s) : (lower s == "localhost".toList) = false := by
  apply Bool.eq_false_iff.mpr
  intro e
  have e' : lower s = "localhost".toList := by simpa using e
  have := mem_lower_of_mem (x := '%') (by decide) h
  rw [e'] at this
  revert this; decide

theorem not_specialBody_of_percent {s : Str} (h : '%' ∈ s) : specialBody s = false := by
  unfold specialBody
  have h2 : specialAlt2 s = false := by
    unfold specialAlt2
    simp only [Bool.and_eq_false_iff]
    right
    apply Bool.eq_false_iff.mpr
    intro hall
    have := List.all_eq_true.mp hall _ h
    revert this; decide
  have h1 : specialAlt1 s = false := by
    unfold specialAlt1
    cases hs : splitAtFirst ':' s with
    | none =>
      show (lower s == "localhost".toList || isIPv4 s) = false
      rw [not_localhost_of_percent h, not_isIPv4_of_percent h]; rfl
    | some hp =>
      obtain ⟨a, port⟩ := hp
      have e := (splitAtFirst_eq_some.mp hs).1
      rw [e] at h
      simp only [List.mem_append, List.mem_cons] at h
      rcases h with h | h | h
      · show ((lower a == "localhost".toList || isIPv4 a) && port.all isAsciiDigit) = false
        rw [not_localhost_of_percent h, not_isIPv4_of_percent h]; rfl
      · cases h
      · show ((lower a == "localhost".toList || isIPv4 a) && port.all isAsciiDigit) = false
        simp only [Bool.and_eq_false_iff]
        right
        apply Bool.eq_false_iff.mpr
        intro hall
        have := List.all_eq_true.mp hall _ h
        revert this; decide
  simp [h1, h2]

/-- a hostname holding `%` is no special host -/
theorem not_isSpecialHost_of_percent {s : Str} (h : '%' ∈ s) : isSpecialHost s = false := by
  unfold isSpecialHost
  rw [not_specialBody_of_percent h]
  simp only [Bool.false_or, Bool.and_eq_false_iff]
  by_cases hl : s.getLast? = some '\n'
  · right
    apply not_specialBody_of_percent
    have hne : s ≠ [] := by intro e; simp [e] at h
    have hlast : s.getLast hne = '\n' := by
      rw [List.getLast?_eq_some_getLast hne] at hl
      simpa using hl
    have := List.dropLast_concat_getLast hne
    rw [← this, hlast] at h
    simp only [List.mem_append, List.mem_singleton] at h
    rcases h with h | h
    · exact h
    · cases h
  · left; simpa using hl
theorem percent_mem_pyHostname {n : Str} (h : '%' ∈ pyHostinfoHost n) : '%' ∈ pyHostname n := by
  unfold pyHostname
  simp only
  cases hs : splitAtFirst '%' (pyHostinfoHost n) with
  | none => exact absurd h (splitAtFirst_eq_none.mp hs)
  | some az => simp

/-- suffix-aware, a plain host with `%`: `.hostname` holds the `%`, is not empty and not special -/
theorem pyHostname_percent_plain {n : Str} (hwf : wfNetloc n = true) (hp : Plain (specHost n))
    (hpct : '%' ∈ specHost n) :
    pyHostname n ≠ [] ∧ isSpecialHost (pyHostname n) = false := by
  have hm : '%' ∈ pyHostname n := by
    apply percent_mem_pyHostname
    rw [pyHostinfoHost_wf hwf, unbracket_plain hp]; exact hpct
  refine ⟨?_, not_isSpecialHost_of_percent hm⟩
  intro e
  rw [e] at hm
  cases hm

end Ural.Lru
