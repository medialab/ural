import UralModel.Lemmas.CanonRoundTrip
import UralModel.Lemmas.CanonModes
/-!
# The text view of `canonicalize_url`

`canonicalize_url` never tells a falsy optional component (`None`, `""`) from the empty string: the
printer reads `strOf` of user, password and host and `getD []` of the fragment, and the parser hands
back exactly those texts.  So the function between parsing and printing factors through a record of
plain strings (`Texts`) on which every component rule is a plain string function (`canonT`), and a
second pass in either mode is compared with the first field by field (`canonT_modes`).
-/
namespace Ural.CanonTexts
open Ural.Py Ural.UrlParts Ural.Quote Ural.Canonicalize Ural.UrlRoundTrip Ural.CanonRoundTrip Ural.Normpath

theorem strOf_map {f : Str → Str} (h : f [] = []) (o : Option Str) : strOf (o.map f) = f (strOf o) := by
  cases o with
  | none => rw [Option.map_none, strOf_none, h]
  | some x => rw [Option.map_some, strOf_some, strOf_some]

theorem strOf_canonOpt (q : Bool) {unq : Str → Str} (h : unq [] = []) (o : Option Str) :
    strOf (canonOpt q unq o) = requote q unq (strOf o) := by
  rw [strOf_eq_getD, strOf_eq_getD, getD_canonOpt q h]

theorem strOf_ite (c : Prop) [Decidable c] (s : Str) (h : ¬ c → s = []) :
    strOf (if c then some s else none) = s := by
  by_cases hc : c
  · rw [if_pos hc, strOf_some]
  · rw [if_neg hc, strOf_none, h hc]

theorem unquoteFragment_nil : unquoteFragment [] = [] := safelyUnquote_nil _

theorem canonParts_path (puny : Str → Str) (quoted sf : Bool) (p : Parsed) :
    (canonParts puny quoted sf p).path = finishPath quoted (canonPath p.path (hasMore puny sf p)) := by
  simp only [canonParts, canonComps, finishPath]
theorem canonParts_query (puny : Str → Str) (quoted sf : Bool) (p : Parsed) :
    (canonParts puny quoted sf p).query = canonQuery quoted p.query := rfl
theorem canonParts_fragment (puny : Str → Str) (quoted sf : Bool) (p : Parsed) :
    (canonParts puny quoted sf p).fragment =
      canonOpt quoted unquoteFragment (if sf then none else some p.fragment) := rfl
theorem canonComps_user (puny : Str → Str) (quoted sf : Bool) (p : Parsed) :
    (canonComps puny quoted sf p).user = canonOpt quoted unquoteAuthItem p.username := rfl
theorem canonComps_pass (puny : Str → Str) (quoted sf : Bool) (p : Parsed) :
    (canonComps puny quoted sf p).pass = canonOpt quoted unquoteAuthItem p.password := rfl

theorem canonComps_port (puny : Str → Str) (quoted sf : Bool) (p : Parsed) :
    (canonComps puny quoted sf p).port = portRule p.scheme p.port := by
  simp only [canonComps, portRule]

theorem hostEndsUrl_eq (puny : Str → Str) (quoted sf : Bool) (p : Parsed) :
    hostEndsUrl puny p = ((canonComps puny quoted sf p).port.isNone &&
      endsWithSpace (if bflag puny quoted sf p = true then
        '[' :: strOf (canonComps puny quoted sf p).host ++ [']']
        else strOf (canonComps puny quoted sf p).host)) := by
  unfold hostEndsUrl
  rw [← strOf_eq_getD, strOf_bracketHost, canonComps_port, ← canonComps_host puny quoted sf p]
  rfl

theorem printSplit_ext {s t : Split} (h1 : s.scheme = t.scheme) (h2 : s.netloc = t.netloc)
    (h3 : s.path = t.path) (h4 : s.query = t.query) (h5 : s.fragment.getD [] = t.fragment.getD []) :
    printSplit s = printSplit t := by
  have hu : urlunsplit s = urlunsplit t := by
    rw [urlunsplit_eq_urlunsplit20, urlunsplit_eq_urlunsplit20, h1, h2, h3, h4, h5]
  unfold printSplit
  simp only [h1, h2, hu]

/-- the components as the printer and the parser see them: plain strings (falsy = empty), the
port, and whether the host part of the netloc opens a bracket -/
structure Texts where
  scheme : Str
  user : Str
  pass : Str
  host : Str
  port : Option Nat
  br : Bool
  path : Str
  query : Str
  fragment : Str

def textsOf (p : Parsed) : Texts :=
  ⟨p.scheme, strOf p.username, strOf p.password, strOf p.hostname, p.port, bracketedHost p.netloc,
    p.path, p.query, p.fragment⟩

def compsTexts (c : Comps) (b : Bool) : Texts :=
  ⟨c.scheme, strOf c.user, strOf c.pass, strOf c.host, c.port, b, c.path, c.query, c.fragment.getD []⟩

def Texts.netloc (t : Texts) : Str := authPart t.user t.pass ++ (hostPartB t.br t.host ++ portPart t.port)

def Texts.print (t : Texts) : Str := printSplit ⟨t.scheme, t.netloc, t.path, t.query, some t.fragment⟩

/-- `hasMore` on texts: a query or a fragment is printed, or the printed host would end the URL
with a white-space character -/
def Texts.more (puny : Str → Str) (sf : Bool) (t : Texts) : Bool :=
  !t.query.isEmpty || (!sf && !t.fragment.isEmpty) ||
    ((portRule t.scheme t.port).isNone && endsWithSpace
      (if (decide (canonHost puny t.host ≠ []) && t.br) = true then '[' :: canonHost puny t.host ++ [']']
        else canonHost puny t.host))

def canonT (puny : Str → Str) (q sf : Bool) (t : Texts) : Texts :=
  { scheme := t.scheme
    user := requote q unquoteAuthItem t.user
    pass := requote q unquoteAuthItem t.pass
    host := canonHost puny t.host
    port := portRule t.scheme t.port
    br := decide (canonHost puny t.host ≠ []) && t.br
    path := pathOut q t.path (t.more puny sf)
    query := canonQuery q t.query
    fragment := if sf then [] else requote q unquoteFragment t.fragment }

theorem hasMore_eq (puny : Str → Str) (sf : Bool) (p : Parsed) :
    hasMore puny sf p = (textsOf p).more puny sf := by
  unfold hasMore Texts.more textsOf
  rw [hostEndsUrl_eq puny false sf p, canonComps_port]
  unfold bflag
  rw [canonComps_host, strOf_hostRule]
  cases sf <;> simp [truthy]

theorem compsTexts_canonComps (puny : Str → Str) (q sf : Bool) (p : Parsed) :
    compsTexts (canonComps puny q sf p) (bflag puny q sf p) = canonT puny q sf (textsOf p) := by
  have hfr : (canonComps puny q sf p).fragment.getD [] =
      if sf then [] else requote q unquoteFragment p.fragment := by
    show (canonOpt q unquoteFragment (if sf then none else some p.fragment)).getD [] = _
    rw [getD_canonOpt q unquoteFragment_nil]
    cases sf <;> simp [requote_nil q unquoteFragment_nil]
  unfold compsTexts canonT textsOf
  simp only [Texts.mk.injEq]
  refine ⟨rfl, ?_, ?_, ?_, ?_, ?_, ?_, rfl, hfr⟩
  · rw [canonComps_user, strOf_canonOpt q unquoteAuthItem_nil]
  · rw [canonComps_pass, strOf_canonOpt q unquoteAuthItem_nil]
  · rw [canonComps_host, strOf_hostRule]
  · exact canonComps_port puny q sf p
  · unfold bflag; rw [canonComps_host, strOf_hostRule]
  · show _ = pathOut q p.path ((textsOf p).more puny sf)
    rw [← hasMore_eq]; simp only [canonComps, pathOut]

theorem netloc_compsTexts (puny : Str → Str) (q sf : Bool) (p : Parsed) :
    (compsTexts (canonComps puny q sf p) (bflag puny q sf p)).netloc = (canonParts puny q sf p).netloc :=
  (canonParts_netloc_eq puny q sf p).symm

theorem tail_compsTexts (puny : Str → Str) (q sf : Bool) (p : Parsed) (b : Bool) :
    (compsTexts (canonComps puny q sf p) b).path = (canonParts puny q sf p).path ∧
    (compsTexts (canonComps puny q sf p) b).query = (canonParts puny q sf p).query ∧
    (compsTexts (canonComps puny q sf p) b).fragment = (canonParts puny q sf p).fragment.getD [] := by
  simp only [compsTexts, canonParts, and_self]

theorem canonParts_texts (puny : Str → Str) (quoted sf : Bool) (p : Parsed) :
    (canonParts puny quoted sf p).netloc = (canonT puny quoted sf (textsOf p)).netloc ∧
    (canonParts puny quoted sf p).path = (canonT puny quoted sf (textsOf p)).path ∧
    (canonParts puny quoted sf p).query = (canonT puny quoted sf (textsOf p)).query ∧
    (canonParts puny quoted sf p).fragment.getD [] = (canonT puny quoted sf (textsOf p)).fragment := by
  obtain ⟨e1, e2, e3⟩ := tail_compsTexts puny quoted sf p (bflag puny quoted sf p)
  have e0 := netloc_compsTexts puny quoted sf p
  rw [compsTexts_canonComps] at e0 e1 e2 e3
  exact ⟨e0.symm, e1.symm, e2.symm, e3.symm⟩

theorem print_canonParts (puny : Str → Str) (q sf : Bool) (p : Parsed) :
    printSplit (canonParts puny q sf p) = (canonT puny q sf (textsOf p)).print := by
  rw [← compsTexts_canonComps]
  exact printSplit_ext rfl (canonParts_netloc_eq puny q sf p) rfl rfl rfl

theorem textsOf_reparsed (nl : Str) (c : Comps) :
    textsOf (reparsed nl c) = compsTexts c (bracketedHost nl) := by
  unfold textsOf reparsed compsTexts
  simp only [Texts.mk.injEq, true_and, and_true]
  refine ⟨strOf_ite _ _ (fun h => Classical.not_not.1 (not_or.1 h).2),
    strOf_ite _ _ Classical.not_not.1, ?_⟩
  by_cases h : strOf c.host = []
  · rw [if_pos h, strOf_none, h]
  · rw [if_neg h, strOf_some]

theorem textsOf_reparsedOf {puny : Str → Str} {q sf : Bool} {p : Parsed}
    (hb : bracketedHost (canonParts puny q sf p).netloc = bflag puny q sf p) :
    textsOf (reparsedOf puny q sf p) = canonT puny q sf (textsOf p) := by
  rw [reparsedOf, textsOf_reparsed, hb, compsTexts_canonComps]

theorem portRule_idem (s : Str) (po : Option Nat) : portRule s (portRule s po) = portRule s po := by
  cases po with
  | none => rfl
  | some n => by_cases h : defaultPort s = some n <;> simp [portRule, h]

theorem requote_isEmpty (q : Bool) (U : List UInt8) (hU : (0x25 : UInt8) ∈ U) (f : Str) :
    (requote q (safelyUnquote U) f).isEmpty = f.isEmpty := by
  cases f with
  | nil => rw [requote_nil q (safelyUnquote_nil U)]
  | cons c r =>
    cases h : requote q (safelyUnquote U) (c :: r) with
    | nil =>
      have := pct_requote q U hU (c :: r)
      rw [h] at this
      exact absurd (pctStr_eq_nil this.symm) (by simp)
    | cons _ _ => rfl

/-- the exclusion of KF-C02-1's class, component by component: every raw character survives a
quote / unquote cycle -/
structure Texts.Clean (t : Texts) : Prop where
  user : cleanStr Gen.Quote.unsafeForAuthItem t.user = true
  pass : cleanStr Gen.Quote.unsafeForAuthItem t.pass = true
  path : pathClean t.path = true
  query : QslClean t.query
  fragment : cleanStr Gen.Quote.unsafeForFragment t.fragment = true

/-- the flag of a second pass is the flag of the first: query and fragment are empty together
with what they come from, host and port rules are idempotent -/
theorem more_canonT {puny : Str → Str} (hpl : PunyLaws puny) (q sf : Bool) (t : Texts) :
    (canonT puny q sf t).more puny sf = t.more puny sf := by
  have hfe : (if sf then [] else requote q unquoteFragment t.fragment).isEmpty =
      (sf || t.fragment.isEmpty) := by
    cases sf
    · simp only [Bool.false_eq_true, if_false, Bool.false_or]
      exact requote_isEmpty q _ unsafeForFragment_ok.1 _
    · rfl
  unfold Texts.more canonT
  simp only [canonHost_idem puny hpl, portRule_idem, canonQuery_isEmpty, hfe, Bool.and_self_left]
  cases sf <;> simp

/-- `q1 = q2`: idempotence in either mode; `q1 ≠ q2`: the mode round trips -/
theorem canonT_modes {puny : Str → Str} (hpl : PunyLaws puny) (q1 q2 sf : Bool) (t : Texts)
    (habs : absPath t.path = true) (hcl : q1 = true → t.Clean) :
    canonT puny q2 sf (canonT puny q1 sf t) = canonT puny q2 sf t := by
  have hfr : requote q2 unquoteFragment (requote q1 unquoteFragment t.fragment) =
      requote q2 unquoteFragment t.fragment :=
    requote_modes _ unsafeForFragment_ok.1 unsafeForFragment_ok.2 q1 q2 _ (fun h => (hcl h).fragment)
  rw [canonT.eq_1 puny q2 sf (canonT puny q1 sf t), more_canonT hpl q1 sf t]
  unfold canonT
  simp only [canonHost_idem puny hpl, portRule_idem, Bool.and_self_left,
    requote_auth_modes q1 q2 t.user (fun h => (hcl h).user),
    requote_auth_modes q1 q2 t.pass (fun h => (hcl h).pass),
    canonQuery_modes q1 q2 t.query (fun h => (hcl h).query),
    pathOut_modes q1 q2 t.path _ _ habs (fun h => (hcl h).path)]
  cases sf
  · simp only [Bool.false_eq_true, if_false, hfr]
  · simp only [if_true]

end Ural.CanonTexts
