import UralModel.Lemmas.LruStems
/-!
# Prefix lemmas for C13: tag groups, terminated serialisation, labels of a subdomain

The stems come in groups of one tag each, in a fixed order of tags.  A list of such groups is a prefix of
another exactly when the groups are nested: equal up to some group, that one a prefix, nothing after it
(`prefix_group` for one group, `Groups.flat_prefix_iff` for the list).  With the `|` after every stem a
prefix of stem lists is a prefix of strings; host stems that extend others spell the same host or a
whole-label subdomain of it (`hostOfStems_of_prefix`).  The file
closes with `Props.C13.splitStems_prefix`, stated in the namespace of `Props/C13`.
-/
namespace Ural.Lru
open Ural Ural.Py

/-! ## generic -/

/-- **one tag group**: if the lists are `A ++ B` with every tag of the `A`s equal to `x` and
no tag of the `B`s equal to `x`, the prefix relation splits -/
theorem prefix_group {x : Char} {A1 A2 B1 B2 : List TStem}
    (hA1 : ∀ t ∈ A1, t.1 = x) (hA2 : ∀ t ∈ A2, t.1 = x)
    (hB1 : ∀ t ∈ B1, t.1 ≠ x) (hB2 : ∀ t ∈ B2, t.1 ≠ x) :
    A1 ++ B1 <+: A2 ++ B2 ↔ (A1 = A2 ∧ B1 <+: B2) ∨ (B1 = [] ∧ A1 <+: A2) := by
  induction A1 generalizing A2 with
  | nil =>
    cases B1 with
    | nil => simp
    | cons b B1' =>
      have hb : b.1 ≠ x := hB1 b (by simp)
      cases A2 with
      | nil => simp
      | cons a A2' =>
        have ha : a.1 = x := hA2 a (by simp)
        simp only [List.nil_append, List.cons_append, List.cons_prefix_cons]
        constructor
        · rintro ⟨e, _⟩; exact absurd (e ▸ ha) hb
        · rintro (⟨e, _⟩ | ⟨e, _⟩) <;> simp at e
  | cons a A1' ih =>
    have ha : a.1 = x := hA1 a (by simp)
    cases A2 with
    | nil =>
      cases B2 with
      | nil => simp
      | cons b B2' =>
        have hb : b.1 ≠ x := hB2 b (by simp)
        simp only [List.nil_append, List.cons_append, List.cons_prefix_cons]
        constructor
        · rintro ⟨e, _⟩; exact absurd (e ▸ ha) hb
        · rintro (⟨e, _⟩ | ⟨_, e⟩) <;> simp at e
    | cons a2 A2' =>
      have := ih (A2 := A2') (fun t ht => hA1 t (by simp [ht])) (fun t ht => hA2 t (by simp [ht]))
      simp only [List.cons_append, List.cons_prefix_cons, this, List.cons.injEq]
      constructor
      · rintro ⟨rfl, h | h⟩
        · exact Or.inl ⟨⟨rfl, h.1⟩, h.2⟩
        · exact Or.inr ⟨h.1, rfl, h.2⟩
      · rintro (⟨⟨rfl, h1⟩, h2⟩ | ⟨h1, rfl, h2⟩)
        · exact ⟨rfl, Or.inl ⟨h1, h2⟩⟩
        · exact ⟨rfl, Or.inr ⟨h1, h2⟩⟩

namespace Groups

def Nested : Groups → Groups → Prop
  | [], _ => True
  | _ :: _, [] => False
  | g1 :: r1, g2 :: r2 => (g1.2 = g2.2 ∧ Nested r1 r2) ∨ (flat r1 = [] ∧ g1.2 <+: g2.2)

theorem flat_prefix_iff {gs1 gs2 : Groups} (h1 : gs1.Tagged) (h2 : gs2.Tagged)
    (ht : gs1.tags = gs2.tags) (hnd : gs1.tags.Nodup) :
    gs1.flat <+: gs2.flat ↔ Nested gs1 gs2 := by
  induction gs1 generalizing gs2 with
  | nil => simp [flat, Nested]
  | cons g1 r1 ih =>
    cases gs2 with
    | nil => simp [tags] at ht
    | cons g2 r2 =>
      simp only [tags, List.map_cons, List.cons.injEq] at ht
      have hnd' : g1.1 ∉ tags r1 ∧ (tags r1).Nodup := List.nodup_cons.1 hnd
      have ht2 : tags r1 = tags r2 := ht.2
      have hB1 : ∀ t ∈ flat r1, t.1 ≠ g1.1 := fun t ht' e => hnd'.1 (e ▸ tag_mem_flat h1.tail ht')
      have hB2 : ∀ t ∈ flat r2, t.1 ≠ g1.1 := fun t ht' e => hnd'.1 (by
        have := tag_mem_flat h2.tail ht'
        rw [e, ← ht2] at this; exact this)
      rw [flat_cons, flat_cons,
        prefix_group (h1 g1 (by simp)) (fun t h => (h2 g2 (by simp) t h).trans ht.1.symm) hB1 hB2,
        ih h1.tail h2.tail ht2 hnd'.2]
      rfl

end Groups

/-! ## serialisation and prefixes -/

theorem serializeLru_eq_flatMap {stems : List Str} (h : stems ≠ []) :
    serializeLru stems = stems.flatMap (· ++ ['|']) := by
  unfold serializeLru
  induction stems with
  | nil => exact absurd rfl h
  | cons x xs ih =>
    cases xs with
    | nil => simp [joinChar]
    | cons y ys =>
      have := ih (by simp)
      rw [joinChar_cons _ _ (by simp), List.flatMap_cons, ← this]
      simp

/-- with the `|` terminator after every stem, stem-list prefix is string prefix -/
theorem flatMap_bar_prefix_iff {A B : List Str} (hA : ∀ a ∈ A, '|' ∉ a) (hB : ∀ b ∈ B, '|' ∉ b) :
    A.flatMap (· ++ ['|']) <+: B.flatMap (· ++ ['|']) ↔ A <+: B := by
  induction A generalizing B with
  | nil => simp
  | cons a A' ih =>
    cases B with
    | nil => simp
    | cons b B' =>
      simp only [List.flatMap_cons, List.append_assoc, List.singleton_append, List.cons_prefix_cons]
      rw [prefix_sep (hA a (by simp)) (hB b (by simp)),
        ih (fun x hx => hA x (by simp [hx])) (fun x hx => hB x (by simp [hx]))]

/-! ## labels -/

theorem strictSub_iff {hu hv : Str} : strictSub hu hv = true ↔ ∃ pre, hv = pre ++ '.' :: hu := by
  unfold strictSub
  rw [List.isSuffixOf_iff_suffix]
  constructor
  · rintro ⟨pre, h⟩; exact ⟨pre, h.symm⟩
  · rintro ⟨pre, h⟩; exact ⟨pre, h.symm⟩

/-- a list of host values extending another one re-joins to a whole-label subdomain -/
theorem join_reverse_of_prefix {V1 V2 : List Str} (h : V1 <+: V2) (h1 : V1 ≠ []) :
    joinChar '.' V2.reverse = joinChar '.' V1.reverse ∨
      ∃ pre, joinChar '.' V2.reverse = pre ++ '.' :: joinChar '.' V1.reverse := by
  obtain ⟨X, rfl⟩ := h
  by_cases hX : X = []
  · left; simp [hX]
  · right
    refine ⟨joinChar '.' X.reverse, ?_⟩
    rw [List.reverse_append, joinChar_append _ (by simpa using hX) (by simpa using h1)]

theorem labelStems_sub (pre hu : Str) :
    labelStems (pre ++ '.' :: hu) = labelStems hu ++ labelStems pre := by
  simp [labelStems, splitChar_append_sep]

section
variable (sp : Str → Option (Str × Str))

theorem hostOfStems_congr (sa : Bool) (nu nv : Str)
    (h : hostStems sp sa nu (specHost nu) = hostStems sp sa nv (specHost nv)) :
    hostOfStems sp sa nu = hostOfStems sp sa nv := by
  rw [← (hostStems_values sp sa nu).2, ← (hostStems_values sp sa nv).2, h]

theorem hostOfStems_of_prefix (sa : Bool) (nu nv : Str)
    (h : hostStems sp sa nu (specHost nu) <+: hostStems sp sa nv (specHost nv)) :
    hostOfStems sp sa nu = hostOfStems sp sa nv ∨
      ∃ pre, hostOfStems sp sa nv = pre ++ '.' :: hostOfStems sp sa nu := by
  have := join_reverse_of_prefix (h.map (·.2)) (hostStems_values sp sa nu).1
  rw [(hostStems_values sp sa nu).2, (hostStems_values sp sa nv).2] at this
  rcases this with h | h
  · exact Or.inl h.symm
  · exact Or.inr h

end

/-! ## the suffix-aware host stems of a subdomain: trailing dots, the lone leading dot -/

/-- `rstrip(".")` leaves alone what precedes a tail that is not made of dots only -/
theorem rstrip_append_of_ne {a b : Str} (h : rstripChars b ['.'] ≠ []) :
    rstripChars (a ++ b) ['.'] = a ++ rstripChars b ['.'] := rstripBy_append_of_ne _ h

theorem rstrip_append_dots (a : Str) (k : Nat) :
    rstripChars (a ++ List.replicate k '.') ['.'] = rstripChars a ['.'] := by
  induction k with
  | zero => simp
  | succ k ih =>
    rw [List.replicate_succ', ← List.append_assoc, rstripChars_append_self, ih]

theorem rstrip_length_le (a : Str) : (rstripChars a ['.']).length ≤ a.length :=
  (rstripBy_prefix _ a).length_le

end Ural.Lru

namespace Ural.Props.C13
open Ural Ural.Py Ural.Lru

/-- suffix-aware host stems of a whole-label subdomain with the same suffix: `Lu`, `pre.Lu` the
lower-cased hostnames, which the stems spell (`SplitLaw`) — trailing dots and a lone leading dot
included (the empty labels are stems too) -/
theorem splitStems_prefix {du dv s pre Lu : Str} (h0 : Str) (h1 : Str)
    (hu : rejoinHost Lu du s = Lu)
    (hv : rejoinHost (pre ++ '.' :: Lu) dv s = pre ++ '.' :: Lu) :
    hostStemsOfSplit h0 Lu (some (du, s)) <+:
      hostStemsOfSplit h1 (pre ++ '.' :: Lu) (some (dv, s)) := by
  by_cases hX : rstripChars Lu ['.'] = []
  · -- `Lu` is made of dots only: both suffix stems are empty
    have hLu : List.replicate Lu.length '.' = Lu := by
      have := rstrip_dots_append Lu
      rw [hX] at this
      simpa using this
    have hin : (if du ≠ [] ∨ s.length < 0 then du ++ '.' :: s else s) = [] := by
      unfold rejoinHost at hu
      rw [hX] at hu
      simp only [List.length_nil, Nat.sub_zero] at hu
      exact List.append_cancel_right (hu.trans (by rw [List.nil_append]; exact hLu.symm))
    have hdu : du = [] := by
      by_cases h : du = []
      · exact h
      · simp [h] at hin
    have hs : s = [] := by simpa [hdu] using hin
    subst hdu; subst hs
    have hXv : rstripChars (pre ++ '.' :: Lu) ['.'] = rstripChars pre ['.'] := by
      have : pre ++ '.' :: Lu = pre ++ List.replicate (Lu.length + 1) '.' := by
        rw [List.replicate_succ, hLu]
      rw [this, rstrip_append_dots]
    simp only [hostStemsOfSplit, hX, hXv, List.length_nil, Nat.sub_zero, ne_eq, not_true_eq_false,
      Nat.lt_irrefl, or_self, if_false]
    apply replicate_snoc_prefix
    have := rstrip_length_le pre
    simp only [List.length_append, List.length_cons]
    omega
  · have hXv : rstripChars (pre ++ '.' :: Lu) ['.'] = pre ++ '.' :: rstripChars Lu ['.'] := by
      have : pre ++ '.' :: Lu = (pre ++ ['.']) ++ Lu := by simp
      rw [this, rstrip_append_of_ne hX]; simp
    have hk : (pre ++ '.' :: Lu).length - (pre ++ '.' :: rstripChars Lu ['.']).length =
        Lu.length - (rstripChars Lu ['.']).length := by
      have := rstrip_length_le Lu
      simp only [List.length_append, List.length_cons]; omega
    simp only [hostStemsOfSplit, hXv, hk]
    apply (List.prefix_append_right_inj _).2
    simp only [List.cons_prefix_cons, true_and]
    by_cases hcu : du ≠ [] ∨ s.length < (rstripChars Lu ['.']).length
    · simp only [hcu, if_true]
      -- what the stems of `u` and of `v` spell before the trailing dots
      have eu : du ++ '.' :: s = rstripChars Lu ['.'] := by
        unfold rejoinHost at hu
        simp only [hcu, if_true] at hu
        exact List.append_cancel_right (hu.trans (rstrip_dots_append Lu).symm)
      have hcv : dv ≠ [] ∨ s.length < (pre ++ '.' :: rstripChars Lu ['.']).length := by
        right; rw [← eu]; simp; omega
      simp only [hcv, if_true]
      have ev : dv ++ '.' :: s = pre ++ '.' :: rstripChars Lu ['.'] := by
        unfold rejoinHost at hv
        rw [hXv, hk] at hv
        simp only [hcv, if_true] at hv
        have := rstrip_dots_append Lu
        have e2 : pre ++ '.' :: Lu = (pre ++ '.' :: rstripChars Lu ['.']) ++
            List.replicate (Lu.length - (rstripChars Lu ['.']).length) '.' := by
          rw [List.append_assoc, List.cons_append, this]
        exact List.append_cancel_right (hv.trans e2)
      have : dv = pre ++ '.' :: du := by
        apply List.append_cancel_right (bs := '.' :: s)
        rw [ev, ← eu]; simp
      rw [this, labelStems_sub]
      exact List.prefix_append _ _
    · simp only [hcu, if_false]
      exact List.nil_prefix

end Ural.Props.C13
