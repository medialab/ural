import UralModel.Lemmas.UrlRoundTrip
import UralModel.Lemmas.Canonicalize
import UralModel.Lemmas.CanonAuth
import UralModel.Model.CanonicalizeUrl
import UralModel.Lemmas.Str
import UralModel.Lemmas.QuoteUpper
import UralModel.Lemmas.Normpath
import UralModel.Lemmas.QuoteClass
/-!
# What `canonicalize_url` parses, and which characters its rules can produce

Facts about the string `canonicalize_url` hands to the parser (`cleanUrl`: no control
character, a scheme, `://`), about what the parser (`Py.parseUrl`) returns on it, and about the
characters each rule of `canonComps` can produce (the host rule under the decoder law
`PunyClean`).  That the printed components satisfy the invariant of the parser / printer round
trip is `Lemmas/CanonClosure.lean`.
-/
set_option linter.unusedSimpArgs false

namespace Ural.CanonRoundTrip
open Ural.Py Ural.UrlParts Ural.Quote Ural.Canonicalize Ural.UrlRoundTrip Ural.Netloc

/-! ## the cleaned string -/

theorem mem_upperQuoted {c : Char} {s : Str} (h : c ∈ upperQuoted s) :
    ∃ d ∈ s, c = d ∨ c = upperChar d := by
  rw [upperQuoted, QuoteUpper.render_map_upperTok, render_tokens, QuoteUpper.applyMask,
    ← List.map_uncurry_zip_eq_zipWith] at h
  obtain ⟨⟨d, b⟩, hm, rfl⟩ := List.mem_map.1 h
  exact ⟨d, (List.of_mem_zip hm).1, by cases b <;> simp [Function.uncurry]⟩

theorem noCtl_upperQuoted {s : Str} (h : NoCtl s) : NoCtl (upperQuoted s) := by
  intro c hc
  obtain ⟨d, hd, rfl | rfl⟩ := mem_upperQuoted hc
  · exact h _ hd
  · rw [isControlChar_upperChar]; exact h _ hd

theorem noCtl_stripControl (s : Str) : NoCtl (stripControl s) := by
  intro c hc
  simp only [stripControl, List.mem_filter, Bool.not_eq_true'] at hc
  exact hc.2

/-- the cleaned string is `scheme://rest`; the last conjunct: the scheme is 1–64 ASCII letters
when the default protocol is (what `PROTOCOL_RE` recognises again) -/
theorem ensureProtocol_shape (url dp : Str) (hdp : SchemeShaped (rstripChars dp [':', '/'])) :
    ∃ S rest, SchemeShaped S ∧ ensureProtocol url dp = S ++ ':' :: '/' :: '/' :: rest ∧
      rest ⊆ url ∧
      ((∀ c ∈ rstripChars dp [':', '/'], isAsciiAlpha c = true) →
        (rstripChars dp [':', '/']).length ≤ 64 →
        (∀ c ∈ S, isAsciiAlpha c = true) ∧ S.length ≤ 64) := by
  rcases ensureProtocol_cases url dp with ⟨rest, hsuf, he⟩ | ⟨l, rest, hl, hsuf, hu, he⟩
  · exact ⟨_, rest, hdp, he, hsuf.subset, fun h1 h2 => ⟨h1, h2⟩⟩
  · exact ⟨l, rest, letters_shaped hl.1 hl.2.1, he.trans hu, hsuf.subset, fun _ _ => hl.2⟩

/-- what `canonicalize_url` hands to the parser: a scheme, `://`, and no control character -/
structure Cleaned (c S rest : Str) : Prop where
  shaped : SchemeShaped S
  eq : c = S ++ ':' :: '/' :: '/' :: rest
  noCtl : NoCtl c

theorem cleanUrl_cleaned (u dp : Str) (hdp : SchemeShaped (rstripChars dp [':', '/'])) :
    ∃ S rest, Cleaned (Canonicalize.cleanUrl u dp) S rest ∧
      ((∀ c ∈ rstripChars dp [':', '/'], isAsciiAlpha c = true) →
        (rstripChars dp [':', '/']).length ≤ 64 →
        (∀ c ∈ S, isAsciiAlpha c = true) ∧ S.length ≤ 64) := by
  unfold Canonicalize.cleanUrl
  obtain ⟨S, rest, hS, he, hsub, hl⟩ :=
    ensureProtocol_shape (upperQuoted (strip (stripControl u))) dp hdp
  refine ⟨S, rest, ⟨hS, he, ?_⟩, hl⟩
  rw [he]
  have h0 : NoCtl (upperQuoted (strip (stripControl u))) :=
    noCtl_upperQuoted (NoCtl.of_subset (strip_subset _) (noCtl_stripControl u))
  apply NoCtl.append hS.noCtl
  intro c hc
  simp only [List.mem_cons] at hc
  rcases hc with rfl | rfl | rfl | hc
  · decide
  · decide
  · decide
  · exact h0 c (hsub hc)

theorem splitScheme_scheme' (sc rest : Str) (h : SchemeShaped sc) :
    splitScheme (sc ++ ':' :: rest) [] = (lower sc, rest) :=
  splitScheme_lower sc rest [] h

theorem Cleaned.urlsplit {c S rest : Str} (h : Cleaned c S rest) :
    urlsplit c [] = splitRest (lower S) ('/' :: '/' :: rest) := by
  rw [h.eq, urlsplit_scheme_slashes h.shaped, dropUnsafe_eq_self fun x hx =>
    unsafe_of_ctl (h.noCtl x (by rw [h.eq]; simp [hx]))]

/-- `urlsplit` on the cleaned string, stage by stage -/
theorem urlsplit_cleaned {c S rest : Str} (h : Cleaned c S rest) :
    urlsplit c [] =
      (if !netlocOk (rest.takeWhile (fun c => !isNetlocDelim c)) then none
       else some ⟨lower S, rest.takeWhile (fun c => !isNetlocDelim c),
         (splitFirst (splitFirst (rest.dropWhile (fun c => !isNetlocDelim c)) '#').1 '?').1,
         (splitFirst (splitFirst (rest.dropWhile (fun c => !isNetlocDelim c)) '#').1 '?').2.getD [],
         (splitFirst (rest.dropWhile (fun c => !isNetlocDelim c)) '#').2.getD []⟩) := by
  rw [h.urlsplit, splitRest_slashes]
  unfold withTail
  cases netlocOk (rest.takeWhile fun c => !isNetlocDelim c) <;> rfl

/-- what the proofs need to know about the split result of a cleaned string -/
structure SplitFacts (S rest : Str) (r : SplitResult) : Prop where
  scheme : r.scheme = lower S
  nodelim : ∀ ch ∈ r.netloc, isNetlocDelim ch = false
  ok : netlocOk r.netloc = true
  path_noq : '?' ∉ r.path
  path_noh : '#' ∉ r.path
  query_noh : '#' ∉ r.query
  path_abs : r.path = [] ∨ ∃ q, r.path = '/' :: q
  sub_netloc : r.netloc ⊆ rest
  sub_path : r.path ⊆ rest
  sub_query : r.query ⊆ rest
  sub_fragment : r.fragment ⊆ rest

theorem splitFacts_of_splitRest {S y : Str} {r : SplitResult}
    (hr : splitRest (lower S) ('/' :: '/' :: y) = some r) : SplitFacts S y r := by
  rw [splitRest_slashes] at hr
  split at hr
  · rename_i hok
    injection hr with hr
    subst hr
    have ht := withTail_tailOf (lower S) (y.takeWhile fun c => !isNetlocDelim c) (y.dropWhile fun c => !isNetlocDelim c)
    obtain ⟨hp, hq, hf⟩ := ht.subset
    have hd : y.dropWhile (fun c => !isNetlocDelim c) ⊆ y := (List.dropWhile_sublist _).subset
    refine ⟨rfl, fun ch hch => by simpa using mem_takeWhile_pos _ _ ch hch, hok, ht.path_noq, ht.path_noh,
      ht.query_noh, withTail_path_abs _ _ fun c hc => ?_, (List.takeWhile_sublist _).subset,
      fun x hx => hd (hp hx), fun x hx => hd (hq hx), fun x hx => hd (hf hx)⟩
    have := List.head?_dropWhile_not (fun c => !isNetlocDelim c) y
    rw [hc] at this
    simpa using this
  · cases hr

theorem splitFacts {c S rest : Str} (h : Cleaned c S rest) {r : SplitResult}
    (hr : urlsplit c [] = some r) : SplitFacts S rest r :=
  splitFacts_of_splitRest (h.urlsplit ▸ hr)

/-! ## no control character: the instance `isControlChar` of `Lemmas/QuoteClass.lean` -/

theorem noCtl_safelyUnquote (U : List UInt8) {s : Str} (h : NoCtl s) :
    NoCtl (safelyUnquote U s) :=
  C03Control.noClass_safelyUnquote U C03Control.escapedClass_isControlChar h

theorem noCtl_safelyQuoteBy {f : Char → Bool} (hf : SafeSet f) (s : Str) : NoCtl (safelyQuoteBy f s) :=
  C03Control.noClass_safelyQuoteBy hf C03Control.escapedClass_isControlChar s

theorem noCtl_safelyQuote (s : Str) : NoCtl (safelyQuote s) :=
  C03Control.noClass_safelyQuote C03Control.escapedClass_isControlChar s

theorem noCtl_requote (quoted : Bool) (U : List UInt8) {s : Str} (h : NoCtl s) :
    NoCtl (requote quoted (safelyUnquote U) s) :=
  C03Control.noClass_requote C03Control.escapedClass_isControlChar quoted U h

theorem noCtl_requote_auth (quoted : Bool) {s : Str} (h : NoCtl s) :
    NoCtl (requote quoted unquoteAuthItem s) :=
  C03Control.noClass_requote_auth C03Control.escapedClass_isControlChar quoted h

/-- `#` is in `UNSAFE_FOR_QUERY_ITEM`, and `quote` escapes it -/
theorem hash_not_mem_requoteItem (quoted : Bool) (s : Str) (h : '#' ∉ s) : '#' ∉ requoteItem quoted s := by
  unfold requoteItem
  split
  · exact not_mem_quoteQueryItem sep_hash (by decide) _
  · exact not_mem_safelyUnquote _ sep_hash (by decide) (by decide) s h

theorem piece_subset (s : Str) (sep : Char) (p : Str) (hp : p ∈ splitOn s sep) : p ⊆ s :=
  fun _ hc => mem_of_mem_splitOn hp hc

/-! ## the path rule -/

/-- empty or starting with a slash -/
def AbsPath (p : Str) : Prop := p = [] ∨ ∃ q, p = '/' :: q

theorem absPath_of_AbsPath {p : Str} (h : AbsPath p) : Normpath.absPath p = true := by
  rcases h with rfl | ⟨q, rfl⟩
  · rfl
  · simp [Normpath.absPath, startsWith_cons_cons, startsWith_nil]

/-- the printed path: the canonical path re-quoted or unquoted once more -/
def finishPath (quoted : Bool) (cp : Str) : Str := if quoted then safelyQuote cp else unquotePath cp

theorem segHom_finishPath (quoted : Bool) : Normpath.SegHom (finishPath quoted) := by
  cases quoted
  · exact Normpath.segHom_unquotePath
  · exact Normpath.segHom_safelyQuote

theorem finishPath_nil (quoted : Bool) : finishPath quoted [] = [] := (segHom_finishPath quoted).nil

theorem finishPath_cons_slash (quoted : Bool) (q : Str) :
    finishPath quoted ('/' :: q) = '/' :: finishPath quoted q := (segHom_finishPath quoted).cons_slash q

theorem safelyUnquote_cons_slash (U : List UInt8) (q : Str) :
    safelyUnquote U ('/' :: q) = '/' :: safelyUnquote U q := by
  have := safelyUnquote_append_sep U sep_slash (by decide) (by decide) [] q
  simpa [safelyUnquote_nil] using this

theorem finishPath_render (q : Bool) (p : Str) (m : Bool) (ha : Normpath.absPath p = true) :
    finishPath q (canonPath p m) =
      Normpath.renderSegs ((Normpath.pathKey p).1.map (finishPath q), (Normpath.pathKey p).2) m := by
  rw [Normpath.canonPath_render p m ha, (segHom_finishPath q).render]; rfl

theorem mem_canonPath {c : Char} {path : Str} {m : Bool} (ha : AbsPath path)
    (h : c ∈ canonPath path m) : c ∈ unquotePath path ∨ c = '/' := by
  rw [Normpath.canonPath_render path m (absPath_of_AbsPath ha)] at h
  rcases Normpath.mem_renderSegs h with h | ⟨x, hx, hc⟩
  · exact .inr h
  · exact .inl (mem_of_mem_splitOn (Normpath.segView_subset _ x hx) hc)

theorem finishPath_eq_nil (q : Bool) {y : Str} (h : finishPath q y = []) : y = [] := by
  cases q
  · exact unquotePath_eq_nil h
  · exact safelyQuote_eq_nil h

theorem slash_not_mem_finishPath (q : Bool) {y : Str} (h : '/' ∉ y) : '/' ∉ finishPath q y := by
  cases q
  · exact not_mem_safelyUnquote _ sep_slash (by decide) (by decide) y h
  · intro hm
    have e := splitOn_safelyQuote sep_slash (by decide) y
    rw [splitOn_of_not_mem '/' y h] at e
    exact not_mem_of_mem_splitOn '/' (safelyQuote y) (safelyQuote y) (by rw [e]; simp) hm

/-- the printed path of an absolute path: empty, or a slash not followed by a slash -/
theorem finishPath_shape (quoted : Bool) (path : Str) (m : Bool) (hp : AbsPath path) :
    (finishPath quoted (canonPath path m) = [] ∨ ∃ q, finishPath quoted (canonPath path m) = '/' :: q) ∧
    startsWith (finishPath quoted (canonPath path m)) ['/', '/'] = false := by
  rw [finishPath_render quoted path m (absPath_of_AbsPath hp)]
  apply Normpath.renderSegs_shape
  intro x hx
  obtain ⟨y, hy, rfl⟩ := List.mem_map.1 hx
  have hn := Normpath.normal_segView _ y hy
  exact ⟨fun h0 => hn.1 (finishPath_eq_nil quoted h0), slash_not_mem_finishPath quoted hn.2.2.2⟩

/-! ## the host rule brings in no delimiter -/

/-- the characters `attempt_to_decode_idna` must not invent: URL delimiters, `%`, control
characters, white space -/
def isPunyBad (c : Char) : Bool :=
  c = '/' || c = '?' || c = '#' || c = '@' || c = ':' || c = '[' || c = ']' || c = '%' ||
    isControlChar c || isSpace c

/-- what the round-trip theorems assume of `attempt_to_decode_idna` on top of `PunyLaws`:
a delimiter, `%`, control or white-space character of the decoded label was in the label,
and a non-empty label does not decode to the empty string (tested on the real codec for
every label decoded in a run) -/
structure PunyClean (puny : Str → Str) : Prop where
  clean : ∀ x c, c ∈ puny x → isPunyBad c = true → c ∈ x
  /-- a label is not decoded to the empty string (the codec's round-trip check `ToASCII`
  rejects an empty label, `attempt_to_decode_idna` then returns its argument) -/
  nonempty : ∀ x, x ≠ [] → puny x ≠ []

theorem punyClean_id : PunyClean id := ⟨fun _ _ h _ => h, fun _ h => h⟩

theorem isSpace_not_lower {c : Char} (h : isSpace c = true) : ¬ (97 ≤ c.toNat ∧ c.toNat ≤ 122) := by
  have := isSpace_toNat h
  omega

theorem punyBad_not_lower {c : Char} (h : isPunyBad c = true) :
    ¬ (97 ≤ c.toNat ∧ c.toNat ≤ 122) := by
  simp only [isPunyBad, Bool.or_eq_true, decide_eq_true_eq] at h
  rcases h with ((((((((h | h) | h) | h) | h) | h) | h) | h) | h) | h
  iterate 8 (subst h; decide)
  · rw [isControlChar_iff] at h; omega
  · exact isSpace_not_lower h

theorem canonLabel_bad {puny : Str → Str} (hpc : PunyClean puny) (part : Str) {c : Char}
    (hb : isPunyBad c = true) (hc : c ∈ canonLabel puny part) : c ∈ part := by
  have hnl := punyBad_not_lower hb
  unfold canonLabel at hc
  have h1 := mem_of_mem_lower hnl hc
  split at h1
  · have h3 := hpc.clean _ c h1 hb
    rcases List.mem_append.1 h3 with h4 | h4
    · exact List.mem_of_mem_take (mem_of_mem_lower hnl h4)
    · exact List.mem_of_mem_drop h4
  · exact h1

/-- a "bad" character of the canonical host was in the host -/
theorem canonHost_bad (puny : Str → Str) (hp : PunyClean puny) (h : Str) {c : Char}
    (hb : isPunyBad c = true) (hc : c ∈ canonHost puny h) : c ∈ h := by
  rw [canonHost_eq] at hc
  rcases mem_join _ _ hc with h2 | ⟨q, hq, hx⟩
  · simp only [List.mem_singleton] at h2; subst h2; exact absurd hb (by decide)
  · obtain ⟨part, hpart, rfl⟩ := List.mem_map.1 hq
    exact piece_subset h '.' part hpart (canonLabel_bad hp part hb hx)

theorem ctl_bad {c : Char} (h : isControlChar c = true) : isPunyBad c = true := by
  simp [isPunyBad, h]

theorem noCtl_canonHost (puny : Str → Str) (hp : PunyClean puny) {h : Str} (hn : NoCtl h) :
    NoCtl (canonHost puny h) :=
  hn.of_keeps fun _ hcc => canonHost_bad puny hp h (ctl_bad hcc)

/-! ## the optional text components -/

def AuthReserved (c : Char) : Prop :=
  isControlChar c = true ∨ c ∈ ['@', ':', '/', '?', '#', '[', ']']

/-- a reserved character of the result was in the input.  The unquoter keeps every delimiter
escaped (table obligation: they are all in `UNSAFE_FOR_AUTH_ITEM`) and `requoteNfkc` only writes
`%` and hex digits; the quoter writes no control character, and a delimiter it lets through was
in what it read. -/
theorem keeps_requote_auth (quoted : Bool) : Keeps AuthReserved (requote quoted unquoteAuthItem) := by
  have key : ∀ d ∈ ['@', ':', '/', '?', '#', '[', ']'], (d ≠ '%' ∧ isHexDigit d = false) ∧
      d.toNat < 0x80 ∧ UInt8.ofNat d.toNat ∈ Gen.Quote.unsafeForAuthItem := by decide
  have hunq : Keeps AuthReserved unquoteAuthItem := by
    intro s c hR hc
    rcases mem_requoteNfkc_cases hc with h1 | rfl | h1
    · refine keeps_safelyUnquote _ (fun c hc => ?_) s c hR h1
      rcases hc with hctl | hd
      · exact .inl (by rw [isControlChar_iff] at hctl; omega)
      · exact .inr (key c hd)
    · rcases hR with hctl | hd
      · exact absurd hctl (by decide)
      · exact absurd rfl (key _ hd).1.1
    · rcases hR with hctl | hd
      · have := (isHexDigit_toNat_iff _).1 h1
        rw [isControlChar_iff] at hctl; omega
      · rw [(key _ hd).1.2] at h1; cases h1
  intro s c hR hc
  unfold requote at hc
  split at hc
  · rcases hR with hctl | hd
    · rw [noCtl_safelyQuote _ c hc] at hctl; cases hctl
    · refine Classical.byContradiction fun hs => ?_
      have h1 : c ∉ unquoteAuthItem s := fun hm => hs (hunq s c (.inr hd) hm)
      simp only [List.mem_cons, List.not_mem_nil, or_false] at hd
      rcases hd with rfl | rfl | rfl | rfl | rfl | rfl | rfl <;>
        exact not_mem_safelyQuote_of_not_mem ⟨by decide, by decide⟩ _ h1 hc
  · exact hunq s c hR hc

theorem requote_auth_not_mem {d : Char} (hd : d ∈ ['@', ':', '/', '?', '#', '[', ']'])
    (quoted : Bool) (u : Str) (hu : d ∉ u) : d ∉ requote quoted unquoteAuthItem u :=
  fun hm => hu (keeps_requote_auth quoted u d (.inr hd) hm)

/-! ## the query -/

/-- the keys and values of a list of query items -/
def qslStrs (qsl : List (Str × Option Str)) : List Str :=
  qsl.flatMap fun kv => kv.1 :: kv.2.toList

theorem mem_serialize {c : Char} {qsl : List (Str × Option Str)}
    (h : c ∈ safeSerializeQsl qsl) : c = '&' ∨ c = '=' ∨ ∃ x ∈ qslStrs qsl, c ∈ x := by
  rw [safeSerializeQsl_eq] at h
  rcases mem_join _ _ h with h | ⟨p, hp, hc⟩
  · simp only [List.mem_singleton] at h; exact Or.inl h
  · simp only [List.mem_map] at hp
    obtain ⟨⟨k, v⟩, hkv, rfl⟩ := hp
    cases v with
    | none =>
      simp only [serializeItem] at hc
      exact Or.inr (Or.inr ⟨k, by simp only [qslStrs, List.mem_flatMap]; exact ⟨_, hkv, by simp⟩, hc⟩)
    | some v =>
      simp only [serializeItem, List.mem_append, List.mem_singleton] at hc
      rcases hc with (hc | hc) | hc
      · exact Or.inr (Or.inr ⟨k, by simp only [qslStrs, List.mem_flatMap]; exact ⟨_, hkv, by simp⟩, hc⟩)
      · exact Or.inr (Or.inl hc)
      · exact Or.inr (Or.inr ⟨v, by simp only [qslStrs, List.mem_flatMap]; exact ⟨_, hkv, by simp⟩, hc⟩)

theorem qslStrs_safeQslIter (q : Str) : ∀ x ∈ qslStrs (safeQslIter q), x ⊆ q := by
  intro x hx
  simp only [qslStrs, safeQslIter_eq, List.mem_flatMap, List.mem_map] at hx
  obtain ⟨kv, ⟨item, hitem, rfl⟩, hx⟩ := hx
  have hsub := piece_subset q '&' item hitem
  rcases cutFirst_cases '=' item with ⟨_, e⟩ | ⟨k, v, _, rfl, e⟩ <;> rw [e] at hx <;>
    simp only [List.mem_cons, Option.toList_none, Option.toList_some, List.not_mem_nil, or_false] at hx
  · subst hx; exact hsub
  · rcases hx with rfl | rfl <;> exact fun y hy => hsub (by simp [hy])

theorem qslStrs_map (f : Str → Str) (L : List (Str × Option Str)) :
    ∀ x ∈ qslStrs (L.map fun (k, v) => (f k, v.map f)), ∃ y ∈ qslStrs L, x = f y := by
  intro x hx
  simp only [qslStrs, List.mem_flatMap, List.mem_map] at hx ⊢
  obtain ⟨kv', ⟨⟨k, v⟩, hkv, rfl⟩, hx⟩ := hx
  simp only [List.mem_cons] at hx
  rcases hx with rfl | hx
  · exact ⟨k, ⟨(k, v), hkv, by simp⟩, rfl⟩
  · cases v with
    | none => simp at hx
    | some v0 =>
      simp only [Option.map_some, Option.toList_some, List.mem_singleton] at hx
      exact ⟨v0, ⟨(k, some v0), hkv, by simp⟩, hx⟩

theorem qslStrs_unquoteQsl (L : List (Str × Option Str)) :
    ∀ x ∈ qslStrs (unquoteQsl L), ∃ y ∈ qslStrs L, x = unquoteQueryItem y :=
  qslStrs_map unquoteQueryItem L

theorem qslStrs_quoteQsl (L : List (Str × Option Str)) :
    ∀ x ∈ qslStrs (quoteQsl L), ∃ y ∈ qslStrs L, x = quoteQueryItem y :=
  qslStrs_map quoteQueryItem L

theorem mem_qmap {g : Str → Str} {c : Char} {x : Str} (h : c ∈ qmap g x) :
    c = '&' ∨ c = '=' ∨ ∃ y, y ⊆ x ∧ c ∈ g y := by
  rcases mem_serialize h with h | h | ⟨z, hz, hc⟩
  · exact .inl h
  · exact .inr (.inl h)
  · obtain ⟨y, hy, rfl⟩ := qslStrs_map g _ z hz
    exact .inr (.inr ⟨y, qslStrs_safeQslIter x y hy, hc⟩)

/-- every character of the canonical query is `&`, `=`, or a character of a re-quoted
piece of the query -/
theorem mem_canonQuery {c : Char} {quoted : Bool} {q : Str} (h : c ∈ canonQuery quoted q) :
    c = '&' ∨ c = '=' ∨ ∃ y, y ⊆ q ∧ c ∈ requoteItem quoted y :=
  mem_qmap (by rwa [canonQuery_eq_qmap] at h)

theorem hash_not_mem_canonQuery (q : Bool) {x : Str} (hh : '#' ∉ x) : '#' ∉ canonQuery q x := by
  intro hmem
  rcases mem_canonQuery hmem with h1 | h1 | ⟨y, hy, hcy⟩
  · cases h1
  · cases h1
  · exact hash_not_mem_requoteItem q y (fun h => hh (hy h)) hcy

/-! ## what `parseUrl` returns on a cleaned string -/

/-- what the lemmas know of the parse `p` of a cleaned string `S://rest`: the facts about the
split, the accessors as readings of `p.netloc`, and of the cleaning pass that `rest` holds no
control character and `S` is scheme-shaped -/
structure FromParse (S rest : Str) (p : Parsed) : Prop where
  split : SplitFacts S rest ⟨p.scheme, p.netloc, p.path, p.query, p.fragment⟩
  user : p.username = username p.netloc
  pass : p.password = password p.netloc
  host : p.hostname = hostname p.netloc
  port : Py.port p.netloc = some p.port
  noCtl_rest : NoCtl rest
  shaped : SchemeShaped S

theorem fromParse {c S rest : Str} (h : Cleaned c S rest) {p : Parsed}
    (hp : parseUrl c = some p) : FromParse S rest p := by
  obtain ⟨r, po, hr, hpo, rfl⟩ := parseUrl_some hp
  refine ⟨splitFacts h hr, rfl, rfl, rfl, hpo, ?_, h.shaped⟩
  intro x hx
  apply h.noCtl
  rw [h.eq]; simp [hx]

/-! ## membership in the printed netloc -/

theorem mem_authPart {c : Char} {U P : Str} (h : c ∈ authPart U P) :
    c ∈ U ∨ c ∈ P ∨ c = ':' ∨ c = '@' := by
  unfold authPart at h
  split at h
  · simp only [List.mem_append, List.mem_cons, List.not_mem_nil, or_false] at h
    rcases h with (h | h | h) | h
    · exact Or.inl h
    · exact Or.inr (Or.inr (Or.inl h))
    · exact Or.inr (Or.inl h)
    · exact Or.inr (Or.inr (Or.inr h))
  · split at h
    · simp only [List.mem_append, List.mem_cons, List.not_mem_nil, or_false] at h
      rcases h with h | h
      · exact Or.inl h
      · exact Or.inr (Or.inr (Or.inr h))
    · simp at h

theorem mem_printed_netloc {c : Char} {U P H : Str} {b : Bool} {port : Option Nat}
    (h : c ∈ authPart U P ++ (hostPartB b H ++ portPart port)) :
    c ∈ U ∨ c ∈ P ∨ c ∈ H ∨ c ∈ [':', '@', '[', ']'] ∨ isAsciiDigit c = true := by
  rcases List.mem_append.1 h with h1 | h1
  · rcases mem_authPart h1 with h2 | h2 | rfl | rfl
    · exact .inl h2
    · exact .inr (.inl h2)
    · exact .inr (.inr (.inr (.inl (by simp))))
    · exact .inr (.inr (.inr (.inl (by simp))))
  · rcases List.mem_append.1 h1 with h2 | h2
    · rcases mem_hostPartB h2 with h3 | rfl | rfl
      · exact .inr (.inr (.inl h3))
      · exact .inr (.inr (.inr (.inl (by simp))))
      · exact .inr (.inr (.inr (.inl (by simp))))
    · rcases mem_portPart h2 with rfl | h3
      · exact .inr (.inr (.inr (.inl (by simp))))
      · exact .inr (.inr (.inr (.inr h3)))

theorem printed_netloc_chars {U P H : Str} {b : Bool} {port : Option Nat}
    (hU : ∀ d ∈ ['/', '?', '#'], d ∉ U) (hP : ∀ d ∈ ['/', '?', '#'], d ∉ P)
    (hH : ∀ d ∈ ['/', '?', '#'], d ∉ H) (nU : NoCtl U) (nP : NoCtl P) (nH : NoCtl H) :
    ∀ c ∈ authPart U P ++ (hostPartB b H ++ portPart port),
      isNetlocDelim c = false ∧ isControlChar c = false := by
  intro c hc
  have hd' : isNetlocDelim c = true → c ∈ ['/', '?', '#'] := by
    intro hd
    simp only [isNetlocDelim, Bool.or_eq_true, decide_eq_true_eq] at hd
    rcases hd with (rfl | rfl) | rfl <;> simp
  have nd : ∀ {X : Str}, (∀ d ∈ ['/', '?', '#'], d ∉ X) → c ∈ X → isNetlocDelim c = false := by
    intro X hX hx
    cases hd : isNetlocDelim c with
    | false => rfl
    | true => exact absurd hx (hX c (hd' hd))
  rcases mem_printed_netloc hc with h1 | h1 | h1 | h1 | h1
  · exact ⟨nd hU h1, nU c h1⟩
  · exact ⟨nd hP h1, nP c h1⟩
  · exact ⟨nd hH h1, nH c h1⟩
  · simp only [List.mem_cons, List.not_mem_nil, or_false] at h1
    rcases h1 with rfl | rfl | rfl | rfl <;> exact ⟨by decide, by decide⟩
  · refine ⟨?_, digit_not_ctl h1⟩
    cases hd : isNetlocDelim c with
    | false => rfl
    | true =>
      have := hd' hd
      simp only [List.mem_cons, List.not_mem_nil, or_false] at this
      rcases this with rfl | rfl | rfl <;> revert h1 <;> decide

theorem canonComps_host (puny : Str → Str) (quoted sf : Bool) (p : Parsed) :
    (canonComps puny quoted sf p).host = hostRule puny p.hostname := by
  simp only [canonComps, hostRule]

theorem strOf_hostRule (puny : Str → Str) (o : Option Str) :
    strOf (hostRule puny o) = canonHost puny (strOf o) := by
  cases o with
  | none => rw [hostRule_eq_map, Option.map_none, strOf_none, canonHost_nil]
  | some x => rw [hostRule_eq_map, Option.map_some, strOf_some, strOf_some]

/-! ## the components `canonComps` builds -/

section
variable {puny : Str → Str} (hpc : PunyClean puny) (quoted sf : Bool) {S rest : Str} {p : Parsed}
  (h : FromParse S rest p)
include hpc h

set_option linter.unusedSectionVars false in
theorem netloc_sub_rest : p.netloc ⊆ rest := h.split.sub_netloc

end

/-! ## quoting and unquoting keep the first character of a path segment off `/` -/

theorem head_ne_slash (f : Str → Str)
    (hsplit : ∀ s, splitOn (f s) '/' = (splitOn s '/').map f) (hnil : ∀ y, f y = [] → y = [])
    (d : Char) (r : Str) (hd : d ≠ '/') : (f (d :: r)).head? ≠ some '/' := by
  intro hh
  cases hf : f (d :: r) with
  | nil => rw [hf] at hh; cases hh
  | cons c t =>
    rw [hf] at hh
    simp only [List.head?_cons, Option.some.injEq] at hh
    subst hh
    have h1 := hsplit (d :: r)
    rw [hf, splitOn_cons_sep, splitOn_cons_ne _ _ _ hd] at h1
    cases h2 : splitOn r '/' with
    | nil => exact absurd h2 (splitOn_ne_nil r '/')
    | cons a rest =>
      rw [h2] at h1
      simp only [List.map_cons, List.cons.injEq] at h1
      have := hnil _ h1.1.symm
      cases this

theorem finishPath_head (quoted : Bool) (d : Char) (r : Str) (hd : d ≠ '/') :
    (finishPath quoted (d :: r)).head? ≠ some '/' := by
  cases quoted
  · simp only [finishPath, Bool.false_eq_true, if_false]
    exact head_ne_slash unquotePath
      (fun s => splitOn_safelyUnquote _ sep_slash (by decide) (by decide) (by decide) s)
      (fun y => unquotePath_eq_nil) d r hd
  · simp only [finishPath, if_true]
    exact head_ne_slash safelyQuote
      (fun s => splitOn_safelyQuote sep_slash (by decide) s)
      (fun y => safelyQuote_eq_nil) d r hd

def PathReserved (c : Char) : Prop := c = '?' ∨ c = '#' ∨ isControlChar c = true

theorem PathReserved.not_lower {c : Char} (h : PathReserved c) : ¬ (97 ≤ c.toNat ∧ c.toNat ≤ 122) := by
  rcases h with rfl | rfl | h
  · decide
  · decide
  · rw [isControlChar_iff] at h; omega

theorem PathReserved.ne_slash {c : Char} (h : PathReserved c) : c ≠ '/' := by
  rintro rfl
  rcases h with h | h | h <;> revert h <;> decide

theorem keeps_unquotePath : Keeps PathReserved unquotePath :=
  keeps_safelyUnquote _ fun c hc => by
    rcases hc with rfl | rfl | h
    · exact .inr ⟨⟨by decide +kernel, by decide +kernel⟩, by decide +kernel, by decide +kernel⟩
    · exact .inr ⟨⟨by decide +kernel, by decide +kernel⟩, by decide +kernel, by decide +kernel⟩
    · rw [isControlChar_iff] at h; exact .inl (by omega)

theorem keeps_finishPath (quoted : Bool) : Keeps PathReserved (finishPath quoted) := by
  cases quoted with
  | false => exact keeps_unquotePath
  | true =>
    intro s c hR hc
    exfalso
    simp only [finishPath, if_true] at hc
    rcases hR with rfl | rfl | h
    · exact not_mem_safelyQuote ⟨by decide +kernel, by decide +kernel⟩ (by decide +kernel) s hc
    · exact not_mem_safelyQuote ⟨by decide +kernel, by decide +kernel⟩ (by decide +kernel) s hc
    · rw [noCtl_safelyQuote s c hc] at h; cases h

theorem finishPath_ok (q : Bool) {p : Str} (m : Bool) (ha : AbsPath p) (hq : '?' ∉ p) (hh : '#' ∉ p) :
    ((finishPath q (canonPath p m) = [] ∨ ∃ r, finishPath q (canonPath p m) = '/' :: r) ∧
      startsWith (finishPath q (canonPath p m)) ['/', '/'] = false) ∧
    ('?' ∉ finishPath q (canonPath p m) ∧ '#' ∉ finishPath q (canonPath p m)) := by
  have k : ∀ c, PathReserved c → c ∈ finishPath q (canonPath p m) → c ∈ p := fun c hR hc =>
    (mem_canonPath ha (keeps_finishPath q _ c hR hc)).elim (keeps_unquotePath p c hR)
      fun e => absurd e hR.ne_slash
  exact ⟨finishPath_shape q p m ha, fun h => hq (k _ (.inl rfl) h), fun h => hh (k _ (.inr (.inl rfl)) h)⟩

/-! ## the netloc `canonicalize_url` prints, in normal form -/

theorem truthy_iff_strOf (o : Option Str) : truthy o = true ↔ strOf o ≠ [] := by
  cases o with
  | none => simp [truthy, strOf_none]
  | some x => rw [strOf_some]; cases x <;> simp [truthy]

/-- the printed host stands between brackets: the parsed host did, and it is not empty -/
def bflag (puny : Str → Str) (quoted sf : Bool) (p : Parsed) : Bool :=
  decide (strOf (canonComps puny quoted sf p).host ≠ []) && bracketedHost p.netloc

theorem strOf_bracketHost (nl : Str) (o : Option Str) :
    strOf (bracketHost nl o) =
      if (decide (strOf o ≠ []) && bracketedHost nl) = true then '[' :: strOf o ++ [']'] else strOf o := by
  unfold bracketHost
  by_cases ht : truthy o = true
  · have hne := (truthy_iff_strOf o).1 ht
    have hg : o.getD [] = strOf o := by simp [strOf, ht]
    by_cases hB : bracketedHost nl = true
    · simp [ht, hB, hne, strOf_some, hg]
    · simp [ht, hB, hne]
  · have hne : strOf o = [] := by
      cases h0 : strOf o with
      | nil => rfl
      | cons c r => exact absurd ((truthy_iff_strOf o).2 (by rw [h0]; simp)) ht
    simp [ht, hne]

theorem canonParts_netloc_eq (puny : Str → Str) (quoted sf : Bool) (p : Parsed) :
    (canonParts puny quoted sf p).netloc =
      authPart (strOf (canonComps puny quoted sf p).user) (strOf (canonComps puny quoted sf p).pass) ++
        (hostPartB (bflag puny quoted sf p) (strOf (canonComps puny quoted sf p).host) ++
          portPart (canonComps puny quoted sf p).port) := by
  show unsplitNetloc _ _ (bracketHost p.netloc (canonComps puny quoted sf p).host) _ = _
  rw [unsplitNetloc_eq, strOf_bracketHost]
  unfold hostPartB bflag
  split
  · rw [hostPart_bracketed]
  · rfl

/-! ## the bracket check on the printed netloc -/

/-! ## brackets of an accepted netloc: none in the userinfo, at most the pair of an ip literal -/

/-- the netloc is its userinfo, `@`, its host part — or the host part alone -/
theorem netloc_decomp (nl : Str) :
    nl = hostinfoStr nl ∧ (splitLast nl '@').1 = none ∨
    ∃ ui, (splitLast nl '@').1 = some ui ∧ nl = ui ++ '@' :: hostinfoStr nl := by
  unfold hostinfoStr
  rcases splitLast_cases nl '@' with ⟨_, e⟩ | ⟨ui, b, _, rfl, e⟩ <;> rw [e]
  · exact .inl ⟨rfl, rfl⟩
  · exact .inr ⟨ui, rfl, rfl⟩

theorem userinfoBrackets_false {nl : Str} (h : userinfoBrackets nl = false) :
    '[' ∉ (splitLast nl '@').1.getD [] ∧ ']' ∉ (splitLast nl '@').1.getD [] := by
  unfold userinfoBrackets at h
  rw [Bool.or_eq_false_iff] at h
  constructor
  · intro hm; rw [contains_true_of_mem hm] at h; exact absurd h.1 (by simp)
  · intro hm; rw [contains_true_of_mem hm] at h; exact absurd h.2 (by simp)

/-- a bracket of an accepted netloc stands in its host part -/
theorem mem_hostinfo_of_bracket {nl : Str} (hui : userinfoBrackets nl = false) {c : Char}
    (hc : c = '[' ∨ c = ']') (hm : c ∈ nl) : c ∈ hostinfoStr nl := by
  obtain ⟨h1, h2⟩ := userinfoBrackets_false hui
  rcases netloc_decomp nl with ⟨e, _⟩ | ⟨ui, hu, e⟩
  · rw [← e]; exact hm
  · rw [hu] at h1 h2
    simp only [Option.getD_some] at h1 h2
    rw [e] at hm
    simp only [List.mem_append, List.mem_cons] at hm
    rcases hm with hm | hm | hm
    · rcases hc with rfl | rfl
      · exact absurd hm h1
      · exact absurd hm h2
    · rcases hc with rfl | rfl <;> cases hm
    · exact hm

/-- no bracket at all when the host part opens none -/
theorem no_bracket_of_unbracketed {nl : Str} (hok : netlocOk nl = true)
    (hui : userinfoBrackets nl = false) (hB : bracketedHost nl = false) :
    '[' ∉ nl ∧ ']' ∉ nl := by
  have hL : '[' ∉ nl := by
    intro hm
    have := mem_hostinfo_of_bracket hui (Or.inl rfl) hm
    unfold bracketedHost at hB
    rw [contains_true_of_mem this] at hB; cases hB
  refine ⟨hL, ?_⟩
  intro hR
  unfold netlocOk at hok
  rw [contains_false_of_not_mem hL, contains_true_of_mem hR] at hok
  simp at hok

/-- **the text the bracket check reads is the host**: in an accepted netloc whose host part
opens a bracket, `urlsplit` validated exactly what `_hostinfo` returns as the host -/
theorem bracket_text {nl : Str} (hok : netlocOk nl = true) (hui : userinfoBrackets nl = false)
    (hB : bracketedHost nl = true) :
    bracketedHostOk (hostPortStr (hostinfoStr nl)).1 = true ∧
      ']' ∉ (hostPortStr (hostinfoStr nl)).1 := by
  have hmem : '[' ∈ hostinfoStr nl := List.contains_iff_mem.1 hB
  -- the host, as `_hostinfo` reads it
  have hhost : (hostPortStr (hostinfoStr nl)).1 =
      (((hostinfoStr nl).dropWhile (· ≠ '[')).drop 1).takeWhile (· ≠ ']') := by
    unfold hostPortStr
    rw [splitFirst_eq (hostinfoStr nl) '[']
    cases hd : (hostinfoStr nl).dropWhile (· ≠ '[') with
    | nil =>
      exact absurd hd (dropWhile_ne_nil_of_mem _ _ '[' hmem (by simp))
    | cons x br =>
      simp only [List.drop_succ_cons, List.drop_zero]
      rw [splitFirst_eq br ']']
  -- the netloc's first `[` is the host part's
  have hdw : nl.dropWhile (· ≠ '[') = (hostinfoStr nl).dropWhile (· ≠ '[') := by
    obtain ⟨h1, _⟩ := userinfoBrackets_false hui
    rcases netloc_decomp nl with ⟨e, _⟩ | ⟨ui, hu, e⟩
    · rw [← e]
    · rw [hu] at h1
      simp only [Option.getD_some] at h1
      have e' : nl = (ui ++ ['@']) ++ hostinfoStr nl := e.trans (by simp)
      conv => lhs; rw [e']
      apply List.dropWhile_append_of_pos
      intro c hc
      simp only [List.mem_append, List.mem_singleton] at hc
      rcases hc with hc | rfl
      · simp only [ne_eq, decide_eq_true_eq]; rintro rfl; exact h1 hc
      · decide
  have hL : nl.contains '[' = true := contains_true_of_mem (hostinfoStr_subset nl hmem)
  unfold netlocOk at hok
  simp only [hL] at hok
  by_cases hR : nl.contains ']' = true
  · simp only [hR, bne_self_eq_false, Bool.false_eq_true, if_false, if_true] at hok
    rw [hdw, ← hhost] at hok
    refine ⟨hok, ?_⟩
    rw [hhost]
    intro hm
    have := mem_takeWhile_pos _ _ _ hm
    simp at this
  · have hR' : nl.contains ']' = false := by simpa using hR
    rw [hR'] at hok
    simp at hok

theorem strOf_hostname (nl : Str) :
    strOf (hostname nl) = lowerHost (hostPortStr (hostinfoStr nl)).1 := by
  unfold hostname hostinfo
  simp only
  split
  · rename_i he; rw [he, strOf_none]; rfl
  · rw [strOf_some]

theorem not_mem_lowerHost {c : Char} {H : Str} (hc : ¬ (97 ≤ c.toNat ∧ c.toNat ≤ 122)) (h : c ∉ H) :
    c ∉ lowerHost H :=
  (lowerOf_lowerHost _ _ (fun _ hx => hx)).not_mem h hc

/-- no `:` in a bare host: the port was cut off at the first one -/
theorem hostText_facts {nl : Str} (hok : netlocOk nl = true) (hui : userinfoBrackets nl = false) :
    ']' ∉ (hostPortStr (hostinfoStr nl)).1 ∧
    (bracketedHost nl = false →
      '[' ∉ (hostPortStr (hostinfoStr nl)).1 ∧ ':' ∉ (hostPortStr (hostinfoStr nl)).1) ∧
    (bracketedHost nl = true → bracketedHostOk (hostPortStr (hostinfoStr nl)).1 = true) := by
  have hsub : (hostPortStr (hostinfoStr nl)).1 ⊆ nl :=
    fun x hx => hostinfoStr_subset nl (hostPortStr_fst_subset _ hx)
  have bare : bracketedHost nl = false →
      ('[' ∉ nl ∧ ']' ∉ nl) ∧ ':' ∉ (hostPortStr (hostinfoStr nl)).1 := by
    intro hb
    refine ⟨no_bracket_of_unbracketed hok hui hb, ?_⟩
    have hnb : '[' ∉ hostinfoStr nl := fun hm => by
      unfold bracketedHost at hb
      rw [contains_true_of_mem hm] at hb; cases hb
    unfold hostPortStr
    rw [splitFirst_notMem _ _ hnb]
    exact (splitFirst_spec _ ':').1
  refine ⟨?_, fun hb => ⟨fun hm => (bare hb).1.1 (hsub hm), (bare hb).2⟩, fun hB => (bracket_text hok hui hB).1⟩
  by_cases hB : bracketedHost nl = true
  · exact (bracket_text hok hui hB).2
  · exact fun hm => (bare (by simpa using hB)).1.2 (hsub hm)

/-- a netloc without any bracket: nothing to reject, nothing to keep -/
theorem no_bracket_facts {nl : Str} (hb : '[' ∉ nl ∧ ']' ∉ nl) :
    userinfoBrackets nl = false ∧ bracketedHost nl = false := by
  have hsub := (userinfo_facts nl).1
  constructor
  · unfold userinfoBrackets
    exact Bool.or_eq_false_iff.2 ⟨contains_false_of_not_mem (fun hm => hb.1 (hsub hm)),
      contains_false_of_not_mem (fun hm => hb.2 (hsub hm))⟩
  · unfold bracketedHost
    exact contains_false_of_not_mem (fun hm => hb.1 (hostinfoStr_subset nl hm))

/-! ## re-parsing the printed result -/

/-- what the parser reads from the printed result, in terms of the printed netloc and the
components `canonComps` computed: a falsy user / password / host reads back as absent (a
password without user gives the empty user) -/
def reparsed (nl : Str) (c : Comps) : Parsed :=
  { scheme := c.scheme, netloc := nl, path := c.path,
    query := c.query, fragment := c.fragment.getD [],
    username := if strOf c.pass ≠ [] ∨ strOf c.user ≠ [] then some (strOf c.user) else none,
    password := if strOf c.pass ≠ [] then some (strOf c.pass) else none,
    hostname := if strOf c.host = [] then none else some (strOf c.host),
    port := c.port }

/-- the parse of what `canonicalize_url` prints for the parse `p` -/
def reparsedOf (puny : Str → Str) (quoted sf : Bool) (p : Parsed) : Parsed :=
  reparsed (canonParts puny quoted sf p).netloc (canonComps puny quoted sf p)

/-- what the proofs need to know about the canonical host `H` and the flag `b` ("printed
between brackets") -/
structure HostFacts (b : Bool) (H : Str) : Prop where
  noAt : '@' ∉ H
  closed : ']' ∉ H
  bare : b = false → '[' ∉ H ∧ ':' ∉ H
  ok : b = true → bracketedHostOk H = true

theorem HostFacts.reads {b : Bool} {H : Str} (hf : HostFacts b H) (U P : Str) (port : Option Nat) :
    Netloc.Reads (authPart U P ++ (hostPartB b H ++ portPart port))
      (authUi U P) b H (port.map natToStr) := by
  have r := reads_printed U P H b port hf.noAt (fun _ => hf.closed)
    (fun hb => ⟨(hf.bare hb).1, hf.closed⟩)
  have e : (b || H.contains ':') = b := by
    cases b with
    | true => rfl
    | false => simpa using (hf.bare rfl).2
  rwa [e] at r

theorem HostFacts.netlocOk {b : Bool} {H : Str} (hf : HostFacts b H) (U P : Str) (port : Option Nat)
    (hU : '[' ∉ U ∧ ']' ∉ U) (hP : '[' ∉ P ∧ ']' ∉ P) :
    netlocOk (authPart U P ++ (hostPartB b H ++ portPart port)) = true := by
  have hu : ∀ u, authUi U P = some u → '[' ∉ u ∧ ']' ∉ u := fun u e =>
    ⟨authUi_not_mem (by decide) hU.1 hP.1 e, authUi_not_mem (by decide) hU.2 hP.2 e⟩
  rcases Bool.eq_false_or_eq_true b with hb | hb
  · rw [(hf.reads U P port).netlocOk_bracketed hb fun u e => (hu u e).1]
    exact hf.ok hb
  · refine (hf.reads U P port).netlocOk_plain hb hu hf.closed fun p e => ?_
    cases port with
    | none => cases e
    | some n => cases e; exact not_mem_natToStr (by decide) n

/-- **what `canonicalize_url` prints**: `scheme://netloc path ?query #fragment`, whatever
`uses_netloc` says about the scheme (the `//` of an empty authority is put back) -/
theorem printSplit_normal (s : Split) (hs : s.scheme ≠ [])
    (hpa : s.path = [] ∨ ∃ q, s.path = '/' :: q) (hp2 : startsWith s.path ['/', '/'] = false) :
    printSplit s = s.scheme ++ ':' :: '/' :: '/' :: (s.netloc ++ (s.path ++
      (queryPart s.query ++ fragPart (s.fragment.getD [])))) := by
  obtain ⟨scheme, netloc, path, query, fragment⟩ := s
  simp only at hs hpa hp2 ⊢
  have hT : ∀ c, (queryPart query ++ fragPart (fragment.getD [])).head? = some c → c ≠ '/' :=
    fun c hc' => by rcases tail_head _ _ c hc' with rfl | rfl <;> decide
  unfold printSplit
  simp only
  rw [urlunsplit_eq_urlunsplit20, urlunsplit20_eq]
  simp only
  generalize queryPart query ++ fragPart (fragment.getD []) = T at hT ⊢
  have hsp : schemePart scheme = scheme ++ [':'] := by simp [schemePart, hs]
  rw [hsp]
  by_cases hc : (decide (netloc ≠ []) || (decide (scheme ≠ []) && inTable usesNetloc20 scheme &&
      !startsWith path ['/', '/'])) = true
  · rw [bodyOf_true _ _ _ hc hpa]
    have e1 : scheme ++ [':'] ++ ('/' :: '/' :: (netloc ++ path) ++ T) =
        scheme ++ (':' :: '/' :: '/' :: (netloc ++ (path ++ T))) := by simp
    rw [e1]
    have hsw : startsWith (scheme ++ (':' :: '/' :: '/' :: (netloc ++ (path ++ T))))
        (scheme ++ [':', '/', '/']) = true := by
      rw [startsWith_append_left]
      simp [startsWith_cons_cons, startsWith_nil]
    rw [if_neg (fun hh => hh.2.2 hsw)]
  · rw [bodyOf_false _ _ _ hc]
    have hn : netloc = [] := by
      simp only [Bool.or_eq_true, decide_eq_true_eq, not_or] at hc
      exact Classical.not_not.1 hc.1
    have e1 : scheme ++ [':'] ++ (path ++ T) = scheme ++ (':' :: (path ++ T)) := by simp
    have hsw : startsWith (scheme ++ [':'] ++ (path ++ T)) (scheme ++ [':', '/', '/']) = false := by
      rw [e1, startsWith_append_left, startsWith_cons_cons]
      simp [startsWith2_append path T hp2 hT]
    have hcond : ¬ scheme.isEmpty = true ∧ netloc.isEmpty = true ∧
        ¬ startsWith (scheme ++ [':'] ++ (path ++ T)) (scheme ++ [':', '/', '/']) = true :=
      ⟨by simpa using hs, by simp [hn], by rw [hsw]; simp⟩
    rw [if_pos hcond, hn]
    have e2 : (scheme ++ [':'] ++ (path ++ T)).drop (scheme.length + 1) = path ++ T := by
      have : (scheme ++ [':']).length = scheme.length + 1 := by simp
      rw [← this, List.drop_left]
    rw [e2]
    simp

/-- with a non-empty netloc the patched serialisation is plain `urlunsplit` -/
theorem printSplit_of_netloc (s : Split) (hn : s.netloc ≠ []) : printSplit s = urlunsplit s := by
  unfold printSplit
  simp only
  rw [if_neg]
  intro hh
  exact hn (by simpa using hh.2.1)

end Ural.CanonRoundTrip
