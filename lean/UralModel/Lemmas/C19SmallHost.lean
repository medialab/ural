import UralModel.Model.Twitter
import UralModel.Model.Telegram
import UralModel.Lemmas.C19Small
import UralModel.Lemmas.Sites
import UralModel.Lemmas.SitesUrl
import UralModel.Lemmas.Split
import UralModel.Lemmas.StrSplit
import UralModel.Lemmas.YoutubeUrl
import UralModel.Lemmas.RouteOutcome
/-!
# Bridge between the `small` part of C19 and the whole-label membership of C18

`is_twitter_url` / `is_instagram_url` / `is_telegram_url` of `Model/C19SmallUtil.lean`
(`hostMatches r url` = `searchB r` of `get_hostname url`) are the same functions as the site
predicates of `Model/Sites.lean` (C18), on their own regenerated copy of the pattern; the hostname the
`urlsplit` model hands over contains no newline, so the `$` of the patterns means "end of the hostname".
Also what the routings are handed (`SplitPath`), the loop of `parse_twitter_url`, and what the routings of
twitter and telegram build a record from (`Built`), in the namespaces of `Props/C19/Small.lean`, whose
theorems they serve.
-/
namespace Ural.C19Small
open Ural Ural.Py Ural.Py.Re Ural.Sites Ural.C19

/-! ## the path segments the routes read -/

/-- a path segment as the routes of the three parsers see it: no `/` (it is a piece of
`split("/")`) and no newline (`urlsplit` removed them) -/
def Seg (s : Str) : Prop := '\n' ∉ s ∧ '/' ∉ s

/-- **the segments `pathsplit(safe_urlsplit(url).path)` are `Seg`s** -/
theorem pathsplit_segs (url : Str) (sr : SplitResult) (h : safe_urlsplit url = some sr) :
    ∀ seg ∈ pathsplit sr.path, Seg seg := by
  intro seg hs
  obtain ⟨hslash, hsub⟩ := pathsplit_mem sr.path seg hs
  refine ⟨fun hm => ?_, hslash⟩
  have := (safe_urlsplit_path_chars url sr h '\n' (hsub _ hm)).2.2
  revert this; decide

theorem Seg.lower {s : Str} (h : Seg s) : Seg (lower s) := by
  refine ⟨fun hm => h.1 ((mem_lower_of_not_letter (by decide) (by decide)).1 hm), fun hm => h.2 ?_⟩
  simp only [Py.lower, List.mem_map] at hm
  obtain ⟨d, hd, e⟩ := hm
  have : d = '/' := lowerChar_eq_of_not_lower (by decide) e
  rw [← this]; exact hd

theorem Seg.drop {s : Str} (h : Seg s) (n : Nat) : Seg (s.drop n) :=
  ⟨fun hm => h.1 (List.mem_of_mem_drop hm), fun hm => h.2 (List.mem_of_mem_drop hm)⟩

/-- what every routing function of the three parsers is handed: `pathsplit(safe_urlsplit(url).path)` -/
structure SplitPath (path : List Str) : Prop where
  seg : ∀ s ∈ path, Seg s
  ends : Ends path

theorem splitPath (url : Str) (sr : SplitResult) (h : safe_urlsplit url = some sr) :
    SplitPath (pathsplit sr.path) := ⟨pathsplit_segs url sr h, pathsplit_ends _⟩

theorem get_hostname_eq (url : Str) : get_hostname url = Sites.get_hostname url := by
  unfold get_hostname Sites.get_hostname parts
  cases safe_urlsplit url with
  | none => rfl
  | some sr =>
    simp only [Option.map_some, partsOf, Sites.hostnameOf, get_hostname_o]
    split <;> simp [*]

/-- **the hostname handed to the site patterns contains no newline** -/
theorem get_hostname_no_nl (url h : Str) (hh : get_hostname url = some h) : '\n' ∉ h :=
  Sites.get_hostname_no_nl (get_hostname_eq url ▸ hh)

/-- **`hostMatches` is whole-label membership of the parsed hostname**, for every pattern /
family pair tied by C18's decidable check `SiteTableOK` -/
theorem hostMatches_site_iff {r : Re} {P : List DomPat} (hok : SiteTableOK r P = true) (url : Str) :
    hostMatches r url = true ↔
      ∃ h, get_hostname url = some h ∧ ∃ p ∈ P, UnderPattern p (lower h) := by
  rw [get_hostname_eq, ← site_url_spec hok url, hostMatches, get_hostname_eq]
  cases Sites.get_hostname url <;> simp only [hostSearch, searchB_eq_pySearch]

end Ural.C19Small

namespace Ural.Props.C19.Twitter
open Ural Ural.Py Ural.C19 Ural.C19Small Ural.Twitter

theorem runSteps_error (step : Str → Except Err Step) (limit : Nat) (url : Str) (e : Err)
    (hs : step url = .error e) : runSteps step limit url = .error e := by
  cases limit <;> simp only [runSteps, hs]

theorem runSteps_done (step : Str → Except Err Step) (limit : Nat) (url : Str) (r : Option Record)
    (hs : step url = .ok (.done r)) : runSteps step limit url = .ok r := by
  cases limit <;> simp only [runSteps, hs]

theorem runSteps_reroute_zero (step : Str → Except Err Step) (url u' : Str)
    (hs : step url = .ok (.reroute u')) : runSteps step 0 url = .error .nonTermination := by
  simp only [runSteps, hs]

theorem runSteps_reroute_succ (step : Str → Except Err Step) (n : Nat) (url u' : Str)
    (hs : step url = .ok (.reroute u')) : runSteps step (n + 1) url = runSteps step n u' := by
  simp only [runSteps, hs]

theorem runSteps_result (step : Str → Except Err Step) (P : Record → Prop)
    (hP : ∀ u rec, step u = .ok (.done (some rec)) → P rec)
    (limit : Nat) (url : Str) (rec : Record) (h : runSteps step limit url = .ok (some rec)) : P rec := by
  induction limit generalizing url with
  | zero =>
    cases hs : step url with
    | error e => rw [runSteps_error step _ url e hs] at h; cases h
    | ok s =>
      cases s with
      | done r => rw [runSteps_done step _ url r hs] at h; exact hP url rec (Except.ok.inj h ▸ hs)
      | reroute u' => rw [runSteps_reroute_zero step url u' hs] at h; cases h
  | succ n ih =>
    cases hs : step url with
    | error e => rw [runSteps_error step _ url e hs] at h; cases h
    | ok s =>
      cases s with
      | done r => rw [runSteps_done step _ url r hs] at h; exact hP url rec (Except.ok.inj h ▸ hs)
      | reroute u' => rw [runSteps_reroute_succ step n url u' hs] at h; exact ih u' h

def Built (path : List Str) : Record → Prop
  | .tweet n i => (∃ p0, path.head? = some p0 ∧ normalize_screen_name p0 = some n) ∧ path.getLast? = some i
  | .user n => ∃ p0, path.head? = some p0 ∧ normalize_screen_name p0 = some n
  | .list i => path.getLast? = some i

/-- the three positional accesses of the `/i/lists/<id>` branch are dominated by `len(path) == 3` -/
theorem listRoute_yields (path : List Str) : Yields (Built path) (listRoute path) := by
  unfold listRoute
  refine .ite (fun h3 => ?_) fun _ => .none
  match path, h3 with
  | [a, b, c], _ =>
    simp only [getIdx, List.getElem?_cons_zero, List.getElem?_cons_succ, bind, Except.bind]
    exact .ite (fun _ => .ite (fun _ => .some (rfl : [a, b, c].getLast? = some c)) fun _ => .none) fun _ => .none

theorem normalize_screen_name_some (u n : Str) (h : normalize_screen_name u = some n) :
    ∃ v, (v = u ∨ v = u.drop 1) ∧ v ≠ [] ∧ n = lower v := by
  unfold normalize_screen_name at h
  split at h
  · cases h
  · simp only [] at h
    have hv : (if startsWith u ['@'] = true then List.drop 1 u else u) = u ∨
        (if startsWith u ['@'] = true then List.drop 1 u else u) = u.drop 1 := by split <;> simp
    generalize (if startsWith u ['@'] = true then List.drop 1 u else u) = v at h hv
    split at h
    · cases h
    · exact ⟨v, hv, ‹_›, (Option.some.inj h).symm⟩

theorem normalize_screen_name_seg (u n : Str) (hu : Seg u) (h : normalize_screen_name u = some n) : Seg n := by
  obtain ⟨v, hv | hv, _, rfl⟩ := normalize_screen_name_some u n h <;> subst hv
  · exact hu.lower
  · exact (hu.drop 1).lower

/-- the loop has one answer, whatever the budget of re-entries from `μ url` on -/
theorem runSteps_stable (step : Str → Except Err Step) (μ : Str → Nat)
    (htot : ∀ u, ∃ s, step u = .ok s)
    (hdec : ∀ u u', step u = .ok (.reroute u') → μ u' + 1 ≤ μ u) (url : Str) :
    ∃ r, ∀ limit, μ url ≤ limit → runSteps step limit url = .ok r := by
  induction hn : μ url using Nat.strongRecOn generalizing url with
  | _ n ih =>
    obtain ⟨s, hs⟩ := htot url
    cases s with
    | done r => exact ⟨r, fun l _ => runSteps_done step l url r hs⟩
    | reroute u' =>
      have hc := hdec url u' hs
      obtain ⟨r, hr⟩ := ih (μ u') (by omega) u' rfl
      refine ⟨r, fun l hl => ?_⟩
      cases l with
      | zero => omega
      | succ m => rw [runSteps_reroute_succ step m url u' hs]; exact hr m (by omega)

end Ural.Props.C19.Twitter

namespace Ural.Props.C19.Telegram
open Ural Ural.Py Ural.Py.Re Ural.C19 Ural.C19Small Ural.Telegram

/-- a message built from the segments: its id is the last one and has been validated; its name is either
tested (`and path[1]`: `t.me/s//123` is no message) or the first segment -/
structure MessageBuilt (path : List Str) (n i : Str) : Prop where
  mem : n ∈ path
  last : path.getLast? = some i
  valid : is_telegram_message_id i = true
  name : n ≠ [] ∨ path.head? = some n

def Built (path : List Str) : Record → Prop
  | .message n i => MessageBuilt path n i
  | .group i => path.getLast? = some i
  | .channel n => path.getLast? = some n

/-- the `/s/…` routes: `path[1]` is read after `len(path) < 2` has been excluded (`t.me/s` has one
segment), `path[2]` after `len(path) == 3` -/
theorem sRoute_yields (path : List Str) : Yields (Built path) (sRoute path) := by
  unfold sRoute
  split
  · exact .none
  · rename_i h
    match path, h with
    | [], h => exact absurd (by simp) h
    | [a], h => exact absurd (by simp) h
    | [a, b], _ =>
      simp only [getIdx, List.getElem?_cons_zero, List.getElem?_cons_succ, bind, Except.bind,
        List.length_cons, List.length_nil]
      by_cases hj : b = "joinchat".toList
      · rw [if_pos hj]; exact .none
      · rw [if_neg hj]; exact Yields.some (rec := Record.channel b) rfl
    | [a, b, c], _ =>
      simp only [getIdx, List.getElem?_cons_zero, List.getElem?_cons_succ, bind, Except.bind,
        List.length_cons, List.length_nil]
      by_cases hj : b = "joinchat".toList
      · rw [if_pos hj]; exact Yields.some (rec := Record.group c) rfl
      · rw [if_neg hj]
        simp only [Nat.zero_add, Nat.reduceAdd, if_true]
        by_cases hb : b ≠ []
        · rw [if_pos hb]
          by_cases hid : is_telegram_message_id c = true
          · rw [if_pos hid]; exact Yields.some (rec := Record.message b c) ⟨by simp, rfl, hid, Or.inl hb⟩
          · rw [if_neg hid]; exact .none
        · rw [if_neg hb]; exact .none
    | a :: b :: c :: d :: rest, _ =>
      have h3 : ¬ rest.length + 1 + 1 + 1 + 1 = 3 := by omega
      have h2 : ¬ rest.length + 1 + 1 + 1 + 1 = 2 := by omega
      simp only [getIdx, List.getElem?_cons_zero, List.getElem?_cons_succ, bind, Except.bind,
        List.length_cons, h3, h2, if_false, ite_self]
      exact .none

theorem plainRoute_yields (path : List Str) (hne : path ≠ []) : Yields (Built path) (plainRoute path) := by
  match path, hne with
  | [a], _ =>
    simp only [plainRoute, getIdx, List.getElem?_cons_zero, bind, Except.bind, List.length_cons,
      List.length_nil]
    by_cases hj : a = "joinchat".toList
    · rw [if_pos hj]; exact .none
    · rw [if_neg hj]; exact Yields.some (rec := Record.channel a) rfl
  | [a, b], _ =>
    simp only [plainRoute, getIdx, List.getElem?_cons_zero, List.getElem?_cons_succ, bind, Except.bind,
      List.length_cons, List.length_nil]
    by_cases hj : a = "joinchat".toList
    · rw [if_pos hj]; exact Yields.some (rec := Record.group b) rfl
    · rw [if_neg hj]
      simp only [Nat.zero_add, Nat.reduceAdd, if_true]
      by_cases hid : is_telegram_message_id b = true
      · rw [if_pos hid]; exact Yields.some (rec := Record.message a b) ⟨by simp, rfl, hid, Or.inr rfl⟩
      · rw [if_neg hid]; exact .none
  | [a, b, c], _ =>
    simp only [plainRoute, getIdx, List.getElem?_cons_zero, List.getElem?_cons_succ, bind, Except.bind,
      List.length_cons, List.length_nil]
    by_cases hj : a = "joinchat".toList
    · rw [if_pos hj]; exact Yields.some (rec := Record.group c) rfl
    · rw [if_neg hj]; exact .none
  | a :: b :: c :: d :: rest, _ =>
    have h3 : ¬ rest.length + 1 + 1 + 1 + 1 = 3 := by omega
    have h2 : ¬ rest.length + 1 + 1 + 1 + 1 = 2 := by omega
    have h1 : ¬ rest.length + 1 + 1 + 1 + 1 = 1 := by omega
    simp only [plainRoute, getIdx, List.getElem?_cons_zero, bind, Except.bind, List.length_cons, h3, h2,
      h1, if_false, ite_self]
    exact .none

theorem telegramRoute_yields (path : List Str) : Yields (Built path) (telegramRoute path) := by
  unfold telegramRoute
  split
  · rename_i hne
    cases path with
    | nil => exact absurd rfl hne
    | cons p0 rest =>
      simp only [getIdx, List.getElem?_cons_zero, bind, Except.bind]
      split
      · exact sRoute_yields _
      · exact plainRoute_yields _ (by simp)
  · exact .none

theorem readsSplit : ReadsSplit parse_telegram_url fun sr => telegramRoute (pathsplit sr.path) := by
  intro url
  unfold parse_telegram_url
  split
  · exact .inl rfl
  · split
    · exact .inl rfl
    · exact .inr ⟨_, ‹_›, rfl⟩

end Ural.Props.C19.Telegram
