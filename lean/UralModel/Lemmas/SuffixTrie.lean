import UralModel.Model.SuffixTrie
import UralModel.Lemmas.PslSubdomain
/-!
# Lemmas relating the suffix trie (`Model/SuffixTrie.lean`) to the rule-list specification
(`Model/PslSpec.lean`)

Route: never induct on the nested trie, only on label lists.

* `atP P t ls`       — `P` holds at the node reached by the exact label path `ls`;
* `atP_leaf_add`, `atP_exc_add`, `…_build` — what `add` / `build` store, in terms of `parseRule`;
* `frontier star N h k` — the list `nodes` of `__walk` after `k` labels of `h`, started at `N`;
* `frontier_iff`     — a node of the frontier satisfies `P` iff some label path of length `k`
                        matching `h` leads to a node satisfying `P`;
* `loop_best`        — `loop` returns the greatest depth at which the frontier holds a leaf /
                        a node excepting the current label (incl. the early `break`);
* `walkLen_build`    — `walkLen (build raws) h = pslLen (raws.map parseRule) h`.
-/
set_option linter.unusedSectionVars false

namespace Ural.SNode
open Ural.Psl

variable {κ : Type} [DecidableEq κ]

/-! ## what is stored where -/

/-- `P` holds at the node reached from `t` by the exact label path `ls` -/
def atP (P : SNode κ → Bool) : SNode κ → List κ → Bool
  | t, [] => P t
  | .mk _ _ ks, l :: ls =>
    match child ks l with
    | some c => atP P c ls
    | none => false

/-- "`e` is in the node's exception set" -/
def hasExc (e : κ) (n : SNode κ) : Bool := n.exceptions.contains e

theorem atP_empty_cons (P : SNode κ → Bool) (l : κ) (ls : List κ) :
    atP P (empty : SNode κ) (l :: ls) = false := by
  simp [atP, empty]

theorem atP_leaf_empty (ls : List κ) : atP leaf (empty : SNode κ) ls = false := by
  cases ls <;> simp [atP, empty, leaf]

theorem atP_exc_empty (e : κ) (ls : List κ) : atP (hasExc e) (empty : SNode κ) ls = false := by
  cases ls <;> simp [atP, empty, hasExc, exceptions]

theorem parseRule_cons_some {exc : κ → Option κ} {a e : κ} (as : List κ) (h : exc a = some e) :
    parseRule exc (a :: as) = .exception [] e := by
  simp [parseRule, h]

theorem parseRule_cons_none_normal {exc : κ → Option κ} {a : κ} (as ys : List κ)
    (h : exc a = none) :
    parseRule exc (a :: as) = .normal ys ↔ ∃ x, ys = a :: x ∧ parseRule exc as = .normal x := by
  simp only [parseRule, h]
  cases parseRule exc as with
  | normal x =>
    simp only [Rule.normal.injEq]
    constructor
    · intro e; exact ⟨x, e.symm, rfl⟩
    · rintro ⟨x', e1, e2⟩; subst e2; exact e1.symm
  | exception par e => simp

theorem parseRule_cons_none_exception {exc : κ → Option κ} {a : κ} (as ys : List κ) (e : κ)
    (h : exc a = none) :
    parseRule exc (a :: as) = .exception ys e ↔
      ∃ x, ys = a :: x ∧ parseRule exc as = .exception x e := by
  simp only [parseRule, h]
  cases parseRule exc as with
  | normal x => simp
  | exception par e' =>
    simp only [Rule.exception.injEq]
    constructor
    · rintro ⟨e1, e2⟩; exact ⟨par, e1.symm, rfl, e2⟩
    · rintro ⟨x', e1, e2, e3⟩; subst e2; exact ⟨e1.symm, e3⟩

/-- after `add`, the label path `ls` ends on a leaf iff it did before or the added line is
the normal rule `ls` -/
theorem atP_leaf_add (exc : κ → Option κ) (t : SNode κ) (r ls : List κ) :
    atP leaf (add exc t r) ls = (atP leaf t ls || decide (parseRule exc r = .normal ls)) := by
  induction r generalizing t ls with
  | nil =>
    obtain ⟨b, ex, ks⟩ := t
    cases ls <;> simp [add, atP, leaf, parseRule]
  | cons a as ih =>
    obtain ⟨b, ex, ks⟩ := t
    cases hx : exc a with
    | some e =>
      rw [parseRule_cons_some as hx]
      cases ls <;> simp [add, hx, atP, leaf]
    | none =>
      cases ls with
      | nil =>
        have : ¬ parseRule exc (a :: as) = .normal [] := by
          rw [parseRule_cons_none_normal as [] hx]; simp
        simp [add, hx, atP, leaf, this]
      | cons u us =>
        by_cases hu : u = a
        · subst hu
          have hp : (parseRule exc (u :: as) = .normal (u :: us)) ↔
              parseRule exc as = .normal us := by
            rw [parseRule_cons_none_normal as _ hx]; simp
          simp only [add, hx, atP, child_setChild_same, ih, hp]
          cases hc : child ks u <;> simp [atP_leaf_empty]
        · have hp : ¬ parseRule exc (a :: as) = .normal (u :: us) := by
            rw [parseRule_cons_none_normal as _ hx]
            rintro ⟨x, e, _⟩
            simp only [List.cons.injEq] at e
            exact hu e.1
          simp [add, hx, atP, child_setChild_other _ _ _ _ hu, hp]

/-- after `add`, the node at label path `ls` excepts `e` iff it did before or the added line
is the exception rule `!e.ls` -/
theorem atP_exc_add (exc : κ → Option κ) (e : κ) (t : SNode κ) (r ls : List κ) :
    atP (hasExc e) (add exc t r) ls =
      (atP (hasExc e) t ls || decide (parseRule exc r = .exception ls e)) := by
  induction r generalizing t ls with
  | nil =>
    obtain ⟨b, ex, ks⟩ := t
    cases ls <;> simp [add, atP, hasExc, exceptions, parseRule]
  | cons a as ih =>
    obtain ⟨b, ex, ks⟩ := t
    cases hx : exc a with
    | some e' =>
      rw [parseRule_cons_some as hx]
      cases ls with
      | nil =>
        by_cases hm : e' ∈ ex
        · by_cases he : e' = e
          · subst he; simp [add, hx, atP, hasExc, exceptions, hm]
          · simp [add, hx, atP, hasExc, exceptions, hm, he]
        · by_cases he : e' = e
          · subst he; simp [add, hx, atP, hasExc, exceptions, hm]
          · have he' : ¬ e = e' := fun h => he h.symm
            simp [add, hx, atP, hasExc, exceptions, hm, he, he']
      | cons u us => simp [add, hx, atP]
    | none =>
      cases ls with
      | nil =>
        have : ¬ parseRule exc (a :: as) = .exception [] e := by
          rw [parseRule_cons_none_exception as [] e hx]; simp
        simp [add, hx, atP, hasExc, exceptions, this]
      | cons u us =>
        by_cases hu : u = a
        · subst hu
          have hp : (parseRule exc (u :: as) = .exception (u :: us) e) ↔
              parseRule exc as = .exception us e := by
            rw [parseRule_cons_none_exception as _ e hx]; simp
          simp only [add, hx, atP, child_setChild_same, ih, hp]
          cases hc : child ks u <;> simp [atP_exc_empty]
        · have hp : ¬ parseRule exc (a :: as) = .exception (u :: us) e := by
            rw [parseRule_cons_none_exception as _ e hx]
            rintro ⟨x, e1, _⟩
            simp only [List.cons.injEq] at e1
            exact hu e1.1
          simp [add, hx, atP, child_setChild_other _ _ _ _ hu, hp]

theorem atP_leaf_foldl (exc : κ → Option κ) (raws : List (List κ)) (t : SNode κ) (ls : List κ) :
    atP leaf (raws.foldl (add exc) t) ls =
      (atP leaf t ls || decide (∃ r ∈ raws, parseRule exc r = .normal ls)) := by
  induction raws generalizing t with
  | nil => simp
  | cons r rs ih =>
    simp only [List.foldl_cons, ih, atP_leaf_add, List.mem_cons, exists_eq_or_imp,
      Bool.decide_or, Bool.or_assoc]

theorem atP_exc_foldl (exc : κ → Option κ) (e : κ) (raws : List (List κ)) (t : SNode κ)
    (ls : List κ) :
    atP (hasExc e) (raws.foldl (add exc) t) ls =
      (atP (hasExc e) t ls || decide (∃ r ∈ raws, parseRule exc r = .exception ls e)) := by
  induction raws generalizing t with
  | nil => simp
  | cons r rs ih =>
    simp only [List.foldl_cons, ih, atP_exc_add, List.mem_cons, exists_eq_or_imp,
      Bool.decide_or, Bool.or_assoc]

/-- in the trie built from a list of lines, the label path `ls` ends on a leaf iff some line
is the normal rule `ls` -/
theorem atP_leaf_build (exc : κ → Option κ) (raws : List (List κ)) (ls : List κ) :
    atP leaf (build exc raws) ls = true ↔ .normal ls ∈ raws.map (parseRule exc) := by
  simp [build, atP_leaf_foldl, atP_leaf_empty]

/-- in the trie built from a list of lines, the node at `ls` excepts `e` iff some line is the
exception rule `!e.ls` -/
theorem atP_exc_build (exc : κ → Option κ) (e : κ) (raws : List (List κ)) (ls : List κ) :
    atP (hasExc e) (build exc raws) ls = true ↔ .exception ls e ∈ raws.map (parseRule exc) := by
  simp [build, atP_exc_foldl, atP_exc_empty]


/-! ## the frontier of the walk -/

/-- the children of `n` appended to `next_nodes` for the host label `p`: the explicit child,
then the `*` child -/
def kidsOf (star p : κ) (n : SNode κ) : List (SNode κ) :=
  (child n.kids p).toList ++ (child n.kids star).toList

/-- the list `nodes` of `__walk` after `k` more labels of `h`, starting from `N` (without the
early `break`, which only skips iterations over an empty list) -/
def frontier (star : κ) : List (SNode κ) → List κ → Nat → List (SNode κ)
  | N, _, 0 => N
  | _, [], _ + 1 => []
  | N, p :: rest, k + 1 => frontier star (N.flatMap (kidsOf star p)) rest k

theorem frontier_nil (star : κ) (h : List κ) (k : Nat) :
    frontier star ([] : List (SNode κ)) h k = [] := by
  induction k generalizing h with
  | zero => simp [frontier]
  | succ k ih => cases h <;> simp [frontier, ih]

theorem frontier_append (star : κ) (A B : List (SNode κ)) (h : List κ) (k : Nat) :
    frontier star (A ++ B) h k = frontier star A h k ++ frontier star B h k := by
  induction k generalizing A B h with
  | zero => simp [frontier]
  | succ k ih => cases h <;> simp [frontier, ih, List.flatMap_append]

theorem mem_frontier (star : κ) (N : List (SNode κ)) (h : List κ) (k : Nat) (n : SNode κ) :
    n ∈ frontier star N h k ↔ ∃ m ∈ N, n ∈ frontier star [m] h k := by
  induction N with
  | nil => simp [frontier_nil]
  | cons m ms ih =>
    have : m :: ms = [m] ++ ms := rfl
    rw [this, frontier_append, List.mem_append, ih]
    simp

theorem mem_kidsOf (star p : κ) (n c : SNode κ) :
    c ∈ kidsOf star p n ↔ child n.kids p = some c ∨ child n.kids star = some c := by
  simp [kidsOf, Option.mem_toList]

/-- a node of the frontier after `k` labels satisfies `P` iff some label path of length `k`
that matches the host leads from `t` to a node satisfying `P` -/
theorem frontier_iff (star : κ) (P : SNode κ → Bool) (t : SNode κ) (h : List κ) (k : Nat) :
    (∃ n ∈ frontier star [t] h k, P n = true) ↔
      ∃ ls : List κ, ls.length = k ∧ pmatch star ls h = true ∧ atP P t ls = true := by
  induction k generalizing t h with
  | zero =>
    simp only [frontier, List.mem_singleton, exists_eq_left]
    constructor
    · intro hp; exact ⟨[], rfl, by simp [pmatch], by simpa [atP] using hp⟩
    · rintro ⟨ls, hlen, _, hs⟩
      have : ls = [] := List.eq_nil_of_length_eq_zero hlen
      subst this; simpa [atP] using hs
  | succ k ih =>
    cases h with
    | nil =>
      simp only [frontier, List.not_mem_nil, false_and, exists_false, false_iff]
      rintro ⟨ls, hlen, hm, _⟩
      cases ls with
      | nil => simp at hlen
      | cons q qs => simp [pmatch] at hm
    | cons p rest =>
      have hf : frontier star [t] (p :: rest) (k + 1) = frontier star (kidsOf star p t) rest k := by
        simp [frontier]
      rw [hf]
      constructor
      · rintro ⟨n, hn, hP⟩
        rw [mem_frontier] at hn
        obtain ⟨c, hc, hn⟩ := hn
        obtain ⟨ls, hlen, hm, hs⟩ := (ih c rest).1 ⟨n, hn, hP⟩
        obtain ⟨b, ex, ks⟩ := t
        rw [mem_kidsOf] at hc
        simp only [kids] at hc
        rcases hc with hc | hc
        · exact ⟨p :: ls, by simp [hlen], by simp [pmatch, hm], by simp [atP, hc, hs]⟩
        · exact ⟨star :: ls, by simp [hlen], by simp [pmatch, hm], by simp [atP, hc, hs]⟩
      · rintro ⟨ls, hlen, hm, hs⟩
        cases ls with
        | nil => simp at hlen
        | cons q qs =>
          obtain ⟨b, ex, ks⟩ := t
          simp only [pmatch, Bool.and_eq_true, Bool.or_eq_true, decide_eq_true_eq] at hm
          simp only [List.length_cons, Nat.add_right_cancel_iff] at hlen
          simp only [atP] at hs
          cases hc : child ks q with
          | none => simp [hc] at hs
          | some c =>
            simp only [hc] at hs
            obtain ⟨n, hn, hP⟩ := (ih c rest).2 ⟨qs, hlen, hm.2, hs⟩
            refine ⟨n, ?_, hP⟩
            rw [mem_frontier]
            refine ⟨c, ?_, hn⟩
            rw [mem_kidsOf]
            simp only [kids]
            rcases hm.1 with hq | hq
            · subst hq; left; exact hc
            · subst hq; right; exact hc

/-! ## the loop -/

/-- `if b then max x d else x` -/
def bump (b : Bool) (x d : Nat) : Nat := if b then max x d else x

theorem bump_bump (b c : Bool) (x d : Nat) : bump b (bump c x d) d = bump (c || b) x d := by
  cases b <;> cases c <;> simp [bump, Nat.max_assoc]

theorem visitKey_eq (depth : Nat) (node : SNode κ) (acc : Acc κ) (key : κ) :
    visitKey depth node acc key =
      ⟨acc.next ++ (child node.kids key).toList,
       bump ((child node.kids key).toList.any leaf) acc.sl depth, acc.el⟩ := by
  unfold visitKey
  cases child node.kids key <;> simp [bump]

theorem visitNode_eq (star part : κ) (depth : Nat) (acc : Acc κ) (node : SNode κ) :
    visitNode star part depth acc node =
      ⟨acc.next ++ kidsOf star part node,
       bump ((kidsOf star part node).any leaf) acc.sl depth,
       bump (hasExc part node) acc.el depth⟩ := by
  simp only [visitNode, List.foldl_cons, List.foldl_nil, visitKey_eq, bump_bump, kidsOf,
    List.append_assoc, List.any_append]
  by_cases h : part ∈ node.exceptions <;> simp [h, bump, hasExc]

theorem foldl_visitNode (star part : κ) (depth : Nat) (nodes : List (SNode κ)) (acc : Acc κ) :
    nodes.foldl (visitNode star part depth) acc =
      ⟨acc.next ++ nodes.flatMap (kidsOf star part),
       bump ((nodes.flatMap (kidsOf star part)).any leaf) acc.sl depth,
       bump (nodes.any (hasExc part)) acc.el depth⟩ := by
  induction nodes generalizing acc with
  | nil => simp [bump]
  | cons n ns ih =>
    simp only [List.foldl_cons, ih, visitNode_eq, bump_bump, List.flatMap_cons, List.any_append,
      List.any_cons, List.append_assoc]

/-- `r` is `x` raised to the greatest `d + j` such that the event `Ev j` happens -/
def Best (x d : Nat) (Ev : Nat → Prop) (r : Nat) : Prop :=
  x ≤ r ∧ (r = x ∨ ∃ j, r = d + j ∧ Ev j) ∧ ∀ j, Ev j → d + j ≤ r

theorem best_step {x d : Nat} {Ev : Nat → Prop} {b : Bool} {r : Nat} (h0 : b = true ↔ Ev 0)
    (hr : Best (bump b x d) (d + 1) (fun j => Ev (j + 1)) r) : Best x d Ev r := by
  obtain ⟨h1, h2, h3⟩ := hr
  have hx : x ≤ bump b x d := by cases b <;> simp [bump]; omega
  refine ⟨Nat.le_trans hx h1, ?_, ?_⟩
  · rcases h2 with h2 | ⟨j, hj, hev⟩
    · cases b with
      | false => left; simpa [bump] using h2
      | true =>
        by_cases hdx : d ≤ x
        · left; rw [h2]; simp [bump]; omega
        · right; exact ⟨0, by rw [h2]; simp [bump]; omega, h0.1 rfl⟩
    · right; exact ⟨j + 1, by omega, hev⟩
  · intro j hj
    cases j with
    | zero =>
      have : b = true := h0.2 hj
      subst this
      have : d ≤ bump true x d := by simp [bump]; omega
      omega
    | succ j => have := h3 j hj; omega

theorem best_stop {x d : Nat} {Ev : Nat → Prop} {b : Bool} (h0 : b = true ↔ Ev 0)
    (hn : ∀ j, ¬ Ev (j + 1)) : Best x d Ev (bump b x d) :=
  best_step h0 ⟨Nat.le_refl _, Or.inl rfl, fun j hj => absurd hj (hn j)⟩

theorem Best.congr {x d r : Nat} {Ev Ev' : Nat → Prop} (h : ∀ j, Ev j ↔ Ev' j)
    (hr : Best x d Ev r) : Best x d Ev' r := by
  obtain ⟨h1, h2, h3⟩ := hr
  refine ⟨h1, ?_, fun j hj => h3 j ((h j).2 hj)⟩
  rcases h2 with h2 | ⟨j, hj, hev⟩
  · exact Or.inl h2
  · exact Or.inr ⟨j, hj, (h j).1 hev⟩

theorem Best.isBest {p Ev : Nat → Prop} {r : Nat} (hb : Best 0 1 Ev r)
    (h : ∀ j, Ev j ↔ p (j + 1)) : IsBest p r := by
  obtain ⟨_, a, b⟩ := hb
  refine ⟨?_, fun k hk => ?_⟩
  · rcases a with a | ⟨j, hj, he⟩
    · exact Or.inl a
    · exact Or.inr (by rw [hj, Nat.add_comm]; exact (h j).1 he)
  · cases k with
    | zero => exact Nat.zero_le _
    | succ j => have := b j ((h j).2 hk); omega

/-- event "after `j + 1` labels the frontier holds a leaf" -/
def LeafEv (star : κ) (N : List (SNode κ)) (h : List κ) (j : Nat) : Prop :=
  ∃ n ∈ frontier star N h (j + 1), n.leaf = true

/-- event "after `j` labels the frontier holds a node that excepts the next label" -/
def ExcEv (star : κ) (N : List (SNode κ)) (h : List κ) (j : Nat) : Prop :=
  ∃ p, h[j]? = some p ∧ ∃ n ∈ frontier star N h j, hasExc p n = true

/-- what the loop of `__walk` computes, early `break` included -/
theorem loop_best (star : κ) (h : List κ) (d : Nat) (N : List (SNode κ)) (sl el : Nat) :
    Best sl d (LeafEv star N h) (loop star h d N sl el).1 ∧
    Best el d (ExcEv star N h) (loop star h d N sl el).2 := by
  induction h generalizing d N sl el with
  | nil =>
    simp only [loop]
    refine ⟨⟨Nat.le_refl _, Or.inl rfl, ?_⟩, ⟨Nat.le_refl _, Or.inl rfl, ?_⟩⟩
    · rintro j ⟨n, hn, _⟩; simp [frontier] at hn
    · rintro j ⟨p, hp, _⟩; simp at hp
  | cons p rest ih =>
    have hL0 : ((N.flatMap (kidsOf star p)).any leaf = true) ↔ LeafEv star N (p :: rest) 0 := by
      simp only [LeafEv, frontier, List.any_eq_true]
    have hE0 : (N.any (hasExc p) = true) ↔ ExcEv star N (p :: rest) 0 := by
      simp [ExcEv, frontier]
    have hLs : ∀ j, LeafEv star N (p :: rest) (j + 1) ↔
        LeafEv star (N.flatMap (kidsOf star p)) rest j := by
      intro j; simp [LeafEv, frontier]
    have hEs : ∀ j, ExcEv star N (p :: rest) (j + 1) ↔
        ExcEv star (N.flatMap (kidsOf star p)) rest j := by
      intro j; simp [ExcEv, frontier]
    simp only [loop, foldl_visitNode, List.nil_append]
    by_cases hemp : (N.flatMap (kidsOf star p)).isEmpty = true
    · have hnil : N.flatMap (kidsOf star p) = [] := by simpa using hemp
      simp only [hemp, if_true]
      constructor
      · apply best_stop hL0
        intro j hj
        rw [hLs, hnil] at hj
        obtain ⟨n, hn, _⟩ := hj
        simp [frontier_nil] at hn
      · apply best_stop hE0
        intro j hj
        rw [hEs, hnil] at hj
        obtain ⟨q, _, n, hn, _⟩ := hj
        simp [frontier_nil] at hn
    · simp only [hemp]
      have := ih (d + 1) (N.flatMap (kidsOf star p))
        (bump ((N.flatMap (kidsOf star p)).any leaf) sl d) (bump (N.any (hasExc p)) el d)
      exact ⟨best_step hL0 (this.1.congr fun j => (hLs j).symm),
        best_step hE0 (this.2.congr fun j => (hEs j).symm)⟩

/-! ## trie walk = rule-list specification -/

theorem leafEv_build (star : κ) (exc : κ → Option κ) (raws : List (List κ)) (h : List κ)
    (j : Nat) :
    LeafEv star [build exc raws] h j ↔
      MatchLen star (raws.map (parseRule exc)) (fun r => !r.isException) h (j + 1) := by
  unfold LeafEv
  rw [frontier_iff star leaf, matchLen_normal]
  constructor
  · rintro ⟨ls, h1, h2, h3⟩; exact ⟨ls, (atP_leaf_build exc raws ls).1 h3, h2, h1⟩
  · rintro ⟨ls, h1, h2, h3⟩; exact ⟨ls, h3, h2, (atP_leaf_build exc raws ls).2 h1⟩

theorem excEv_build (star : κ) (exc : κ → Option κ) (raws : List (List κ)) (h : List κ)
    (j : Nat) :
    ExcEv star [build exc raws] h j ↔
      MatchLen star (raws.map (parseRule exc)) Rule.isException h (j + 1) := by
  unfold ExcEv
  rw [matchLen_exception]
  constructor
  · rintro ⟨p, hp, hn⟩
    obtain ⟨ls, h1, h2, h3⟩ := (frontier_iff star (hasExc p) _ h j).1 hn
    refine ⟨ls, p, (atP_exc_build exc p raws ls).1 h3, ?_, by omega⟩
    simp [Rule.matches, h2, h1, List.head?_drop, hp]
  · rintro ⟨par, l, h1, h3, h2⟩
    simp only [Rule.matches, Bool.and_eq_true, beq_iff_eq, List.head?_drop] at h3
    have h2 : par.length = j := by omega
    refine ⟨l, by rw [← h2]; exact h3.2, ?_⟩
    exact (frontier_iff star (hasExc l) _ h j).2 ⟨par, h2, h3.1, (atP_exc_build exc l raws par).2 h1⟩

/-- **The trie walk computes the Public Suffix algorithm**: for every list of rule lines and
every host, walking the trie built by `add` gives the suffix length the rule-list
specification gives. -/
theorem walkLen_build (star : κ) (exc : κ → Option κ) (raws : List (List κ)) (h : List κ) :
    walkLen star (build exc raws) h = pslLen star (raws.map (parseRule exc)) h := by
  obtain ⟨bL, bE⟩ := loop_best star h 1 [build exc raws] 0 0
  -- `walkLen` is by definition `lenOf` of the two components of the loop's result
  show lenOf (loop star h 1 [build exc raws] 0 0).2 (loop star h 1 [build exc raws] 0 0).1 = _
  exact (pslLen_of_isBest (bE.isBest (excEv_build star exc raws h))
    (bL.isBest (leafEv_build star exc raws h))).symm

end Ural.SNode
