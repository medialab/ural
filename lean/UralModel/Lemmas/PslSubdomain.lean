import UralModel.Model.PslSpec
/-!
# The rule-list specification `Psl.pslLen` by itself (no trie)

`pslLen_of_isBest`: `pslLen` is `lenOf e m` for the greatest length `e` of a matching exception
and the greatest length `m` of a matching normal rule (`MatchLen`).  Every proof reads `pslLen`
this way: the trie walk (`SNode.walkLen_build`), the clauses of C08, the bounds, the subdomain
theorem.

`pslLen_subdomain`: a host `h` (labels right-to-left) and a subdomain `h ++ e` of it.  If the
public suffix of the subdomain is **shorter than `h`** (at least one label of `h` lies outside of
it; or the subdomain has no public suffix at all), then `h` has the same public suffix.

Why: a rule with at most `|h|` labels matches `h` iff it matches `h ++ e` (matching goes from the
right); the prevailing rule of `h ++ e` has at most `|h|` labels by hypothesis (an exception
rule has one label more than the suffix it yields), and so has every rule it was compared with.

Without the hypothesis the statement is false, by design of the list: `kawasaki.jp` has the
suffix `jp`, its subdomain `x.kawasaki.jp` is a public suffix itself (`*.kawasaki.jp`).

Used by C13 (`Props/C13Psl.lean`): the suffix-aware LRU of a subdomain extends the LRU of its
parent domain, exception rules (`!city.kawasaki.jp`) included.
-/
namespace Ural.SNode
open Ural.Psl

/-- `m` is the greatest number satisfying `p`, 0 when none does -/
def IsBest (p : Nat → Prop) (m : Nat) : Prop := (m = 0 ∨ p m) ∧ ∀ k, p k → k ≤ m

theorem isBest_unique {p : Nat → Prop} {m m' : Nat} (h : IsBest p m) (h' : IsBest p m') :
    m = m' := by
  have a : m ≤ m' := by
    rcases h.1 with h0 | hp
    · omega
    · exact h'.2 m hp
  have b : m' ≤ m := by
    rcases h'.1 with h0 | hp
    · omega
    · exact h.2 m' hp
  omega

theorem foldl_max_spec (ns : List Nat) (a : Nat) :
    a ≤ ns.foldl max a ∧ (∀ x ∈ ns, x ≤ ns.foldl max a) ∧
      (ns.foldl max a = a ∨ ns.foldl max a ∈ ns) := by
  induction ns generalizing a with
  | nil => simp
  | cons n ns ih =>
    obtain ⟨h1, h2, h3⟩ := ih (max a n)
    simp only [List.foldl_cons, List.mem_cons, forall_eq_or_imp]
    refine ⟨by omega, ⟨by omega, h2⟩, ?_⟩
    rcases h3 with h3 | h3
    · rw [h3]
      by_cases hn : n ≤ a
      · left; omega
      · right; left; omega
    · right; right; exact h3

theorem maxLen_isBest (ns : List Nat) : IsBest (· ∈ ns) (maxLen ns) := by
  obtain ⟨_, h2, h3⟩ := foldl_max_spec ns 0
  exact ⟨h3, h2⟩

theorem IsBest.congr {p p' : Nat → Prop} {m : Nat} (h : ∀ k, p k ↔ p' k) (hb : IsBest p m) :
    IsBest p' m :=
  ⟨hb.1.imp id (h m).1, fun k hk => hb.2 k ((h k).2 hk)⟩

end Ural.SNode

namespace Ural.Psl

open Ural.SNode (IsBest maxLen_isBest isBest_unique)

variable {κ : Type} [DecidableEq κ]

theorem pmatch_le_length (star : κ) (ls h : List κ) (hm : pmatch star ls h = true) :
    ls.length ≤ h.length := by
  induction ls generalizing h with
  | nil => simp
  | cons q qs ih =>
    cases h with
    | nil => simp [pmatch] at hm
    | cons p ps =>
      simp only [pmatch, Bool.and_eq_true] at hm
      have := ih ps hm.2
      simp only [List.length_cons]; omega

/-- matching goes from the right: further labels on the left do not matter -/
theorem pmatch_append (star : κ) (ls h e : List κ) (hl : ls.length ≤ h.length) :
    pmatch star ls (h ++ e) = pmatch star ls h := by
  induction ls generalizing h with
  | nil => simp [pmatch]
  | cons q qs ih =>
    cases h with
    | nil => simp at hl
    | cons p ps =>
      simp only [List.cons_append, pmatch]
      rw [ih ps (by simpa using hl)]

theorem matches_le_length (star : κ) (r : Rule κ) (h : List κ) (hm : r.matches star h = true) :
    r.length ≤ h.length := by
  cases r with
  | normal ls => exact pmatch_le_length star ls h hm
  | exception par l =>
    simp only [Rule.matches, Bool.and_eq_true, beq_iff_eq, List.head?_drop] at hm
    have := (List.getElem?_eq_some_iff.1 hm.2).1
    simp only [Rule.length]; omega

/-- a rule with at most `|h|` labels matches the subdomain `h ++ e` iff it matches `h` -/
theorem matches_append (star : κ) (r : Rule κ) (h e : List κ) (hl : r.length ≤ h.length) :
    r.matches star (h ++ e) = r.matches star h := by
  cases r with
  | normal ls => exact pmatch_append star ls h e hl
  | exception par l =>
    simp only [Rule.length] at hl
    simp only [Rule.matches, pmatch_append star par h e (by omega), List.head?_drop]
    rw [List.getElem?_append_left (by omega)]

/-- a rule that matches `h` matches every subdomain of `h` -/
theorem matches_subdomain (star : κ) (r : Rule κ) (h e : List κ) (hm : r.matches star h = true) :
    r.matches star (h ++ e) = true := by
  rw [matches_append star r h e (matches_le_length star r h hm)]; exact hm

omit [DecidableEq κ] in
theorem exception_length_pos (r : Rule κ) (h : r.isException = true) : 1 ≤ r.length := by
  cases r with
  | normal ls => cases h
  | exception par l => simp [Rule.length]

def MatchLen (star : κ) (R : List (Rule κ)) (q : Rule κ → Bool) (h : List κ) (k : Nat) : Prop :=
  ∃ r ∈ R, q r = true ∧ r.matches star h = true ∧ r.length = k

/-- the last two lines of `pslLen` and of `walkLen`; `e`, `m`: the greatest length of a matching
exception / normal rule, 0 for none -/
def lenOf (e m : Nat) : Option Nat :=
  let n := if e > 0 then e - 1 else m
  if n = 0 then none else some n

theorem lenOf_pos {e : Nat} (h : e > 0) (m m' : Nat) : lenOf e m = lenOf e m' := by
  simp [lenOf, h]

theorem lenOf_eq_some {e m n : Nat} :
    lenOf e m = some n ↔ n ≠ 0 ∧ n = if e > 0 then e - 1 else m := by
  simp only [lenOf]
  split <;> simp <;> omega

theorem isBest_matchLen (star : κ) (R : List (Rule κ)) (q : Rule κ → Bool) (h : List κ) :
    IsBest (MatchLen star R q h)
      (maxLen ((R.filter fun r => q r && r.matches star h).map Rule.length)) := by
  refine (maxLen_isBest _).congr fun k => ?_
  simp only [MatchLen, List.mem_map, List.mem_filter, Bool.and_eq_true, and_assoc]

theorem matchLen_normal {star : κ} {R : List (Rule κ)} {h : List κ} {k : Nat} :
    MatchLen star R (fun r => !r.isException) h k ↔
      ∃ ls, .normal ls ∈ R ∧ pmatch star ls h = true ∧ ls.length = k := by
  constructor
  · rintro ⟨r, hr, hq, hm, e⟩
    cases r with
    | normal ls => exact ⟨ls, hr, hm, e⟩
    | exception par l => cases hq
  · rintro ⟨ls, hr, hm, e⟩; exact ⟨_, hr, rfl, hm, e⟩

theorem matchLen_exception {star : κ} {R : List (Rule κ)} {h : List κ} {k : Nat} :
    MatchLen star R Rule.isException h k ↔
      ∃ par l, .exception par l ∈ R ∧ (Rule.exception par l).matches star h = true ∧
        par.length + 1 = k := by
  constructor
  · rintro ⟨r, hr, hq, hm, e⟩
    cases r with
    | normal ls => cases hq
    | exception par l => exact ⟨par, l, hr, hm, e⟩
  · rintro ⟨par, l, hr, hm, e⟩; exact ⟨_, hr, rfl, hm, e⟩

theorem isBest_le_length {star : κ} {R : List (Rule κ)} {q : Rule κ → Bool} {h : List κ} {b : Nat}
    (hb : IsBest (MatchLen star R q h) b) : b ≤ h.length := by
  rcases hb.1 with h0 | ⟨r, _, _, hx, rfl⟩
  · omega
  · exact matches_le_length star r h hx

theorem pslLen_of_isBest {star : κ} {R : List (Rule κ)} {h : List κ} {e m : Nat}
    (he : IsBest (MatchLen star R Rule.isException h) e)
    (hm : IsBest (MatchLen star R (fun r => !r.isException) h) m) :
    pslLen star R h = lenOf e m := by
  have hE : maxLen (((R.filter fun r => r.matches star h).filter Rule.isException).map
      Rule.length) = e := by
    rw [List.filter_filter]; exact isBest_unique (isBest_matchLen star R _ h) he
  simp only [pslLen, lenOf, hE]
  by_cases h0 : e > 0
  · have : (R.filter fun r => r.matches star h).filter Rule.isException ≠ [] := by
      obtain ⟨r, hr, hq, hx, _⟩ := he.1.resolve_left (by omega)
      exact List.ne_nil_of_mem (List.mem_filter.2 ⟨List.mem_filter.2 ⟨hr, hx⟩, hq⟩)
    simp only [this, ne_eq, not_false_eq_true, if_true, h0]
  · have hnil : (R.filter fun r => r.matches star h).filter Rule.isException = [] := by
      rw [List.filter_eq_nil_iff]
      intro r hr hq
      obtain ⟨hr, hx⟩ := List.mem_filter.1 hr
      have := he.2 _ ⟨r, hr, hq, hx, rfl⟩
      have := exception_length_pos r hq
      omega
    have hM : maxLen ((R.filter fun r => r.matches star h).map Rule.length) = m := by
      refine isBest_unique ((maxLen_isBest _).congr fun k => ?_) hm
      simp only [MatchLen, List.mem_map, List.mem_filter]
      constructor
      · rintro ⟨r, ⟨hr, hx⟩, e⟩
        refine ⟨r, hr, ?_, hx, e⟩
        cases hq : r.isException with
        | false => rfl
        | true =>
          have : r ∈ (R.filter fun r => r.matches star h).filter Rule.isException :=
            List.mem_filter.2 ⟨List.mem_filter.2 ⟨hr, hx⟩, hq⟩
          rw [hnil] at this; cases this
      · rintro ⟨r, hr, _, hx, e⟩; exact ⟨r, ⟨hr, hx⟩, e⟩
    simp only [hnil, ne_eq, not_true_eq_false, if_false, h0, hM]

theorem pslLen_cases (star : κ) (R : List (Rule κ)) (h : List κ) :
    ∃ e m, IsBest (MatchLen star R Rule.isException h) e ∧
      IsBest (MatchLen star R (fun r => !r.isException) h) m ∧ pslLen star R h = lenOf e m :=
  ⟨_, _, isBest_matchLen .., isBest_matchLen .., pslLen_of_isBest (isBest_matchLen ..) (isBest_matchLen ..)⟩

theorem isBest_subdomain {star : κ} {R : List (Rule κ)} {q : Rule κ → Bool} {h e : List κ}
    {b : Nat} (hb : IsBest (MatchLen star R q (h ++ e)) b) (hle : b ≤ h.length) :
    IsBest (MatchLen star R q h) b := by
  refine ⟨hb.1.imp id ?_, fun k hk => hb.2 k ?_⟩
  · rintro ⟨r, hr, hq, hx, rfl⟩
    exact ⟨r, hr, hq, by rwa [matches_append star r h e hle] at hx, rfl⟩
  · obtain ⟨r, hr, hq, hx, e'⟩ := hk
    exact ⟨r, hr, hq, matches_subdomain star r h e hx, e'⟩

/-- **The public suffix of a subdomain that does not swallow the parent is the parent's.**
`h ≠ []`, labels right-to-left, `h ++ e` a subdomain of `h`.  If the public suffix of `h ++ e`
has fewer labels than `h` (or `h ++ e` has none), `h` has the same public suffix length. -/
theorem pslLen_subdomain (star : κ) (R : List (Rule κ)) (h e : List κ) (hne : h ≠ [])
    (hout : ∀ m, pslLen star R (h ++ e) = some m → m < h.length) :
    pslLen star R h = pslLen star R (h ++ e) := by
  have hpos : 1 ≤ h.length := List.length_pos_iff.2 hne
  obtain ⟨x, m, hx, hm, eq⟩ := pslLen_cases star R (h ++ e)
  obtain ⟨_, m', _, hm', _⟩ := pslLen_cases star R h
  rw [eq] at hout ⊢
  -- the prevailing rule of `h ++ e` has at most `|h|` labels
  by_cases h0 : x > 0
  · have hxl : x ≤ h.length := by
      by_cases h1 : x - 1 = 0
      · omega
      · have := hout (x - 1) (by simp [lenOf, h0, h1]); omega
    rw [pslLen_of_isBest (isBest_subdomain hx hxl) hm', lenOf_pos h0]
  · have hml : m ≤ h.length := by
      by_cases h1 : m = 0
      · omega
      · have := hout m (by simp [lenOf, h0, h1]); omega
    exact pslLen_of_isBest (isBest_subdomain hx (by omega)) (isBest_subdomain hm hml)

end Ural.Psl
