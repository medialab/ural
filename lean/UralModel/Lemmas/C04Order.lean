import UralModel.Model.Normalize
/-!
# C04 — the query sort: `qsl_sort_key` is a total order on items, so `sorted` does not depend
on the order in which the items were written

`strLt` (code-point lexicographic `<`) is a strict total order on strings; `qslLe` is the
lexicographic combination key / value-or-empty / "has a value", hence a total order on items
whose ties are *equal* items; the stable insertion sort of the model returns the unique
sorted permutation.
-/
namespace Ural.Normalize
open Ural.Py

/-! ## `strLt` -/

theorem strLt_irrefl (a : Str) : strLt a a = false := by
  induction a with
  | nil => rfl
  | cons x xs ih => simp [strLt, ih]

theorem char_eq_of_toNat {a b : Char} (h1 : ¬ a.toNat < b.toNat) (h2 : ¬ b.toNat < a.toNat) : a = b := by
  apply Char.ext
  apply UInt32.toNat_inj.1
  have e1 : a.val.toNat = a.toNat := rfl
  have e2 : b.val.toNat = b.toNat := rfl
  omega

theorem strLt_trans : ∀ (a b c : Str), strLt a b = true → strLt b c = true → strLt a c = true
  | [], [], _, h, _ => by simp [strLt] at h
  | [], _ :: _, [], _, h => by simp [strLt] at h
  | [], _ :: _, _ :: _, _, _ => by simp [strLt]
  | _ :: _, [], _, h, _ => by simp [strLt] at h
  | _ :: _, _ :: _, [], _, h => by simp [strLt] at h
  | x :: xs, y :: ys, z :: zs, h1, h2 => by
    simp only [strLt] at h1 h2 ⊢
    by_cases hxy : x.toNat < y.toNat
    · by_cases hyz : y.toNat < z.toNat
      · have : x.toNat < z.toNat := by omega
        simp [this]
      · simp only [hyz, if_false] at h2
        by_cases hzy : z.toNat < y.toNat
        · simp [hzy] at h2
        · have : x.toNat < z.toNat := by omega
          simp [this]
    · simp only [hxy, if_false] at h1
      by_cases hyx : y.toNat < x.toNat
      · simp [hyx] at h1
      · simp only [hyx, if_false] at h1
        by_cases hyz : y.toNat < z.toNat
        · have : x.toNat < z.toNat := by omega
          simp [this]
        · simp only [hyz, if_false] at h2
          by_cases hzy : z.toNat < y.toNat
          · simp [hzy] at h2
          · simp only [hzy, if_false] at h2
            have e1 : ¬ x.toNat < z.toNat := by omega
            have e2 : ¬ z.toNat < x.toNat := by omega
            simp only [e1, e2, if_false]
            exact strLt_trans xs ys zs h1 h2

theorem strLt_tri : ∀ (a b : Str), strLt a b = false → strLt b a = false → a = b
  | [], [], _, _ => rfl
  | [], _ :: _, h, _ => by simp [strLt] at h
  | _ :: _, [], _, h => by simp [strLt] at h
  | x :: xs, y :: ys, h1, h2 => by
    simp only [strLt] at h1 h2
    by_cases hxy : x.toNat < y.toNat
    · simp [hxy] at h1
    · by_cases hyx : y.toNat < x.toNat
      · simp [hyx] at h2
      · simp only [hxy, hyx, if_false] at h1 h2
        rw [char_eq_of_toNat hxy hyx, strLt_tri xs ys h1 h2]

/-! ## lexicographic combination of a strict total order with a tail relation -/

/-- `if k x < k y then True else if k y < k x then False else R x y` -/
def lexLe {X α : Type} (lt : α → α → Bool) (k : X → α) (R : X → X → Bool) (x y : X) : Bool :=
  if lt (k x) (k y) then true else if lt (k y) (k x) then false else R x y

structure StrictTotal {α : Type} (lt : α → α → Bool) : Prop where
  irrefl : ∀ a, lt a a = false
  trans : ∀ a b c, lt a b = true → lt b c = true → lt a c = true
  tri : ∀ a b, lt a b = false → lt b a = false → a = b

theorem strictTotal_strLt : StrictTotal strLt := ⟨strLt_irrefl, strLt_trans, strLt_tri⟩

theorem StrictTotal.asymm {α : Type} {lt : α → α → Bool} (h : StrictTotal lt) (a b : α)
    (hab : lt a b = true) : lt b a = false := by
  cases hb : lt b a with
  | false => rfl
  | true =>
    have := h.trans a b a hab hb
    rw [h.irrefl] at this
    cases this

theorem strLt_asymm (a b : Str) (h : strLt a b = true) : strLt b a = false :=
  strictTotal_strLt.asymm a b h

theorem lexLe_trans {X α : Type} {lt : α → α → Bool} (h : StrictTotal lt) (k : X → α)
    (R : X → X → Bool) (hR : ∀ x y z, R x y = true → R y z = true → R x z = true)
    (x y z : X) (h1 : lexLe lt k R x y = true) (h2 : lexLe lt k R y z = true) :
    lexLe lt k R x z = true := by
  unfold lexLe at h1 h2 ⊢
  by_cases hxy : lt (k x) (k y) = true
  · by_cases hyz : lt (k y) (k z) = true
    · simp [h.trans _ _ _ hxy hyz]
    · have hyz' : lt (k y) (k z) = false := by simpa using hyz
      simp only [hyz', Bool.false_eq_true, if_false] at h2
      by_cases hzy : lt (k z) (k y) = true
      · simp [hzy] at h2
      · have hzy' : lt (k z) (k y) = false := by simpa using hzy
        have e := h.tri _ _ hyz' hzy'
        rw [← e]; simp [hxy]
  · have hxy' : lt (k x) (k y) = false := by simpa using hxy
    simp only [hxy', Bool.false_eq_true, if_false] at h1
    by_cases hyx : lt (k y) (k x) = true
    · simp [hyx] at h1
    · have hyx' : lt (k y) (k x) = false := by simpa using hyx
      simp only [hyx', Bool.false_eq_true, if_false] at h1
      have e := h.tri _ _ hxy' hyx'
      rw [e]
      by_cases hyz : lt (k y) (k z) = true
      · simp [hyz]
      · have hyz' : lt (k y) (k z) = false := by simpa using hyz
        simp only [hyz', Bool.false_eq_true, if_false] at h2 ⊢
        by_cases hzy : lt (k z) (k y) = true
        · simp [hzy] at h2
        · have hzy' : lt (k z) (k y) = false := by simpa using hzy
          simp only [hzy', Bool.false_eq_true, if_false] at h2 ⊢
          exact hR x y z h1 h2

theorem lexLe_total {X α : Type} (lt : α → α → Bool) (k : X → α)
    (R : X → X → Bool) (hR : ∀ x y, R x y = true ∨ R y x = true) (x y : X) :
    lexLe lt k R x y = true ∨ lexLe lt k R y x = true := by
  unfold lexLe
  by_cases hxy : lt (k x) (k y) = true
  · simp [hxy]
  · have hxy' : lt (k x) (k y) = false := by simpa using hxy
    by_cases hyx : lt (k y) (k x) = true
    · simp [hyx]
    · have hyx' : lt (k y) (k x) = false := by simpa using hyx
      simpa [hxy', hyx'] using hR x y

theorem lexLe_antisymm {X α : Type} {lt : α → α → Bool} (h : StrictTotal lt) (k : X → α)
    (R : X → X → Bool) (x y : X) (h1 : lexLe lt k R x y = true) (h2 : lexLe lt k R y x = true) :
    k x = k y ∧ R x y = true ∧ R y x = true := by
  unfold lexLe at h1 h2
  by_cases hxy : lt (k x) (k y) = true
  · have := h.asymm _ _ hxy
    simp [hxy, this] at h2
  · have hxy' : lt (k x) (k y) = false := by simpa using hxy
    by_cases hyx : lt (k y) (k x) = true
    · simp [hyx, hxy'] at h1
    · have hyx' : lt (k y) (k x) = false := by simpa using hyx
      simp only [hxy', hyx', Bool.false_eq_true, if_false] at h1 h2
      exact ⟨h.tri _ _ hxy' hyx', h1, h2⟩

/-! ## `qslLe` -/

/-- the third component of `qsl_sort_key`: `0 if v is None else 1` -/
def tagLe (a b : QItem) : Bool := !(a.2.isSome && b.2.isNone)

def valLe : QItem → QItem → Bool := lexLe strLt (fun (a : QItem) => a.2.getD []) tagLe

theorem qslLe_eq : qslLe = lexLe strLt (fun (a : QItem) => a.1) valLe := by
  funext a b
  simp only [qslLe, lexLe, valLe, tagLe]

theorem tagLe_trans (x y z : QItem) (h1 : tagLe x y = true) (h2 : tagLe y z = true) :
    tagLe x z = true := by
  unfold tagLe at *
  cases hx : x.2 <;> cases hy : y.2 <;> cases hz : z.2 <;> simp_all

theorem tagLe_total (x y : QItem) : tagLe x y = true ∨ tagLe y x = true := by
  unfold tagLe
  cases hx : x.2 <;> cases hy : y.2 <;> simp

theorem qslLe_trans (x y z : QItem) (h1 : qslLe x y = true) (h2 : qslLe y z = true) :
    qslLe x z = true := by
  rw [qslLe_eq] at *
  exact lexLe_trans strictTotal_strLt _ _
    (fun a b c => lexLe_trans strictTotal_strLt _ _ tagLe_trans a b c) x y z h1 h2

theorem qslLe_total (x y : QItem) : qslLe x y = true ∨ qslLe y x = true := by
  rw [qslLe_eq]
  exact lexLe_total strLt _ _
    (fun a b => lexLe_total strLt _ _ tagLe_total a b) x y

/-- **ties of the sort key are equal items** -/
theorem qslLe_antisymm (x y : QItem) (h1 : qslLe x y = true) (h2 : qslLe y x = true) : x = y := by
  rw [qslLe_eq] at h1 h2
  obtain ⟨hk, hv1, hv2⟩ := lexLe_antisymm strictTotal_strLt _ _ x y h1 h2
  obtain ⟨hv, ht1, ht2⟩ := lexLe_antisymm strictTotal_strLt _ _ x y hv1 hv2
  obtain ⟨k1, v1⟩ := x
  obtain ⟨k2, v2⟩ := y
  simp only at hk hv
  subst hk
  unfold tagLe at ht1 ht2
  cases v1 <;> cases v2 <;> simp_all

/-! ## the stable insertion sort returns the sorted permutation -/

theorem insertItem_perm (x : QItem) (l : List QItem) : (insertItem x l).Perm (x :: l) := by
  induction l with
  | nil => exact List.Perm.refl _
  | cons y ys ih =>
    simp only [insertItem]
    split
    · exact List.Perm.refl _
    · exact (List.Perm.cons y ih).trans (List.Perm.swap x y ys)

theorem sortQsl_perm (l : List QItem) : (sortQsl l).Perm l := by
  induction l with
  | nil => exact List.Perm.refl _
  | cons x xs ih => exact (insertItem_perm x _).trans (List.Perm.cons x ih)

theorem insertItem_sorted (x : QItem) (l : List QItem)
    (h : l.Pairwise (fun a b => qslLe a b = true)) :
    (insertItem x l).Pairwise (fun a b => qslLe a b = true) := by
  induction l with
  | nil => simp [insertItem]
  | cons y ys ih =>
    simp only [insertItem]
    rw [List.pairwise_cons] at h
    split
    · rename_i hxy
      rw [List.pairwise_cons]
      refine ⟨?_, List.pairwise_cons.2 h⟩
      intro b hb
      rcases List.mem_cons.1 hb with rfl | hb
      · exact hxy
      · exact qslLe_trans x y b hxy (h.1 b hb)
    · rename_i hxy
      have hyx : qslLe y x = true := by
        rcases qslLe_total x y with h' | h'
        · exact absurd h' hxy
        · exact h'
      rw [List.pairwise_cons]
      refine ⟨?_, ih h.2⟩
      intro b hb
      have := (insertItem_perm x ys).subset hb
      rcases List.mem_cons.1 this with rfl | hb'
      · exact hyx
      · exact h.1 b hb'

theorem sortQsl_sorted (l : List QItem) : (sortQsl l).Pairwise (fun a b => qslLe a b = true) := by
  induction l with
  | nil => simp [sortQsl]
  | cons x xs ih => exact insertItem_sorted x _ ih

/-- **`sorted(qsl, key=qsl_sort_key)` depends on the items only as a multiset** -/
theorem sortQsl_eq_of_perm {l l' : List QItem} (h : l.Perm l') : sortQsl l = sortQsl l' :=
  List.Perm.eq_of_pairwise (fun a b _ _ h1 h2 => qslLe_antisymm a b h1 h2)
    (sortQsl_sorted l) (sortQsl_sorted l')
    ((sortQsl_perm l).trans (h.trans (sortQsl_perm l').symm))

end Ural.Normalize
