import UralModel.Py.UrlAccessors
import UralModel.Lemmas.UrlSplit
/-!
# The authority `[userinfo@]host[:port]` and what CPython reads in it

One notion, `Reads n ui b H po`: the netloc `n` is written `ui@`, then the host text `H` (between
brackets when `b`), then `:po`, and the pieces hold none of the characters at which
`SplitResult._userinfo` / `._hostinfo` would cut elsewhere.  One lemma per reader gives what the accessors of
`Py/UrlAccessors.lean` and the bracket check of `urlsplit` (`netlocOk`) answer on such a netloc.  Each grammar of
netlocs in the properties proves `Reads` once and reads the accessors off it.
-/
namespace Ural.Netloc
open Ural.Py

theorem lowerHost_of_no_pct {h : Str} (hp : '%' ∉ h) : lowerHost h = lower h := by
  unfold lowerHost
  rw [splitFirst_notMem _ _ hp]
  simp

theorem lowerHost_eq_nil {h : Str} : lowerHost h = [] ↔ h = [] := by
  constructor
  · intro e
    cases h with
    | nil => rfl
    | cons a b =>
      exfalso
      unfold lowerHost at e
      rw [splitFirst_cons] at e
      by_cases ha : a = '%' <;> simp [ha, lower] at e
  · rintro rfl; decide

theorem lower_lowerHost (h : Str) : lower (lowerHost h) = lower h := by
  unfold lowerHost
  rcases splitFirst_cases h '%' with ⟨_, e⟩ | ⟨a, z, _, rfl, e⟩ <;> rw [e] <;>
    simp only [List.append_nil, lower_append, lower_idem]

theorem lowerHost_append (a b : Str) (ha : '%' ∉ a) : lowerHost (a ++ b) = lower a ++ lowerHost b := by
  unfold lowerHost
  rw [splitFirst_append_left a b '%' ha]
  simp [lower_append]

/-- the accessor's lower-casing does nothing to a lower-cased host -/
theorem lowerHost_of_lower_fixed (s : Str) (h : lower s = s) : lowerHost s = s := by
  unfold lowerHost
  rcases splitFirst_cases s '%' with ⟨_, e⟩ | ⟨a, z, _, rfl, e⟩ <;> rw [e]
  · simpa using h
  · rw [lower_append] at h
    rw [(List.append_inj h (length_lower _)).1]

theorem netlocOk_brackets (a inner rest : Str) (ha : '[' ∉ a) (hi : ']' ∉ inner) :
    netlocOk (a ++ '[' :: (inner ++ ']' :: rest)) = bracketedHostOk inner := by
  have hL : (a ++ '[' :: (inner ++ ']' :: rest)).contains '[' = true := by simp
  have hR : (a ++ '[' :: (inner ++ ']' :: rest)).contains ']' = true := by simp
  unfold netlocOk
  simp only [hL, hR, bne_self_eq_false, Bool.false_eq_true, if_false, if_true]
  rw [dropWhile_append_of_stop _ _ _ (fun c hc => by
      simp only [ne_eq, decide_eq_true_eq]; rintro rfl; exact ha hc)
      (fun c hc => by simp at hc; simp [← hc])]
  simp only [List.drop_succ_cons, List.drop_zero]
  rw [takeWhile_append_of_stop _ _ _ (fun c hc => by
      simp only [ne_eq, decide_eq_true_eq]; rintro rfl; exact hi hc)
      (fun c hc => by simp at hc; simp [← hc])]

/-- `userinfo@`, if any -/
def pre : Option Str → Str
  | some u => u ++ ['@']
  | none => []

/-- `:port`, if any -/
def colon : Option Str → Str
  | some p => ':' :: p
  | none => []

def hostB (b : Bool) (H : Str) : Str := if b then '[' :: (H ++ [']']) else H

/-- `.port` of the port text: outer `none` = `ValueError` -/
def portOf (po : Option Str) : Option (Option Nat) :=
  if po.getD [] = [] then some none
  else match strToNat? (po.getD []) with
    | some n => if n ≤ 65535 then some (some n) else none
    | none => none

/-- **`n` is the authority `[ui@]H[:po]`** (`[ui@][H][:po]` when `b`): `ui` may hold anything
(`@` and `:` included), the host and the port no `@`; an unbracketed host no `:`, and no `[`
follows the userinfo; a bracketed host no `]`. -/
structure Reads (n : Str) (ui : Option Str) (b : Bool) (H : Str) (po : Option Str) : Prop where
  eq : n = pre ui ++ (hostB b H ++ colon po)
  noat : '@' ∉ hostB b H ++ colon po
  plain : b = false → ':' ∉ H ∧ '[' ∉ H ++ colon po
  closed : b = true → ']' ∉ H

theorem forall_mem_authority {P : Char → Prop} {ui : Option Str} {b : Bool} {H : Str} {po : Option Str}
    (hu : ∀ u, ui = some u → P '@' ∧ ∀ c ∈ u, P c) (hH : ∀ c ∈ H, P c) (hb : b = true → P '[' ∧ P ']')
    (hp : ∀ p, po = some p → P ':' ∧ ∀ c ∈ p, P c) : ∀ c ∈ pre ui ++ (hostB b H ++ colon po), P c := by
  intro c hc
  rcases List.mem_append.1 hc with hc | hc
  · cases ui with
    | none => cases hc
    | some u =>
      rcases List.mem_append.1 hc with hc | hc
      · exact (hu u rfl).2 c hc
      · exact List.mem_singleton.1 hc ▸ (hu u rfl).1
  rcases List.mem_append.1 hc with hc | hc
  · cases b with
    | false => exact hH c hc
    | true =>
      simp only [hostB, if_true, List.mem_cons, List.mem_append, List.not_mem_nil, or_false] at hc
      rcases hc with rfl | hc | rfl
      · exact (hb rfl).1
      · exact hH c hc
      · exact (hb rfl).2
  · cases po with
    | none => cases hc
    | some p =>
      rcases List.mem_cons.1 hc with rfl | hc
      · exact (hp p rfl).1
      · exact (hp p rfl).2 c hc

theorem not_mem_pre {c : Char} {ui : Option Str} (hc : c ≠ '@') (h : ∀ u, ui = some u → c ∉ u) : c ∉ pre ui := by
  cases ui with
  | none => exact List.not_mem_nil
  | some u => simp [pre, hc, h u rfl]

theorem not_mem_hostPort {c : Char} {b : Bool} {H : Str} {po : Option Str} (h1 : c ∉ H)
    (h2 : ∀ p, po = some p → c ∉ p) (hc : c ≠ ':') (hb : b = true → c ≠ '[' ∧ c ≠ ']') :
    c ∉ hostB b H ++ colon po := fun hm =>
  forall_mem_authority (P := (· ≠ c)) (ui := none) (fun _ e => by cases e) (fun _ hd e => h1 (e ▸ hd))
    (fun e => ⟨(hb e).1.symm, (hb e).2.symm⟩) (fun p e => ⟨hc.symm, fun _ hd e' => h2 p e (e' ▸ hd)⟩) c hm rfl

theorem Reads.of_plain (ui : Option Str) {H : Str} (po : Option Str)
    (hH : '@' ∉ H ∧ ':' ∉ H ∧ '[' ∉ H) (hp : ∀ p, po = some p → '@' ∉ p ∧ '[' ∉ p) :
    Reads (pre ui ++ (H ++ colon po)) ui false H po :=
  ⟨rfl, not_mem_hostPort (b := false) hH.1 (fun p e => (hp p e).1) (by decide) (fun e => by cases e),
    fun _ => ⟨hH.2.1, not_mem_hostPort (b := false) hH.2.2 (fun p e => (hp p e).2) (by decide)
      (fun e => by cases e)⟩,
    (fun e => by cases e)⟩

theorem Reads.of_bracketed (ui : Option Str) {H : Str} (po : Option Str)
    (hH : '@' ∉ H ∧ ']' ∉ H) (hp : ∀ p, po = some p → '@' ∉ p) :
    Reads (pre ui ++ ('[' :: (H ++ [']']) ++ colon po)) ui true H po :=
  ⟨rfl, not_mem_hostPort (b := true) hH.1 hp (by decide) (fun _ => ⟨by decide, by decide⟩),
    (fun e => by cases e), fun _ => hH.2⟩

theorem Reads.bare {H : Str} (h1 : '@' ∉ H) (h2 : ':' ∉ H) (h3 : '[' ∉ H) :
    Reads H none false H none := by
  have := Reads.of_plain none none ⟨h1, h2, h3⟩ (fun p e => by cases e)
  simpa [pre, colon] using this

section
variable {n : Str} {ui : Option Str} {b : Bool} {H : Str} {po : Option Str} (h : Reads n ui b H po)
include h

/-- `netloc.rpartition('@')` -/
theorem Reads.splitLast : Py.splitLast n '@' = (ui, hostB b H ++ colon po) := by
  rw [h.eq]
  cases ui with
  | none => exact splitLast_of_not_mem _ _ h.noat
  | some u =>
    simp only [pre, List.append_assoc, List.singleton_append]
    exact splitLast_append_cons _ _ _ h.noat

theorem Reads.hostinfoStr : Py.hostinfoStr n = hostB b H ++ colon po := by
  unfold Py.hostinfoStr; rw [h.splitLast]

theorem Reads.userinfo :
    Py.userinfo n = (ui.map fun u => (splitFirst u ':').1, ui.bind fun u => (splitFirst u ':').2) := by
  unfold Py.userinfo; rw [h.splitLast]
  cases ui <;> rfl

/-- `"[" in hostinfo` -/
theorem Reads.contains_lbr : (Py.hostinfoStr n).contains '[' = b := by
  rw [h.hostinfoStr]
  cases b with
  | false => simpa [hostB] using (h.plain rfl).2
  | true => simp [hostB]

/-- `_hostinfo` before `if not port: port = None` -/
theorem Reads.hostPortStr : Py.hostPortStr (hostB b H ++ colon po) = (H, po.getD []) := by
  unfold Py.hostPortStr
  cases b with
  | false =>
    obtain ⟨hc, hb⟩ := h.plain rfl
    simp only [hostB, Bool.false_eq_true, if_false] at hb ⊢
    rw [splitFirst_notMem _ _ hb]
    cases po with
    | none => simp [colon, splitFirst_notMem _ _ hc]
    | some p => simp [colon, splitFirst_append_sep _ _ _ hc]
  | true =>
    simp only [hostB, if_true, List.cons_append, List.append_assoc]
    rw [splitFirst_cons, if_pos rfl]
    simp only [splitFirst_append_sep _ _ _ (h.closed rfl), Option.getD_some]
    cases po with
    | none => simp [colon, splitFirst_nil]
    | some p => simp [colon, splitFirst_cons]

/-- `_hostinfo` -/
theorem Reads.hostinfo :
    Py.hostinfo n = (H, if po.getD [] = [] then none else some (po.getD [])) := by
  unfold Py.hostinfo; rw [h.hostinfoStr, h.hostPortStr]

/-- `.hostname` -/
theorem Reads.hostname : Py.hostname n = if H = [] then none else some (lowerHost H) := by
  unfold Py.hostname; rw [h.hostinfo]

theorem Reads.port : Py.port n = portOf po := by
  unfold Py.port portOf; rw [h.hostinfo]
  by_cases hp : po.getD [] = [] <;> simp only [hp, if_true, if_false]
  cases strToNat? (po.getD []) <;> rfl

theorem Reads.netlocOk_plain (hb : b = false) (hu : ∀ u, ui = some u → '[' ∉ u ∧ ']' ∉ u)
    (hH : ']' ∉ H) (hp : ∀ p, po = some p → ']' ∉ p) : netlocOk n = true := by
  subst hb
  have hno : ∀ c ∈ n, c ≠ '[' ∧ c ≠ ']' := by
    rw [h.eq]
    exact forall_mem_authority (fun u e => ⟨by decide, fun c hc => ⟨fun e' => (hu u e).1 (e' ▸ hc), fun e' => (hu u e).2 (e' ▸ hc)⟩⟩)
      (fun c hc => ⟨fun e => (h.plain rfl).2 (List.mem_append_left _ (e ▸ hc)), fun e => hH (e ▸ hc)⟩) (fun e => by cases e)
      (fun p e => ⟨by decide, fun c hc => ⟨fun e' => (h.plain rfl).2 (List.mem_append_right _ (by rw [e]; exact e' ▸ List.mem_cons_of_mem _ hc)),
        fun e' => hp p e (e' ▸ hc)⟩⟩)
  exact netlocOk_of_no_bracket (fun hm => (hno _ hm).1 rfl) (fun hm => (hno _ hm).2 rfl)

theorem Reads.netlocOk_bracketed (hb : b = true) (hu : ∀ u, ui = some u → '[' ∉ u) :
    netlocOk n = bracketedHostOk H := by
  subst hb
  have e : n = pre ui ++ '[' :: (H ++ ']' :: colon po) := by rw [h.eq]; simp [hostB]
  rw [e]
  exact netlocOk_brackets _ _ _ (not_mem_pre (by decide) hu) (h.closed rfl)

end

end Ural.Netloc

namespace Ural.Py

theorem parseUrl_some {u : Str} {p : UrlParts.Parsed} (h : parseUrl u = some p) :
    ∃ r po, urlsplit u [] = some r ∧ port r.netloc = some po ∧ p = parsedOf r po := by
  unfold parseUrl at h
  cases hr : urlsplit u [] with
  | none => rw [hr] at h; cases h
  | some r =>
    rw [hr] at h
    simp only at h
    cases hpo : port r.netloc with
    | none => rw [hpo] at h; cases h
    | some po =>
      rw [hpo] at h
      exact ⟨r, po, rfl, hpo, (Option.some.inj h).symm⟩

end Ural.Py
