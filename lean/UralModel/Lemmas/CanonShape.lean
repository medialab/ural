import UralModel.Lemmas.CleanShape
import UralModel.Lemmas.HostCanon
import UralModel.Lemmas.CanonClosure
/-!
# What `canonicalize_url` prints for a cleaned string of the shape
# `http(s)://[userinfo@]host[:port][tail]`

`canon_shape_on` (and `canon_shape`, the same under the global `PunyLabelSafe`): the printed
result has the shape again — lower-case scheme, re-quoted userinfo, the canonical host
(`canonHost`, a host of the patterns when the decoder maps the labels of the host to labels,
`PunyLabelSafeOn`), the port as a decimal number of at most five digits, a tail starting with `/`,
`?` or `#` — and holds no whitespace at all.  Read off the texts `canonT … (textsOf p)` of
`Lemmas/CanonTexts.lean`: their invariant `Texts.Ok` (by `ok_of_in_bare`: the host facts come from
the host language, not from `PunyClean`) gives the printed string and its characters,
`noClass_canonT` at `isSpace` the absence of whitespace.
-/
namespace Ural.UrlPattern
open Ural.Py Ural.Py.Re Ural.Py.Re.Extra Ural.Gen.Patterns Ural.UrlParts Ural.UrlRoundTrip Ural.CanonRoundTrip
open Ural.Quote Ural.Canonicalize Ural.CanonTexts

/-- no `str.isspace` character -/
def NoWs (s : Str) : Prop := ∀ c ∈ s, isSpace c = false

theorem NoWs.append {a b : Str} (ha : NoWs a) (hb : NoWs b) : NoWs (a ++ b) :=
  List.forall_mem_append.mpr ⟨ha, hb⟩

/-- the unquoter of a user name / password (the partial, then `requoteNfkc`: `%`, hex digits) leaves
no `str.isspace` character either -/
theorem noWs_unquoteAuthItem {s : Str} (hs : NoCtl s) :
    ∀ c ∈ unquoteAuthItem s, isSpace c = false :=
  C03Control.noClass_requote_auth C03Control.escapedClass_isSpace false hs

theorem cDigit_mem_ascii {c : Char} (h : isAsciiDigit c = true) : cDigit.mem c = true := by
  simp only [isAsciiDigit, decide_eq_true_eq, char_le_iff] at h
  have e1 : '0'.toNat = 48 := rfl
  have e2 : '9'.toNat = 57 := rfl
  rw [e1, e2] at h
  have hall := cDigit_ascii
  rw [List.all_eq_true] at hall
  have := hall (c.toNat - 48) (by simp; omega)
  have e : Char.ofNat (48 + (c.toNat - 48)) = c := by
    apply Char.toNat_inj.1
    rw [toNat_ofNat_small _ (by omega)]
    omega
  rw [e] at this
  exact this

theorem natToStr_length_le {n : Nat} (h : n ≤ 65535) : (natToStr n).length ≤ 5 := by
  rw [natToStr_eq]
  exact (Nat.length_toDigits_le_iff (by decide) (by decide)).mpr (by omega)

theorem authPart_shape (U P : Str) :
    authPart U P = [] ∨ ∃ w, authPart U P = w ++ ['@'] ∧ w ≠ [] := by
  unfold authPart
  by_cases hPe : P = []
  · by_cases hUe : U = []
    · left; simp [hPe, hUe]
    · exact Or.inr ⟨U, by simp [hPe, hUe], hUe⟩
  · exact Or.inr ⟨U ++ ':' :: P, by simp [hPe], by simp⟩

theorem portPart_shape {port : Option Nat} (h : ∀ n, port = some n → n ≤ 65535) :
    portPart port = [] ∨ ∃ ds, portPart port = ':' :: ds ∧ ds ≠ [] ∧ ds.length ≤ 5 ∧
      ∀ c ∈ ds, isAsciiDigit c = true := by
  cases port with
  | none => exact Or.inl rfl
  | some n =>
    exact Or.inr ⟨natToStr n, rfl, natToStr_ne_nil n, natToStr_length_le (h n rfl), natToStr_digits n⟩

theorem tail_shape {path q f : Str} (hpath : path = [] ∨ ∃ r, path = '/' :: r) :
    path ++ (queryPart q ++ fragPart f) = [] ∨
      ∃ d r, path ++ (queryPart q ++ fragPart f) = d :: r ∧ isDelim d := by
  rcases hpath with rfl | ⟨r, rfl⟩
  · cases e : queryPart q ++ fragPart f with
    | nil => exact Or.inl rfl
    | cons d r =>
      exact Or.inr ⟨d, r, rfl, (tail_head q f d (by rw [e]; rfl)).elim (fun h => Or.inr (Or.inl h))
        fun h => Or.inr (Or.inr h)⟩
  · exact Or.inr ⟨'/', _, rfl, Or.inl rfl⟩

theorem SchHttp.lower {sch : Str} (h : SchHttp sch) : SchHttp (lower sch) := by
  rcases h.lower_eq with e | e
  · rw [e]; exact ⟨'h', 't', 't', 'p', [], rfl, Or.inl rfl, Or.inl rfl, Or.inl rfl, Or.inl rfl, Or.inl rfl⟩
  · rw [e]; exact ⟨'h', 't', 't', 'p', ['s'], rfl, Or.inl rfl, Or.inl rfl, Or.inl rfl, Or.inl rfl,
      Or.inr (Or.inl rfl)⟩

/-- the TLD test does not see the host rule: the last label stays, and a special host holds no
`x`, hence no punycode label -/
theorem TldOk.canon {W : Html.World} {H : Str} (hH : Lang hostRe H)
    (hp : PunyLabelSafeOn W.puny (lower H)) (h : TldOk W (lower H)) :
    TldOk W (lower (canonHost W.puny (lower H))) := by
  have hll : lower (canonHost W.puny (lower H)) = canonHost W.puny (lower H) := lower_idem _
  rw [hll]
  rcases h with hv | hsp
  · left
    rw [← lastLabel_eq_model, (host_canon_on W.puny hH hp).2, lastLabel_eq_model]
    exact hv
  · right
    rw [host_canon_id W.puny (special_no_x_mem hsp), lower_idem]
    exact hsp

/-- the printed result of `canonicalize_url` on a cleaned string of the shape -/
theorem canon_shape_on (puny : Str → Str) (sf : Bool)
    {x sch ui H po tl S rest : Str} {p : Parsed}
    (hsh : Shape x sch ui H po tl) (hpuny : PunyLabelSafeOn puny (lower H))
    (hcl : Cleaned x S rest) (hp : parseUrl x = some p)
    (hnb : '[' ∉ ui ∧ ']' ∉ ui) :
    ∃ ui' po' tl', Shape (urlunsplit (canonParts puny false sf p)) (lower sch) ui'
        (canonHost puny (lower H)) po' tl' ∧
      NoWs (urlunsplit (canonParts puny false sf p)) ∧
      (ui' = [] ∨ ∃ w, ui' = w ++ ['@'] ∧ w ≠ []) ∧
      (po' = [] ∨ ∃ ds, po' = ':' :: ds ∧ ds.length ≤ 5) ∧
      netlocOk (ui' ++ (canonHost puny (lower H) ++ po')) = true ∧
      printSplit (canonParts puny false sf p) = urlunsplit (canonParts puny false sf p) := by
  have hf := fromParse hcl hp
  obtain ⟨pa, q, f, po1, hpe⟩ := hsh.parseUrl_some hp
  obtain ⟨hHc, _⟩ := host_canon_on puny hsh.host hpuny
  have hg := host_goodChar hHc
  obtain ⟨_, _, _, _, hr⟩ := hsh.reads
  have hsch' : SchHttp (lower sch) := hsh.sch.lower
  have h0s : (textsOf p).scheme = lower sch := by rw [hpe]; rfl
  have h0h : (textsOf p).host = lower H := by
    rw [hpe]; show strOf (hostname (ui ++ (H ++ po))) = _; rw [hsh.hostname_eq, strOf_some]
  have h0b : (textsOf p).br = false := by rw [hpe]; exact hr.contains_lbr
  have hI : (textsOf p).In S := in_textsOf hf (by rw [hpe]; exact hsh.userinfoBrackets_iff.mpr hnb)
  -- the texts of the result: the invariant, with the host facts of a word of the host language
  generalize hT : canonT puny false sf (textsOf p) = T
  have es : T.scheme = lower sch := by rw [← hT]; exact h0s
  have eh : T.host = canonHost puny (lower H) := by rw [← hT, ← h0h]; rfl
  have eb : T.br = false := by rw [← hT]; exact canonT_br_false puny false sf h0b
  have hok : T.Ok := by
    rw [← hT]
    refine ok_of_in_bare false sf hI h0b ?_ (by rw [h0h]; exact fun c hc => (hg c hc).noctl)
    rw [h0h]
    intro d hd hm
    simp only [List.mem_cons, List.not_mem_nil, or_false] at hd
    rcases hd with rfl | rfl | rfl | rfl | rfl | rfl | rfl
    · exact (hg _ hm).noat rfl
    · exact absurd (hg _ hm).nodelim (by decide)
    · exact absurd (hg _ hm).nodelim (by decide)
    · exact absurd (hg _ hm).nodelim (by decide)
    · exact (hg _ hm).nolb rfl
    · exact (hg _ hm).norb rfl
    · exact (hg _ hm).nocolon rfl
  have hnl : T.netloc = authPart T.user T.pass ++ (canonHost puny (lower H) ++ portPart T.port) := by
    show authPart _ _ ++ (hostPartB T.br T.host ++ _) = _
    rw [eb, eh, hostPartB, if_neg (by simp), hostPart,
      if_neg fun hh => (hg _ (by simpa using hh.1)).nocolon rfl]
  have hps : printSplit (canonParts puny false sf p) = urlunsplit (canonParts puny false sf p) :=
    printSplit_of_netloc _ (by
      rw [← netloc_compsTexts, compsTexts_canonComps, hT, hnl]; simp [lang_host_ne_nil hHc])
  have hc : urlunsplit (canonParts puny false sf p) = T.print := by rw [← hps, print_canonParts, hT]
  have hauth := authPart_shape T.user T.pass
  have hport := portPart_shape (port := T.port) fun n e => hok.port n (by rw [e]; rfl)
  have uic : ∀ c ∈ authPart T.user T.pass, UiChar c := fun c hm =>
    have := hok.netloc_chars c (by rw [hnl]; exact List.mem_append_left _ hm)
    ⟨this.1, unsafe_of_ctl this.2⟩
  rw [hc]
  refine ⟨authPart T.user T.pass, portPart T.port, T.path ++ (queryPart T.query ++ fragPart T.fragment),
    ⟨by rw [hok.print_eq, es, hnl]; simp only [List.append_assoc], hsch',
      hauth.imp_right fun ⟨w, e, _⟩ => ⟨w, e, fun c hm => uic c (by rw [e]; exact List.mem_append_left _ hm)⟩,
      hHc, hport.imp_right fun ⟨ds, e, hne, _, hds⟩ => ⟨ds, e, hne, fun c hm => cDigit_mem_ascii (hds c hm)⟩,
      tail_shape hok.path_abs⟩, ?_, hauth, hport.imp_right fun ⟨ds, e, _, hlen, _⟩ => ⟨ds, e, hlen⟩,
    hnl ▸ hok.netlocOk, hc ▸ hps⟩
  obtain ⟨wu, wp, wpa, wq, wf⟩ :=
    noClass_canonT (puny := puny) C03Control.escapedClass_isSpace false sf hI.toIn₀
  rw [hT] at wu wp wpa wq wf
  intro c hm
  rcases hok.mem_print hm with h | h | h | h | h | h | h | h | h
  · exact alpha_not_space (hsch'.alpha c (es ▸ h))
  · exact wu c h
  · exact wp c h
  · exact (hg c (eh ▸ h)).nospace
  · exact wpa c h
  · exact wq c h
  · exact wf c h
  · simp only [List.mem_cons, List.not_mem_nil, or_false] at h
    rcases h with rfl | rfl | rfl | rfl | rfl | rfl | rfl <;> decide
  · exact digit_not_space h

/-- the same under the global hypothesis on the decoder -/
theorem canon_shape (puny : Str → Str) (hpuny : PunyLabelSafe puny) (sf : Bool)
    {x sch ui H po tl S rest : Str} {p : Parsed}
    (hsh : Shape x sch ui H po tl) (hcl : Cleaned x S rest) (hp : parseUrl x = some p)
    (hnb : '[' ∉ ui ∧ ']' ∉ ui) :
    ∃ ui' po' tl', Shape (urlunsplit (canonParts puny false sf p)) (lower sch) ui'
        (canonHost puny (lower H)) po' tl' ∧
      NoWs (urlunsplit (canonParts puny false sf p)) ∧
      (ui' = [] ∨ ∃ w, ui' = w ++ ['@'] ∧ w ≠ []) ∧
      (po' = [] ∨ ∃ ds, po' = ':' :: ds ∧ ds.length ≤ 5) ∧
      netlocOk (ui' ++ (canonHost puny (lower H) ++ po')) = true ∧
      printSplit (canonParts puny false sf p) = urlunsplit (canonParts puny false sf p) :=
  canon_shape_on puny sf hsh (hpuny.on _) hcl hp hnb

end Ural.UrlPattern
