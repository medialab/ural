import UralModel.Model.Normalize
import UralModel.Lemmas.Str
import UralModel.Lemmas.Redirect
import UralModel.Lemmas.StrSplit
import UralModel.Lemmas.QuoteIdem
import UralModel.Lemmas.C04Order
/-!
# Lemmas about the model of `normalize_url`: what its scanners delete

`DelSub P xs ys`: `ys` is `xs` with some elements removed, every removed element satisfying `P`
(host labels, query items).  `AmpDel` / `AmpCutOnce`: what `ampSuffixSub` deletes at the end of
the path, and at most one marker.  After them, what the other properties use of `normPath`,
`normFragment` and `filterQuery`: fragment and query reach the path through the root rule only
(`normPath_root`, `normPath_of_ne_root`, `normPath_irrelevant`), `normFragment_cases`, `mem_filterQuery`.
-/
namespace Ural.Normalize
open Ural Ural.Py Ural.UrlParts Ural.Quote Ural.Canonicalize

/-! ## deletion of elements satisfying a predicate -/

/-- `ys` is `xs` minus some elements, all of which satisfy `P`; order and the kept elements
are untouched -/
inductive DelSub {α : Type} (P : α → Prop) : List α → List α → Prop
  | nil : DelSub P [] []
  | keep (a : α) {xs ys : List α} : DelSub P xs ys → DelSub P (a :: xs) (a :: ys)
  | drop (a : α) {xs ys : List α} : P a → DelSub P xs ys → DelSub P (a :: xs) ys

namespace DelSub
variable {α : Type} {P : α → Prop}

theorem refl (xs : List α) : DelSub P xs xs := by
  induction xs with
  | nil => exact .nil
  | cons a xs ih => exact .keep a ih

theorem sublist {xs ys : List α} (h : DelSub P xs ys) : ys.Sublist xs := by
  induction h with
  | nil => exact .slnil
  | keep a _ ih => exact ih.cons_cons a
  | drop a _ _ ih => exact ih.cons a

theorem mono {Q : α → Prop} (hPQ : ∀ a, P a → Q a) {xs ys : List α} (h : DelSub P xs ys) :
    DelSub Q xs ys := by
  induction h with
  | nil => exact .nil
  | keep a _ ih => exact .keep a ih
  | drop a hp _ ih => exact .drop a (hPQ a hp) ih

/-- filtering is such a deletion -/
theorem filter (p : α → Bool) (xs : List α) : DelSub (fun a => p a = false) xs (xs.filter p) := by
  induction xs with
  | nil => exact .nil
  | cons a xs ih =>
    by_cases h : p a = true
    · simp only [List.filter_cons, h, if_true]; exact .keep a ih
    · simp only [List.filter_cons, h]; exact .drop a (by simpa using h) ih

/-- nothing is removed when no element satisfies the predicate -/
theorem eq_of_forall_not {xs ys : List α} (h : DelSub P xs ys) (hn : ∀ a ∈ xs, ¬ P a) : ys = xs := by
  induction h with
  | nil => rfl
  | keep a _ ih => rw [ih (fun b hb => hn b (List.mem_cons_of_mem a hb))]
  | drop a hp _ _ => exact absurd hp (hn a (List.mem_cons_self ..))

theorem map {β : Type} {Q : β → Prop} (f : α → β) (hf : ∀ a, P a → Q (f a)) {xs ys : List α}
    (h : DelSub P xs ys) : DelSub Q (xs.map f) (ys.map f) := by
  induction h with
  | nil => exact .nil
  | keep a _ ih => exact .keep (f a) ih
  | drop a hp _ ih => exact .drop (f a) (hf a hp) ih

end DelSub

/-- decision procedure for `DelSub` with a boolean predicate -/
def delSubB {α : Type} [DecidableEq α] (p : α → Bool) : List α → List α → Bool
  | [], [] => true
  | [], _ :: _ => false
  | a :: xs, [] => p a && delSubB p xs []
  | a :: xs, b :: ys => (a == b && delSubB p xs ys) || (p a && delSubB p xs (b :: ys))

theorem delSubB_iff {α : Type} [DecidableEq α] (p : α → Bool) (xs ys : List α) :
    delSubB p xs ys = true ↔ DelSub (fun a => p a = true) xs ys := by
  induction xs generalizing ys with
  | nil =>
    cases ys with
    | nil => simp [delSubB, DelSub.nil]
    | cons b ys => simp only [delSubB]; constructor; (intro h; cases h); (intro h; cases h)
  | cons a xs ih =>
    cases ys with
    | nil =>
      simp only [delSubB, Bool.and_eq_true, ih]
      constructor
      · rintro ⟨h1, h2⟩; exact .drop a h1 h2
      · intro h; cases h with
        | drop _ h1 h2 => exact ⟨h1, h2⟩
    | cons b ys =>
      simp only [delSubB, Bool.or_eq_true, Bool.and_eq_true, beq_iff_eq, ih]
      constructor
      · rintro (⟨h1, h2⟩ | ⟨h1, h2⟩)
        · subst h1; exact .keep a h2
        · exact .drop a h1 h2
      · intro h; cases h with
        | keep _ h2 => exact Or.inl ⟨rfl, h2⟩
        | drop _ h1 h2 => exact Or.inr ⟨h1, h2⟩

instance {α : Type} [DecidableEq α] (p : α → Bool) (xs ys : List α) :
    Decidable (DelSub (fun a => p a = true) xs ys) :=
  decidable_of_iff _ (delSubB_iff p xs ys)

/-! ## literal matching -/

/-- `s` is, ignoring case (`re.I`), the literal `pat` -/
def ciEq (pat : String) (s : Str) : Bool := matchLit pat.toList s == some []

theorem ciEq_of {pat : String} {w : Str} (h : matchLit pat.toList w = some []) : ciEq pat w = true := by
  unfold ciEq; rw [h]; simp

/-- a character matched by a pattern character other than `.` is not a dot -/
theorem ciMatch_dot {p : Char} (h : ciMatch p '.' = true) : p = '.' := by
  simp only [ciMatch, Bool.or_eq_true, Bool.and_eq_true, decide_eq_true_eq] at h
  rcases h with ((h | h) | h) | h
  · exact h.symm
  · exact absurd h.2 (by decide +kernel)
  · exact absurd h.2 (by decide +kernel)
  · exact absurd h.2 (by decide +kernel)

/-! ## the irrelevant labels -/

/-- the label set of `IRRELEVANT_SUBDOMAIN(_AMP)_RE`: `www`, `www` + one digit, `mobile`,
`m` and, in the AMP variant, `amp` — ignoring case -/
def isIrrelevantLabel (amp : Bool) (l : Str) : Bool :=
  ciEq "www" l ||
  (match matchLit "www".toList l with | some [d] => isReDigit d | _ => false) ||
  ciEq "mobile" l || (amp && ciEq "amp" l) || ciEq "m" l

theorem afterChar_eq_some {ch : Char} {r e : Str} : afterChar ch r = some e ↔ r = ch :: e := by
  cases r with
  | nil => simp [afterChar]
  | cons c cs =>
    simp only [afterChar]
    by_cases h : c = ch
    · simp [h]
    · simp [h]

theorem afterDigit_eq_some {r e : Str} (h : afterDigit r = some e) :
    ∃ d, r = d :: e ∧ isReDigit d = true := by
  cases r with
  | nil => simp [afterDigit] at h
  | cons c cs =>
    simp only [afterDigit] at h
    by_cases hd : isReDigit c = true
    · simp only [hd, if_true, Option.some.injEq] at h; exact ⟨c, by simp [h], hd⟩
    · simp [hd] at h

/-! ## query items -/

theorem unquoteQueryItem_idem (s : Str) : unquoteQueryItem (unquoteQueryItem s) = unquoteQueryItem s :=
  safelyUnquote_idem _ unsafeForQueryItem_ok.1 unsafeForQueryItem_ok.2 s

theorem unquotePath_idem (s : Str) : unquotePath (unquotePath s) = unquotePath s :=
  safelyUnquote_idem _ unsafeForPath_ok.1 unsafeForPath_ok.2 s

theorem unquoteFragment_idem (s : Str) : unquoteFragment (unquoteFragment s) = unquoteFragment s :=
  safelyUnquote_idem _ unsafeForFragment_ok.1 unsafeForFragment_ok.2 s

theorem unquoteQsl_idem (q : List QItem) : unquoteQsl (unquoteQsl q) = unquoteQsl q := by
  simp only [unquoteQsl, List.map_map]
  apply List.map_congr_left
  rintro ⟨k, v⟩ _
  cases v <;> simp [unquoteQueryItem_idem]

/-- an item of an unquoted list is its own unquoted form -/
theorem unquoteQsl_fixed {q l : List QItem} (h : ∀ it ∈ l, it ∈ unquoteQsl q) : unquoteQsl l = l := by
  refine map_eq_self fun it hit => ?_
  obtain ⟨⟨k, v⟩, _, rfl⟩ := List.mem_map.1 (h it hit)
  cases v <;> simp [unquoteQueryItem_idem]

/-! ## prefixes -/

/-! ## the path -/

/-- is the previous character a slash once `m` has been read (`b` before it) -/
def lastSlash : Bool → Str → Bool
  | b, [] => b
  | _, c :: cs => lastSlash (c == '/') cs

/-- `.html` (ignoring case) followed by the `$`-end: the look-ahead of the first alternative of
`AMP_SUFFIXES_RE`, written as in `ampSuffixHere` -/
def htmlTail (e : Str) : Bool := ((matchLit ".html".toList e).map atDollar).getD false

/-- `m`, found where `e` is what remains after it, is an AMP marker at the end of the path:
`.amp` or, after a slash, `amp` — ignoring case — with an optional slash, followed by the end
of the path (`.amp` alone may also be followed by `.html` and the end) -/
def IsAmpCut (prevSlash : Bool) (m e : Str) : Prop :=
  ∃ w sl, m = w ++ sl ∧ (sl = [] ∨ sl = ['/']) ∧
    ((ciEq ".amp" w = true ∧ (atDollar e = true ∨ (sl = [] ∧ htmlTail e = true))) ∨
     (prevSlash = true ∧ ciEq "amp" w = true ∧ atDollar e = true))

/-- `t` is `s` minus AMP markers standing at its end -/
inductive AmpDel : Bool → Str → Str → Prop
  | nil (b : Bool) : AmpDel b [] []
  | keep (b : Bool) (c : Char) {s t : Str} : AmpDel (c == '/') s t → AmpDel b (c :: s) (c :: t)
  | cut (b : Bool) (m : Str) {e t : Str} : m ≠ [] → IsAmpCut b m e → AmpDel (lastSlash b m) e t →
      AmpDel b (m ++ e) t

theorem AmpDel.sublist {b : Bool} {s t : Str} (h : AmpDel b s t) : t.Sublist s := by
  induction h with
  | nil => exact .slnil
  | keep _ c _ ih => exact ih.cons_cons c
  | cut _ m _ _ _ ih => exact ih.trans (List.sublist_append_right m _)

theorem AmpDel.refl (b : Bool) (s : Str) : AmpDel b s s := by
  induction s generalizing b with
  | nil => exact .nil b
  | cons c cs ih => exact .keep b c (ih _)

theorem ampEnd_spec {r e : Str} (h : ampEnd r = some e) :
    ∃ sl, r = sl ++ e ∧ (sl = [] ∨ sl = ['/']) ∧ atDollar e = true := by
  unfold ampEnd at h
  have tailcase : (if atDollar r = true then some r else none) = some e →
      ∃ sl, r = sl ++ e ∧ (sl = [] ∨ sl = ['/']) ∧ atDollar e = true := by
    intro h
    cases hd : atDollar r with
    | false => simp [hd] at h
    | true =>
      simp only [hd, if_true, Option.some.injEq] at h
      subst h; exact ⟨[], rfl, Or.inl rfl, hd⟩
  cases ha : afterChar '/' r with
  | none => simp only [ha] at h; exact tailcase h
  | some e' =>
    simp only [ha] at h
    rw [afterChar_eq_some] at ha
    cases hd' : atDollar e' with
    | true =>
      simp only [hd', if_true, Option.some.injEq] at h
      subst h; exact ⟨['/'], by simp [ha], Or.inr rfl, hd'⟩
    | false =>
      simp only [hd', Bool.false_eq_true, if_false] at h
      exact tailcase h

theorem ampSuffixHere_spec {prev : Bool} {s e : Str} (h : ampSuffixHere prev s = some e) :
    ∃ m, s = m ++ e ∧ m ≠ [] ∧ IsAmpCut prev m e := by
  unfold ampSuffixHere at h
  simp only [Option.or_eq_some_iff] at h
  rcases h with h | ⟨_, h⟩
  · obtain ⟨r, hm, hr⟩ := Option.bind_eq_some_iff.mp h
    obtain ⟨w, h1, hlen, h3, _⟩ := matchLit_split _ _ _ hm
    have hw : w ≠ [] := by intro e; subst e; simp at hlen
    by_cases hh : ((matchLit ".html".toList r).map atDollar).getD false = true
    · simp only [hh, if_true, Option.some.injEq] at hr
      subst hr
      exact ⟨w, h1, hw, w, [], by simp, Or.inl rfl, Or.inl ⟨ciEq_of h3, Or.inr ⟨rfl, hh⟩⟩⟩
    · simp only [hh] at hr
      obtain ⟨sl, h2, hsl, hd⟩ := ampEnd_spec hr
      exact ⟨w ++ sl, by simp [h1, h2], by simp [hw], w, sl, rfl, hsl, Or.inl ⟨ciEq_of h3, Or.inl hd⟩⟩
  · cases prev with
    | false => simp at h
    | true =>
      simp only [if_true] at h
      obtain ⟨r, hm, hr⟩ := Option.bind_eq_some_iff.mp h
      obtain ⟨w, h1, hlen, h3, _⟩ := matchLit_split _ _ _ hm
      have hw : w ≠ [] := by intro e; subst e; simp at hlen
      obtain ⟨sl, h2, hsl, hd⟩ := ampEnd_spec hr
      exact ⟨w ++ sl, by simp [h1, h2], by simp [hw], w, sl, rfl, hsl, Or.inr ⟨rfl, ciEq_of h3, hd⟩⟩

theorem ampSuffixSubFrom_skip (xs r : Str) (b : Bool) :
    ampSuffixSubFrom (xs ++ r) b xs.length = ampSuffixSubFrom r (lastSlash b xs) 0 := by
  induction xs generalizing b with
  | nil => simp [lastSlash]
  | cons x xs ih =>
    simp only [List.cons_append, List.length_cons, ampSuffixSubFrom, lastSlash]
    exact ih (x == '/')

/-- **`AMP_SUFFIXES_RE.sub` removes AMP markers at the end of the path only** -/
theorem ampSuffixSubFrom_del (s : Str) (prev : Bool) : AmpDel prev s (ampSuffixSubFrom s prev 0) := by
  generalize hn : s.length = n
  induction n using Nat.strongRecOn generalizing s prev with
  | _ n ih =>
    cases s with
    | nil => simp [ampSuffixSubFrom]; exact .nil prev
    | cons c cs =>
      cases hm : ampSuffixHere prev (c :: cs) with
      | none =>
        have : ampSuffixSubFrom (c :: cs) prev 0 = c :: ampSuffixSubFrom cs (c == '/') 0 := by
          simp [ampSuffixSubFrom, hm]
        rw [this]
        exact .keep prev c (ih _ (by rw [← hn]; simp) cs _ rfl)
      | some e =>
        obtain ⟨m, h1, hne, hcut⟩ := ampSuffixHere_spec hm
        cases m with
        | nil => exact absurd rfl hne
        | cons x xs =>
          simp only [List.cons_append, List.cons.injEq] at h1
          obtain ⟨rfl, rfl⟩ := h1
          have hk : (c :: (xs ++ e)).length - e.length - 1 = xs.length := by simp; omega
          have : ampSuffixSubFrom (c :: (xs ++ e)) prev 0 = ampSuffixSubFrom e (lastSlash prev (c :: xs)) 0 := by
            simp only [ampSuffixSubFrom, hm, hk, lastSlash]
            exact ampSuffixSubFrom_skip xs e (c == '/')
          rw [this]
          have hlen : e.length < n := by rw [← hn]; simp; omega
          exact .cut prev (c :: xs) hne hcut (ih _ hlen e _ rfl)

theorem ampSuffixSub_del (p : Str) : AmpDel false p (ampSuffixSub p) := ampSuffixSubFrom_del p false

/-- the last segment is an index page: its `splitext` root is `index` or `default` -/
def isIndexFile (last : Str) : Bool :=
  splitextRoot last == "index".toList || splitextRoot last == "default".toList

/-- `p'` is `p` without its last segment, which is an index page (the slash before it goes
too) -/
def IndexCut (p p' : Str) : Prop :=
  ∃ last, '/' ∉ last ∧ isIndexFile last = true ∧ ((p = p' ++ '/' :: last) ∨ (p = last ∧ p' = []))

theorem stripIndex_spec (p : Str) : stripIndex p = p ∨ IndexCut p (stripIndex p) := by
  unfold stripIndex
  by_cases h : splitextRoot (splitLast p '/').2 = "index".toList ∨ splitextRoot (splitLast p '/').2 = "default".toList
  · right
    simp only [h, if_true]
    have hidx : isIndexFile (splitLast p '/').2 = true := by
      simp only [isIndexFile, Bool.or_eq_true, beq_iff_eq]; exact h
    rcases splitLast_cases p '/' with ⟨h2, h1⟩ | ⟨a, b, h3, h2, h1⟩
    · rw [h1] at hidx ⊢
      exact ⟨p, h2, hidx, Or.inr ⟨rfl, rfl⟩⟩
    · rw [h1] at hidx ⊢
      exact ⟨b, h3, hidx, Or.inl (by simpa using h2)⟩
  · left; simp only [h, if_false]

theorem IndexCut.prefix {p p' : Str} (h : IndexCut p p') : p' <+: p := by
  obtain ⟨last, _, _, h | ⟨_, h⟩⟩ := h
  · exact ⟨_, h.symm⟩
  · subst h; exact List.nil_prefix

/-! ## at most one AMP marker is removed -/

theorem ciEq_length {pat : String} {w : Str} (h : ciEq pat w = true) : w.length = pat.toList.length := by
  unfold ciEq at h
  have h' : matchLit pat.toList w = some [] := by simpa using h
  obtain ⟨pre, h1, h2, _, _⟩ := matchLit_split _ _ _ h'
  simp at h1; rw [h1]; exact h2

/-- the first two characters of something that reads `.amp` / `amp` ignoring case -/
theorem ciEq_dotamp_head {w : Str} (h : ciEq ".amp" w = true) :
    ∃ x0 x1 r, w = x0 :: x1 :: r ∧ ciMatch '.' x0 = true ∧ ciMatch 'a' x1 = true := by
  have h' : matchLit ['.', 'a', 'm', 'p'] w = some [] := by simpa [ciEq] using h
  obtain ⟨x0, r0, rfl, h0, h1⟩ := matchLit_cons h'
  obtain ⟨x1, r1, rfl, h2, _⟩ := matchLit_cons h1
  exact ⟨x0, x1, r1, rfl, h0, h2⟩

theorem ciEq_amp_head {w : Str} (h : ciEq "amp" w = true) :
    ∃ x0 r, w = x0 :: r ∧ ciMatch 'a' x0 = true := by
  have h' : matchLit ['a', 'm', 'p'] w = some [] := by simpa [ciEq] using h
  obtain ⟨x0, r0, rfl, h0, _⟩ := matchLit_cons h'
  exact ⟨x0, r0, rfl, h0⟩

/-- no AMP marker can start inside the string; so it is with `.html` and the end (`htmlTail_noAmpStart`) -/
def NoAmpStart : Str → Prop
  | [] => True
  | c :: cs => ciMatch 'a' c = false ∧
      (ciMatch '.' c = true → match cs with | d :: _ => ciMatch 'a' d = false | [] => True) ∧ NoAmpStart cs

theorem noAmpStart_no_cut {e : Str} (hn : NoAmpStart e) (b : Bool) (m e' : Str) (hm : m ≠ [])
    (hcut : IsAmpCut b m e') (a : Str) (he : e = a ++ m ++ e') : False := by
  induction a generalizing e with
  | nil =>
    obtain ⟨w, sl, hw, _, hc | ⟨_, hc, _⟩⟩ := hcut
    · obtain ⟨x0, x1, r, rfl, h0, h1⟩ := ciEq_dotamp_head hc.1
      subst hw; simp only [List.nil_append, List.cons_append] at he
      subst he
      simp only [NoAmpStart] at hn
      have := hn.2.1 h0
      simp [h1] at this
    · obtain ⟨x0, r, rfl, h0⟩ := ciEq_amp_head hc
      subst hw; simp only [List.nil_append, List.cons_append] at he
      subst he
      simp only [NoAmpStart] at hn
      simp [h0] at hn
  | cons x xs ih =>
    simp only [List.cons_append] at he
    subst he
    simp only [NoAmpStart] at hn
    exact ih hn.2.2 rfl

theorem ampDel_noAmpStart {b : Bool} {e t : Str} (h : AmpDel b e t) (hn : NoAmpStart e) : t = e := by
  induction h with
  | nil => rfl
  | keep _ c _ ih =>
    simp only [NoAmpStart] at hn
    rw [ih hn.2.2]
  | cut b m hm hcut _ _ => exact (noAmpStart_no_cut hn b m _ hm hcut [] (by simp)).elim

theorem atDollar_cases {e : Str} (h : atDollar e = true) : e = [] ∨ e = ['\n'] := by
  unfold atDollar at h
  simp only [Bool.or_eq_true, List.isEmpty_iff, beq_iff_eq] at h
  exact h

theorem atDollar_noAmpStart {e : Str} (h : atDollar e = true) : NoAmpStart e := by
  rcases atDollar_cases h with rfl | rfl
  · trivial
  · simp only [NoAmpStart]; decide +kernel

/-- `hp'`, `hq'`: `i`, `s` and `k` are the pattern letters for which `ciMatch` has a case fold beyond
`lowerChar` (dotted and dotless `i`, long `s`, the Kelvin sign) -/
theorem ciMatch_two {p q : Char} {c : Char} (hp : ciMatch p c = true) (hq : ciMatch q c = true)
    (hp' : p ≠ 'i' ∧ p ≠ 's' ∧ p ≠ 'k') (hq' : q ≠ 'i' ∧ q ≠ 's' ∧ q ≠ 'k') : p = q := by
  simp only [ciMatch, Bool.or_eq_true, Bool.and_eq_true, decide_eq_true_eq] at hp hq
  have h1 : lowerChar c = p := by
    rcases hp with ((h | h) | h) | h
    · exact h
    · exact absurd h.1 hp'.1
    · exact absurd h.1 hp'.2.1
    · exact absurd h.1 hp'.2.2
  have h2 : lowerChar c = q := by
    rcases hq with ((h | h) | h) | h
    · exact h
    · exact absurd h.1 hq'.1
    · exact absurd h.1 hq'.2.1
    · exact absurd h.1 hq'.2.2
  rw [← h1, ← h2]

theorem htmlTail_noAmpStart {e : Str} (h : htmlTail e = true) : NoAmpStart e := by
  unfold htmlTail at h
  have hl : ".html".toList = ['.', 'h', 't', 'm', 'l'] := rfl
  rw [hl] at h
  cases hm' : matchLit ['.', 'h', 't', 'm', 'l'] e with
  | none => simp [hm'] at h
  | some e2 =>
    simp only [hm', Option.map_some, Option.getD_some] at h
    obtain ⟨c1, r1, rfl, h1, hm1⟩ := matchLit_cons hm'
    obtain ⟨c2, r2, rfl, h2, hm2⟩ := matchLit_cons hm1
    obtain ⟨c3, r3, rfl, h3, hm3⟩ := matchLit_cons hm2
    obtain ⟨c4, r4, rfl, h4, hm4⟩ := matchLit_cons hm3
    obtain ⟨c5, r5, rfl, h5, hm5⟩ := matchLit_cons hm4
    simp only [matchLit, Option.some.injEq] at hm5
    subst hm5
    -- a character that reads a letter of `.html` reads no other plain letter: none reads `a`, and only
    -- the first reads `.`
    have plain : ∀ q ∈ ['.', 'h', 't', 'm', 'l'], (q ≠ 'i' ∧ q ≠ 's' ∧ q ≠ 'k') ∧ q ≠ 'a' := by decide +kernel
    have nodot : ∀ q ∈ ['h', 't', 'm', 'l'], q ≠ '.' := by decide +kernel
    have other : ∀ {p q c : Char}, ciMatch q c = true → (q ≠ 'i' ∧ q ≠ 's' ∧ q ≠ 'k') →
        (p ≠ 'i' ∧ p ≠ 's' ∧ p ≠ 'k') → q ≠ p → ciMatch p c = false := by
      intro p q c hq hq' hp' hne
      cases ha : ciMatch p c with
      | false => rfl
      | true => exact absurd (ciMatch_two ha hq hp' hq').symm hne
    have na : ∀ {q c : Char}, q ∈ ['.', 'h', 't', 'm', 'l'] → ciMatch q c = true → ciMatch 'a' c = false :=
      fun hq hm => other hm (plain _ hq).1 (by decide +kernel) (plain _ hq).2
    have nd : ∀ {q c : Char}, q ∈ ['h', 't', 'm', 'l'] → ciMatch q c = true → ¬ ciMatch '.' c = true :=
      fun hq hm => Bool.eq_false_iff.1
        (other hm (plain _ (List.mem_cons_of_mem _ hq)).1 (by decide +kernel) (nodot _ hq))
    simp only [NoAmpStart]
    exact ⟨na (by simp) h1, fun _ => na (by simp) h2, na (by simp) h2, fun hd => absurd hd (nd (by simp) h2),
      na (by simp) h3, fun hd => absurd hd (nd (by simp) h3), na (by simp) h4,
      fun hd => absurd hd (nd (by simp) h4), na (by simp) h5, fun hd => absurd hd (nd (by simp) h5),
      atDollar_noAmpStart h⟩

/-- what follows an AMP marker holds no further one -/
theorem isAmpCut_tail {b : Bool} {m e : Str} (h : IsAmpCut b m e) : NoAmpStart e := by
  obtain ⟨w, sl, _, _, ⟨_, hd | ⟨_, hd⟩⟩ | ⟨_, _, hd⟩⟩ := h
  · exact atDollar_noAmpStart hd
  · exact htmlTail_noAmpStart hd
  · exact atDollar_noAmpStart hd

theorem atDollar_no_slash {e : Str} (h : atDollar e = true) : '/' ∉ e := by
  rcases atDollar_cases h with rfl | rfl <;> decide +kernel

theorem ciEq_no_slash {pat : String} {w : Str} (hpat : ∀ p ∈ pat.toList, ciMatch p '/' = false)
    (h : ciEq pat w = true) : '/' ∉ w := by
  unfold ciEq at h
  obtain ⟨pre, h1, _, _, h4⟩ := matchLit_split _ _ _ (by simpa using h)
  rw [h1, List.append_nil]
  intro hm
  obtain ⟨p, hp, hc⟩ := h4 _ hm
  rw [hpat p hp] at hc
  cases hc

theorem ampCut_rest_no_slash {b : Bool} {m e : Str} (h : IsAmpCut b m e) : '/' ∉ e := by
  obtain ⟨w, sl, _, _, h | ⟨_, _, h⟩⟩ := h
  · rcases h.2 with h1 | ⟨_, h1⟩
    · exact atDollar_no_slash h1
    · unfold htmlTail at h1
      cases hm : matchLit ".html".toList e with
      | none => rw [hm] at h1; simp at h1
      | some r =>
        rw [hm] at h1
        simp only [Option.map_some, Option.getD_some] at h1
        obtain ⟨pre, h2, _, _, h5⟩ := matchLit_split _ _ _ hm
        rw [h2]
        intro hmem
        rcases List.mem_append.1 hmem with h6 | h6
        · obtain ⟨p, hp, hc⟩ := h5 _ h6
          have : ∀ p ∈ ".html".toList, ciMatch p '/' = false := by decide +kernel
          rw [this p hp] at hc; cases hc
        · exact atDollar_no_slash h1 h6
  · exact atDollar_no_slash h

/-- `t` is `s`, or `s` minus exactly one AMP marker standing at its end -/
def AmpCutOnce (b : Bool) (s t : Str) : Prop :=
  t = s ∨ ∃ a m e, s = a ++ m ++ e ∧ t = a ++ e ∧ m ≠ [] ∧ IsAmpCut (lastSlash b a) m e

/-- **at most one AMP marker is removed** -/
theorem AmpDel.once {b : Bool} {s t : Str} (h : AmpDel b s t) : AmpCutOnce b s t := by
  induction h with
  | nil => left; rfl
  | keep b c _ ih =>
    rcases ih with rfl | ⟨a, m, e, rfl, rfl, hm, hcut⟩
    · left; rfl
    · right; exact ⟨c :: a, m, e, by simp, by simp, hm, by simpa [lastSlash] using hcut⟩
  | cut b m hm hcut hrest _ =>
    right
    have := ampDel_noAmpStart hrest (isAmpCut_tail hcut)
    subst this
    exact ⟨[], m, _, rfl, rfl, hm, by simpa [lastSlash] using hcut⟩

/-- `resolveUnquoted` with `strip_trailing_slash` -/
theorem resolveUnquoted_true (y : Str) : resolveUnquoted true y = normpath y := by
  unfold resolveUnquoted
  by_cases h : y.isEmpty = true
  · have : y = [] := by simpa using h
    subst this
    decide +kernel
  · simp [h]

/-! ## how fragment and query reach the path: the root rule -/

theorem normPath_of_ne_root (o : Opts) (path f q f' q' : Str) (h : pathSteps o path ≠ ['/']) :
    normPath o path f q = normPath o path f' q' := by
  unfold normPath
  simp [h]

theorem normPath_root (o : Opts) (path f q : Str) (h : pathSteps o path = ['/']) :
    normPath o path f q =
      (if o.quoted then safelyQuote else unquotePath)
        (if (f.isEmpty && q.isEmpty) || o.stripTrailingSlash then [] else ['/']) := by
  unfold normPath
  rw [h]
  cases f.isEmpty <;> cases q.isEmpty <;> cases o.stripTrailingSlash <;> cases o.quoted <;>
    simp [endsWith, rstripChars]

theorem normPath_irrelevant (o : Opts) (hts : o.stripTrailingSlash = true) (path f q f' q' : Str) :
    normPath o path f q = normPath o path f' q' := by
  by_cases h : pathSteps o path = ['/']
  · rw [normPath_root o path f q h, normPath_root o path f' q' h, hts, Bool.or_true, Bool.or_true]
  · exact normPath_of_ne_root o path f q f' q' h

/-! ## the fragment -/

theorem normFragment_cases (sf : StripFragment) (f : Str) :
    normFragment .no f = f ∧ (normFragment sf f = f ∨ normFragment sf f = []) := by
  unfold normFragment
  cases hf : f.isEmpty with
  | true =>
    have : f = [] := by cases f <;> simp_all
    simp [this]
  | false =>
    simp only [Bool.false_eq_true, if_false, true_and]
    cases sf with
    | no => left; rfl
    | yes => right; rfl
    | exceptRouting => simp only; split <;> simp

/-! ## the kept items -/

theorem mem_filterQuery {o : Opts} {host : Option Str} {q : Str} {it : QItem}
    (h : it ∈ filterQuery o host q) :
    ∃ it0 ∈ unquoteQsl (safeQslIter q), it = if o.lowercase then (lower it0.1, it0.2.map lower) else it0 := by
  have hp : ∀ l : List QItem, it ∈ (if o.sortQuery = true then sortQsl l else l) → it ∈ l := fun l hl => by
    split at hl
    · exact (sortQsl_perm l).mem_iff.1 hl
    · exact hl
  unfold filterQuery at h
  split at h
  · cases h
  · replace h := (List.mem_filter.1 (hp _ h)).1
    split at h
    · obtain ⟨it0, h0, rfl⟩ := List.mem_map.1 h
      exact ⟨it0, h0, by simp [*]⟩
    · exact ⟨it, h, by simp [*]⟩

/-! ## for the deletion theorems of C05 -/

theorem trailingSlashes_cut (sts : Bool) (p : Str) :
    ∃ t, p = (if sts && endsWith p ['/'] then rstripChars p ['/'] else p) ++ t ∧
      (∀ c ∈ t, c = '/') ∧ (sts = false → t = []) := by
  by_cases hs : (sts && endsWith p ['/']) = true
  · obtain ⟨t, ht1, ht2⟩ := rstripChars_decomp p ['/']
    rw [if_pos hs]
    exact ⟨t, ht1, fun c hc => by simpa using ht2 c hc, fun hf => by simp [hf] at hs⟩
  · rw [if_neg hs]
    exact ⟨[], by simp, fun c hc => by simp at hc, fun _ => rfl⟩

theorem finish_perm (quoted : Bool) {l1 l2 : List QItem} (h : l1.Perm l2) :
    (if quoted then quoteQsl (unquoteQsl l1) else unquoteQsl l1).Perm
      (if quoted then quoteQsl (unquoteQsl l2) else unquoteQsl l2) := by
  cases quoted with
  | false => exact h.map _
  | true => exact (h.map _).map _

theorem filterQuery_sort_perm (o : Opts) (h : Option Str) (q : Str) :
    (filterQuery { o with sortQuery := true } h q).Perm (filterQuery { o with sortQuery := false } h q) := by
  unfold filterQuery
  cases he : q.isEmpty with
  | true => simp
  | false =>
    simp only [Bool.false_eq_true, if_false, if_true]
    exact sortQsl_perm _

end Ural.Normalize
