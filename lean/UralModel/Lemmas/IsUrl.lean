import UralModel.Lemmas.ReLang
import UralModel.Model.IsUrl
import UralModel.Lemmas.Str
/-!
# Lemmas for `is_url`

Patterns compared through their spines (`^ P B` against `^ P? B`, `^ R $` against `R`), and `is_url`
as the conjunction of its tests.
-/
namespace Ural.Py

namespace Re

/-! ## a pattern with a mandatory prefix vs. the same with that prefix optional -/

/-- `^ P B` accepts ⇒ `^ P? B` accepts (the two patterns given by their spines) -/
theorem accepts_opt_of_spine {R1 R2 P : Re} {B : List Re}
    (h1 : spine R1 = .bos :: (spine P ++ B)) (h2 : spine R2 = .bos :: opt P :: B)
    {s : List Char} (h : Accepts R1 s) : Accepts R2 s := by
  obtain ⟨t, ht⟩ := (accepts_bos_spine_iff h1).mp h
  obtain ⟨m, hp, hB⟩ := matchL_append.mp ht
  exact (accepts_bos_spine_iff h2).mpr ⟨t, MatchL.cons (match_iff_spine.mpr hp).opt_intro hB⟩

/-- what a pattern `^ P B` accepts starts with a word of `P` (if `P` has no anchors) -/
theorem prefix_of_spine {R1 P : Re} {B : List Re}
    (h1 : spine R1 = .bos :: (spine P ++ B)) (hP : anchorFree P = true)
    {s : List Char} (h : Accepts R1 s) : ∃ p b, s = p ++ b ∧ Lang P p := by
  obtain ⟨t, ht⟩ := (accepts_bos_spine_iff h1).mp h
  obtain ⟨m, hp, _⟩ := matchL_append.mp ht
  have hp' := match_iff_spine.mpr hp
  exact ⟨consumed s m, m, hp'.eq_consumed, hp'.lang_consumed hP⟩

theorem accepts_anchored_of_lang {R1 R : Re} (h1 : spine R1 = .bos :: spine R ++ [.eos])
    {w : List Char} (h : Lang R w) : Accepts R1 w :=
  (accepts_bos_eos_spine_iff (rs := spine R) h1).mpr ⟨[], match_iff_spine.mp h, Or.inl rfl⟩

end Re
end Ural.Py

namespace Ural.IsUrl
open Ural.Py Ural.Py.Re Ural.Gen.Patterns

theorem ite_ok_false_iff {c : Prop} [Decidable c] {r : Except Err Bool} :
    (if c then .ok false else r) = .ok true ↔ ¬ c ∧ r = .ok true := by
  split <;> simp [*]

theorem ite_ok_false_eq {c b : Bool} :
    (if c = true then (.ok false : Except Err Bool) else .ok b) = .ok (!c && b) := by
  cases c <;> rfl

theorem tldCheck_iff (env : Env) (s : Str) :
    tldCheck env s = .ok true ↔ ∃ host, env.hostname s = .ok (some host) ∧ host ≠ [] ∧
      (pyMatch SPECIAL_HOSTS_RE host = true ∨ env.validTld (lastLabel host) = true) := by
  unfold tldCheck
  cases hh : env.hostname s with
  | error e => cases e <;> simp
  | ok host =>
    cases host with
    | none => simp [noHost]
    | some h =>
      cases h with
      | nil => simp [noHost]
      | cons c cs =>
        simp only [noHost, List.isEmpty_cons, Bool.false_eq_true, if_false, has_valid_tld,
          is_special_host, Except.ok.injEq, Option.some.injEq, exists_eq_left', ne_eq,
          reduceCtorEq, not_false_eq_true, true_and]
        cases env.validTld (lastLabel (c :: cs)) <;> simp

/-- when `is_url` answers `True`: the four conjuncts of is_url.py:45-80 -/
theorem is_url_true_iff (env : Env) (s : Str) (o : Opts) :
    is_url env s o = .ok true ↔
      (strip s).isEmpty = false ∧
      (o.require_protocol = true → o.only_http_https = true → pyMatch HTTP_PROTOCOL_RE (strip s) = true) ∧
      pyMatch (pattern o) (strip s) = true ∧
      (o.tld_aware = true → tldCheck env (strip s) = .ok true) := by
  simp only [is_url, ite_ok_false_iff, Bool.not_eq_true, Bool.and_eq_true, Bool.not_eq_true', not_and]
  cases o.tld_aware <;> simp

/-- `tld_aware=False`: no exception path, the answer is the conjunction of the regex tests -/
theorem is_url_no_tld (env : Env) (s : Str) (o : Opts) (h : o.tld_aware = false) :
    is_url env s o = .ok (!(strip s).isEmpty &&
      !(o.require_protocol && o.only_http_https && !pyMatch HTTP_PROTOCOL_RE (strip s)) &&
      pyMatch (pattern o) (strip s)) := by
  simp only [is_url, h, Bool.false_eq_true, if_false, ite_ok_false_eq, Bool.not_not, Bool.and_true,
    Bool.and_assoc]

end Ural.IsUrl
