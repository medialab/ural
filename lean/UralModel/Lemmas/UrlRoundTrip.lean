import UralModel.Py.UrlAccessors
import UralModel.Lemmas.StrSplit
import UralModel.Lemmas.UrlSplit
import UralModel.Lemmas.NetlocFacts
/-!
# The parser/printer round trip: `urlsplit (urlunsplit t) = t` on well-formed 5-tuples

On what `urlunsplit` prints for a well-formed 5-tuple, the cleaning step of `urlsplit` (`Py/UrlSplit.lean`) is the
identity, the scheme split gives the scheme back, and the steps after it (`splitRest`, `Lemmas/UrlSplit.lean`) give
netloc, path, query and fragment back.  The two models of `urlunsplit` (`UrlParts.urlunsplit`, `Py.urlunsplit20`)
are related by `urlunsplit_eq_urlunsplit20`.  Then the accessors on the netloc `unsplit_netloc` prints, where
`strOf` reads a falsy component (`None` or `""`) as the empty string; and, last, `NoCtl` ("no control character"),
used throughout the canonicalisation and normalisation files.
-/

namespace Ural.UrlRoundTrip
open Ural.Py Ural.UrlParts

/-! ## generic list facts -/

theorem takeWhile_append_stop {α : Type} (p : α → Bool) (a b : List α)
    (ha : ∀ c ∈ a, p c = true) (hb : ∀ c, b.head? = some c → p c = false) :
    (a ++ b).takeWhile p = a := takeWhile_append_of_stop p a b ha hb

theorem dropWhile_append_stop {α : Type} (p : α → Bool) (a b : List α)
    (ha : ∀ c ∈ a, p c = true) (hb : ∀ c, b.head? = some c → p c = false) :
    (a ++ b).dropWhile p = b := dropWhile_append_of_stop p a b ha hb

theorem startsWith_cons_cons (c d : Char) (s p : Str) :
    startsWith (c :: s) (d :: p) = (c == d && startsWith s p) := by
  simp only [startsWith, List.isPrefixOf]
  congr 1
  rw [Bool.eq_iff_iff]; simp only [beq_iff_eq]; exact eq_comm

theorem startsWith_append_left (a b c : Str) : startsWith (a ++ b) (a ++ c) = startsWith b c := by
  induction a with
  | nil => rfl
  | cons x a ih => simp only [List.cons_append, startsWith_cons_cons, ih]; simp

theorem startsWith_nil (s : Str) : startsWith s [] = true := by simp [startsWith]

theorem startsWith_nil_cons (d : Char) (p : Str) : startsWith [] (d :: p) = false := by
  simp [startsWith]

/-- "starts with a slash" in the form the proofs use -/
theorem startsWith_slash {s : Str} : startsWith s ['/'] = true ↔ ∃ q, s = '/' :: q :=
  startsWith_iff_prefix.trans ⟨fun ⟨r, h⟩ => ⟨r, h.symm⟩, fun ⟨r, h⟩ => ⟨r, h.symm⟩⟩

/-! ## the two models of `urlunsplit` agree -/

theorem contains_ofList (t : List String) (s : Str) :
    t.contains (String.ofList s) = t.any (fun x => x.toList == s) := by
  induction t with
  | nil => rfl
  | cons a t ih =>
    rw [List.contains_cons, List.any_cons, ih]
    congr 1
    rw [Bool.eq_iff_iff]
    simp only [beq_iff_eq]
    constructor
    · intro h; rw [← h, String.toList_ofList]
    · intro h; rw [← h, String.ofList_toList]

theorem usesNetloc_contains (s : Str) :
    usesNetloc.contains (String.ofList s) = inTable usesNetloc20 s := by
  rw [contains_ofList]; rfl

theorem take2_ne (u : Str) : (u.take 2 ≠ ['/', '/']) ↔ startsWith u ['/', '/'] = false := by
  match u with
  | [] => simp [startsWith]
  | [c] => simp [startsWith, List.isPrefixOf]
  | c :: d :: r =>
    simp only [List.take_succ_cons, List.take_zero, startsWith_cons_cons, startsWith_nil]
    by_cases h1 : c = '/' <;> by_cases h2 : d = '/' <;> simp [h1, h2]

theorem take1_ne (u : Str) : (u.take 1 ≠ ['/']) ↔ startsWith u ['/'] = false := by
  match u with
  | [] => simp [startsWith]
  | c :: r =>
    simp only [List.take_succ_cons, List.take_zero, startsWith_cons_cons, startsWith_nil]
    by_cases h1 : c = '/' <;> simp [h1]

/-- `UrlParts.urlunsplit` (fragment `none` = Python `None`) is `Py.urlunsplit20` with the
absent fragment written as the empty string -/
theorem urlunsplit_eq_urlunsplit20 (s : Split) :
    urlunsplit s = urlunsplit20 s.scheme s.netloc s.path s.query (s.fragment.getD []) := by
  obtain ⟨scheme, netloc, path, query, fragment⟩ := s
  cases fragment <;>
  simp only [urlunsplit, urlunsplit20, take2_ne, take1_ne, usesNetloc_contains, Option.getD,
    Bool.or_eq_true, Bool.and_eq_true, decide_eq_true_eq, Bool.not_eq_true', List.isEmpty_eq_false_iff,
    List.append_assoc, List.cons_append, List.nil_append, and_assoc, ne_eq,
    not_true, if_false]

/-! ## well-formed 5-tuples -/

/-- the 5-tuples that `urlunsplit` prints unambiguously -/
structure WF (scheme netloc path query fragment : Str) : Prop where
  scheme_ok : scheme = [] ∨ (SchemeShaped scheme ∧ lower scheme = scheme)
  netloc_nodelim : ∀ c ∈ netloc, isNetlocDelim c = false
  netloc_ok : netlocOk netloc = true
  path_noq : '?' ∉ path
  path_noh : '#' ∉ path
  query_noh : '#' ∉ query
  path_abs : (netloc ≠ [] ∨ (scheme ≠ [] ∧ inTable usesNetloc20 scheme = true)) →
    path = [] ∨ ∃ q, path = '/' :: q
  path_no2 : netloc = [] → startsWith path ['/', '/'] = false
  rel_nocolon : scheme = [] → netloc = [] → ':' ∈ path →
    ¬ SchemeShaped (path.takeWhile (· ≠ ':'))
  rel_nolead : scheme = [] → netloc = [] → ∀ c, path.head? = some c → isC0OrSpace c = false
  clean : ∀ c ∈ scheme ++ netloc ++ path ++ query ++ fragment, isUnsafeUrlChar c = false

/-- the authority + path part -/
def bodyOf (scheme netloc path : Str) : Str :=
  if netloc ≠ [] || (scheme ≠ [] && inTable usesNetloc20 scheme && !startsWith path ['/', '/']) then
    ['/', '/'] ++ netloc ++ (if path ≠ [] && !startsWith path ['/'] then '/' :: path else path)
  else path
def schemePart (scheme : Str) : Str := if scheme ≠ [] then scheme ++ [':'] else []

theorem urlunsplit20_eq (scheme netloc path query fragment : Str) :
    urlunsplit20 scheme netloc path query fragment =
      schemePart scheme ++ (bodyOf scheme netloc path ++ (queryPart query ++ fragPart fragment)) := by
  unfold urlunsplit20 schemePart queryPart fragPart
  rw [← bodyOf]
  generalize bodyOf scheme netloc path = b
  by_cases h1 : scheme = [] <;> by_cases h2 : query = [] <;> by_cases h3 : fragment = [] <;>
    simp [h1, h2, h3]

/-! ## stage 1: the cleaning step is the identity -/

theorem cleanUrl_id (u : Str) (h1 : ∀ c ∈ u, isUnsafeUrlChar c = false)
    (h2 : ∀ c, u.head? = some c → isC0OrSpace c = false) : cleanUrl u = u :=
  (cleanUrl_eq_dropUnsafe h2).trans (dropUnsafe_eq_self h1)

/-! ## stage 2: the scheme -/

theorem colon_not_mem_of_schemeChars {s : Str} (h : s.all isSchemeChar = true) : ':' ∉ s := by
  intro hm
  have := (List.all_eq_true.1 h) ':' hm
  revert this; decide

theorem splitFirst_eq (s : Str) (sep : Char) :
    splitFirst s sep = (s.takeWhile (· ≠ sep),
      match s.dropWhile (· ≠ sep) with | [] => none | _ :: b => some b) := by
  unfold splitFirst
  rw [span_eq]
  cases List.dropWhile (fun x => decide (x ≠ sep)) s <;> rfl

theorem splitScheme_none (u : Str)
    (h : ':' ∈ u → ¬ SchemeShaped (u.takeWhile (· ≠ ':'))) : splitScheme u [] = ([], u) := by
  rcases splitScheme_cases u [] with ⟨S, hS, he, _⟩ | h'
  · exfalso
    generalize (splitScheme u []).2 = rest at he
    subst he
    refine h (by simp) ?_
    rw [takeWhile_append_cons_stop _ S ':' rest (fun c hc => by
      simp only [ne_eq, decide_eq_true_eq]; rintro rfl; exact schemeShaped_no_colon hS hc) (by simp)]
    exact hS
  · exact h'

/-! ## the steps after the scheme, on the printed body -/

theorem tail_head (q f : Str) (c : Char) (h : (queryPart q ++ fragPart f).head? = some c) :
    c = '?' ∨ c = '#' := by
  unfold queryPart fragPart at h
  by_cases hq : q = [] <;> by_cases hf : f = [] <;> simp [hq, hf] at h <;> simp [← h]

theorem schemeShaped_head {c : Char} {r : Str} (h : SchemeShaped (c :: r)) :
    isAsciiAlpha c = true := by
  obtain ⟨⟨c', r', e, hc⟩, _⟩ := h
  cases e; exact hc

theorem schemeShaped_mem {s : Str} (h : SchemeShaped s) : ∀ c ∈ s, isSchemeChar c = true :=
  List.all_eq_true.1 h.2

theorem takeWhile_append_of_mem_stop {α : Type} (p : α → Bool) (a b : List α)
    (h : ∃ x ∈ a, p x = false) : (a ++ b).takeWhile p = a.takeWhile p := by
  induction a with
  | nil => obtain ⟨x, hx, _⟩ := h; simp at hx
  | cons c a ih =>
    obtain ⟨x, hx, hpx⟩ := h
    by_cases hc : p c = true
    · simp only [List.cons_append, List.takeWhile_cons, hc, if_true]
      rw [ih]
      simp only [List.mem_cons] at hx
      rcases hx with rfl | hx
      · rw [hc] at hpx; cases hpx
      · exact ⟨x, hx, hpx⟩
    · simp [hc]

theorem startsWith2_append (p t : Str) (hp : startsWith p ['/', '/'] = false)
    (ht : ∀ c, t.head? = some c → c ≠ '/') : startsWith (p ++ t) ['/', '/'] = false := by
  match p with
  | [] =>
    match t with
    | [] => rfl
    | c :: r =>
      rw [List.nil_append, startsWith_cons_cons]
      simp [ht c rfl]
  | [c] =>
    match t with
    | [] => simpa using hp
    | d :: r =>
      simp only [List.cons_append, List.nil_append, startsWith_cons_cons, startsWith_nil]
      simp [ht d rfl]
  | c :: d :: r =>
    simp only [List.cons_append, startsWith_cons_cons, startsWith_nil] at hp ⊢
    exact hp

theorem bodyOf_true (scheme netloc path : Str)
    (hc : (decide (netloc ≠ []) || (decide (scheme ≠ []) && inTable usesNetloc20 scheme &&
      !startsWith path ['/', '/'])) = true) (hp : path = [] ∨ ∃ r, path = '/' :: r) :
    bodyOf scheme netloc path = '/' :: '/' :: (netloc ++ path) := by
  unfold bodyOf
  rw [if_pos hc]
  rcases hp with rfl | ⟨r, rfl⟩
  · simp
  · simp [startsWith_cons_cons, startsWith_nil]

theorem bodyOf_false (scheme netloc path : Str)
    (hc : ¬ (decide (netloc ≠ []) || (decide (scheme ≠ []) && inTable usesNetloc20 scheme &&
      !startsWith path ['/', '/'])) = true) : bodyOf scheme netloc path = path := by
  unfold bodyOf
  rw [if_neg hc]

theorem splitRest_body (scheme netloc path query fragment : Str)
    (h : WF scheme netloc path query fragment) :
    splitRest scheme (bodyOf scheme netloc path ++ (queryPart query ++ fragPart fragment)) =
      some ⟨scheme, netloc, path, query, fragment⟩ := by
  by_cases hc : (decide (netloc ≠ []) || (decide (scheme ≠ []) && inTable usesNetloc20 scheme &&
      !startsWith path ['/', '/'])) = true
  · have hp : path = [] ∨ ∃ r, path = '/' :: r := by
      apply h.path_abs
      simp only [Bool.or_eq_true, Bool.and_eq_true, decide_eq_true_eq] at hc
      rcases hc with hc | hc
      · exact Or.inl hc
      · exact Or.inr ⟨hc.1.1, hc.1.2⟩
    rw [bodyOf_true _ _ _ hc hp]
    simp only [List.cons_append, List.append_assoc]
    rw [splitRest_auth _ h.netloc_nodelim (pathTail_head path query fragment hp), h.netloc_ok,
      withTail_parts _ _ _ h.path_noq h.path_noh h.query_noh]
    rfl
  · rw [bodyOf_false _ _ _ hc]
    have hn : netloc = [] := by
      simp only [Bool.or_eq_true, decide_eq_true_eq, not_or] at hc
      exact Classical.not_not.1 hc.1
    subst hn
    rw [splitRest_no_netloc _ (startsWith2_append _ _ (h.path_no2 rfl) fun c hc' => by
        rcases tail_head _ _ c hc' with rfl | rfl <;> decide),
      withTail_parts _ _ _ h.path_noq h.path_noh h.query_noh]

theorem splitScheme_body (netloc path query fragment : Str) (h : WF [] netloc path query fragment) :
    splitScheme (bodyOf [] netloc path ++ (queryPart query ++ fragPart fragment)) [] =
      ([], bodyOf [] netloc path ++ (queryPart query ++ fragPart fragment)) := by
  apply splitScheme_none
  intro hmem hsh
  by_cases hn : netloc = []
  · subst hn
    have hb : bodyOf [] [] path = path := by
      apply bodyOf_false; simp
    rw [hb] at hmem hsh
    by_cases hcp : ':' ∈ path
    · rw [takeWhile_append_of_mem_stop _ _ _ ⟨':', hcp, by simp⟩] at hsh
      exact h.rel_nocolon rfl rfl hcp hsh
    · -- the colon is in the tail: the prefix holds `?` or `#`
      have hT : ':' ∈ queryPart query ++ fragPart fragment := by
        rcases List.mem_append.1 hmem with h1 | h1
        · exact absurd h1 hcp
        · exact h1
      cases hT' : queryPart query ++ fragPart fragment with
      | nil => rw [hT'] at hT; simp at hT
      | cons d T' =>
        have hd := tail_head query fragment d (by rw [hT']; rfl)
        rw [hT'] at hsh
        have hdm : d ∈ (path ++ d :: T').takeWhile (· ≠ ':') := by
          rw [List.takeWhile_append_of_pos (fun x hx => by
            simp only [ne_eq, decide_eq_true_eq]; rintro rfl; exact hcp hx)]
          have hdc : d ≠ ':' := by rcases hd with rfl | rfl <;> decide
          simp [hdc]
        have := schemeShaped_mem hsh d hdm
        rcases hd with rfl | rfl <;> revert this <;> decide
  · have hb : bodyOf [] netloc path = '/' :: '/' :: (netloc ++ path) := by
      apply bodyOf_true
      · simp [hn]
      · exact h.path_abs (Or.inl hn)
    rw [hb] at hsh
    simp only [List.cons_append, List.takeWhile_cons] at hsh
    rw [if_pos (by decide)] at hsh
    have := schemeShaped_head hsh
    revert this; decide

theorem mem_bodyOf {c : Char} {sc nl p : Str} (h : c ∈ bodyOf sc nl p) :
    c ∈ nl ∨ c ∈ p ∨ c = '/' := by
  unfold bodyOf at h
  split at h
  · simp only [List.mem_append, List.mem_cons, List.not_mem_nil, or_false] at h
    rcases h with (h | h) | h
    · rcases h with h | h <;> simp [h]
    · exact Or.inl h
    · split at h
      · simp only [List.mem_cons] at h
        rcases h with h | h
        · simp [h]
        · exact Or.inr (Or.inl h)
      · exact Or.inr (Or.inl h)
  · exact Or.inr (Or.inl h)

theorem body_clean (scheme netloc path query fragment : Str) (h : WF scheme netloc path query fragment) :
    ∀ c ∈ bodyOf scheme netloc path ++ (queryPart query ++ fragPart fragment), isUnsafeUrlChar c = false := by
  have hcl : ∀ x, x ∈ netloc ∨ x ∈ path ∨ x ∈ query ∨ x ∈ fragment → isUnsafeUrlChar x = false := by
    intro x hx; apply h.clean
    simp only [List.mem_append]
    rcases hx with hx | hx | hx | hx <;> simp [hx]
  intro c hc
  simp only [List.mem_append] at hc
  rcases hc with hc | hc | hc
  · rcases mem_bodyOf hc with h1 | h1 | rfl
    · exact hcl c (Or.inl h1)
    · exact hcl c (Or.inr (Or.inl h1))
    · decide
  · rcases mem_queryPart hc with h1 | rfl
    · exact hcl c (Or.inr (Or.inr (Or.inl h1)))
    · decide
  · rcases mem_fragPart hc with h1 | rfl
    · exact hcl c (Or.inr (Or.inr (Or.inr h1)))
    · decide

theorem body_head (netloc path query fragment : Str) (h : WF [] netloc path query fragment) :
    ∀ c, (bodyOf [] netloc path ++ (queryPart query ++ fragPart fragment)).head? = some c →
      isC0OrSpace c = false := by
  intro c hc
  by_cases hn : netloc = []
  · subst hn
    have hb : bodyOf [] [] path = path := by apply bodyOf_false; simp
    rw [hb] at hc
    cases path with
    | nil =>
      rcases tail_head query fragment c (by simpa using hc) with rfl | rfl <;> decide
    | cons d r =>
      simp only [List.cons_append, List.head?_cons, Option.some.injEq] at hc
      subst hc
      exact h.rel_nolead rfl rfl d rfl
  · have hb : bodyOf [] netloc path = '/' :: '/' :: (netloc ++ path) := by
      apply bodyOf_true
      · simp [hn]
      · exact h.path_abs (Or.inl hn)
    rw [hb] at hc
    simp only [List.cons_append, List.head?_cons, Option.some.injEq] at hc
    subst hc; decide

/-- **the parser/printer round trip**: a well-formed 5-tuple is what `urlsplit` reads from
its `urlunsplit` (an empty query / fragment is the absent one, both are written `[]`) -/
theorem urlsplit_urlunsplit20 (scheme netloc path query fragment : Str)
    (h : WF scheme netloc path query fragment) :
    urlsplit (urlunsplit20 scheme netloc path query fragment) [] =
      some ⟨scheme, netloc, path, query, fragment⟩ := by
  rw [urlunsplit20_eq]
  rcases h.scheme_ok with hs | ⟨hs, hl⟩
  · subst hs
    simp only [schemePart, ne_eq, not_true_eq_false, if_false, List.nil_append]
    rw [urlsplit_eq, cleanUrl_id _ (body_clean _ _ _ _ _ h) (body_head _ _ _ _ h), splitScheme_body _ _ _ _ h]
    exact splitRest_body _ _ _ _ _ h
  · have hne : scheme ≠ [] := by
      obtain ⟨⟨c, r, e, _⟩, _⟩ := hs; rw [e]; simp
    simp only [schemePart, hne, ne_eq, not_false_eq_true, if_true, List.append_assoc,
      List.singleton_append]
    rw [urlsplit_scheme hs, hl, dropUnsafe_eq_self (body_clean _ _ _ _ _ h)]
    exact splitRest_body _ _ _ _ _ h

/-- the parser on the normal form `scheme://netloc path ?query #fragment` (what
`canonicalize_url` prints, whatever `uses_netloc` says about the scheme) -/
theorem urlsplit_normal (S nl path q f : Str) (hS : SchemeShaped S) (hl : lower S = S)
    (hnd : ∀ c ∈ nl, isNetlocDelim c = false) (hok : netlocOk nl = true)
    (hpq : '?' ∉ path) (hph : '#' ∉ path) (hqh : '#' ∉ q)
    (hpa : path = [] ∨ ∃ r, path = '/' :: r)
    (hclean : ∀ c ∈ S ++ nl ++ path ++ q ++ f, isUnsafeUrlChar c = false) :
    urlsplit (S ++ ':' :: '/' :: '/' :: (nl ++ (path ++ (queryPart q ++ fragPart f)))) [] =
      some ⟨S, nl, path, q, f⟩ := by
  rw [urlsplit_parts f [] hS hnd hpa hpq hph hqh (fun c hc => hclean c (by
    simp only [List.append_assoc] at hc ⊢; exact List.mem_append_right _ hc)), hok, hl]
  rfl

/-! ## `str(n)` and `int(s)` -/

theorem natToStr_eq (n : Nat) : natToStr n = Nat.toDigits 10 n := by
  unfold natToStr
  show (Nat.repr n).toList = _
  exact Nat.toList_repr

theorem isAsciiDigit_of_isDigit {c : Char} (h : c.isDigit = true) : isAsciiDigit c = true := by
  simp only [Char.isDigit, Bool.and_eq_true, decide_eq_true_eq] at h
  simp only [isAsciiDigit, decide_eq_true_eq, Char.le_def]
  exact ⟨h.1, h.2⟩

theorem natToStr_digits (n : Nat) : ∀ c ∈ natToStr n, isAsciiDigit c = true := by
  intro c hc
  rw [natToStr_eq] at hc
  exact isAsciiDigit_of_isDigit (Nat.isDigit_of_mem_toDigits (by decide) (by decide) hc)

theorem natToStr_ne_nil (n : Nat) : natToStr n ≠ [] := by
  rw [natToStr_eq]; exact Nat.toDigits_ne_nil

theorem foldl_toDigits (n : Nat) :
    (Nat.toDigits 10 n).foldl (fun n c => n * 10 + (c.toNat - '0'.toNat)) 0 = n := by
  induction n using Nat.strongRecOn with
  | _ n ih =>
    rw [Nat.toDigits_eq_if (by decide)]
    by_cases h : n < 10
    · rw [if_pos h]
      simp only [List.foldl_cons, List.foldl_nil, Nat.zero_mul, Nat.zero_add]
      exact Nat.toNat_digitChar_sub_48_of_lt_ten h
    · rw [if_neg h, List.foldl_append, ih (n / 10) (by omega)]
      simp only [List.foldl_cons, List.foldl_nil]
      have : (n % 10).digitChar.toNat - '0'.toNat = n % 10 :=
        Nat.toNat_digitChar_sub_48_of_lt_ten (by omega)
      rw [this]; omega

/-- `int(str(n)) == n` -/
theorem strToNat_natToStr (n : Nat) : strToNat? (natToStr n) = some n := by
  unfold strToNat?
  have h1 : natToStr n ≠ [] := natToStr_ne_nil n
  have h2 : (natToStr n).all isAsciiDigit = true := List.all_eq_true.2 (natToStr_digits n)
  rw [if_pos ⟨h1, h2⟩, natToStr_eq, foldl_toDigits]

theorem not_mem_natToStr {c : Char} (hc : isAsciiDigit c = false) (n : Nat) : c ∉ natToStr n := by
  intro h; rw [natToStr_digits n c h] at hc; cases hc

/-! ## `rpartition` -/

theorem splitLast_append_sep (a b : Str) (sep : Char) (h : sep ∉ b) :
    splitLast (a ++ sep :: b) sep = (some a, b) := splitLast_append_cons sep a b h

theorem splitLast_notMem (s : Str) (sep : Char) (h : sep ∉ s) : splitLast s sep = (none, s) :=
  splitLast_of_not_mem s sep h

/-! ## the netloc printed by `unsplit_netloc`, in normal form -/

/-- a falsy component (`None` or `""`) counts as the empty string -/
def strOf (o : Option Str) : Str := if truthy o then o.getD [] else []

def authPart (U P : Str) : Str :=
  if P ≠ [] then U ++ ':' :: P ++ ['@'] else if U ≠ [] then U ++ ['@'] else []
def hostPart (H : Str) : Str :=
  if H.contains ':' ∧ ¬ startsWith H ['['] then '[' :: H ++ [']'] else H
def portPart (port : Option Nat) : Str :=
  match port with | some n => ':' :: natToStr n | none => []

theorem truthy_some (s : Str) : truthy (some s) = true ↔ s ≠ [] := by
  cases s <;> simp [truthy]

theorem strOf_some (s : Str) : strOf (some s) = s := by
  cases s <;> simp [strOf, truthy]

theorem strOf_none : strOf none = [] := by simp [strOf, truthy]

theorem strOf_eq_getD (o : Option Str) : strOf o = o.getD [] := by
  cases o with
  | none => simp [strOf_none]
  | some s => simp [strOf_some]

theorem truthy_cases (o : Option Str) :
    (truthy o = false ∧ strOf o = []) ∨ ∃ c r, o = some (c :: r) := by
  match o with
  | none => exact Or.inl ⟨rfl, rfl⟩
  | some [] => exact Or.inl ⟨rfl, rfl⟩
  | some (c :: r) => exact Or.inr ⟨c, r, rfl⟩

theorem unsplitNetloc_eq (user pass host : Option Str) (port : Option Nat) :
    unsplitNetloc user pass host port =
      authPart (strOf user) (strOf pass) ++ (hostPart (strOf host) ++ portPart port) := by
  have hs : ∀ o : Option Str, (if truthy o = true then o.getD [] else []) = strOf o := fun _ => rfl
  have hhp : ∀ h : Str, (if h.contains ':' = true ∧ ¬startsWith h ['['] = true then
      ['['] ++ h ++ [']'] else h) = hostPart h := by
    intro h; unfold hostPart; split <;> simp
  simp only [unsplitNetloc, hs, hhp]
  generalize hostPart (strOf host) = H
  rcases truthy_cases pass with ⟨h1, e1⟩ | ⟨c1, r1, rfl⟩ <;>
    rcases truthy_cases user with ⟨h2, e2⟩ | ⟨c2, r2, rfl⟩ <;> cases port <;>
    simp [*, portPart, authPart, strOf_some, truthy_some]

/-! ## the accessors on a printed netloc -/

theorem mem_bracketed {c : Char} {H : Str} (h : c ∈ '[' :: H ++ [']']) : c ∈ H ∨ c = '[' ∨ c = ']' := by
  simp only [List.mem_cons, List.mem_append, List.not_mem_nil, or_false] at h
  rcases h with (h | h) | h
  · exact Or.inr (Or.inl h)
  · exact Or.inl h
  · exact Or.inr (Or.inr h)

theorem mem_hostPart {c : Char} {H : Str} (h : c ∈ hostPart H) : c ∈ H ∨ c = '[' ∨ c = ']' := by
  unfold hostPart at h
  split at h
  · exact mem_bracketed h
  · exact Or.inl h

theorem mem_portPart {c : Char} {port : Option Nat} (h : c ∈ portPart port) :
    c = ':' ∨ isAsciiDigit c = true := by
  cases port with
  | none => simp [portPart] at h
  | some n =>
    simp only [portPart, List.mem_cons] at h
    rcases h with h | h
    · exact Or.inl h
    · exact Or.inr (natToStr_digits n c h)

/-- what `unsplit_netloc` writes before the `@`, if anything -/
def authUi (U P : Str) : Option Str :=
  if P ≠ [] then some (U ++ ':' :: P) else if U ≠ [] then some U else none

theorem authPart_eq (U P : Str) : authPart U P = Netloc.pre (authUi U P) := by
  unfold authPart authUi
  split
  · simp [Netloc.pre]
  · split <;> rfl

theorem authUi_not_mem {U P u : Str} {c : Char} (hc : c ≠ ':') (hU : c ∉ U) (hP : c ∉ P)
    (e : authUi U P = some u) : c ∉ u := by
  unfold authUi at e
  split at e
  · cases e; simp [hU, hP, hc]
  · split at e
    · cases e; exact hU
    · cases e

/-- what stands before the last `@` of the printed netloc: the userinfo -/
theorem splitLast_auth (U P rest : Str) (hr : '@' ∉ rest) :
    (splitLast (authPart U P ++ rest) '@').1 =
      (if P ≠ [] then some (U ++ ':' :: P) else if U ≠ [] then some U else none) := by
  rw [authPart_eq]
  show _ = authUi U P
  cases authUi U P with
  | none => exact congrArg Prod.fst (splitLast_notMem _ _ hr)
  | some u =>
    simp only [Netloc.pre, List.append_assoc, List.singleton_append]
    rw [splitLast_append_sep _ _ _ hr]

/-- the host as `canonicalize_url` prints it: between brackets when the parsed host was
(`b`), else as `unsplit_netloc` does -/
def hostPartB (b : Bool) (H : Str) : Str := if b then '[' :: H ++ [']'] else hostPart H

theorem hostPart_bracketed (H : Str) : hostPart ('[' :: H ++ [']']) = '[' :: H ++ [']'] := by
  unfold hostPart
  simp [startsWith_cons_cons, startsWith_nil]

theorem mem_hostPartB {c : Char} {b : Bool} {H : Str} (h : c ∈ hostPartB b H) :
    c ∈ H ∨ c = '[' ∨ c = ']' := by
  unfold hostPartB at h
  split at h
  · exact mem_bracketed h
  · exact mem_hostPart h

theorem getLast?_hostPartB {b : Bool} {H : Str} {c : Char}
    (h : (hostPartB b H).getLast? = some c) : c = ']' ∨ (b = false ∧ H.getLast? = some c) := by
  have e : ∀ H : Str, ('[' :: H ++ [']']).getLast? = some ']' := fun H => List.getLast?_concat
  unfold hostPartB at h
  split at h
  · rw [e] at h; cases h; exact Or.inl rfl
  · rename_i hb
    unfold hostPart at h
    split at h
    · rw [e] at h; cases h; exact Or.inl rfl
    · exact Or.inr ⟨by simpa using hb, h⟩

theorem at_not_mem_restB (b : Bool) (H : Str) (port : Option Nat) (hH : '@' ∉ H) :
    '@' ∉ hostPartB b H ++ portPart port := by
  intro hm
  rcases List.mem_append.1 hm with h | h
  · rcases mem_hostPartB h with h | h | h
    · exact hH h
    · cases h
    · cases h
  · rcases mem_portPart h with h | h
    · cases h
    · revert h; decide

theorem portPart_eq (port : Option Nat) : portPart port = Netloc.colon (port.map natToStr) := by
  cases port <;> rfl

/-- an unbracketed host with a colon gets its brackets from `unsplit_netloc` -/
theorem hostPartB_eq (b : Bool) (H : Str) (hnb : b = false → '[' ∉ H) :
    hostPartB b H = Netloc.hostB (b || H.contains ':') H := by
  cases b with
  | true => rfl
  | false =>
    have hsw : ¬ startsWith H ['['] = true := fun h =>
      hnb rfl (by cases H with
        | nil => simp [startsWith] at h
        | cons c r => rw [startsWith_cons_cons, startsWith_nil] at h; simp at h; simp [h])
    unfold hostPartB hostPart Netloc.hostB
    by_cases hc : H.contains ':' = true <;> simp [hsw]

theorem reads_printed (U P H : Str) (b : Bool) (port : Option Nat) (hat : '@' ∉ H)
    (hb : b = true → ']' ∉ H) (hnb : b = false → '[' ∉ H ∧ ']' ∉ H) :
    Netloc.Reads (authPart U P ++ (hostPartB b H ++ portPart port))
      (authUi U P) (b || H.contains ':') H (port.map natToStr) := by
  have hr := at_not_mem_restB b H port hat
  rw [authPart_eq, hostPartB_eq b H fun e => (hnb e).1, portPart_eq] at *
  refine ⟨rfl, hr, fun e => ?_, fun e => ?_⟩
  · simp only [Bool.or_eq_false_iff] at e
    have hc : ':' ∉ H := by simpa using e.2
    refine ⟨hc, Netloc.not_mem_hostPort (b := false) (hnb e.1).1 ?_ (by decide) (fun e => by cases e)⟩
    intro p hp
    cases port with
    | none => cases hp
    | some n => cases hp; exact not_mem_natToStr (by decide) n
  · cases b with
    | true => exact hb rfl
    | false => exact (hnb rfl).2

/-- **the accessors on the netloc `canonicalize_url` prints**: userinfo `U:P@`, the host `H`
between brackets when `b`, the port -/
theorem accessors_printed (U P H : Str) (b : Bool) (port : Option Nat)
    (hu : ':' ∉ U) (hat : '@' ∉ H)
    (hb : b = true → ']' ∉ H) (hnb : b = false → '[' ∉ H ∧ ']' ∉ H)
    (hp : ∀ n ∈ port, n ≤ 65535) :
    username (authPart U P ++ (hostPartB b H ++ portPart port)) =
      (if P ≠ [] ∨ U ≠ [] then some U else none) ∧
    password (authPart U P ++ (hostPartB b H ++ portPart port)) =
      (if P ≠ [] then some P else none) ∧
    hostname (authPart U P ++ (hostPartB b H ++ portPart port)) =
      (if H = [] then none else some (lowerHost H)) ∧
    Py.port (authPart U P ++ (hostPartB b H ++ portPart port)) = some port ∧
    hostinfoStr (authPart U P ++ (hostPartB b H ++ portPart port)) =
      hostPartB b H ++ portPart port := by
  have r := reads_printed U P H b port hat hb hnb
  refine ⟨?_, ?_, r.hostname, ?_, ?_⟩
  · unfold username; rw [r.userinfo]
    by_cases hP : P = [] <;> by_cases hU : U = [] <;>
      simp [authUi, hP, hU, splitFirst_notMem _ _ hu, splitFirst_append_sep _ _ _ hu, splitFirst_cons]
  · unfold password; rw [r.userinfo]
    by_cases hP : P = [] <;> by_cases hU : U = [] <;>
      simp [authUi, hP, hU, splitFirst_notMem _ _ hu, splitFirst_append_sep _ _ _ hu, splitFirst_cons]
  · rw [r.port]
    cases port with
    | none => rfl
    | some n => simp [Netloc.portOf, natToStr_ne_nil, strToNat_natToStr, hp n rfl]
  · rw [r.hostinfoStr, hostPartB_eq b H fun e => (hnb e).1, portPart_eq]

/-- **the accessors invert `unsplit_netloc`**: user and password (a falsy component reads
back as absent, except that a password without user gives the empty user), the host
lower-cased (an IPv6 literal gets its brackets and loses them again), the port -/
theorem accessors_unsplitNetloc (user pass host : Option Str) (port : Option Nat)
    (hu : ':' ∉ strOf user)
    (hh : '@' ∉ strOf host ∧ '[' ∉ strOf host ∧ ']' ∉ strOf host)
    (hp : ∀ n ∈ port, n ≤ 65535) :
    username (unsplitNetloc user pass host port) =
      (if strOf pass ≠ [] ∨ strOf user ≠ [] then some (strOf user) else none) ∧
    password (unsplitNetloc user pass host port) =
      (if strOf pass ≠ [] then some (strOf pass) else none) ∧
    hostname (unsplitNetloc user pass host port) =
      (if strOf host = [] then none else some (lowerHost (strOf host))) ∧
    Py.port (unsplitNetloc user pass host port) = some port := by
  rw [unsplitNetloc_eq]
  have h := accessors_printed (strOf user) (strOf pass) (strOf host) false port hu hh.1
    (fun e => by cases e) (fun _ => hh.2) hp
  exact ⟨h.1, h.2.1, h.2.2.1, h.2.2.2.1⟩

/-! ## character facts -/

protected theorem lowerChar_toNat (c : Char) :
    (lowerChar c).toNat = if 65 ≤ c.toNat ∧ c.toNat ≤ 90 then c.toNat + 32 else c.toNat :=
  Py.lowerChar_toNat c

protected theorem upperChar_toNat (c : Char) :
    (upperChar c).toNat = if 97 ≤ c.toNat ∧ c.toNat ≤ 122 then c.toNat - 32 else c.toNat :=
  Py.upperChar_toNat c

theorem isControlChar_iff (c : Char) :
    isControlChar c = true ↔ (c.toNat ≤ 31 ∨ (127 ≤ c.toNat ∧ c.toNat ≤ 159)) := by
  simp [isControlChar]

protected theorem isControlChar_lowerChar (c : Char) : isControlChar (lowerChar c) = isControlChar c :=
  Py.isControlChar_lowerChar c

theorem isControlChar_upperChar (c : Char) : isControlChar (upperChar c) = isControlChar c := by
  rw [Bool.eq_iff_iff, isControlChar_iff, isControlChar_iff, upperChar_toNat]
  split <;> omega

/-- no C0 / DEL / C1 control character -/
def NoCtl (s : Str) : Prop := ∀ c ∈ s, isControlChar c = false

theorem NoCtl.append {a b : Str} (ha : NoCtl a) (hb : NoCtl b) : NoCtl (a ++ b) := by
  intro c hc; rcases List.mem_append.1 hc with h | h
  · exact ha c h
  · exact hb c h

theorem NoCtl.of_keeps {s t : Str} (hs : NoCtl s) (k : ∀ c, isControlChar c = true → c ∈ t → c ∈ s) :
    NoCtl t := fun c hc => by
  cases hcc : isControlChar c with
  | false => rfl
  | true => rw [hs c (k c hcc hc)] at hcc; cases hcc

theorem NoCtl.of_subset {a b : Str} (h : a ⊆ b) (hb : NoCtl b) : NoCtl a :=
  fun c hc => hb c (h hc)

theorem NoCtl.lower {a : Str} (ha : NoCtl a) : NoCtl (lower a) := by
  intro c hc
  simp only [Py.lower, List.mem_map] at hc
  obtain ⟨d, hd, rfl⟩ := hc
  rw [isControlChar_lowerChar]; exact ha d hd

theorem NoCtl.of_lowerOf {h nl : Str} (hn : NoCtl nl) (hl : Netloc.LowerOf h nl) : NoCtl h := by
  intro c hc
  obtain ⟨d, hd, rfl | rfl⟩ := hl c hc
  · exact hn _ hd
  · rw [isControlChar_lowerChar]; exact hn _ hd

theorem unsafe_of_ctl {c : Char} (h : isControlChar c = false) : isUnsafeUrlChar c = false :=
  not_unsafe_of_not_control h

theorem isSchemeChar_not_ctl {c : Char} (h : isSchemeChar c = true) : isControlChar c = false := by
  simp only [isSchemeChar, isAsciiAlpha_iff, isAsciiDigit, Bool.or_eq_true, decide_eq_true_eq,
    char_le_iff] at h
  have e5 : '0'.toNat = 48 := rfl
  have e6 : '9'.toNat = 57 := rfl
  rw [e5, e6] at h
  cases hc : isControlChar c with
  | false => rfl
  | true =>
    rw [isControlChar_iff] at hc
    rcases h with (((h | h) | h) | h) | h
    · omega
    · omega
    · subst h; revert hc; decide
    · subst h; revert hc; decide
    · subst h; revert hc; decide

theorem alpha_not_ctl {c : Char} (h : isAsciiAlpha c = true) : isControlChar c = false := by
  apply isSchemeChar_not_ctl
  simp [isSchemeChar, h]

theorem digit_not_ctl {c : Char} (h : isAsciiDigit c = true) : isControlChar c = false :=
  isSchemeChar_not_ctl (by simp [isSchemeChar, h])

theorem not_ctl_of_range {c : Char} (h : 0x20 ≤ c.toNat ∧ c.toNat < 0x7f ∨ 0xa0 ≤ c.toNat) :
    isControlChar c = false := by
  cases hc : isControlChar c with
  | false => rfl
  | true => rw [isControlChar_iff] at hc; omega

theorem SchemeShaped.noCtl {s : Str} (h : SchemeShaped s) : NoCtl s :=
  fun c hc => isSchemeChar_not_ctl (schemeShaped_mem h c hc)

end Ural.UrlRoundTrip
