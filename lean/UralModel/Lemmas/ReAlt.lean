import UralModel.Lemmas.ReLang
/-!
# Alternations: reading a documented key family off a regenerated `^(?:a|b|…)$` pattern

`IRRELEVANT_QUERY_RE` / `IRRELEVANT_QUERY_AMP_RE` are regenerated on every run as `Py.Re` terms of
the shape `^(?: alternative | alternative | … )$`.  To state, independently of the table, that a
documented family of keys (`utm_…`, `fbclid`, …) is stripped, one needs: (1) a match of one
alternative is a match of the alternation and conversely (`alts`, `match_of_alt`, `alt_of_match`);
(2) an alternative of the shape *literal prefix* + `.+` (`isPrefixFamily`) matches every key
`prefix ++ rest`, `rest` non-empty without newline (`match_prefixFamily`); (3) the frame `^ … $`
(`FramedAlt`, `accepts_of_alt`, `alt_of_accepts`).  The three together are `accepts_prefixFamily` /
`pyMatch_prefixFamily`, stated for the frame with the body flattened as well, so that both
`Props/C05More.lean` (`FramedAlt`, through `FramedAlt.spine_eq`) and `Props/C04Spec.lean`
(`hasFamily`, through `framed_of_hasFamily`) instantiate them.
The shape tests are decidable on the generated terms: they are the table obligations.
-/
namespace Ural.Py.Re

/-- the alternatives of a (nested) alternation, in order -/
def alts : Re → List Re
  | .alt p q => alts p ++ alts q
  | r => [r]

theorem match_alts_iff {n : Nat} {r : Re} {s t : List Char} :
    Match n r s t ↔ ∃ a ∈ alts r, Match n a s t := by
  induction r with
  | alt p q ihp ihq =>
    simp only [alts, List.mem_append, Extra.match_alt_iff, ihp, ihq, or_and_right, exists_or]
  | _ => simp [alts]

theorem match_of_alt {n : Nat} {r a : Re} {s t : List Char} (ha : a ∈ alts r)
    (h : Match n a s t) : Match n r s t := match_alts_iff.mpr ⟨a, ha, h⟩

theorem alt_of_match {n : Nat} {r : Re} {s t : List Char} (h : Match n r s t) :
    ∃ a ∈ alts r, Match n a s t := match_alts_iff.mp h

/-- every alternative of `r` is an alternative of `r'` (decidable): then `r'` matches whatever
`r` matches -/
def altsSubset (r r' : Re) : Bool := (alts r).all fun a => (alts r').contains a

theorem match_of_altsSubset {n : Nat} {r r' : Re} (hs : altsSubset r r' = true) {s t : List Char}
    (h : Match n r s t) : Match n r' s t := by
  obtain ⟨a, ha, hm⟩ := alt_of_match h
  have := (List.all_eq_true.1 hs) a ha
  exact match_of_alt (List.contains_iff_mem.1 this) hm

/-! ## literal prefix + `.+` -/

/-- `sp` is a list of one-character classes that accept the characters of `lit`, in order -/
def litSpine : List Char → List Re → Bool
  | [], [] => true
  | c :: cs, .cls C :: rs => C.mem c && litSpine cs rs
  | _, _ => false

theorem matchL_litSpine {n : Nat} {lit : List Char} {sp : List Re}
    (h : litSpine lit sp = true) (t : List Char) : MatchL n sp (lit ++ t) t := by
  fun_induction litSpine lit sp with
  | case1 => exact MatchL.nil t
  | case2 c cs C rs ih =>
    simp only [Bool.and_eq_true] at h
    exact MatchL.cons (Match.cls C c _ h.1) (ih h.2)
  | case3 => cases h

/-- "any character but a newline" (`.` without DOTALL) -/
def isDot (C : CharClass) : Bool := C.neg && C.ranges == [(10, 10)]

theorem isDot_mem {C : CharClass} (h : isDot C = true) {c : Char} (hc : c ≠ '\n') : C.mem c = true := by
  obtain ⟨neg, rs⟩ := C
  simp only [isDot, Bool.and_eq_true, beq_iff_eq] at h
  obtain ⟨rfl, rfl⟩ := h
  refine Extra.coWithin_sound (ns := [10]) (by decide) fun hm => hc ?_
  exact Char.toNat_inj.mp (show c.toNat = '\n'.toNat from List.mem_singleton.mp hm)

/-- the alternative `a` is *literal prefix* + `.+`: its flattened sequence is one-character
classes accepting `pre`, then a `+` (or `*`) repetition of "any character but newline" -/
def isPrefixFamily (pre : List Char) (a : Re) : Bool :=
  match (spine a).reverse with
  | .rep (.cls D) lo none _ :: rsp => decide (lo ≤ 1) && litSpine pre rsp.reverse && isDot D
  | _ => false

theorem match_prefixFamily {n : Nat} {pre : List Char} {a : Re} (h : isPrefixFamily pre a = true)
    (rest : List Char) (hne : rest ≠ []) (hnl : '\n' ∉ rest) (t : List Char) :
    Match n a (pre ++ (rest ++ t)) t := by
  unfold isPrefixFamily at h
  split at h
  · rename_i D lo g rsp hsp
    simp only [Bool.and_eq_true, decide_eq_true_eq] at h
    have hs : spine a = rsp.reverse ++ [.rep (.cls D) lo none g] := by
      have := congrArg List.reverse hsp
      simpa using this
    rw [match_iff_spine, hs, matchL_append]
    refine ⟨rest ++ t, matchL_litSpine h.1.2 _, ?_⟩
    rw [matchL_singleton]
    have := List.length_pos_iff.mpr hne
    exact (Extra.match_iff_lang rfl).mpr ⟨rest, rfl, lang_rep_cls_iff.mpr
      ⟨fun c hc => isDot_mem h.2 (fun e => hnl (e ▸ hc)), by omega, by simp⟩⟩
  · cases h

/-! ## the frame `^ … $` -/

/-- `r` is `^ body $` once sequences are flattened -/
def FramedAlt (r body : Re) : Prop := spine r = [.bos, body, .eos]

instance (r body : Re) : Decidable (FramedAlt r body) := by unfold FramedAlt; infer_instance

/-- a key that an alternative of the body matches entirely is accepted by the framed pattern -/
theorem accepts_of_alt {r body a : Re} (hf : FramedAlt r body) (ha : a ∈ alts body) {key : List Char}
    (h : Match key.length a key []) : Accepts r key :=
  (accepts_bos_eos_spine_iff (rs := [body]) hf).mpr
    ⟨[], matchL_singleton.mpr (match_of_alt ha h), Or.inl rfl⟩

/-- conversely an accepted key is matched by one alternative of the body, up to a final newline -/
theorem alt_of_accepts {r body : Re} (hf : FramedAlt r body) {key : List Char} (h : Accepts r key) :
    ∃ a ∈ alts body, ∃ t, Match key.length a key t ∧ (t = [] ∨ t = ['\n']) := by
  obtain ⟨t, hm, ht⟩ := (accepts_bos_eos_spine_iff (rs := [body]) hf).mp h
  obtain ⟨a, ha, hma⟩ := alt_of_match (matchL_singleton.mp hm)
  exact ⟨a, ha, t, hma, ht⟩

/-- a framed pattern accepts whatever a framed pattern with fewer alternatives accepts -/
theorem accepts_of_altsSubset {r r' body body' : Re} (hf : FramedAlt r body) (hf' : FramedAlt r' body')
    (hs : altsSubset body body' = true) {key : List Char} (h : Accepts r key) : Accepts r' key := by
  obtain ⟨t, hm, ht⟩ := (accepts_bos_eos_spine_iff (rs := [body]) hf).mp h
  exact (accepts_bos_eos_spine_iff (rs := [body']) hf').mpr
    ⟨t, matchL_singleton.mpr (match_of_altsSubset hs (matchL_singleton.mp hm)), ht⟩

/-- a member of a flattened sequence is neither a sequence nor empty: it is its own flattening -/
theorem spine_of_mem_spine {r x : Re} (h : x ∈ spine r) : spine x = [x] := by
  induction r with
  | seq p q ihp ihq =>
    simp only [spine, List.mem_append] at h
    exact h.elim ihp ihq
  | eps => cases h
  | _ => simp only [spine, List.mem_singleton] at h; subst h; rfl

/-- the frame with the body flattened too: what `Props/C04Spec.lean` reads off
`.seq .bos (.seq body .eos)` whatever `body` is -/
theorem FramedAlt.spine_eq {r body : Re} (hf : FramedAlt r body) :
    spine r = .bos :: (spine body ++ [.eos]) := by
  have hb : body ∈ spine r := by rw [hf]; simp
  rw [spine_of_mem_spine hb]
  exact hf

/-- **the key families**: a pattern `^ body $` (flattened) one alternative of whose body is
*literal prefix* + `.+` accepts every key `prefix ++ rest`, `rest` non-empty without newline -/
theorem accepts_prefixFamily {r body : Re} (hf : spine r = .bos :: (spine body ++ [.eos]))
    {pre : List Char} (ha : (alts body).any (isPrefixFamily pre) = true)
    (rest : List Char) (hne : rest ≠ []) (hnl : '\n' ∉ rest) : Accepts r (pre ++ rest) := by
  obtain ⟨a, ha1, ha2⟩ := List.any_eq_true.1 ha
  have hm := match_prefixFamily (n := (pre ++ rest).length) ha2 rest hne hnl []
  rw [List.append_nil] at hm
  exact (accepts_bos_eos_spine_iff hf).mpr ⟨[], match_iff_spine.mp (match_of_alt ha1 hm), Or.inl rfl⟩

theorem pyMatch_prefixFamily {r body : Re} (hf : spine r = .bos :: (spine body ++ [.eos]))
    (hn : noNullRep r = true) {pre : List Char} (ha : (alts body).any (isPrefixFamily pre) = true)
    (rest : List Char) (hne : rest ≠ []) (hnl : '\n' ∉ rest) : pyMatch r (pre ++ rest) = true :=
  (pyMatch_iff hn _).mpr (accepts_prefixFamily hf ha rest hne hnl)

end Ural.Py.Re
