import UralModel.Model.Builders
import UralModel.Lemmas.Str
/-!
`pathsplit` by its core: `pathsplit p` is `pathCore p` split on `/`, and `pathCore p` is the one piece of `p` between
blank and then slash margins that neither starts nor ends with a slash.
-/
namespace Ural.C19
open Ural Ural.Py

def pathCore (p : Str) : Str := stripChars (strip p) ['/']

theorem pathsplit_eq (p : Str) : pathsplit p = if pathCore p = [] then [] else splitOn (pathCore p) '/' := rfl

theorem pathsplit_eq_nil {p : Str} : pathsplit p = [] ↔ pathCore p = [] := by
  rw [pathsplit_eq]
  split <;> simp [*, splitOn_ne_nil]

theorem join_pathsplit (p : Str) : join ['/'] (pathsplit p) = pathCore p := by
  rw [pathsplit_eq]
  split
  · exact ‹pathCore p = []›.symm
  · exact join_splitOn _ _

theorem mem_pathsplit {p x : Str} (h : x ∈ pathsplit p) : x ∈ splitOn (pathCore p) '/' := by
  rw [pathsplit_eq] at h
  split at h
  · cases h
  · exact h

theorem pathCore_infix (p : Str) : pathCore p <:+: p :=
  (stripBy_infix _ _).trans (stripBy_infix isSpace p)

theorem pathCore_ends (p : Str) : (pathCore p).head? ≠ some '/' ∧ (pathCore p).getLast? ≠ some '/' :=
  ⟨fun h => absurd ((stripBy_ends _ _).1 _ h) (by decide), fun h => absurd ((stripBy_ends _ _).2 _ h) (by decide)⟩

theorem pathCore_unique {w₁ a m b w₂ : Str} (hw₁ : ∀ c ∈ w₁, isSpace c = true) (hw₂ : ∀ c ∈ w₂, isSpace c = true)
    (ha : ∀ c ∈ a, c = '/') (hb : ∀ c ∈ b, c = '/')
    (hh : ∀ c, (a ++ m ++ b).head? = some c → isSpace c = false)
    (hl : ∀ c, (a ++ m ++ b).getLast? = some c → isSpace c = false)
    (hm : m.head? ≠ some '/' ∧ m.getLast? ≠ some '/') : pathCore (w₁ ++ (a ++ m ++ b) ++ w₂) = m := by
  unfold pathCore
  rw [strip_eq_stripBy, stripBy_unique isSpace hw₁ hw₂ hh hl]
  exact stripBy_unique _ (fun c hc => by simp [ha c hc]) (fun c hc => by simp [hb c hc])
    (fun c hc => by simpa using fun (e : c = '/') => hm.1 (e ▸ hc))
    (fun c hc => by simpa using fun (e : c = '/') => hm.2 (e ▸ hc))

theorem pathsplit_of_core {p : Str} {segs : List Str} (hc : pathCore p = join ['/'] segs)
    (hne : join ['/'] segs ≠ []) (hfree : ∀ x ∈ segs, '/' ∉ x) : pathsplit p = segs := by
  rw [pathsplit_eq, hc, if_neg hne]
  exact splitOn_join '/' segs (fun e => hne (by rw [e]; rfl)) hfree

end Ural.C19
