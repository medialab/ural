import UralModel.Model.CanonicalizeUrl
import UralModel.Lemmas.QuoteClass
import UralModel.Model.Normalize
/-!
# C02 — spelling changes stated on plain string decompositions

The statements of `Props/C02.lean` about hex-digit case, control characters and
escape-equivalence take as hypothesis an equation between intermediate values of the
implementation (`(tokens a).map upperTok = …`, `stripControl u = stripControl v`,
`normItems U a = normItems U b`).  Here the same facts are stated on decompositions of the
STRINGS, with no reference to the scanner:

* `preClean_hex_step`: the cleaning pass sends `x ++ %k1k2 ++ y` and `x ++ %h1h2 ++ y` to the same
  string when `k1`,`h1` and `k2`,`h2` are the same hex digits up to letter case;
* three substitution laws of the safe unquoters (any unsafe set `U`):
  `safelyUnquote_escaped_ascii` (`%41` vs `A`: an escape whose byte is ASCII and not kept
  escaped by `U`, against the character itself), `safelyUnquote_escaped_space` (`%20` vs a raw
  space), `safelyUnquote_escaped_utf8` (a non-ASCII character against any spelling — upper or
  lower case hex digits — of its escaped UTF-8 bytes).

The one side condition of the `%41` vs `A` law is real: when the character is itself a hex digit
(`A`–`F`, `a`–`f`, `0`–`9`) the text in front of it must not end inside an unfinished escape
(`openPct`: it ends with `%` or with `%` + one hex digit) — `%4%31` is `%4` followed by `1`, but
`%41` is `A` (`escaped_ascii_context_needed`).
-/
set_option linter.unusedSimpArgs false

namespace Ural.C02String
open Ural Ural.Py Ural.UrlParts Ural.Quote Ural.QuoteUpper

/-! ## character classes -/

theorem cutFirst_eq_splitFirst (sep : Char) (s : Str) : cutFirst sep s = splitFirst s sep :=
  Canonicalize.cutFirst_eq_splitFirst sep s

theorem hex_not_control {c : Char} (h : isHexDigit c = true) : isControlChar c = false :=
  UrlRoundTrip.not_ctl_of_range (by rw [isHexDigit_toNat_iff] at h; omega)

theorem hex_of_upper_eq {k h : Char} (e : upperChar k = upperChar h) (hh : isHexDigit h = true) :
    isHexDigit k = true := by
  rw [← isHexDigit_upperChar, e, isHexDigit_upperChar, hh]

/-! ## the cleaning pass around one escape -/

/-- `strip` around a piece that starts and ends with characters that are no white space -/
theorem strip_mid (X M Y : Str) (c d : Char) (hc : isSpace c = false) (hd : isSpace d = false) :
    strip (X ++ c :: (M ++ d :: Y)) = lstrip X ++ c :: (M ++ d :: rstrip Y) := by
  unfold strip
  have hl : lstrip (X ++ c :: (M ++ d :: Y)) = lstrip X ++ c :: (M ++ d :: Y) := by
    unfold lstrip; exact dropWhile_append_stop_cons _ _ _ _ hc
  rw [hl]
  unfold rstrip
  have e : (lstrip X ++ c :: (M ++ d :: Y)).reverse =
      Y.reverse ++ d :: (M.reverse ++ c :: (lstrip X).reverse) := by simp
  rw [e, dropWhile_append_stop_cons _ _ _ _ hd]
  simp

theorem stripControl_esc (x y : Str) (h1 h2 : Char) (hh1 : isHexDigit h1 = true)
    (hh2 : isHexDigit h2 = true) :
    stripControl (x ++ '%' :: h1 :: h2 :: y) = stripControl x ++ '%' :: h1 :: h2 :: stripControl y := by
  have hp : isControlChar '%' = false := by decide
  simp [stripControl, List.filter_append, List.filter_cons, hp, hex_not_control hh1, hex_not_control hh2]

/-- **the cleaning pass forgets the letter case of the hex digits of an escape**: for EVERY
string `x ++ %h1h2 ++ y` with hex digits `h1`, `h2`, replacing them by the same digits in another
letter case gives the same cleaned string -/
theorem preClean_hex_step (x y : Str) (h1 h2 k1 k2 : Char) (hh1 : isHexDigit h1 = true)
    (hh2 : isHexDigit h2 = true) (e1 : upperChar k1 = upperChar h1) (e2 : upperChar k2 = upperChar h2) :
    Normalize.preClean (x ++ '%' :: k1 :: k2 :: y) = Normalize.preClean (x ++ '%' :: h1 :: h2 :: y) := by
  have hk1 := hex_of_upper_eq e1 hh1
  have hk2 := hex_of_upper_eq e2 hh2
  have hp : isSpace '%' = false := by decide
  unfold Normalize.preClean
  rw [stripControl_esc x y h1 h2 hh1 hh2, stripControl_esc x y k1 k2 hk1 hk2]
  have s1 := strip_mid (stripControl x) [h1] (stripControl y) '%' h2 hp (hex_not_space hh2)
  have s2 := strip_mid (stripControl x) [k1] (stripControl y) '%' k2 hp (hex_not_space hk2)
  simp only [List.singleton_append] at s1 s2
  rw [s1, s2, upperQuoted_append_esc hh1 hh2, upperQuoted_append_esc hk1 hk2, e1, e2]

/-- the reflexive-transitive closure of the step: `a` and `b` differ only in the letter case of
hex digits of valid escapes (`%` + two hex digits) of theirs -/
inductive HexCaseEq : Str → Str → Prop
  | refl (s : Str) : HexCaseEq s s
  | step (x y : Str) (h1 h2 k1 k2 : Char) (hh1 : isHexDigit h1 = true) (hh2 : isHexDigit h2 = true)
      (e1 : upperChar k1 = upperChar h1) (e2 : upperChar k2 = upperChar h2) :
      HexCaseEq (x ++ '%' :: k1 :: k2 :: y) (x ++ '%' :: h1 :: h2 :: y)
  | trans {a b c : Str} : HexCaseEq a b → HexCaseEq b c → HexCaseEq a c

/-- `step` for two strings given as literals: the two decompositions are equations to evaluate,
not terms for the unifier to take apart -/
theorem HexCaseEq.step_eq {a b : Str} (x y : Str) (h1 h2 k1 k2 : Char) (hh1 : isHexDigit h1 = true)
    (hh2 : isHexDigit h2 = true) (e1 : upperChar k1 = upperChar h1) (e2 : upperChar k2 = upperChar h2)
    (ha : a = x ++ '%' :: k1 :: k2 :: y) (hb : b = x ++ '%' :: h1 :: h2 :: y) : HexCaseEq a b :=
  ha ▸ hb ▸ .step x y h1 h2 k1 k2 hh1 hh2 e1 e2

theorem preClean_hexCaseEq {a b : Str} (h : HexCaseEq a b) :
    Normalize.preClean a = Normalize.preClean b := by
  induction h with
  | refl s => rfl
  | step x y h1 h2 k1 k2 hh1 hh2 e1 e2 => exact preClean_hex_step x y h1 h2 k1 k2 hh1 hh2 e1 e2
  | trans _ _ ih1 ih2 => exact ih1.trans ih2

/-- control characters inserted anywhere -/
theorem stripControl_insert_all (a w b : Str) (hw : w.all isControlChar = true) :
    stripControl (a ++ w ++ b) = stripControl (a ++ b) := by
  simpa [stripControl, List.filter_append] using List.all_eq_true.1 hw

/-! ## the scanner on a concatenation -/

/-- on the reversed string -/
def openPctRev : Str → Bool
  | [] => false
  | a :: t => a == '%' || (isHexDigit a && t.head? == some '%')

/-- `x` ends inside an unfinished escape: with `%`, or with `%` + one hex digit -/
def openPct (x : Str) : Bool := openPctRev x.reverse

theorem openPct_cons {c : Char} {x : Str} (h : openPct x = true) : openPct (c :: x) = true := by
  unfold openPct at h ⊢
  rw [List.reverse_cons]
  cases hx : x.reverse with
  | nil => rw [hx] at h; cases h
  | cons a t =>
    rw [hx] at h
    simp only [openPctRev, Bool.or_eq_true, beq_iff_eq, Bool.and_eq_true] at h
    simp only [List.cons_append, openPctRev, Bool.or_eq_true, beq_iff_eq, Bool.and_eq_true]
    rcases h with h | ⟨h1, h2⟩
    · exact Or.inl h
    · refine Or.inr ⟨h1, ?_⟩
      cases t with
      | nil => simp at h2
      | cons b r => simpa using h2

theorem openPct_tail {c : Char} {x : Str} (h : openPct (c :: x) = false) : openPct x = false := by
  cases hx : openPct x with
  | false => rfl
  | true => rw [openPct_cons hx] at h; cases h

theorem openPct_two {c d : Char} (h : openPct [c, d] = false) :
    d ≠ '%' ∧ ¬ (c = '%' ∧ isHexDigit d = true) := by
  simp only [openPct, List.reverse_cons, List.reverse_nil, List.nil_append, List.cons_append,
    openPctRev, List.head?_cons, Bool.or_eq_false_iff, beq_eq_false_iff_ne, ne_eq,
    Bool.and_eq_false_imp] at h
  refine ⟨h.1, ?_⟩
  rintro ⟨rfl, hd⟩
  have := h.2 hd
  simp at this

/-- **the scan of a concatenation is the concatenation of the scans** when the first string
does not end inside an unfinished escape -/
theorem tokens_append_closed : ∀ (x s : Str), openPct x = false → tokens (x ++ s) = tokens x ++ tokens s
  | x, s, h => by
    induction x using tokens_induction with
    | nil => rfl
    | esc h1 h2 r hh1 hh2 ih =>
      simp only [List.cons_append, tokens_esc hh1 hh2, ih (openPct_tail (openPct_tail (openPct_tail h)))]
    | single c r hc ih =>
      rw [List.cons_append, tokens_single ?_, tokens_single hc, ih (openPct_tail h)]; rfl
      rintro rfl
      -- a `%` in front of `r`, not open: `r` has two characters, or one that is no hex digit
      match r, hc rfl, h with
      | [], _, h => exact absurd h (by decide)
      | [a], _, h =>
        have ha : isHexDigit a = false := Bool.eq_false_iff.2 fun ha => (openPct_two h).2 ⟨rfl, ha⟩
        cases s <;> simp [startsHex2, ha]
      | a :: b :: r, hc, _ => exact hc

/-! ## substitution laws of the safe unquoters -/

/-- the part of the unquoter's input that a piece of the scan gives -/
def itemsOf (U : List UInt8) (ts : List Tok) : List Item :=
  ((escapeRaw ts).map (itemOf U)).flatMap expand

theorem itemsOf_append (U : List UInt8) (a b : List Tok) :
    itemsOf U (a ++ b) = itemsOf U a ++ itemsOf U b := by
  simp [itemsOf, escapeRaw_append]

/-- two strings whose scans differ by one piece with the same items are unquoted alike -/
theorem unquote_of_pieces (U : List UInt8) (a b : Str) (tx ma mb ty : List Tok)
    (ha : tokens a = tx ++ ma ++ ty) (hb : tokens b = tx ++ mb ++ ty)
    (h : itemsOf U ma = itemsOf U mb) : safelyUnquote U a = safelyUnquote U b := by
  apply unquote_respects_equiv
  show itemsOf U (tokens a) = itemsOf U (tokens b)
  rw [ha, hb, itemsOf_append, itemsOf_append, itemsOf_append, itemsOf_append, h]

theorem char_ne_of_toNat {c d : Char} (h : c.toNat ≠ d.toNat) : c ≠ d := by
  rintro rfl; exact h rfl

theorem char_eq_of_toNat {c d : Char} (h : c.toNat = d.toNat) : c = d := Char.toNat_inj.1 h

/-- **`%20` and a raw space are interchangeable** anywhere, for every unsafe set -/
theorem safelyUnquote_escaped_space (U : List UInt8) (x y : Str) :
    safelyUnquote U (x ++ '%' :: '2' :: '0' :: y) = safelyUnquote U (x ++ ' ' :: y) := by
  have hsep : Sep ' ' := ⟨by decide, by decide⟩
  apply unquote_of_pieces U _ _ (tokens x) [.esc '2' '0'] [.raw ' '] (tokens y)
  · rw [tokens_append_esc (by decide) (by decide)]; simp
  · rw [tokens_append_sep hsep]; simp
  · have hst : staysEscaped ' ' = false := by decide
    have hb : byteOf '2' '0' = 0x20 := by decide
    simp only [itemsOf, escapeRaw, List.flatMap_cons, List.flatMap_nil, escTok, hst,
      Bool.false_eq_true, if_false, List.append_nil, List.map_cons, List.map_nil, itemOf, hb]
    cases keepEsc U 0x20 <;> simp [expand]

/-- **an escaped ASCII character that the unquoter decodes and the character itself are
interchangeable** (`%41` vs `A`, `%7E` vs `~`, `%2d` vs `-`): for every string `x ++ %h1h2 ++ y`
whose escape stands for an ASCII byte that `U` does not keep escaped.  When the character is a
hex digit, `x` must not end inside an unfinished escape (`openPct`). -/
theorem safelyUnquote_escaped_ascii (U : List UInt8) (hU : (0x25 : UInt8) ∈ U) (x y : Str) (h1 h2 : Char)
    (hh1 : isHexDigit h1 = true) (hh2 : isHexDigit h2 = true)
    (hk : keepEsc U (byteOf h1 h2) = false) (hlt : (byteOf h1 h2).toNat < 0x80)
    (hctx : isHexDigit (Char.ofNat (byteOf h1 h2).toNat) = true → openPct x = false) :
    safelyUnquote U (x ++ '%' :: h1 :: h2 :: y) =
      safelyUnquote U (x ++ Char.ofNat (byteOf h1 h2).toNat :: y) := by
  generalize hb : byteOf h1 h2 = b at hk hlt hctx
  have hcn : (Char.ofNat b.toNat).toNat = b.toNat := toNat_ofNat_small _ (by omega)
  have hne : Char.ofNat b.toNat ≠ '%' := by
    intro e
    have : b.toNat = 37 := by rw [← hcn, e]; rfl
    have : b = 0x25 := UInt8.toNat_inj.1 this
    rw [this, keepEsc_of_mem hU] at hk
    cases hk
  apply unquote_of_pieces U _ _ (tokens x) [.esc h1 h2] [.raw (Char.ofNat b.toNat)] (tokens y)
  · rw [tokens_append_esc hh1 hh2]; simp
  · by_cases hx : isHexDigit (Char.ofNat b.toNat) = true
    · rw [tokens_append_closed _ _ (hctx hx), tokens_cons_of_ne hne]; simp
    · rw [tokens_append_sep ⟨hne, by simpa using hx⟩]; simp
  · have hst : staysEscaped (Char.ofNat b.toNat) = false := staysEscaped_of_lt (by omega)
    have hlt' : b < 0x80 := UInt8.lt_iff_toNat_lt.2 (by simpa using hlt)
    simp only [itemsOf, escapeRaw, List.flatMap_cons, List.flatMap_nil, escTok, hst,
      Bool.false_eq_true, if_false, List.append_nil, List.map_cons, List.map_nil, itemOf, hb, hk,
      hlt', if_true]
    by_cases h20 : b = 0x20
    · subst h20
      have : Char.ofNat (0x20 : UInt8).toNat = ' ' := by decide
      simp [this]
    · have : Char.ofNat b.toNat ≠ ' ' := by
        intro e
        have : b.toNat = 32 := by rw [← hcn, e]; rfl
        exact h20 (UInt8.toNat_inj.1 this)
      simp [h20, this]

/-- the context condition of `safelyUnquote_escaped_ascii` cannot be dropped: after `%4` an
escaped `1` is not the raw `1` (the raw one completes the escape `%41`) -/
theorem escaped_ascii_context_needed :
    safelyUnquote Gen.Quote.unsafeForPath "%4%31".toList ≠ safelyUnquote Gen.Quote.unsafeForPath "%41".toList ∧
    openPct "%4".toList = true := by
  simp only [toList_lit]
  decide +kernel

/-- the text of a list of escapes -/
def escStr (hs : List (Char × Char)) : Str := hs.flatMap fun p => ['%', p.1, p.2]

/-- the upper-case spelling of the escaped UTF-8 bytes of a character (`quote(c)`) -/
def pctEncode (c : Char) : List (Char × Char) :=
  (utf8 c).map fun b => (Quote.hexDigitUpper (b.toNat / 16), Quote.hexDigitUpper (b.toNat % 16))

theorem tokens_escStr (hs : List (Char × Char))
    (hhex : ∀ p ∈ hs, isHexDigit p.1 = true ∧ isHexDigit p.2 = true) (y : Str) :
    tokens (escStr hs ++ y) = hs.map (fun p => Tok.esc p.1 p.2) ++ tokens y := by
  induction hs with
  | nil => rfl
  | cons p r ih =>
    have hp := hhex p (by simp)
    simp only [escStr, List.flatMap_cons, List.cons_append, List.nil_append, List.map_cons]
    rw [tokens_esc hp.1 hp.2]
    congr 1
    exact ih (fun q hq => hhex q (by simp [hq]))

theorem tokens_append_escStr (x y : Str) (hs : List (Char × Char)) (hne : hs ≠ [])
    (hhex : ∀ p ∈ hs, isHexDigit p.1 = true ∧ isHexDigit p.2 = true) :
    tokens (x ++ (escStr hs ++ y)) = tokens x ++ hs.map (fun p => Tok.esc p.1 p.2) ++ tokens y := by
  cases hs with
  | nil => exact absurd rfl hne
  | cons p r =>
    have hp := hhex p (by simp)
    have e : escStr (p :: r) ++ y = '%' :: p.1 :: p.2 :: (escStr r ++ y) := by
      simp [escStr]
    rw [e, tokens_append_esc hp.1 hp.2, tokens_escStr r (fun q hq => hhex q (by simp [hq]))]
    simp

theorem itemsOf_escs (U : List UInt8) (hA : AsciiSet U) (hs : List (Char × Char))
    (hb : ∀ p ∈ hs, 0x80 ≤ (byteOf p.1 p.2).toNat) :
    itemsOf U (hs.map fun p => Tok.esc p.1 p.2) = (hs.map fun p => byteOf p.1 p.2).map Item.byte := by
  induction hs with
  | nil => rfl
  | cons p r ih =>
    have e : (p :: r).map (fun p => Tok.esc p.1 p.2) = [Tok.esc p.1 p.2] ++ r.map (fun p => Tok.esc p.1 p.2) := rfl
    rw [e, itemsOf_append, ih (fun q hq => hb q (by simp [hq]))]
    simp [itemsOf, escapeRaw, escTok, itemOf_esc_high U hA p.1 p.2 (hb p (by simp)), expand]

theorem nonascii_sep {c : Char} (hc : 0x80 ≤ c.toNat) : Sep c := by
  constructor
  · apply char_ne_of_toNat; have : ('%' : Char).toNat = 37 := rfl; omega
  · cases h : isHexDigit c with
    | false => rfl
    | true => rw [isHexDigit_toNat_iff] at h; omega

theorem itemsOf_raw_high (U : List UInt8) (hA : AsciiSet U) (c : Char) (hc : 0x80 ≤ c.toNat) :
    itemsOf U [.raw c] = (utf8 c).map Item.byte := by
  have hsp : c ≠ ' ' := by
    apply char_ne_of_toNat; have : (' ' : Char).toNat = 32 := rfl; omega
  by_cases hst : staysEscaped c = true
  · simp only [itemsOf, escapeRaw, List.flatMap_cons, List.flatMap_nil, escTok, hst, if_true,
      List.append_nil]
    rw [map_itemOf_escOfByte U hA (utf8_high hc), flatMap_expand_bytes]
  · have hst' : staysEscaped c = false := by simpa using hst
    simp [itemsOf, escapeRaw, escTok, hst', itemOf, hsp, expand, hc]

/-- **a non-ASCII character and any spelling of its escaped UTF-8 bytes are interchangeable**
(`é` vs `%C3%A9` vs `%c3%a9`), anywhere, for every unsafe set of ASCII bytes: `hs` is a list of
hex-digit pairs whose bytes are the UTF-8 encoding of `c` -/
theorem safelyUnquote_escaped_utf8 (U : List UInt8) (hA : AsciiSet U) (x y : Str) (c : Char)
    (hc : 0x80 ≤ c.toNat) (hs : List (Char × Char))
    (hhex : ∀ p ∈ hs, isHexDigit p.1 = true ∧ isHexDigit p.2 = true)
    (hb : hs.map (fun p => byteOf p.1 p.2) = utf8 c) :
    safelyUnquote U (x ++ (escStr hs ++ y)) = safelyUnquote U (x ++ c :: y) := by
  have hne : hs ≠ [] := by
    intro e; rw [e] at hb; exact utf8_ne_nil c hb.symm
  have hhigh : ∀ p ∈ hs, 0x80 ≤ (byteOf p.1 p.2).toNat := by
    intro p hp
    apply utf8_high hc
    rw [← hb]
    exact List.mem_map.2 ⟨p, hp, rfl⟩
  apply unquote_of_pieces U _ _ (tokens x) (hs.map fun p => Tok.esc p.1 p.2) [.raw c] (tokens y)
  · exact tokens_append_escStr x y hs hne hhex
  · rw [tokens_append_sep (nonascii_sep hc)]; simp
  · rw [itemsOf_escs U hA hs hhigh, hb, itemsOf_raw_high U hA c hc]

/-- the upper-case spelling `quote` writes is such a spelling -/
theorem pctEncode_ok (c : Char) :
    (∀ p ∈ pctEncode c, isHexDigit p.1 = true ∧ isHexDigit p.2 = true) ∧
    (pctEncode c).map (fun p => byteOf p.1 p.2) = utf8 c := by
  constructor
  · intro p hp
    simp only [pctEncode, List.mem_map] at hp
    obtain ⟨b, _, rfl⟩ := hp
    have := b.toNat_lt
    exact ⟨isHexDigit_hexDigitUpper (b.toNat / 16) (by omega), isHexDigit_hexDigitUpper (b.toNat % 16) (by omega)⟩
  · simp only [pctEncode, List.map_map]
    conv => rhs; rw [← List.map_id (utf8 c)]
    apply List.map_congr_left
    intro b _
    exact byteOf_escOfByte b

/-- non-vacuity of the three laws on one string -/
example :
    safelyUnquote Gen.Quote.unsafeForPath "/%41%7e%20/%c3%A9".toList =
      safelyUnquote Gen.Quote.unsafeForPath "/A~ /é".toList ∧
    escStr (pctEncode 'é') = "%C3%A9".toList ∧
    keepEsc Gen.Quote.unsafeForPath (byteOf '4' '1') = false ∧ openPct "/".toList = false := by
  simp only [toList_lit]
  decide +kernel

/-! ## a substitution inside a component that is split further (`user:password`, `k=v&k=v`) -/

/-- where a piece without separator ends up when the string around it is cut at the first
separator: in the second part, behind a suffix `v` of `x` — or in the first part, behind `x` -/
theorem splitFirst_subst_shape (sep : Char) (x y m1 m2 : Str) (h1 : sep ∉ m1) (h2 : sep ∉ m2) :
    (∃ k v, v <:+ x ∧ splitFirst (x ++ (m1 ++ y)) sep = (k, some (v ++ (m1 ++ y))) ∧
      splitFirst (x ++ (m2 ++ y)) sep = (k, some (v ++ (m2 ++ y)))) ∨
    (∃ s o, splitFirst (x ++ (m1 ++ y)) sep = (x ++ (m1 ++ s), o) ∧
      splitFirst (x ++ (m2 ++ y)) sep = (x ++ (m2 ++ s), o)) := by
  rcases splitFirst_shape sep x y with ⟨k, v, hv, e⟩ | ⟨s, o, e⟩
  · exact Or.inl ⟨k, v, hv, e m1, e m2⟩
  · exact Or.inr ⟨s, o, e m1 h1, e m2 h2⟩

/-- … and when it is split at every separator: in one piece, behind a suffix `p` of `x` -/
theorem splitOn_subst_shape (sep : Char) (y m1 m2 : Str) (h1 : sep ∉ m1) (h2 : sep ∉ m2) :
    ∀ (x : Str), ∃ (A B : List Str) (p s : Str), (A = [] → p = x) ∧ p <:+ x ∧
      splitOn (x ++ (m1 ++ y)) sep = A ++ (p ++ (m1 ++ s)) :: B ∧
      splitOn (x ++ (m2 ++ y)) sep = A ++ (p ++ (m2 ++ s)) :: B
  := fun x => by
  obtain ⟨A, B, p, s, hA, hp, e⟩ := splitOn_shape sep y x
  exact ⟨A, B, p, s, hA, hp, e m1 h1, e m2 h2⟩

/-- `m1` and `m2` are interchangeable for the unquoter with unsafe set `U` behind every suffix
of `x` (what the three substitution laws give) -/
def Interch (U : List UInt8) (x m1 m2 : Str) : Prop :=
  ∀ p s, p <:+ x → safelyUnquote U (p ++ (m1 ++ s)) = safelyUnquote U (p ++ (m2 ++ s))

theorem openPct_suffix {p x : Str} (h : p <:+ x) (hx : openPct x = false) : openPct p = false := by
  obtain ⟨t, rfl⟩ := h
  induction t with
  | nil => exact hx
  | cons c r ih => exact ih (openPct_tail hx)

theorem interch_ascii (U : List UInt8) (hU : (0x25 : UInt8) ∈ U) (x : Str) (h1 h2 : Char)
    (hh1 : isHexDigit h1 = true) (hh2 : isHexDigit h2 = true)
    (hk : keepEsc U (byteOf h1 h2) = false) (hlt : (byteOf h1 h2).toNat < 0x80)
    (hctx : isHexDigit (Char.ofNat (byteOf h1 h2).toNat) = true → openPct x = false) :
    Interch U x ['%', h1, h2] [Char.ofNat (byteOf h1 h2).toNat] := by
  intro p s hp
  exact safelyUnquote_escaped_ascii U hU p s h1 h2 hh1 hh2 hk hlt (fun h => openPct_suffix hp (hctx h))

theorem interch_space (U : List UInt8) (x : Str) : Interch U x ['%', '2', '0'] [' '] :=
  fun p s _ => safelyUnquote_escaped_space U p s

theorem interch_utf8 (U : List UInt8) (hA : AsciiSet U) (x : Str) (c : Char)
    (hc : 0x80 ≤ c.toNat) (hs : List (Char × Char))
    (hhex : ∀ p ∈ hs, isHexDigit p.1 = true ∧ isHexDigit p.2 = true)
    (hb : hs.map (fun p => byteOf p.1 p.2) = utf8 c) : Interch U x (escStr hs) [c] :=
  fun p s _ => safelyUnquote_escaped_utf8 U hA p s c hc hs hhex hb

set_option linter.unusedVariables false in
/-- the character an unquoter decodes is none of the bytes its table keeps escaped (`hlt` and `hd`
are not used) -/
theorem decoded_ne_of_mem {U : List UInt8} {b : UInt8} (hk : keepEsc U b = false) (hlt : b.toNat < 0x80)
    {d : Char} (hd : d.toNat < 0x80) (hm : UInt8.ofNat d.toNat ∈ U) : Char.ofNat b.toNat ≠ d := by
  intro e
  rw [byte_of_ofNat_eq e, keepEsc_of_mem hm] at hk
  cases hk

theorem not_mem_escStr {sep : Char} (hsep : sep ≠ '%' ∧ isHexDigit sep = false) (hs : List (Char × Char))
    (hhex : ∀ p ∈ hs, isHexDigit p.1 = true ∧ isHexDigit p.2 = true) : sep ∉ escStr hs := by
  intro hm
  simp only [escStr, List.mem_flatMap] at hm
  obtain ⟨p, hp, hm⟩ := hm
  have := hhex p hp
  simp only [List.mem_cons, List.not_mem_nil, or_false] at hm
  rcases hm with rfl | rfl | rfl
  · exact hsep.1 rfl
  · rw [this.1] at hsep; cases hsep.2
  · rw [this.2] at hsep; cases hsep.2

open Ural.Canonicalize Ural.Normpath Ural.UrlRoundTrip

theorem cleanUrl_preClean (u dp : Str) :
    Canonicalize.cleanUrl u dp = ensureProtocol (Normalize.preClean u) dp := rfl

/-- the function reads its argument through the cleaned string only -/
theorem canonicalize_of_preClean (puny : Str → Str) (o : Opts) (u v : Str)
    (h : Normalize.preClean u = Normalize.preClean v) :
    canonicalizeUrl puny o u = canonicalizeUrl puny o v := by
  unfold canonicalizeUrl canonicalizeSplit
  rw [cleanUrl_preClean, cleanUrl_preClean, h]

theorem escStr_ne_nil {hs : List (Char × Char)} {c : Char}
    (hb : hs.map (fun p => byteOf p.1 p.2) = utf8 c) : escStr hs ≠ [] := by
  cases hs with
  | nil => exact absurd hb.symm (utf8_ne_nil c)
  | cons p r => simp [escStr]

theorem isEmpty_mid (a m b : Str) (hm : m ≠ []) : (a ++ (m ++ b)).isEmpty = false := by
  cases a with
  | cons _ _ => rfl
  | nil => cases m with
    | nil => exact absurd rfl hm
    | cons _ _ => rfl

theorem unquoteQsl_subst (x y m1 m2 : Str) (h1 : '&' ∉ m1 ∧ '=' ∉ m1) (h2 : '&' ∉ m2 ∧ '=' ∉ m2)
    (H : Interch Gen.Quote.unsafeForQueryItem x m1 m2) :
    unquoteQsl (safeQslIter (x ++ (m1 ++ y))) = unquoteQsl (safeQslIter (x ++ (m2 ++ y))) := by
  obtain ⟨A, B, p, s, _, hp, e1, e2⟩ := splitOn_subst_shape '&' y m1 m2 h1.1 h2.1 x
  rw [safeQslIter_eq, safeQslIter_eq, e1, e2]
  simp only [unquoteQsl, List.map_append, List.map_cons]
  congr 2
  rw [C02String.cutFirst_eq_splitFirst, C02String.cutFirst_eq_splitFirst]
  rcases splitFirst_subst_shape '=' p s m1 m2 h1.2 h2.2 with ⟨k, v, hv, f1, f2⟩ | ⟨t, o, f1, f2⟩
  · rw [f1, f2]
    have := H v s (hv.trans hp)
    simp only [Option.map_some, unquoteQueryItem] at this ⊢
    rw [this]
  · rw [f1, f2]
    have := H p t hp
    simp only [unquoteQueryItem] at this ⊢
    rw [this]

theorem hex_ne {h d : Char} (hh : isHexDigit h = true) (hd : isHexDigit d = false) : d ≠ h := by
  rintro rfl; rw [hh] at hd; cases hd

theorem not_mem_esc3 {sep : Char} (hp : sep ≠ '%') (hs : isHexDigit sep = false) {h1 h2 : Char}
    (hh1 : isHexDigit h1 = true) (hh2 : isHexDigit h2 = true) : sep ∉ ['%', h1, h2] := by
  simp only [List.mem_cons, List.not_mem_nil, or_false, not_or]
  exact ⟨hp, hex_ne hh1 hs, hex_ne hh2 hs⟩

end Ural.C02String
