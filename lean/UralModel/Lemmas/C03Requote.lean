import UralModel.Lemmas.C03
/-!
# C03, quoted mode: which raw characters survive `safely_quote` followed by the safe unquoter

`quoted=True` prints `safely_quote (unq u)`; the next pass reads `unq (safely_quote (unq u))` and
sorts / filters / compares THAT.  A raw character `c` of `u` comes back raw iff `quote` leaves it
alone, or the unquoter decodes `%XX` again (`XX` is not a byte the unquoter keeps escaped).
`cleanStr U` says so of every character of a string — with `U` the REGENERATED unsafe set: a
hypothesis `cleanStr U s` silently excludes more inputs when `U` grows (seeded change C03-4: `+`
in `UNSAFE_FOR_QUERY_ITEM`).

Here the exclusion is made independent of the tables: a fixed list `D` of delimiter bytes per
component, and ONE inclusion between the tables,

> every byte of `U` is left alone by `quote` (with the `safe` argument the component is quoted
> with: `"/"`, and `"/+"` for a query item), or is the space / `%`, or is in `D`,

from which `cleanStr U s` follows for every string without a control character and without a raw
delimiter of `D` (`cleanStr_of_delimFree`).
-/
namespace Ural.C03
open Ural Ural.Py Ural.UrlParts Ural.Quote Ural.Canonicalize Ural.Normalize

/-- the inclusion between a component's unsafe set, `quote`'s safe set and the component's
delimiters `D` -/
def RequoteSafeBy (f : Char → Bool) (U D : List UInt8) : Prop :=
  ∀ b ∈ U, f (Char.ofNat b.toNat) = true ∨ b = 0x20 ∨ b = 0x25 ∨ b ∈ D

instance (f : Char → Bool) (U D : List UInt8) : Decidable (RequoteSafeBy f U D) := by
  unfold RequoteSafeBy; exact inferInstance

/-- the inclusion for `safely_quote`'s default safe set (path, userinfo, fragment) -/
abbrev RequoteSafe (U D : List UInt8) : Prop := RequoteSafeBy quoteSafe U D

/-- no control character (`CONTROL_CHARS_RE` has removed them) and no raw delimiter of `D` -/
def delimFree (D : List UInt8) (s : Str) : Bool :=
  s.all fun c => !isControlChar c && !(decide (c.toNat < 0x80) && D.contains (UInt8.ofNat c.toNat))

theorem delimFree_iff {D : List UInt8} {s : Str} :
    delimFree D s = true ↔
      ∀ c ∈ s, isControlChar c = false ∧ (c.toNat < 0x80 → UInt8.ofNat c.toNat ∉ D) := by
  simp only [delimFree, List.all_eq_true, Bool.and_eq_true, Bool.not_eq_true', Bool.and_eq_false_iff,
    decide_eq_false_iff_not, List.contains_eq_mem]
  exact forall₂_congr fun c _ => and_congr_right fun _ => Decidable.imp_iff_not_or.symm

/-- one ASCII character: not a control, not a delimiter of `D` — then it is the space, `%`, or
comes back raw from `safely_quote` followed by the safe unquoter -/
theorem cleanRawBy_of_requoteSafe {f : Char → Bool} {U D : List UInt8} (hinc : RequoteSafeBy f U D) {c : Char}
    (hctl : isControlChar c = false) (hD : c.toNat < 0x80 → UInt8.ofNat c.toNat ∉ D) :
    (c == ' ' || c == '%' || cleanRawBy f U c) = true := by
  cases hcl : cleanRawBy f U c with
  | true => simp
  | false =>
    -- ASCII, escaped by `quote` and kept escaped by the unquoter: a control byte (excluded) or a byte of `U`
    obtain ⟨hlt, hq, hk⟩ := not_cleanRawBy (by rw [hcl]; exact Bool.false_ne_true)
    have hb : (UInt8.ofNat c.toNat).toNat = c.toNat := by simp; omega
    simp only [isControlChar, Bool.or_eq_false_iff, Bool.and_eq_false_iff, decide_eq_false_iff_not] at hctl
    rcases (keepEsc_iff U _).1 hk with hk | hk | hm
    · omega
    · omega
    · rcases hinc _ hm with h1 | h1 | h1 | h1
      · rw [char_ofNat_byte hlt, hq] at h1; cases h1
      · have e : c = ' ' := by rw [← char_ofNat_byte hlt, h1]; rfl
        simp [e]
      · have e : c = '%' := by rw [← char_ofNat_byte hlt, h1]; rfl
        simp [e]
      · exact absurd h1 (hD hlt)

/-- **the quoted-mode exclusion, from the table inclusion**: a string without control characters
and without raw delimiters of `D` is `cleanStrBy f U` -/
theorem cleanStrBy_of_delimFree {f : Char → Bool} {U D : List UInt8} (hinc : RequoteSafeBy f U D) {s : Str}
    (h : delimFree D s = true) : cleanStrBy f U s = true := by
  simp only [cleanStrBy, List.all_eq_true]
  intro c hc
  obtain ⟨h1, h2⟩ := delimFree_iff.1 h c hc
  exact cleanRawBy_of_requoteSafe hinc h1 h2

/-- **`safely_unquote ∘ safely_quote` is the identity on what `safely_unquote` emits**, for every
delimiter-free input of a component whose tables satisfy the inclusion -/
theorem requoteBy_round_trip {f : Char → Bool} (hf : SafeSet f) {U D : List UInt8} (hpct : (0x25 : UInt8) ∈ U) (hA : AsciiSet U)
    (hinc : RequoteSafeBy f U D) (s : Str) (h : delimFree D s = true) :
    safelyUnquote U (safelyQuoteBy f (safelyUnquote U s)) = safelyUnquote U s :=
  safelyUnquote_quoteBy_unquote hf U hpct hA s (cleanStrBy_of_delimFree hinc h)

theorem cleanStr_of_delimFree {U D : List UInt8} (hinc : RequoteSafe U D) {s : Str}
    (h : delimFree D s = true) : cleanStr U s = true :=
  cleanStrBy_of_delimFree (f := quoteSafe) hinc h

theorem requote_round_trip {U D : List UInt8} (hpct : (0x25 : UInt8) ∈ U) (hA : AsciiSet U)
    (hinc : RequoteSafe U D) (s : Str) (h : delimFree D s = true) :
    safelyUnquote U (safelyQuote (safelyUnquote U s)) = safelyUnquote U s := by
  rw [safelyQuote_fun]; exact requoteBy_round_trip safeSet_quoteSafe hpct hA hinc s h

/-! ## the components of a parsed URL -/

/-- delimiters of a query key / value: `&` (between items), `=` (key from value), `#` (ends the query) -/
def queryDelims : List UInt8 := [0x26, 0x3D, 0x23]
/-- delimiters of the path: `?`, `#` (they end it); `/` is left alone by `quote` -/
def pathDelims : List UInt8 := [0x3F, 0x23]
/-- the fragment is the last component: nothing ends it -/
def fragmentDelims : List UInt8 := []

/-- the quoted-mode exclusion of (a)/(c1), INDEPENDENT of the regenerated tables: the path and the
fragment as the parser returns them after the cleaning pass (no raw `?` / `#` in the path, no
control character anywhere), no raw `#` in the query (the parser ends the query there), and —
the known-finding family KF-C03-4 — no raw `=` inside a query VALUE (a key holds no `=`, and no
item holds `&`, by construction of `safe_qsl_iter`) -/
def QuotedDelimFree (p : Parsed) : Prop :=
  Normpath.pathClean p.path = true ∧
  (∀ kv ∈ safeQslIter p.query, delimFree [0x23] kv.1 = true ∧ ∀ v ∈ kv.2, delimFree [0x3D, 0x23] v = true) ∧
  delimFree fragmentDelims p.fragment = true

instance (p : Parsed) : Decidable (QuotedDelimFree p) := by
  unfold QuotedDelimFree; exact inferInstance

theorem delimFree_weaken {D D' : List UInt8} {s : Str} (h : delimFree D s = true)
    (hx : ∀ b ∈ D', b ∉ D → ∀ c ∈ s, c.toNat < 0x80 → UInt8.ofNat c.toNat ≠ b) : delimFree D' s = true :=
  delimFree_iff.2 fun c hc =>
    have ⟨h1, h2⟩ := delimFree_iff.1 h c hc
    ⟨h1, fun hlt hm => hx _ hm (h2 hlt) c hc hlt rfl⟩

/-- a key: `safe_qsl_iter` cuts at `&` and at the first `=`, so only `#` is left to exclude -/
theorem delimFree_key {k : Str} (h : delimFree [0x23] k = true) (h1 : '&' ∉ k) (h2 : '=' ∉ k) :
    delimFree queryDelims k = true := by
  apply delimFree_weaken h
  intro b hb hnb c hc hlt
  simp only [queryDelims, List.mem_cons, List.not_mem_nil, or_false] at hb hnb
  rcases hb with rfl | rfl | rfl
  · exact byte_ne_of_char_ne hlt (d := '&') (by decide) (fun e => h1 (e ▸ hc))
  · exact byte_ne_of_char_ne hlt (d := '=') (by decide) (fun e => h2 (e ▸ hc))
  · exact absurd rfl hnb

/-- a value: `safe_qsl_iter` cuts at `&` -/
theorem delimFree_value {v : Str} (h : delimFree [0x3D, 0x23] v = true) (h1 : '&' ∉ v) :
    delimFree queryDelims v = true := by
  apply delimFree_weaken h
  intro b hb hnb c hc hlt
  simp only [queryDelims, List.mem_cons, List.not_mem_nil, or_false, not_or] at hb hnb
  rcases hb with rfl | rfl | rfl
  · exact byte_ne_of_char_ne hlt (d := '&') (by decide) (fun e => h1 (e ▸ hc))
  · exact absurd rfl hnb.1
  · exact absurd rfl hnb.2

/-- **the table-dependent exclusion follows from the fixed one**, given the inclusions for the
query item and the fragment (the path's is `Normpath.pathClean_cleanStr`) -/
theorem quotedClean_of_delimFree
    (hq : RequoteSafeBy quoteSafeQ Gen.Quote.unsafeForQueryItem queryDelims)
    (hf : RequoteSafe Gen.Quote.unsafeForFragment fragmentDelims)
    {p : Parsed} (h : QuotedDelimFree p) : QuotedClean p := by
  refine ⟨h.1, ?_, cleanStr_of_delimFree hf h.2.2⟩
  intro kv hkv
  obtain ⟨hk, hv⟩ := h.2.1 kv hkv
  obtain ⟨w1, w2, w3⟩ := wf_safeQslIter p.query kv hkv
  refine ⟨cleanStrBy_of_delimFree hq (delimFree_key hk w1 w2), ?_⟩
  intro v hvm
  exact cleanStrBy_of_delimFree hq (delimFree_value (hv v hvm) (w3 v hvm))


theorem ascii_ne_percent {P : Char → Nat → Prop}
    (h : ∀ n, n < 0x80 → n ≠ 0x25 → P (Char.ofNat n) n) (c : Char) (hlt : c.toNat < 0x80)
    (hne : c ≠ '%') : P c c.toNat := by
  have := h c.toNat hlt (fun e => hne (Char.toNat_inj.1 (by rw [e]; rfl)))
  rwa [Char.ofNat_toNat] at this

theorem requoteSafeBy_of_tables {f : Char → Bool} {S : List Nat} {U D : List UInt8} (hA : AsciiSet U)
    (hf : ∀ c : Char, c.toNat < 0x80 → c ≠ '%' → f c = S.contains c.toNat)
    (h : ∀ b ∈ U, S.contains b.toNat = true ∨ b = 0x20 ∨ b = 0x25 ∨ b ∈ D) :
    RequoteSafeBy f U D := by
  intro b hb
  refine (h b hb).elim (fun h1 => ?_) .inr
  by_cases hp : b = 0x25
  · exact .inr (.inr (.inl hp))
  · have hc : (Char.ofNat b.toNat).toNat = b.toNat := toNat_ofNat_small _ (by have := hA b hb; omega)
    have e := hf (Char.ofNat b.toNat) (by rw [hc]; exact hA b hb) fun e => hp (byte_of_ofNat_eq e)
    rw [hc] at e
    exact .inl (e ▸ h1)

end Ural.C03
