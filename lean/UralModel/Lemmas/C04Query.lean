import UralModel.Model.Normalize
import UralModel.Lemmas.Canonicalize
import UralModel.Lemmas.Redirect
import UralModel.Lemmas.C04Order
import UralModel.Lemmas.Normalize
/-!
# C04 — the query: from the raw query string to the items the filter sees

* `fixMistakes_join`: `MISTAKES_RE.sub("&", …)` on `"&".join(items)` (items without `&`) leaves
  the first item alone and cuts a leading `amp;` / `amp%3B` (re.I) off every other item.
* `seenItems`: the items that reach `should_strip_query_item`, as a function of the decoded
  item list `safely_unquote_qsl(safe_qsl_iter(query))`.
* `keepItem`, `sortIf`, `renderQsl`: filter, sort and final (un)quoting as functions on item lists;
  the query string of the result is these applied to `seenItems` (`outQuery_eq_lc`, `Lemmas/C04Lower.lean`).
-/
set_option linter.unusedSimpArgs false
namespace Ural.Normalize
open Ural Ural.Py Ural.UrlParts Ural.Quote Ural.Canonicalize

/-! ## `fix_common_query_mistakes` on an `&`-joined list -/

theorem ciMatch_amp {c : Char} (h : ciMatch '&' c = true) : c = '&' := ciMatch_small _ _ (by decide) h

theorem mistakeHere_of_ne {c : Char} (hc : c ≠ '&') (cs : Str) : mistakeHere (c :: cs) = none := by
  unfold mistakeHere
  have : matchLit "&amp".toList (c :: cs) = none := by
    show matchLit ('&' :: "amp".toList) (c :: cs) = none
    simp only [matchLit]
    split
    · rename_i h; exact absurd (ciMatch_amp h) hc
    · rfl
  rw [this]

/-- inside an item nothing is matched -/
theorem fixFrom_item (i t : Str) (hi : '&' ∉ i) :
    fixMistakesFrom (i ++ t) 0 = i ++ fixMistakesFrom t 0 := by
  induction i with
  | nil => rfl
  | cons c cs ih =>
    have hc : c ≠ '&' := fun e => hi (by simp [e])
    have hcs : '&' ∉ cs := fun e => hi (by simp [e])
    simp only [List.cons_append, fixMistakesFrom, mistakeHere_of_ne hc, ih hcs]

theorem fixFrom_skip (m rest : Str) : fixMistakesFrom (m ++ rest) m.length = fixMistakesFrom rest 0 := by
  induction m with
  | nil => rfl
  | cons c cs ih => simp only [List.cons_append, List.length_cons, fixMistakesFrom, ih]

/-- a pattern none of whose characters matches `&` -/
def NoAmpPat (pat : List Char) : Prop := ∀ c ∈ pat, ciMatch c '&' = false

/-- what follows an item: nothing, or the `&` of the next item -/
def ItemEnd (t : Str) : Prop := t = [] ∨ ∃ r, t = '&' :: r

theorem matchLit_item (pat : List Char) (hpat : NoAmpPat pat) (i t : Str) (ht : ItemEnd t) :
    matchLit pat (i ++ t) = (matchLit pat i).map (· ++ t) := by
  rcases ht with rfl | ⟨r, rfl⟩
  · simp
  · exact matchLit_before_sep pat '&' hpat i r

/-- `amp(?:%3B|;)` at the head of an item: what follows -/
def ampRest (i : Str) : Option Str :=
  (matchLit "amp".toList i).bind fun r => (matchLit "%3b".toList r).or (matchLit ";".toList r)

/-- the item without a leading `amp;` / `amp%3B` (re.I) -/
def dropAmp (i : Str) : Str := (ampRest i).getD i

theorem mistakeHere_item (i t : Str) (ht : ItemEnd t) :
    mistakeHere ('&' :: i ++ t) = (ampRest i).map (· ++ t) := by
  unfold mistakeHere ampRest
  have h0 : matchLit "&amp".toList ('&' :: i ++ t) = matchLit "amp".toList (i ++ t) := by
    show matchLit ('&' :: "amp".toList) ('&' :: (i ++ t)) = _
    simp only [matchLit]
    have : ciMatch '&' '&' = true := by decide +kernel
    simp [this]
  rw [h0, matchLit_item _ (by intro c hc; revert c; decide +kernel) i t ht]
  cases h : matchLit "amp".toList i with
  | none => rfl
  | some r =>
    simp only [Option.map_some, Option.bind_some]
    rw [matchLit_item _ (by intro c hc; revert c; decide +kernel) r t ht,
      matchLit_item _ (by intro c hc; revert c; decide +kernel) r t ht]
    cases matchLit "%3b".toList r <;> cases matchLit ";".toList r <;> rfl

theorem ampRest_suffix {i r : Str} (h : ampRest i = some r) : ∃ pre, i = pre ++ r := by
  change ((matchLit "amp".toList i).bind fun r =>
    (matchLit "%3b".toList r).or (matchLit ";".toList r)) = some r at h
  cases h1 : matchLit "amp".toList i with
  | none => rw [h1] at h; cases h
  | some r1 =>
    rw [h1] at h
    change (matchLit "%3b".toList r1).or (matchLit ";".toList r1) = some r at h
    obtain ⟨p1, hp1⟩ := matchLit_suffix _ _ _ h1
    cases h2 : matchLit "%3b".toList r1 with
    | some r2 =>
      rw [h2] at h
      have h : r2 = r := by simpa using h
      obtain ⟨p2, hp2⟩ := matchLit_suffix _ _ _ h2
      exact ⟨p1 ++ p2, by rw [← hp1, ← hp2, ← h]; simp⟩
    | none =>
      rw [h2] at h
      have h : matchLit ";".toList r1 = some r := by simpa using h
      obtain ⟨p2, hp2⟩ := matchLit_suffix _ _ _ h
      exact ⟨p1 ++ p2, by rw [← hp1, ← hp2]; simp⟩

theorem amp_not_mem_dropAmp {i : Str} (hi : '&' ∉ i) : '&' ∉ dropAmp i := by
  unfold dropAmp
  cases h : ampRest i with
  | none => simpa using hi
  | some r =>
    obtain ⟨pre, hpre⟩ := ampRest_suffix h
    simp only [Option.getD_some]
    intro hm
    exact hi (by rw [hpre]; simp [hm])

/-- an item after its `&` -/
theorem fixFrom_amp_item (i t : Str) (hi : '&' ∉ i) (ht : ItemEnd t) :
    fixMistakesFrom ('&' :: i ++ t) 0 = '&' :: dropAmp i ++ fixMistakesFrom t 0 := by
  have hm := mistakeHere_item i t ht
  simp only [List.cons_append] at hm
  simp only [List.cons_append, fixMistakesFrom, hm]
  unfold dropAmp
  cases h : ampRest i with
  | none =>
    simp only [Option.map_none, Option.getD_none]
    rw [fixFrom_item i t hi]
  | some r =>
    obtain ⟨pre, hpre⟩ := ampRest_suffix h
    have hr : '&' ∉ r := fun hm => hi (by rw [hpre]; simp [hm])
    simp only [Option.map_some, Option.getD_some]
    have hlen : ('&' :: (i ++ t)).length - (r ++ t).length - 1 = pre.length := by
      rw [hpre]; simp; omega
    rw [hlen]
    have : i ++ t = pre ++ (r ++ t) := by rw [hpre]; simp
    rw [this, fixFrom_skip, fixFrom_item r t hr]

/-- the items after the first, each with its `&` -/
def tailStr (is : List Str) : Str := is.flatMap fun i => '&' :: i

theorem itemEnd_tailStr (is : List Str) : ItemEnd (tailStr is) := by
  cases is with
  | nil => left; rfl
  | cons i is => right; exact ⟨i ++ tailStr is, by simp [tailStr]⟩

theorem join_amp_eq (i0 : Str) (is : List Str) : join ['&'] (i0 :: is) = i0 ++ tailStr is := by
  induction is generalizing i0 with
  | nil => simp [join, tailStr]
  | cons i is ih =>
    have : join ['&'] (i0 :: i :: is) = i0 ++ ['&'] ++ join ['&'] (i :: is) := rfl
    rw [this, ih i]
    simp [tailStr]

theorem fixFrom_tailStr (is : List Str) (h : ∀ i ∈ is, '&' ∉ i) :
    fixMistakesFrom (tailStr is) 0 = tailStr (is.map dropAmp) := by
  induction is with
  | nil => rfl
  | cons i is ih =>
    have e : tailStr (i :: is) = '&' :: i ++ tailStr is := by simp [tailStr]
    rw [e, fixFrom_amp_item i _ (h i (by simp)) (itemEnd_tailStr is),
      ih (fun x hx => h x (List.mem_cons_of_mem _ hx))]
    simp [tailStr]

/-- **`fix_common_query_mistakes("&".join(items))`**: the first item stays, every other item
loses a leading `amp;` / `amp%3B` -/
theorem fixMistakes_join (i0 : Str) (is : List Str) (h : ∀ i ∈ i0 :: is, '&' ∉ i) :
    fixCommonQueryMistakes (join ['&'] (i0 :: is)) = join ['&'] (i0 :: is.map dropAmp) := by
  unfold fixCommonQueryMistakes
  rw [join_amp_eq, join_amp_eq, fixFrom_item i0 _ (h i0 (by simp)),
    fixFrom_tailStr is (fun x hx => h x (List.mem_cons_of_mem _ hx))]

/-! ## the items the filter sees -/

abbrev unqItem (kv : QItem) : QItem := (unquoteQueryItem kv.1, kv.2.map unquoteQueryItem)

theorem unquoteQsl_eq (l : List QItem) : unquoteQsl l = l.map unqItem := by
  unfold unquoteQsl
  apply List.map_congr_left
  intro kv _
  obtain ⟨k, v⟩ := kv
  rfl

/-- `safely_unquote_qsl(safe_qsl_iter(query))` -/
def decoded (q : Str) : List QItem := unquoteQsl (safeQslIter q)

theorem decoded_ne_nil (q : Str) : decoded q ≠ [] := by
  unfold decoded
  rw [safeQslIter_eq, unquoteQsl_eq]
  simpa using splitOn_ne_nil q '&'

/-- the decoded items of `"&".join(items)` (items without `&`): each item split at its first
`=` and unescaped -/
theorem decoded_join (R : List Str) (hne : R ≠ []) (h : ∀ r ∈ R, '&' ∉ r) :
    decoded (join ['&'] R) = R.map (fun r => unqItem (cutFirst '=' r)) := by
  unfold decoded
  rw [safeQslIter_eq, splitOn_join '&' R hne h, unquoteQsl_eq, List.map_map]
  rfl

theorem wf_decoded (q : Str) : ∀ kv ∈ decoded q, ItemWf kv :=
  wf_unquoteQsl _ (wf_safeQslIter q)

/-- what the second split finds for an item that is not the first: its serialisation without
a leading `amp;`, split at the first `=` and unescaped again -/
def seenTail (kv : QItem) : QItem := unqItem (cutFirst '=' (dropAmp (serializeItem kv)))

/-- … and for the first item -/
def seenHead (kv : QItem) : QItem := unqItem (cutFirst '=' (serializeItem kv))

/-- the items that reach the filter, from the decoded items of the raw query -/
def seenItems (fix : Bool) (l : List QItem) : List QItem :=
  if fix then
    match l with
    | [] => []
    | kv :: rest => seenHead kv :: rest.map seenTail
  else l

theorem seenItems_true_eq_map (L : List QItem)
    (h : ∀ kv ∈ L, dropAmp (serializeItem kv) = serializeItem kv) :
    seenItems true L = L.map seenHead := by
  cases L with
  | nil => rfl
  | cons kv rest =>
    simp only [seenItems, if_true, List.map_cons, List.cons.injEq, true_and]
    apply List.map_congr_left
    intro x hx
    unfold seenTail seenHead
    rw [h x (by simp [hx])]

/-- the query after `fix_common_query_mistakes` -/
def fixedQ (o : Opts) (q : Str) : Str :=
  if o.fixCommonMistakes && !q.isEmpty then
    fixCommonQueryMistakes (safeSerializeQsl (unquoteQsl (safeQslIter q)))
  else q

theorem fixedQuery_eq (o : Opts) (p : Parsed) : fixedQuery o p = fixedQ o p.query := rfl

theorem decoded_nil : decoded [] = [([], none)] := by decide +kernel

theorem serialize_nil_item : safeSerializeQsl [(([] : Str), (none : Option Str))] = [] := by decide +kernel

/-- with the repair switched on, the repaired query is the repaired serialisation of the
decoded items — also for the empty query -/
theorem fixedQ_on (o : Opts) (hf : o.fixCommonMistakes = true) (q : Str) :
    fixedQ o q = fixCommonQueryMistakes (safeSerializeQsl (decoded q)) := by
  unfold fixedQ decoded
  by_cases hq : q = []
  · subst hq
    simp only [hf, List.isEmpty_nil, Bool.not_true, Bool.and_false, Bool.false_eq_true, if_false]
    rw [← decoded, decoded_nil, serialize_nil_item]
    rfl
  · have : q.isEmpty = false := by cases q <;> simp_all
    simp [hf, this]

theorem fixedQ_items (o : Opts) (hf : o.fixCommonMistakes = true) (q : Str) :
    ∃ kv rest, decoded q = kv :: rest ∧
      fixedQ o q = join ['&'] (serializeItem kv :: rest.map (fun x => dropAmp (serializeItem x))) := by
  have hne := decoded_ne_nil q
  have hwf := wf_decoded q
  cases hd : decoded q with
  | nil => exact absurd hd hne
  | cons kv rest =>
    refine ⟨kv, rest, rfl, ?_⟩
    rw [fixedQ_on o hf, hd, safeSerializeQsl_eq]
    simp only [List.map_cons]
    rw [fixMistakes_join, List.map_map]
    · rfl
    · intro i hi
      rw [hd] at hwf
      simp only [List.mem_cons, List.mem_map] at hi
      rcases hi with rfl | ⟨x, hx, rfl⟩
      · exact amp_not_mem_serializeItem kv (hwf kv (by simp))
      · exact amp_not_mem_serializeItem x (hwf x (by simp [hx]))

/-- **the second split**: `safely_unquote_qsl(safe_qsl_iter(repaired query))` is `seenItems` of
the decoded items of the raw query -/
theorem decoded_fixedQ (o : Opts) (q : Str) :
    decoded (fixedQ o q) = seenItems o.fixCommonMistakes (decoded q) := by
  by_cases hf : o.fixCommonMistakes = true
  · obtain ⟨kv, rest, hd, hfx⟩ := fixedQ_items o hf q
    have hwf := wf_decoded q
    rw [hd] at hwf
    rw [hfx, hd]
    unfold decoded
    rw [safeQslIter_eq, splitOn_join '&' _ (by simp)]
    · simp only [seenItems, hf, if_true, List.map_cons, List.map_map, unquoteQsl_eq]
      rfl
    · intro p hp
      simp only [List.mem_cons, List.mem_map] at hp
      rcases hp with rfl | ⟨x, hx, rfl⟩
      · exact amp_not_mem_serializeItem kv (hwf kv (by simp))
      · exact amp_not_mem_dropAmp (amp_not_mem_serializeItem x (hwf x (by simp [hx])))
  · have hf' : o.fixCommonMistakes = false := by simpa using hf
    simp [fixedQ, seenItems, hf']

/-! ## the query string of the result -/

/-- the filter of `normalize_url` as a predicate on items -/
def keepItem (o : Opts) (host : Option Str) (it : QItem) : Bool :=
  !shouldStripQueryItem o.normalizeAmp o.queryItemFilter (domainFilter host) it

def sortIf (b : Bool) (l : List QItem) : List QItem := if b then sortQsl l else l

/-- quoting block and `safe_serialize_qsl` -/
def renderQsl (quoted : Bool) (l : List QItem) : Str :=
  safeSerializeQsl (if quoted then quoteQsl (unquoteQsl l) else unquoteQsl l)

/-- the empty item is kept by the filter, whatever the host and the options (so that an empty
query and its single empty item serialise alike) -/
def KeepsEmpty : Prop :=
  ∀ (amp : Bool) (qf : QueryItemFilter) (df : Option (List String)),
    (df = none ∨ ∃ e ∈ Gen.Normalize.perDomainQueryFilters, df = some e.2) →
    shouldStripQueryItem amp qf df ([], none) = false

theorem domainFilter_cases (host : Option Str) :
    domainFilter host = none ∨ ∃ e ∈ Gen.Normalize.perDomainQueryFilters, domainFilter host = some e.2 := by
  unfold domainFilter
  cases host with
  | none => left; rfl
  | some h =>
    simp only
    split
    · left; rfl
    · cases hf : Gen.Normalize.perDomainQueryFilters.find? (fun e => endsWith h e.1.toList) with
      | none => left; rfl
      | some e => right; exact ⟨e, List.mem_of_find?_eq_some hf, rfl⟩

theorem keepItem_empty (hk : KeepsEmpty) (o : Opts) (host : Option Str) :
    keepItem o host ([], none) = true := by
  unfold keepItem
  rw [hk o.normalizeAmp o.queryItemFilter (domainFilter host) (domainFilter_cases host)]
  rfl

theorem renderQsl_empty_item (quoted : Bool) : renderQsl quoted [([], none)] = [] := by
  cases quoted <;> decide +kernel

theorem renderQsl_nil (quoted : Bool) : renderQsl quoted [] = [] := by
  cases quoted <;> decide +kernel

theorem sortIf_singleton (b : Bool) (x : QItem) : sortIf b [x] = [x] := by
  cases b <;> simp [sortIf, sortQsl, insertItem]

end Ural.Normalize
