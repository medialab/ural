import UralModel.Lemmas.IsUrl
import UralModel.Model.UrlsFromText
/-!
# Lemmas for `urls_from_text`

`urls_from_text_spec`: for every text the model returns a list of yields (no exception),
which occur in the text as disjoint substrings in order, each non-empty, equal to its own
`strip()`, and accepted by `is_url(require_protocol=True, only_http_https=False)`.
The facts about the regenerated patterns it needs are explicit hypotheses (discharged by
`decide` in `Props/C16.lean`).
-/
namespace Ural.UrlsFromText
open Ural.Py Ural.Py.Re Ural.Gen.Patterns Ural.IsUrl

/-- `is_url(s, require_protocol=True, only_http_https=False)` as a Boolean -/
def isUrlPB (s : Str) : Bool := !(strip s).isEmpty && pyMatch URL_WITH_PROTOCOL_RE (strip s)

theorem isUrlP_eq (s : Str) : isUrlP s = .ok (isUrlPB s) := by
  simp only [isUrlP]
  rw [is_url_no_tld _ _ _ rfl]
  simp [isUrlPB, pattern]

/-- what a yield must satisfy -/
def Good (y : Str) : Prop := y ≠ [] ∧ strip y = y ∧ isUrlPB y = true

theorem good_of {y : Str} (hws : ∀ c ∈ y, isSpace c = false) (hu : isUrlPB y = true) : Good y := by
  have hs := strip_eq_self hws
  refine ⟨?_, hs, hu⟩
  intro hy
  subst hy
  simp [isUrlPB, strip_nil] at hu

theorem isUrlPB_strip (s : Str) : isUrlPB (strip s) = isUrlPB s := by
  simp only [isUrlPB, strip_strip]

/-! ## pieces -/

theorem splitOnce_spec {sep : Str} : ∀ {s a b : Str}, splitOnce sep s = some (a, b) → s = a ++ sep ++ b := by
  intro s
  induction s with
  | nil => intro a b h; simp [splitOnce] at h
  | cons c cs ih =>
    intro a b h
    simp only [splitOnce] at h
    split at h
    · rename_i hp
      simp only [Option.some.injEq, Prod.mk.injEq] at h
      obtain ⟨rfl, rfl⟩ := h
      rw [List.isPrefixOf_iff_prefix] at hp
      obtain ⟨t, ht⟩ := hp
      rw [← ht]
      simp
    · cases hr : splitOnce sep cs with
      | none => simp [hr] at h
      | some ab =>
        obtain ⟨a', b'⟩ := ab
        simp only [hr, Option.map_some, Option.some.injEq, Prod.mk.injEq] at h
        obtain ⟨rfl, rfl⟩ := h
        rw [ih hr]
        simp

theorem trimRev_suffix : ∀ (r : List Char) (last : Option Char), trimRev r last <:+ r := by
  intro r
  induction r with
  | nil => intro last; simp [trimRev]
  | cons c r ih =>
    intro last
    cases r with
    | nil => simp [trimRev]
    | cons d rest =>
      simp only [trimRev]
      split
      · exact (ih _).trans (List.suffix_cons c _)
      · exact List.suffix_refl _

/-- the trimmed url is a prefix of the url -/
theorem trim_prefix (url : Str) : ∃ b, url = trim url ++ b := by
  obtain ⟨a, ha⟩ := trimRev_suffix url.reverse none
  refine ⟨a.reverse, ?_⟩
  have := congrArg List.reverse ha
  simp only [List.reverse_append, List.reverse_reverse] at this
  simp only [trim]
  exact this.symm

theorem inOrder_single_prefix {y b : Str} : InOrder [y] (y ++ b) :=
  InOrder.cons [] b (by simp) (InOrder.nil b)

theorem inOrder_single_self (y : Str) : InOrder [y] y := by
  have := @inOrder_single_prefix y []
  simpa using this

/-- urls_from_text.py:42-58 -/
theorem trimAndYield_spec {url : Str} (hne : url ≠ []) (hws : ∀ c ∈ url, isSpace c = false)
    (hurl : isUrlPB url = true) :
    ∃ ys, trimAndYield url = .ok ys ∧ InOrder ys url ∧ ∀ y ∈ ys, Good y := by
  have hemp : url.isEmpty = false := by
    cases url with
    | nil => exact absurd rfl hne
    | cons _ _ => rfl
  obtain ⟨b, hb⟩ := trim_prefix url
  simp only [trimAndYield, hemp, Bool.false_eq_true, if_false, isUrlP_eq]
  split
  · -- trimmed: re-checked
    cases hc : isUrlPB (trim url)
    · exact ⟨[], by simp [bind, Except.bind, pure, Except.pure], InOrder.nil _, by simp⟩
    · refine ⟨[trim url], by simp [bind, Except.bind, pure, Except.pure], ?_, ?_⟩
      · have h := @inOrder_single_prefix (trim url) b
        rw [← hb] at h
        exact h
      · intro y hy
        simp only [List.mem_singleton] at hy
        subst hy
        refine good_of (fun c hc' => hws c ?_) hc
        rw [hb]
        exact List.mem_append_left _ hc'
  · exact ⟨[url], rfl, inOrder_single_self url, by
      intro y hy
      simp only [List.mem_singleton] at hy
      subst hy
      exact good_of hws hurl⟩

/-- urls_from_text.py:28-58 -/
theorem yieldsOfMatch_spec (br : Bool) {url : Str} (hne : url ≠ []) (hws : ∀ c ∈ url, isSpace c = false)
    (hurl : isUrlPB url = true) :
    ∃ ys, yieldsOfMatch br url = .ok ys ∧ InOrder ys url ∧ ∀ y ∈ ys, Good y := by
  simp only [yieldsOfMatch]
  split
  · split
    · rename_i remainder u hsp
      have hurl' := splitOnce_spec hsp
      have hwr : ∀ c ∈ remainder, isSpace c = false := fun c hc => hws c (by rw [hurl']; simp [hc])
      have hwu : ∀ c ∈ u, isSpace c = false := fun c hc => hws c (by rw [hurl']; simp [hc])
      -- the first half
      have h1 : ∃ y1, (if isUrlPB remainder = true then [strip remainder] else []) = y1 ∧
          InOrder y1 (remainder ++ "](".toList) ∧ ∀ y ∈ y1, Good y := by
        refine ⟨_, rfl, ?_, ?_⟩
        · split
          · obtain ⟨a, b, hab⟩ := strip_substring remainder
            exact (InOrder.cons a b hab (InOrder.nil b)).extend _
          · exact InOrder.nil _
        · intro y hy
          split at hy
          · rename_i hr
            simp only [List.mem_singleton] at hy
            subst hy
            refine good_of (fun c hc => hwr c ?_) (by rw [isUrlPB_strip]; exact hr)
            obtain ⟨a, b, hab⟩ := strip_substring remainder
            rw [hab]; simp [hc]
          · simp at hy
      obtain ⟨y1, hy1, ho1, hg1⟩ := h1
      simp only [isUrlP_eq, bind, Except.bind, pure, Except.pure, hy1]
      cases hu : isUrlPB u
      · refine ⟨y1, by simp, ?_, hg1⟩
        rw [hurl']
        exact ho1.extend u
      · have hune : u ≠ [] := by
          intro h0; subst h0; simp [isUrlPB, strip_nil] at hu
        obtain ⟨ys, hys, ho2, hg2⟩ := trimAndYield_spec hune hwu hu
        refine ⟨y1 ++ ys, by simp [hys], ?_, List.forall_mem_append.mpr ⟨hg1, hg2⟩⟩
        rw [hurl']
        exact ho1.append ho2
    · exact trimAndYield_spec hne hws hurl
  · exact trimAndYield_spec hne hws hurl

/-! ## the generator -/

theorem collect_ok {α : Type} {f : α → Except Err (List Str)} {g : α → List Str} :
    ∀ {xs : List α}, (∀ x ∈ xs, f x = .ok (g x)) → collect f xs = .ok (xs.flatMap g)
  | [], _ => rfl
  | x :: xs, h => by
    rw [collect, h x List.mem_cons_self, collect_ok fun y hy => h y (List.mem_cons_of_mem _ hy)]
    rfl

theorem collect_spec {n r s ms} (h : Chain n r s ms)
    (f : List Char × List Char → Except Err (List Str))
    (hf : ∀ st ∈ ms, Match n r st.1 st.2 →
      ∃ ys, f st = .ok ys ∧ InOrder ys (consumed st.1 st.2) ∧ ∀ y ∈ ys, Good y) :
    ∃ ys, collect f ms = .ok ys ∧ InOrder ys s ∧ ∀ y ∈ ys, Good y := by
  let g := fun st => match f st with | .ok ys => ys | .error _ => []
  have hg : ∀ st ∈ ms, f st = .ok (g st) ∧ InOrder (g st) (consumed st.1 st.2) ∧
      ∀ y ∈ g st, Good y := by
    intro st hst
    obtain ⟨ys, e, ho, hy⟩ := hf st hst (h.match_of_mem st hst)
    have : g st = ys := by simp only [g, e]
    exact this ▸ ⟨e, ho, hy⟩
  refine ⟨ms.flatMap g, collect_ok fun st hst => (hg st hst).1,
    h.inOrder g fun st hst _ => (hg st hst).2.1, fun y hy => ?_⟩
  obtain ⟨st, hst, hy⟩ := List.mem_flatMap.mp hy
  exact (hg st hst).2.2 y hy

/-- facts about the regenerated patterns used below (table obligations) -/
structure PatternFacts : Prop where
  notNullable : nullable URL_IN_TEXT_RE = false
  noWs : allCls (fun C => C.avoids spaceCodes) URL_IN_TEXT_RE = true
  anchorFree : anchorFree URL_IN_TEXT_RE = true
  shape : spine URL_WITH_PROTOCOL_RE = .bos :: spine URL_IN_TEXT_RE ++ [.eos]
  complete : noNullRep URL_WITH_PROTOCOL_RE = true

theorem not_space_of_avoids {C : CharClass} {c : Char} (h : C.avoids spaceCodes = true)
    (hc : C.mem c = true) : isSpace c = false := by
  have := CharClass.avoids_sound h hc
  simp only [isSpace]
  cases hcs : spaceCodes.contains c.toNat
  · rfl
  · exact absurd (List.contains_iff_mem.mp hcs) this

/-- a raw match of `URL_IN_TEXT_RE` is non-empty, free of whitespace, and a url with protocol -/
theorem match_facts (pf : PatternFacts) {n s t} (h : Match n URL_IN_TEXT_RE s t) :
    consumed s t ≠ [] ∧ (∀ c ∈ consumed s t, isSpace c = false) ∧ isUrlPB (consumed s t) = true := by
  have hne : consumed s t ≠ [] := by
    intro h0
    have hp := h.progress pf.notNullable
    have he := h.eq_consumed
    rw [h0] at he
    simp only [List.nil_append] at he
    rw [he] at hp
    omega
  have hws : ∀ c ∈ consumed s t, isSpace c = false :=
    h.consumed_all (P := fun C => C.avoids spaceCodes) (Q := fun c => isSpace c = false)
      (fun C c hC hc => not_space_of_avoids hC hc) pf.noWs
  refine ⟨hne, hws, ?_⟩
  have hacc : Accepts URL_WITH_PROTOCOL_RE (consumed s t) :=
    accepts_anchored_of_lang pf.shape (h.lang_consumed pf.anchorFree)
  simp only [isUrlPB, strip_eq_self hws, (pyMatch_iff pf.complete _).mpr hacc, Bool.and_true,
    Bool.not_eq_true']
  cases hc : consumed s t with
  | nil => exact absurd hc hne
  | cons _ _ => rfl

/-- the whole of `urls_from_text`, for every text -/
theorem urls_from_text_spec (pf : PatternFacts) (text : Str) :
    ∃ ys, urls_from_text text = .ok ys ∧ InOrder ys text ∧ ∀ y ∈ ys, Good y := by
  apply collect_spec (scan_chain URL_IN_TEXT_RE text)
  intro st _ hm
  obtain ⟨h1, h2, h3⟩ := match_facts pf hm
  exact yieldsOfMatch_spec _ h1 h2 h3

theorem urls_from_text_good (pf : PatternFacts) {text : Str} {ys : List Str}
    (h : urls_from_text text = .ok ys) : InOrder ys text ∧ ∀ y ∈ ys, Good y := by
  obtain ⟨ys', h', r⟩ := urls_from_text_spec pf text
  rw [h] at h'
  cases h'
  exact r

end Ural.UrlsFromText
