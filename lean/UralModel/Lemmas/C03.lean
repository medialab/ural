import UralModel.Model.C03
import UralModel.Lemmas.Canonicalize
import UralModel.Lemmas.Quote
import UralModel.Lemmas.QuoteIdem
import UralModel.Lemmas.QuoteSplit
import UralModel.Lemmas.CanonModes
import UralModel.Lemmas.Normpath
import UralModel.Lemmas.Normalize
import UralModel.Lemmas.C04Host
import UralModel.Lemmas.CanonTexts
/-!
# C03, first half: `normalize_url` reads its input only through what `canonicalize_url` keeps

The factorisation of DESIGN §6 C03.  `reparse c` is the `Parsed` record of the printed
canonical URL whose components are `c` (that the real parser gives these components back for
the printed string is CPython — compared on every run); `Reparses c p'` is the part of that
statement the proof needs.  `normParts_reparse_canon` says: for every parsed input `p`, the
components `normalize_url` computes from `p` are those it computes from (any re-parse of) the
canonical components of `p` — so `normParts = N ∘ canonComps` with `N := normParts ∘ reparse`.  The
re-parse is read as texts (`reparses_canonComps`), and each rule of `normalize_url` absorbs the rule
of `canonicalize_url`:

* scheme, userinfo: dropped (`strip_protocol`, `strip_authentication`);
* host: `normHost = hostTail ∘ canonHost` (`normHost_eq_tail`, `Lemmas/C04Host.lean`), and `canonHost` is idempotent (C02);
* port: whatever scheme canonicalisation assumed, the port it drops is 80 or 443, which
  normalisation drops for every scheme;
* path: `normPath = pathTail ∘ normpath ∘ unquotePath` once `strip_trailing_slash` is on, and
  `normpath` reads a path through its resolved segments, which the path rule of
  `canonicalize_url` keeps (`Normpath.normpath_pathOut`: root rule and trailing slash included);
* query: the query is unescaped item by item and re-serialised (= its canonical form) before
  `&amp;` is repaired, and the repaired query's items are unquoted before they are filtered and
  sorted: the canonical query has the unquoted items of the query (`items_canonQuery`, `Lemmas/CanonModes.lean`); the
  per-domain filter is chosen from the canonical hostname (`domainFilter_filterHost`);
* fragment: unquoted before the routing test, and the unquoter does not see the first pass
  (`unquote_requote`, `Lemmas/CanonModes.lean`).
-/
namespace Ural.C03
open Ural.Py Ural.UrlParts Ural.Quote Ural.Normalize Ural.UrlRoundTrip Ural.CanonTexts
open Ural.Canonicalize hiding Opts

/-! ## the safe unquoters -/

theorem unquotePath_idem (s : Str) : unquotePath (unquotePath s) = unquotePath s :=
  Normpath.unquotePath_idem s

theorem unquoteFragment_idem (s : Str) : unquoteFragment (unquoteFragment s) = unquoteFragment s :=
  safelyUnquote_idem _ unsafeForFragment_ok.1 unsafeForFragment_ok.2 s

/-! ## the path -/

/-- an absolute (or empty) path: what the parser returns for every URL with an authority -/
def absP (p : Str) : Bool := p.isEmpty || startsWith p ['/']

/-- three facts about `normpath` on an unquoted absolute path (`Lemmas/Normpath.lean`:
`unq_normpath`, `normpath_idem`, `normpath_append_slash`): resolution keeps the canonical escaping,
is idempotent, and a trailing slash put back on a non-empty resolved path is dropped again -/
def PathHyp : Prop := ∀ x : Str, absP x = true →
  unquotePath (normpath (unquotePath x)) = normpath (unquotePath x) ∧
  normpath (normpath (unquotePath x)) = normpath (unquotePath x) ∧
  (normpath (unquotePath x) ≠ [] →
    normpath (normpath (unquotePath x) ++ ['/']) = normpath (unquotePath x))

open Ural.Normpath in
theorem pathHyp : PathHyp := fun x hx =>
  have hq : absPath (unquotePath x) = true := absPath_unquotePath x hx
  ⟨unq_normpath _ hq (unquotePath_idem x), normpath_idem _ hq, normpath_append_slash _ hq⟩

/-- the `lowercase` step of `fingerprint_url`'s call -/
def lc (o : Opts) (y : Str) : Str := if o.lowercase then lower y else y

/-- what `normalize_url` does to the resolved path when `strip_trailing_slash` is on: AMP
suffixes, index file, trailing slashes, canonical escaping (quoted or not) -/
def pathTail (quoted amp idx : Bool) (x : Str) : Str :=
  let x := if amp then ampSuffixSub x else x
  let x := if idx then stripIndex x else x
  let x := if endsWith x ['/'] then rstripChars x ['/'] else x
  if quoted then safelyQuote x else unquotePath x

/-- with `strip_trailing_slash` the path of the result depends on the input path only through
`normpath` of the unquoted (and, for `fingerprint_url`, lower-cased) path — in particular not on
the query or the fragment (`normPath_irrelevant`: put a fragment there, and the root rule is off) -/
theorem normPath_eq (o : Opts) (hsts : o.stripTrailingSlash = true)
    (path fragment query : Str) :
    normPath o path fragment query =
      pathTail o.quoted o.normalizeAmp o.stripIndex (normpath (lc o (unquotePath path))) := by
  rw [normPath_irrelevant o hsts path fragment query ['x'] []]
  unfold normPath pathSteps pathTail lc
  simp only [hsts, resolveUnquoted_true, Bool.true_and, List.isEmpty_cons, Bool.false_eq_true,
    false_and, and_false, if_false]

/-- path clause of the factorisation -/
theorem normPath_canon (o : Opts) (hsts : o.stripTrailingSlash = true)
    (hlc : o.lowercase = false) (path : Str) (hAbs : absP path = true)
    (hcl : o.quoted = true → Normpath.pathClean path = true)
    (hm : Bool) (f q f' q' : Str) :
    normPath o (Normpath.pathOut o.quoted path hm) f' q' = normPath o path f q := by
  rw [normPath_eq o hsts, normPath_eq o hsts]
  simp only [lc, hlc, Bool.false_eq_true, if_false]
  rw [Normpath.normpath_pathOut o.quoted path hm hAbs hcl]

/-! ## the query -/

theorem join_amp_eq_nil {l : List Str} (h : join ['&'] l = []) : l = [] ∨ l = [[]] := by
  cases l with
  | nil => left; rfl
  | cons a r =>
    cases r with
    | nil => right; simpa [join] using h
    | cons b r' => simp [join] at h

theorem fixMistakes_nil : fixCommonQueryMistakes [] = [] := by decide +kernel

theorem fixMistakes_isEmpty (q : Str) : (fixCommonQueryMistakes q).isEmpty = q.isEmpty := by
  cases q with
  | nil => decide +kernel
  | cons c cs =>
    unfold fixCommonQueryMistakes fixMistakesFrom
    split <;> rfl

theorem canonQuery_eq (q : Str) :
    canonQuery false q = safeSerializeQsl (unquoteQsl (safeQslIter q)) := by
  simp [canonQuery]

/-- canonicalising the canonical query changes nothing -/
theorem canonQuery_idem (q : Str) : canonQuery false (canonQuery false q) = canonQuery false q :=
  canonQuery_modes false false q (fun e => Bool.noConfusion e)

/-- `fixedQuery` without its (redundant) emptiness test: the query is unescaped item by item
and re-serialised (its canonical form) before `&amp;` is repaired -/
def fixQ (o : Opts) (q : Str) : Str :=
  if o.fixCommonMistakes then fixCommonQueryMistakes (canonQuery false q) else q

theorem fixedQuery_eq (o : Opts) (p : Parsed) : fixedQuery o p = fixQ o p.query := by
  unfold fixedQuery fixQ
  rw [← canonQuery_eq]
  by_cases h : o.fixCommonMistakes = true
  · by_cases h2 : p.query.isEmpty = true
    · have : p.query = [] := by simpa using h2
      rw [this]
      simp only [h, Bool.true_and, List.isEmpty_nil, Bool.not_true, Bool.false_eq_true, if_false, if_true]
      decide +kernel
    · simp [h, h2]
  · simp [h]

theorem filterQuery_congr (o : Opts) (h h' : Option Str) (q q' : Str)
    (hd : domainFilter h' = domainFilter h) (he : q'.isEmpty = q.isEmpty)
    (hi : unquoteQsl (safeQslIter q') = unquoteQsl (safeQslIter q)) :
    filterQuery o h' q' = filterQuery o h q := by
  unfold filterQuery
  rw [hd, he, hi]

/-- query clause of the factorisation -/
theorem filterQuery_canon (o : Opts) (h h' : Option Str) (q : Str)
    (hd : domainFilter h' = domainFilter h) (hcl : o.quoted = true → QslClean q) :
    filterQuery o h' (fixQ o (canonQuery o.quoted q)) = filterQuery o h (fixQ o q) := by
  unfold fixQ
  by_cases hf : o.fixCommonMistakes = true
  · simp only [hf, if_true, canonQuery_modes o.quoted false q hcl]
    unfold filterQuery
    rw [hd]
  · simp only [hf, Bool.false_eq_true, if_false]
    exact filterQuery_congr o h h' _ _ hd (canonQuery_isEmpty o.quoted q) (items_canonQuery o.quoted q hcl)

/-! ## the host -/

theorem normHost_canonHost (puny : Str → Str) (hp : PunyLaws puny) (o : Opts) (h : Str) :
    normHost puny o (canonHost puny h) = normHost puny o h := by
  rw [normHost_eq_tail, normHost_eq_tail, canonHost_idem puny hp]

/-- host clause of the factorisation: the canonical host normalizes like the host -/
theorem normHost_canon (puny : Str → Str) (hp : PunyLaws puny) (o : Opts) (h : Str) :
    normHost puny o (if h.isEmpty then h else canonHost puny h) = normHost puny o h := by
  split
  · rfl
  · exact normHost_canonHost puny hp o h

theorem normHost_nil (puny : Str → Str) (o : Opts) : normHost puny o [] = [] := rfl

/-! ## the port -/

def normPort (port : Option Nat) : Option Nat :=
  match port with
  | some n => if n = 80 ∨ n = 443 then none else some n
  | none => none

/-- port clause: whatever scheme canonicalisation assumed (`https` for a scheme-less URL, where
`normalize_url` assumes `http`), the port it dropped is one `normalize_url` drops anyway -/
theorem normPort_canon (s0 : Str) (port : Option Nat) :
    normPort (match port with
      | some n => if defaultPort s0 = some n then none else some n
      | none => none) = normPort port := by
  cases port with
  | none => rfl
  | some n =>
    by_cases h : defaultPort s0 = some n
    · simp only [h, if_true, normPort]
      unfold defaultPort at h
      split at h
      · simp at h; simp [← h]
      · split at h
        · simp at h; simp [← h]
        · simp at h
    · simp [h]

/-! ## the re-parse of the printed canonical URL -/

theorem reparses_reparse (c : Canonicalize.Comps) : Reparses c (reparse c) :=
  ⟨rfl, rfl, rfl, rfl, rfl⟩

theorem unquoteFragment_nil : unquoteFragment [] = [] := safelyUnquote_nil _

/-- the hostname the per-domain query filter looks at -/
def filterHost (puny : Str → Str) (h : Option Str) : Option Str :=
  h.map fun h => if h.isEmpty then h else canonHost puny h

theorem domainFilter_filterHost (puny : Str → Str) (h : Option Str) :
    domainFilter (filterHost puny h) = domainFilter (some (canonHost puny (strOf h))) := by
  cases h with
  | none => rw [strOf_none, canonHost_nil]; rfl
  | some s =>
    rw [strOf_some]
    cases s with
    | nil => rw [canonHost_nil]; rfl
    | cons _ _ => rfl

/-- the components of `normParts`, spelled out (`strip_protocol`, `strip_authentication` on) -/
theorem normParts_eq (puny : Str → Str) (o : Opts) (hsp : o.stripProtocol = true)
    (hsa : o.stripAuthentication = true) (b : Bool) (p : Parsed) :
    normParts puny o b p =
      { scheme := [],
        netloc := unsplitNetloc none none (p.hostname.map (normHost puny o)) (normPort p.port),
        path := normPath o p.path
          (normFragment o.stripFragment (lc o (unquoteFragment p.fragment))) (fixQ o p.query),
        query := safeSerializeQsl
          (if o.quoted then quoteQsl (unquoteQsl (filterQuery o (filterHost puny p.hostname) (fixQ o p.query)))
           else unquoteQsl (filterQuery o (filterHost puny p.hostname) (fixQ o p.query))),
        fragment := some (requote o.quoted unquoteFragment
          (normFragment o.stripFragment (lc o (unquoteFragment p.fragment)))) } := by
  unfold normParts normComps
  simp only [hsp, hsa, Bool.true_or, if_true, fixedQuery_eq]
  rfl

/-- the inputs `quoted` mode must not hold for the mode round trips (the class of KF-C02-1): a
raw `?`/`#`/control character in the path (the parser never returns one), a raw character in a
query item or in the fragment that `quote` escapes and the unquoter keeps escaped (`=` in a
value, …) -/
def QuotedClean (p : Parsed) : Prop :=
  Normpath.pathClean p.path = true ∧ QslClean p.query ∧ cleanStr Gen.Quote.unsafeForFragment p.fragment = true

theorem reparses_canonComps {puny : Str → Str} {q sf : Bool} {p p' : Parsed}
    (hR : Reparses (canonComps puny q sf p) p') :
    (∃ m, p'.path = Normpath.pathOut q p.path m) ∧ p'.query = canonQuery q p.query ∧
    p'.fragment = (if sf then [] else requote q unquoteFragment p.fragment) ∧
    strOf p'.hostname = canonHost puny (strOf p.hostname) ∧ p'.port = portRule p.scheme p.port := by
  obtain ⟨h1, h2, h3, h4, h5⟩ := hR
  have ht := compsTexts_canonComps puny q sf p
  refine ⟨⟨_, h1.trans (congrArg Texts.path ht)⟩, h2.trans (congrArg Texts.query ht),
    h3.trans (congrArg Texts.fragment ht), ?_, h5.trans (congrArg Texts.port ht)⟩
  rw [strOf_eq_getD, h4, ← strOf_eq_getD]
  exact congrArg Texts.host ht

/-- **the factorisation** (`strip_protocol`, `strip_authentication`, `strip_trailing_slash` on — the
defaults —, every other documented option free; the same `quoted` on both sides): `normalize_url`
computes from any re-parse `p'` of the canonical components of `p` (canonicalised under ANY
scheme `s0`: canonicalize_url assumes `https` where normalize_url assumes `http`) exactly what it
computes from `p`: each component rule of `normalize_url` absorbs the rule of `canonicalize_url` -/
theorem normParts_reparse_canon (puny : Str → Str) (hp : PunyLaws puny)
    (o : Opts) (hsp : o.stripProtocol = true) (hsa : o.stripAuthentication = true)
    (hsts : o.stripTrailingSlash = true) (hlc : o.lowercase = false)
    (p p' : Parsed) (hAbs : absP p.path = true) (hcl : o.quoted = true → QuotedClean p) (s0 : Str)
    (hR : Reparses (canonComps puny o.quoted false { p with scheme := s0 }) p') (b b' : Bool) :
    normParts puny o b' p' = normParts puny o b p := by
  obtain ⟨⟨m, (hpath : p'.path = Normpath.pathOut o.quoted p.path m)⟩,
    (hquery : p'.query = canonQuery o.quoted p.query),
    (hfrag : p'.fragment = requote o.quoted unquoteFragment p.fragment),
    (hhost : strOf p'.hostname = canonHost puny (strOf p.hostname)),
    (hport : p'.port = portRule s0 p.port)⟩ := reparses_canonComps hR
  have hf : unquoteFragment p'.fragment = unquoteFragment p.fragment := by
    rw [hfrag]
    exact unquote_requote _ unsafeForFragment_ok.1 unsafeForFragment_ok.2 o.quoted p.fragment
      (fun e => (hcl e).2.2)
  have hdf : domainFilter (filterHost puny p'.hostname) = domainFilter (filterHost puny p.hostname) := by
    rw [domainFilter_filterHost, domainFilter_filterHost, hhost, canonHost_idem puny hp]
  have hh : strOf (p'.hostname.map (normHost puny o)) = strOf (p.hostname.map (normHost puny o)) := by
    rw [strOf_map (normHost_nil puny o), strOf_map (normHost_nil puny o), hhost,
      normHost_canonHost puny hp]
  have hpt : normPort p'.port = normPort p.port := by
    rw [hport]; exact normPort_canon s0 p.port
  rw [normParts_eq puny o hsp hsa, normParts_eq puny o hsp hsa, hf, hpt, hpath, hquery,
    filterQuery_canon o _ _ p.query hdf (fun e => (hcl e).2.1),
    normPath_canon o hsts hlc p.path hAbs (fun e => (hcl e).1) m _ (fixQ o p.query),
    unsplitNetloc_eq, unsplitNetloc_eq, hh]

end Ural.C03
