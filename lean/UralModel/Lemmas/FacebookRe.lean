import UralModel.Model.Facebook
import UralModel.Lemmas.Re
import UralModel.Lemmas.C19Small
import UralModel.Lemmas.Sites
import UralModel.Lemmas.StrLit
/-!
The regex validators of `ural/facebook.py` (C19): `re.search` of the model (`reSearch`, the
`finditer` scanner) is "some position has a match" (`searchB` of part `small`), hence the
characterisations of `is_facebook_id` (`^\d+$`), `is_facebook_full_id` (`^\d+_\d+$`) and what a
host accepted by `FACEBOOK_DOMAIN_RE` looks like (`Sites.site_search_spec` on the model pattern).
-/
namespace Ural.Facebook
open Ural.Py Ural Ural.Py.Re
open Ural.C19Small (searchB PlusWord plusClass? searchB_plus_iff searchB_bos plusClass?_eq searchB_eq_pySearch)

/-! ## `reSearch` is `searchB` -/

theorem firstEnd_false (n : Nat) (r : Re) (s : Str) : firstEnd n r s false = (matchEnds n r s).head? := by
  unfold firstEnd
  cases matchEnds n r s <;> simp

theorem scanAux_eq_nil_iff (n : Nat) (r : Re) : ∀ (fuel : Nat) (s : Str), s.length < fuel →
    (scanAux n r fuel s false = [] ↔ searchFrom n r s = false) := by
  intro fuel
  induction fuel with
  | zero => intro s h; omega
  | succ fuel ih =>
    intro s hlen
    simp only [scanAux, firstEnd_false]
    cases hm : matchEnds n r s with
    | nil =>
      cases s with
      | nil => simp [searchFrom, hm]
      | cons c s' =>
        simp only [List.head?_nil, searchFrom, hm, List.isEmpty_nil, Bool.not_true, Bool.false_or]
        exact ih s' (by simp at hlen; omega)
    | cons t ts =>
      have : searchFrom n r s = true := by cases s <;> simp [searchFrom, hm]
      simp only [List.head?_cons, this]
      split <;> simp

/-- **`bool(re.search(r, s))` of the scanner model is "some position has a match"** -/
theorem reSearch_eq_searchB (r : Re) (s : Str) : reSearch r s = searchB r s := by
  have h : scan r s = [] ↔ _ := scanAux_eq_nil_iff s.length r _ s (show s.length < 2 * s.length + 2 by omega)
  rw [searchB_eq_pySearch]
  unfold reSearch Re.search finditer pySearch
  cases hf : searchFrom s.length r s with
  | false => simp [h.mpr hf]
  | true =>
    cases hs : scan r s with
    | nil => rw [h.mp hs] at hf; cases hf
    | cons a l => simp

/-! ## `is_facebook_id`, `is_facebook_full_id` -/

/-- **`is_facebook_id`** accepts exactly the non-empty words over the class of `FACEBOOK_ID_RE`
(`\d`: the Unicode decimal digits of the running interpreter; on ASCII `0`–`9`), possibly followed
by one final newline (Python's `$`) -/
theorem is_facebook_id_iff_plus (C : CharClass) (hC : plusClass? Gen.C19Facebook.FACEBOOK_ID_RE = some C) (v : Str) :
    is_facebook_id v = true ↔ PlusWord C v := by
  unfold is_facebook_id
  rw [reSearch_eq_searchB]
  exact searchB_plus_iff _ C hC v

/-- the classes of a pattern `^[C]+[S][C]+$`, if the pattern has that shape -/
def fullIdClasses? : Re → Option (CharClass × CharClass × CharClass)
  | .seq .bos (.seq (.rep (.cls C) 1 none true) (.seq (.cls S) (.seq (.rep (.cls D) 1 none true) .eos))) =>
    some (C, S, D)
  | _ => none

theorem fullIdClasses?_eq {r : Re} {C S D : CharClass} (h : fullIdClasses? r = some (C, S, D)) :
    r = .seq .bos (.seq (.rep (.cls C) 1 none true) (.seq (.cls S) (.seq (.rep (.cls D) 1 none true) .eos))) := by
  unfold fullIdClasses? at h
  split at h
  · injection h with h; injection h with h1 h2; injection h2 with h2 h3; rw [h1, h2, h3]
  · cases h

/-- what a validator `^[C]+[S][C']+$` accepts: `a + s + b` with non-empty words `a` over `C`, `b`
over `C'` and one character `s` of `S`, possibly followed by one final newline -/
def TwoWords (C S D : CharClass) (v : Str) : Prop :=
  ∃ a s b, a ≠ [] ∧ b ≠ [] ∧ (∀ c ∈ a, C.mem c = true) ∧ S.mem s = true ∧ (∀ c ∈ b, D.mem c = true) ∧
    (v = a ++ s :: b ∨ v = a ++ s :: b ++ ['\n'])

/-- **`is_facebook_full_id`** (`^\d+_\d+$`) accepts exactly `digits + "_" + digits`, possibly followed
by one final newline -/
theorem is_facebook_full_id_iff_two (C S D : CharClass)
    (hC : fullIdClasses? Gen.C19Facebook.FACEBOOK_FULL_ID_RE = some (C, S, D)) (v : Str) :
    is_facebook_full_id v = true ↔ TwoWords C S D v := by
  unfold is_facebook_full_id
  rw [reSearch_eq_searchB, fullIdClasses?_eq hC, searchB_bos, pyMatch_iff (by simp [noNullRep, nullable]),
    accepts_bos_eos_iff (rs := [.rep (.cls C) 1 none true, .cls S, .rep (.cls D) 1 none true]) rfl rfl]
  simp only [langL_cons (r := .rep _ _ _ _), langL_cls_cons, langL_nil, lang_rep_cls_iff, reduceCtorEq,
    false_imp_iff, implies_true, and_true]
  constructor
  · rintro ⟨_, t, rfl, ⟨a, _, rfl, ⟨ha, hla⟩, s, _, rfl, hs, b, _, rfl, ⟨hb, hlb⟩, rfl⟩, ht⟩
    refine ⟨a, s, b, by rintro rfl; simp at hla, by rintro rfl; simp at hlb, ha, hs, hb, ?_⟩
    rcases ht with rfl | rfl <;> simp
  · rintro ⟨a, s, b, hna, hnb, ha, hs, hb, rfl | rfl⟩
    · exact ⟨a ++ s :: b, [], by simp, ⟨a, _, rfl, ⟨ha, List.length_pos_iff.mpr hna⟩, s, _, rfl, hs,
        b, [], by simp, ⟨hb, List.length_pos_iff.mpr hnb⟩, rfl⟩, Or.inl rfl⟩
    · exact ⟨a ++ s :: b, ['\n'], rfl, ⟨a, _, rfl, ⟨ha, List.length_pos_iff.mpr hna⟩, s, _, rfl, hs,
        b, [], by simp, ⟨hb, List.length_pos_iff.mpr hnb⟩, rfl⟩, Or.inr rfl⟩

/-! ## what `FACEBOOK_DOMAIN_RE` accepts -/

/-- the class of a lower-case ASCII letter under `re.I`: the letter and its capital, 32 code points
below -/
def ci (l : Char) : CharClass := ⟨false, [(l.toNat - 32, l.toNat - 32), (l.toNat, l.toNat)]⟩

def dotC : CharClass := ⟨false, [(46, 46)]⟩
def notDotC : CharClass := ⟨true, [(46, 46)]⟩

/-- `(?:^|\.)(?:facebook\.[^.]+|fb\.me)$` under `re.I | re.ASCII`, with the common prefix `f` of
the two branches factored out as CPython's compiler does (the table obligation
`domain_pattern_modelled` compares it with the regenerated term) -/
def domainModel : Re :=
  .seq (.alt .bos (.cls dotC))
    (.seq (.cls (ci 'f'))
      (.seq (.alt
          (.seq (.cls (ci 'a')) (.seq (.cls (ci 'c')) (.seq (.cls (ci 'e')) (.seq (.cls (ci 'b'))
            (.seq (.cls (ci 'o')) (.seq (.cls (ci 'o')) (.seq (.cls (ci 'k')) (.seq (.cls dotC)
              (.rep (.cls notDotC) 1 none true)))))))))
          (.seq (.cls (ci 'b')) (.seq (.cls dotC) (.seq (.cls (ci 'm')) (.cls (ci 'e'))))))
        .eos))

/-- the two domain patterns `domainModel` stands for: `facebook.*` and `fb.me` -/
def domainFamily : List Sites.DomPat :=
  [['f', 'a', 'c', 'e', 'b', 'o', 'o', 'k'].map some ++ [some '.', none], ['f', 'b', '.', 'm', 'e'].map some]

theorem domainModel_table :
    Sites.SiteTableOK domainModel domainFamily = true ∧ noNullRep domainModel = true := by decide +kernel

/-- for every regex `r` all of whose matches are matches of `domainModel` (`Re.sub`, decided on the
regenerated term by the table obligation `domain_pattern_modelled`): by `Sites.site_search_spec` some
whole labels of the host, lower-cased, are an instance of `facebook.*` or of `fb.me` -/
theorem domain_accepts_cases (r : Re) (hr : Re.sub r domainModel = true) (h : Str) (hs : reSearch r h = true) :
    ∃ a w b, h = a ++ w ++ b ∧ (lower w = "facebook".toList ∨ lower w = "fb.me".toList) := by
  rw [reSearch_eq_searchB, searchB_eq_pySearch] at hs
  obtain ⟨pre, suf, hps, hne⟩ := (searchFrom_iff _ _ _).mp hs
  obtain ⟨u, hu⟩ := List.exists_mem_of_ne_nil _ hne
  obtain ⟨a, x, b, rfl, -, -, p, hp, hx⟩ := (Sites.site_search_spec domainModel_table.1 h).mp
    ((pySearch_iff domainModel_table.2 h).mpr ⟨pre, suf, u, hps, (matchEnds_sound hu).mono hr⟩)
  simp only [toList_lit]
  simp only [domainFamily, List.mem_cons, List.not_mem_nil, or_false] at hp
  rcases hp with rfl | rfl
  · obtain ⟨y, hy, -⟩ := (Sites.patMatches_literal_append _ _ _).mp hx
    obtain ⟨w, x', rfl, hw, -⟩ := List.map_eq_append_iff.mp hy
    exact ⟨a, w, x' ++ b, by simp, Or.inl hw⟩
  · exact ⟨a, x, b, rfl, Or.inr ((Sites.patMatches_literal _ _).mp hx)⟩

end Ural.Facebook
