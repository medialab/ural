import UralModel.Model.Quote
import UralModel.Lemmas.Str
/-!
Lemmas about the model of `ural/quote.py` (property theorems: `Props/C14.lean`), all on the token list of a
string (`tokens`, `render`): quoting and the escaping passes are instances of one pass, `escToksBy P`; the
unquoters are followed token by token (`itemOf_esc`) up to what a token of their output can be (`OutTok`).
`Sep c` (neither `%` nor a hex digit) is what lets a scan be cut at `c`; `SafeSet f` is all the lemmas ask
of the set of characters `safely_quote` leaves alone.
-/

namespace Ural.Quote
open Ural.Py

theorem count_of_cut {α : Type} [DecidableEq α] {F : List α → List α} {x : α}
    (hcut : ∀ a b, F (a ++ x :: b) = F a ++ x :: F b) (hnew : ∀ a, x ∉ a → x ∉ F a) (l : List α) :
    (F l).count x = l.count x := by
  induction hn : l.length using Nat.strongRecOn generalizing l with
  | _ n ih =>
    by_cases hx : x ∈ l
    · obtain ⟨a, b, rfl, ha⟩ := List.eq_append_cons_of_mem hx
      rw [hcut, List.count_append, List.count_append, List.count_cons_self, List.count_cons_self,
        List.count_eq_zero.2 ha, List.count_eq_zero.2 (hnew a ha),
        ih b.length (by rw [← hn]; simp; omega) b rfl]
    · rw [List.count_eq_zero.2 hx, List.count_eq_zero.2 (hnew l hx)]

/-! ### UTF-8: core's decoder on lists -/

theorem toByteArray_data_toList (b : ByteArray) : b.data.toList.toByteArray = b := by
  apply ByteArray.ext
  simp [List.data_toByteArray]

theorem decodeHead_some {bs : List UInt8} {c : Char} (h : decodeHead bs = some c) :
    ∃ l, bs = utf8 c ++ l := by
  unfold decodeHead at h
  obtain ⟨l, hl⟩ := ByteArray.exists_of_utf8DecodeChar?_eq_some h
  refine ⟨l.data.toList, ?_⟩
  apply List.toByteArray_inj.1
  rw [hl, List.toByteArray_append, toByteArray_data_toList]
  rfl

theorem decodeHead_utf8_append (c : Char) (l : List UInt8) : decodeHead (utf8 c ++ l) = some c := by
  unfold decodeHead utf8
  rw [List.toByteArray_append]
  exact ByteArray.utf8DecodeChar?_utf8EncodeChar_append

theorem utf8_length (c : Char) : (utf8 c).length = c.utf8Size := by
  simp [utf8]

theorem utf8_ne_nil (c : Char) : utf8 c ≠ [] := utf8EncodeChar_ne_nil c

theorem utf8_ascii {c : Char} (h : c.toNat < 0x80) : utf8 c = [UInt8.ofNat c.toNat] :=
  utf8EncodeChar_ascii c h

/-! ### tokens and render -/

/-- the string starts with two hex digits -/
def startsHex2 : Str → Bool
  | h1 :: h2 :: _ => isHexDigit h1 && isHexDigit h2
  | _ => false

theorem tokens_esc {h1 h2 : Char} (hh1 : isHexDigit h1 = true) (hh2 : isHexDigit h2 = true)
    (r : Str) : tokens ('%' :: h1 :: h2 :: r) = .esc h1 h2 :: tokens r := by
  simp [tokens, hh1, hh2]

theorem tokens_single {c : Char} {r : Str} (h : c = '%' → startsHex2 r = false) :
    tokens (c :: r) = single c :: tokens r := by
  match r with
  | [] => simp [tokens]
  | [a] => simp [tokens]
  | a :: b :: y =>
    rw [tokens, if_neg]
    rintro ⟨hc, ha, hb⟩
    simp [startsHex2, ha, hb] at h
    exact h hc

theorem tokens_induction {motive : Str → Prop} (nil : motive [])
    (esc : ∀ h1 h2 r, isHexDigit h1 = true → isHexDigit h2 = true → motive r → motive ('%' :: h1 :: h2 :: r))
    (single : ∀ c r, (c = '%' → startsHex2 r = false) → motive r → motive (c :: r)) :
    ∀ s, motive s
  | [] => nil
  | [c] => single c [] (fun _ => rfl) nil
  | [c, a] => single c [a] (fun _ => rfl) (tokens_induction nil esc single [a])
  | c :: a :: b :: r =>
    if h : c = '%' ∧ isHexDigit a = true ∧ isHexDigit b = true then
      h.1 ▸ esc a b r h.2.1 h.2.2 (tokens_induction nil esc single r)
    else
      single c (a :: b :: r) (fun hc => by
        simp only [startsHex2, Bool.and_eq_false_iff]
        by_cases ha : isHexDigit a = true
        · exact .inr (Bool.eq_false_iff.2 fun hb => h ⟨hc, ha, hb⟩)
        · exact .inl (Bool.eq_false_iff.2 ha)) (tokens_induction nil esc single (a :: b :: r))

theorem tokens_cons_of_ne {c : Char} (hc : c ≠ '%') (r : Str) :
    tokens (c :: r) = .raw c :: tokens r := by
  rw [tokens_single fun h => absurd h hc, single, if_neg hc]

/-- a character that can neither start nor continue an escape -/
def Sep (c : Char) : Prop := c ≠ '%' ∧ isHexDigit c = false

theorem startsHex2_append_of_not_hex {d : Char} (hd : isHexDigit d = false) (x : Str) :
    ∀ r : Str, startsHex2 (r ++ d :: x) = startsHex2 r
  | [] => by cases x <;> simp [startsHex2, hd]
  | [a] => by simp [startsHex2, hd]
  | a :: b :: r => rfl

/-- a trailing `%` or `%X` of `a` cannot use `d` to complete an escape -/
theorem tokens_append_of_not_hex {d : Char} (hd : isHexDigit d = false) (x : Str) (a : Str) :
    tokens (a ++ d :: x) = tokens a ++ tokens (d :: x) := by
  induction a using tokens_induction with
  | nil => rfl
  | esc h1 h2 r hh1 hh2 ih => simp only [List.cons_append, tokens_esc hh1 hh2, ih]
  | single c r h ih =>
    rw [List.cons_append, tokens_single (by rwa [startsHex2_append_of_not_hex hd]), tokens_single h, ih]
    rfl

@[simp] theorem render_nil : render [] = [] := rfl
@[simp] theorem render_cons (t : Tok) (ts : List Tok) : render (t :: ts) = renderTok t ++ render ts := by
  simp [render]
theorem render_append (a b : List Tok) : render (a ++ b) = render a ++ render b := by
  simp [render]

theorem render_tokens (s : Str) : render (tokens s) = s := by
  induction s using tokens_induction with
  | nil => rfl
  | esc h1 h2 r hh1 hh2 ih => rw [tokens_esc hh1 hh2, render_cons, ih]; rfl
  | single c r h ih => rw [tokens_single h, render_cons, ih, single]; split <;> simp_all [renderTok]

theorem mem_render {ts : List Tok} {c : Char} : c ∈ render ts ↔ ∃ t ∈ ts, c ∈ renderTok t := by
  simp only [render, List.mem_flatMap]

theorem mem_of_mem_renderTok {s : Str} {t : Tok} (ht : t ∈ tokens s) {d : Char}
    (hd : d ∈ renderTok t) : d ∈ s := by
  rw [← render_tokens s]
  exact mem_render.2 ⟨t, ht, hd⟩

theorem mem_of_raw_mem_tokens {s : Str} {c : Char} (h : Tok.raw c ∈ tokens s) : c ∈ s :=
  mem_of_mem_renderTok h (List.mem_singleton.2 rfl)

/-- tokens that a scan can produce: raw characters are not `%`, escapes have hex digits -/
def WfTok : Tok → Prop
  | .raw c => c ≠ '%'
  | .esc h1 h2 => isHexDigit h1 = true ∧ isHexDigit h2 = true
  | .stray => True

/-- tokens that re-scan to themselves whatever follows: well-formed and not a stray `%` -/
def CanonTok : Tok → Prop
  | .raw c => c ≠ '%'
  | .esc h1 h2 => isHexDigit h1 = true ∧ isHexDigit h2 = true
  | .stray => False

theorem CanonTok.wf : ∀ {t : Tok}, CanonTok t → WfTok t
  | .raw _, h => h
  | .esc _ _, h => h

/-- token lists the scanner can return, exactly (`scan_tokens`, `tokens_render_of_scan`): well-formed
tokens, and a stray `%` is not followed by two hex digits -/
def Scan : List Tok → Prop
  | [] => True
  | .raw c :: r => c ≠ '%' ∧ Scan r
  | .esc h1 h2 :: r => (isHexDigit h1 = true ∧ isHexDigit h2 = true) ∧ Scan r
  | .stray :: r => startsHex2 (render r) = false ∧ Scan r

theorem tokens_stray {x : Str} (h : startsHex2 x = false) : tokens ('%' :: x) = .stray :: tokens x :=
  tokens_single fun _ => h

theorem scan_tokens (s : Str) : Scan (tokens s) := by
  induction s using tokens_induction with
  | nil => trivial
  | esc h1 h2 r hh1 hh2 ih => rw [tokens_esc hh1 hh2]; exact ⟨⟨hh1, hh2⟩, ih⟩
  | single c r h ih =>
    rw [tokens_single h]
    unfold single
    split
    · rename_i hc; exact ⟨by rw [render_tokens]; exact h hc, ih⟩
    · rename_i hc; exact ⟨hc, ih⟩

theorem tokens_render_of_scan : ∀ (ts : List Tok), Scan ts → tokens (render ts) = ts
  | [], _ => rfl
  | .raw c :: r, h => by
    simp only [render_cons, renderTok, List.singleton_append]
    rw [tokens_cons_of_ne h.1, tokens_render_of_scan r h.2]
  | .esc h1 h2 :: r, h => by
    simp only [render_cons, renderTok, List.cons_append, List.nil_append]
    rw [tokens_esc h.1.1 h.1.2, tokens_render_of_scan r h.2]
  | .stray :: r, h => by
    simp only [render_cons, renderTok, List.singleton_append]
    rw [tokens_stray h.1, tokens_render_of_scan r h.2]

theorem wf_of_scan : ∀ (ts : List Tok), Scan ts → ∀ t ∈ ts, WfTok t
  | [], _ => fun _ ht => nomatch ht
  | .raw _ :: r, h => List.forall_mem_cons.2 ⟨h.1, wf_of_scan r h.2⟩
  | .esc _ _ :: r, h => List.forall_mem_cons.2 ⟨h.1, wf_of_scan r h.2⟩
  | .stray :: r, h => List.forall_mem_cons.2 ⟨trivial, wf_of_scan r h.2⟩

theorem scan_of_canon : ∀ (ts : List Tok), (∀ t ∈ ts, CanonTok t) → Scan ts
  | [], _ => trivial
  | .raw _ :: r, h => ⟨h _ List.mem_cons_self, scan_of_canon r fun t ht => h t (List.mem_cons_of_mem _ ht)⟩
  | .esc _ _ :: r, h => ⟨h _ List.mem_cons_self, scan_of_canon r fun t ht => h t (List.mem_cons_of_mem _ ht)⟩
  | .stray :: _, h => (h _ List.mem_cons_self).elim

theorem wf_tokens (s : Str) : ∀ t ∈ tokens s, WfTok t := wf_of_scan _ (scan_tokens s)

theorem esc_of_tokens_eq {s : Str} {ta tb : List Tok} {h1 h2 : Char}
    (e : tokens s = ta ++ .esc h1 h2 :: tb) :
    s = render ta ++ '%' :: h1 :: h2 :: render tb ∧ isHexDigit h1 = true ∧ isHexDigit h2 = true := by
  refine ⟨?_, wf_tokens s (.esc h1 h2) (by rw [e]; simp)⟩
  conv => lhs; rw [← render_tokens s, e]
  simp [render_append, renderTok]

/-- every escape token has hex digits (so that its characters are ASCII and no space) -/
def EscHex (ts : List Tok) : Prop := ∀ h1 h2, Tok.esc h1 h2 ∈ ts → isHexDigit h1 = true ∧ isHexDigit h2 = true

theorem escHex_of_wf {ts : List Tok} (h : ∀ t ∈ ts, WfTok t) : EscHex ts := fun _ _ hm => h _ hm

theorem mem_render_escHex {ts : List Tok} (hx : EscHex ts) {ch : Char} (h : ch ∈ render ts) :
    Tok.raw ch ∈ ts ∨ ch = '%' ∨ isHexDigit ch = true := by
  obtain ⟨t, ht, hc⟩ := mem_render.1 h
  cases t with
  | raw c => exact .inl (by rwa [List.mem_singleton.1 hc])
  | stray => exact .inr (.inl (List.mem_singleton.1 hc))
  | esc h1 h2 =>
    simp only [renderTok, List.mem_cons, List.not_mem_nil, or_false] at hc
    rcases hc with rfl | rfl | rfl
    · exact .inr (.inl rfl)
    · exact .inr (.inr (hx _ _ ht).1)
    · exact .inr (.inr (hx _ _ ht).2)

theorem tokens_render_of_canon (ts : List Tok) (h : ∀ t ∈ ts, CanonTok t) :
    tokens (render ts) = ts :=
  tokens_render_of_scan ts (scan_of_canon ts h)

/-! ### hex digits -/

theorem isHexDigit_hexDigitUpper : ∀ n, n < 16 → isHexDigit (hexDigitUpper n) = true := by decide
theorem hexVal_hexDigitUpper : ∀ n, n < 16 → hexVal (hexDigitUpper n) = n := by decide
theorem byteOf_escOfByte (b : UInt8) :
    byteOf (hexDigitUpper (b.toNat / 16)) (hexDigitUpper (b.toNat % 16)) = b := by
  have hb := b.toNat_lt
  unfold byteOf
  rw [hexVal_hexDigitUpper _ (by omega), hexVal_hexDigitUpper _ (by omega)]
  have : b.toNat / 16 * 16 + b.toNat % 16 = b.toNat := by omega
  rw [this]
  simp

theorem canon_escOfByte (b : UInt8) : CanonTok (escOfByte b) := by
  have hb := b.toNat_lt
  exact ⟨isHexDigit_hexDigitUpper _ (by omega), isHexDigit_hexDigitUpper _ (by omega)⟩

theorem raw_not_mem_map_escOfByte {bs : List UInt8} {c : Char} : Tok.raw c ∉ bs.map escOfByte := by
  intro h
  obtain ⟨b, _, hb⟩ := List.mem_map.1 h
  cases hb

theorem mem_render_escOfByte {bs : List UInt8} {d : Char} (h : d ∈ render (bs.map escOfByte)) :
    d = '%' ∨ isHexDigit d = true :=
  (mem_render_escHex (fun _ _ hm => by
      obtain ⟨b, _, e⟩ := List.mem_map.1 hm; have := canon_escOfByte b; rwa [e] at this)
    h).resolve_left raw_not_mem_map_escOfByte

theorem pctTok_escOfByte (b : UInt8) : pctTok (escOfByte b) = [b] := by
  simp [escOfByte, pctTok, byteOf_escOfByte]

theorem pct_map_escOfByte (bs : List UInt8) : pct (bs.map escOfByte) = bs := by
  induction bs with
  | nil => rfl
  | cons b bs ih =>
    simp only [pct, List.map_cons, List.flatMap_cons, pctTok_escOfByte] at ih ⊢
    simp [ih]

@[simp] theorem pct_nil : pct [] = [] := rfl
@[simp] theorem pct_cons (t : Tok) (ts : List Tok) : pct (t :: ts) = pctTok t ++ pct ts := by
  simp [pct]
theorem pct_append (a b : List Tok) : pct (a ++ b) = pct a ++ pct b := by
  simp [pct]

theorem isHexDigit_lt {c : Char} (h : isHexDigit c = true) : c.toNat < 0x80 := by
  have := (isHexDigit_toNat_iff c).1 h; omega

/-! ### spelling a set of raw characters as escapes

`quoteToksBy f` (every character outside `f`), `escapeRaw` (the characters `NON_PRINTABLE_RE`
matches), `nfkcToks` (`Model/QuoteAuth.lean`, the NFKC look-alikes of the delimiters) and
`q.replace(" ", "%20")` are one token pass, `escToksBy P`, for four sets of characters.  Passes
compose by union (`escToksBy_comp`): hence idempotence, commutation, and that a pass over a smaller
set is not seen next to one over a larger set. -/

def escBy (P : Char → Bool) : Tok → List Tok
  | .raw c => if P c then (utf8 c).map escOfByte else [.raw c]
  | .stray => if P '%' then [.esc '2' '5'] else [.stray]
  | t => [t]

theorem escOfByte_pct : escOfByte 0x25 = .esc '2' '5' := by decide

def escToksBy (P : Char → Bool) (ts : List Tok) : List Tok := ts.flatMap (escBy P)

theorem escToksBy_cons (P : Char → Bool) (t : Tok) (r : List Tok) :
    escToksBy P (t :: r) = escBy P t ++ escToksBy P r := by
  simp [escToksBy]

theorem mem_escToksBy {P : Char → Bool} {ts : List Tok} {t : Tok} (h : t ∈ escToksBy P ts) :
    t ∈ ts ∨ ∃ b, t = escOfByte b := by
  obtain ⟨t0, h0, ht⟩ := List.mem_flatMap.1 h
  cases t0 with
  | raw c =>
    simp only [escBy] at ht
    split at ht
    · obtain ⟨b, _, rfl⟩ := List.mem_map.1 ht
      exact .inr ⟨b, rfl⟩
    · rw [List.mem_singleton.1 ht]; exact .inl h0
  | esc h1 h2 => rw [List.mem_singleton.1 ht]; exact .inl h0
  | stray =>
    simp only [escBy] at ht
    split at ht
    · rw [List.mem_singleton.1 ht]; exact .inr ⟨0x25, escOfByte_pct.symm⟩
    · rw [List.mem_singleton.1 ht]; exact .inl h0

theorem escHex_escToksBy {P : Char → Bool} {ts : List Tok} (h : EscHex ts) : EscHex (escToksBy P ts) := by
  intro h1 h2 hm
  rcases mem_escToksBy hm with h' | ⟨b, e⟩
  · exact h _ _ h'
  · have := canon_escOfByte b; rwa [← e] at this

theorem raw_mem_escToksBy {P : Char → Bool} {ts : List Tok} {c : Char}
    (h : Tok.raw c ∈ escToksBy P ts) : Tok.raw c ∈ ts ∧ P c = false := by
  obtain ⟨t0, h0, ht⟩ := List.mem_flatMap.1 h
  cases t0 with
  | raw c0 =>
    simp only [escBy] at ht
    split at ht
    · exact absurd ht raw_not_mem_map_escOfByte
    · rename_i hs
      simp only [List.mem_singleton, Tok.raw.injEq] at ht
      subst ht
      exact ⟨h0, by simpa using hs⟩
  | esc h1 h2 => simp [escBy] at ht
  | stray => simp only [escBy] at ht; split at ht <;> simp at ht

theorem escToksBy_fixed {P : Char → Bool} {ts : List Tok} (hp : P '%' = false ∨ Tok.stray ∉ ts)
    (h : ∀ c, Tok.raw c ∈ ts → P c = false) : escToksBy P ts = ts := by
  induction ts with
  | nil => rfl
  | cons t r ih =>
    rw [escToksBy_cons, ih (hp.imp_right fun hn hm => hn (by simp [hm])) (fun c hc => h c (by simp [hc]))]
    cases t with
    | raw c => simp [escBy, h c (by simp)]
    | esc h1 h2 => rfl
    | stray => simp [escBy, hp.resolve_right (fun hn => hn (by simp))]

theorem pct_escBy (P : Char → Bool) (t : Tok) : pct (escBy P t) = pctTok t := by
  cases t with
  | raw c =>
    simp only [escBy]
    split
    · simp [pct_map_escOfByte, pctTok]
    · simp [pct]
  | esc h1 h2 => simp [escBy, pct]
  | stray => simp only [escBy]; split <;> simp [pct, pctTok]; decide

theorem pct_escToksBy (P : Char → Bool) (ts : List Tok) : pct (escToksBy P ts) = pct ts := by
  induction ts with
  | nil => rfl
  | cons t r ih => rw [escToksBy_cons, pct_append, ih, pct_cons, pct_escBy]

theorem stray_mem_escToksBy {P : Char → Bool} {ts : List Tok} (h : Tok.stray ∈ escToksBy P ts) :
    P '%' = false := by
  obtain ⟨t0, _, ht⟩ := List.mem_flatMap.1 h
  cases t0 with
  | raw c =>
    simp only [escBy] at ht
    split at ht
    · obtain ⟨b, _, e⟩ := List.mem_map.1 ht; cases e
    · simp at ht
  | esc h1 h2 => simp [escBy] at ht
  | stray =>
    simp only [escBy] at ht
    split at ht
    · simp at ht
    · rename_i hp; simpa using hp

theorem escToksBy_append (P : Char → Bool) (a b : List Tok) :
    escToksBy P (a ++ b) = escToksBy P a ++ escToksBy P b := by simp [escToksBy]

theorem count_raw_escToksBy {P : Char → Bool} {d : Char} (hd : P d = false) (ts : List Tok) :
    (escToksBy P ts).count (.raw d) = ts.count (.raw d) :=
  count_of_cut (fun a b => by rw [escToksBy_append, escToksBy_cons]; simp [escBy, hd])
    (fun _ ha h => ha (raw_mem_escToksBy h).1) ts

theorem escToksBy_map_escOfByte (P : Char → Bool) (bs : List UInt8) :
    escToksBy P (bs.map escOfByte) = bs.map escOfByte :=
  escToksBy_fixed (.inr fun h => by obtain ⟨b, _, e⟩ := List.mem_map.1 h; cases e)
    fun _ h => absurd h raw_not_mem_map_escOfByte

/-- escapes are not raw characters, so a second pass only sees what the first left -/
theorem escToksBy_escBy (P Q : Char → Bool) (t : Tok) :
    escToksBy P (escBy Q t) = escBy (fun c => Q c || P c) t := by
  cases t with
  | raw c =>
    cases hq : Q c
    · simp [escBy, hq, escToksBy]
    · simp only [escBy, hq, if_true, Bool.true_or]; exact escToksBy_map_escOfByte P _
  | esc h1 h2 => rfl
  | stray => cases hq : Q '%' <;> simp [escBy, hq, escToksBy]

theorem escToksBy_comp (P Q : Char → Bool) (ts : List Tok) :
    escToksBy P (escToksBy Q ts) = escToksBy (fun c => Q c || P c) ts := by
  induction ts with
  | nil => rfl
  | cons t r ih => rw [escToksBy_cons, escToksBy_append, ih, escToksBy_cons, escToksBy_escBy]

theorem escToksBy_absorb_inner {P Q : Char → Bool} (h : ∀ c, Q c = true → P c = true) (ts : List Tok) :
    escToksBy P (escToksBy Q ts) = escToksBy P ts := by
  rw [escToksBy_comp]
  congr 1; funext c
  cases hq : Q c
  · rfl
  · rw [h c hq]; rfl

/-! ### safely_quote -/

/-- what the lemmas need of a set `f` of characters that quoting leaves alone: ASCII, not the
escape sign, neither a control character nor the space -/
structure SafeSet (f : Char → Bool) : Prop where
  ascii : ∀ {c : Char}, f c = true → c.toNat < 0x80
  ne_pct : ∀ {c : Char}, f c = true → c ≠ '%'
  printable : ∀ {c : Char}, f c = true → 0x20 < c.toNat ∧ c.toNat < 0x7f

theorem SafeSet.pct_false {f : Char → Bool} (hf : SafeSet f) : f '%' = false := by
  cases h : f '%' with
  | false => rfl
  | true => exact absurd rfl (hf.ne_pct h)

theorem quoteAlwaysSafe_props {c : Char} (h : quoteAlwaysSafe c = true) :
    c ≠ '%' ∧ 0x20 < c.toNat ∧ c.toNat < 0x7f := by
  have hn : c.toNat ≠ 37 ∧ 0x20 < c.toNat ∧ c.toNat < 0x7f := by
    simp only [quoteAlwaysSafe, Bool.or_eq_true, decide_eq_true_eq, isAsciiAlpha_iff, isAsciiDigit,
      char_le_iff] at h
    rcases h with ((((h | h) | h) | h) | h) | h
    · omega
    · have e0 : ('0' : Char).toNat = 48 := rfl
      have e9 : ('9' : Char).toNat = 57 := rfl
      omega
    all_goals (subst h; decide)
  exact ⟨fun e => hn.1 (by rw [e]; rfl), hn.2⟩

/-! The default `safe="/"` has definitions of its own in the model (`quoteSafe`, `quoteTok`, `quoteToks`,
`safelyQuote`).  They are tied to the `…By f` / `…In safe` ones by equations between functions
(`quoteSafe_fun`, `quoteTok_fun`, `quoteToks_fun`, `safelyQuote_fun`; `harden_fun` in
`Lemmas/QuoteUpper.lean`): one `rw` turns a statement about a default into the instance of the general one. -/
theorem quoteSafe_fun : quoteSafe = quoteSafeIn ['/'] := by
  funext c
  simp only [quoteSafe, quoteSafeIn, quoteAlwaysSafe, List.contains_cons, List.contains_nil,
    Bool.or_false]
  by_cases h : c = '/'
  · subst h; decide
  · simp [h]

/-- `safe` strings whose ASCII characters are printable, not the space and not `%` -/
def safeStrOk (safe : Str) : Bool :=
  safe.all fun c => !decide (c.toNat < 0x80) || (decide (0x20 < c.toNat) && decide (c.toNat < 0x7f) && c != '%')

theorem safeSet_in {safe : Str} (h : safeStrOk safe = true) : SafeSet (quoteSafeIn safe) := by
  have key : ∀ {c : Char}, quoteSafeIn safe c = true → c ≠ '%' ∧ 0x20 < c.toNat ∧ c.toNat < 0x7f := by
    intro c hc
    simp only [quoteSafeIn, Bool.or_eq_true, Bool.and_eq_true, decide_eq_true_eq] at hc
    rcases hc with hc | ⟨hlt, hm⟩
    · exact quoteAlwaysSafe_props hc
    · simp only [safeStrOk, List.all_eq_true] at h
      have := h c (List.contains_iff_mem.1 hm)
      simp only [Bool.or_eq_true, Bool.not_eq_true', decide_eq_false_iff_not, Bool.and_eq_true,
        decide_eq_true_eq, bne_iff_ne, ne_eq] at this
      rcases this with h1 | h1
      · exact absurd hlt h1
      · exact ⟨h1.2, h1.1.1, h1.1.2⟩
  exact ⟨fun hc => by have := (key hc).2; omega, fun hc => (key hc).1, fun hc => (key hc).2⟩

theorem safeSet_quoteSafeQ : SafeSet quoteSafeQ := safeSet_in (by decide)

theorem safeSet_quoteSafe : SafeSet quoteSafe := by
  rw [quoteSafe_fun]; exact safeSet_in (by decide)

theorem quoteSafeQ_eq (c : Char) : quoteSafeQ c = (quoteSafe c || c == '+') := by
  rw [quoteSafe_fun]
  simp only [quoteSafeQ, qslSafe, quoteSafeIn, List.contains_cons, List.contains_nil, Bool.or_false]
  by_cases h : c = '+'
  · subst h; decide
  · have h' : (c == '+') = false := by simpa using h
    simp [h']

theorem quoteTokBy_eq_escBy (f : Char → Bool) (t : Tok) : quoteTokBy f t = escBy (fun c => !f c) t := by
  cases t with
  | raw c => cases h : f c <;> simp [quoteTokBy, escBy, h]
  | esc h1 h2 => rfl
  | stray => cases h : f '%' <;> simp [quoteTokBy, escBy, h]

theorem quoteToksBy_eq_escToksBy (f : Char → Bool) (ts : List Tok) :
    quoteToksBy f ts = escToksBy (fun c => !f c) ts := by
  simp only [quoteToksBy, escToksBy, funext (quoteTokBy_eq_escBy f)]

theorem quoteTok_fun : quoteTok = quoteTokBy quoteSafe := by
  funext t
  cases t with
  | raw c => rfl
  | esc h1 h2 => rfl
  | stray => simp [quoteTok, quoteTokBy]; decide

theorem quoteToks_fun : quoteToks = quoteToksBy quoteSafe := by
  funext ts; simp only [quoteToks, quoteToksBy, quoteTok_fun]

/-- `safely_quote(s)` is `safely_quote(s, safe="/")` -/
theorem safelyQuote_fun : safelyQuote = safelyQuoteBy quoteSafe := by
  funext s; simp only [safelyQuote, safelyQuoteBy, quoteToks_fun]

theorem canon_quoteToksBy {f : Char → Bool} (hf : SafeSet f) {ts : List Tok} (h : ∀ t ∈ ts, WfTok t) :
    ∀ t ∈ quoteToksBy f ts, CanonTok t := by
  intro t ht
  rw [quoteToksBy_eq_escToksBy] at ht
  cases t with
  | stray => have := stray_mem_escToksBy ht; simp [hf.pct_false] at this
  | raw c => exact h _ (raw_mem_escToksBy ht).1
  | esc h1 h2 =>
    rcases mem_escToksBy ht with h' | ⟨b, e⟩
    · exact h _ h'
    · rw [e]; exact canon_escOfByte b

theorem canon_quoteTok {t : Tok} (h : WfTok t) : ∀ t' ∈ quoteTok t, CanonTok t' := fun t' ht' =>
  canon_quoteToksBy safeSet_quoteSafe (ts := [t]) (by simpa using h) t'
    (by simpa [quoteToksBy, ← quoteTok_fun] using ht')

theorem raw_mem_quoteToksBy {f : Char → Bool} {ts : List Tok} {c : Char}
    (h : Tok.raw c ∈ quoteToksBy f ts) : Tok.raw c ∈ ts ∧ f c = true := by
  rw [quoteToksBy_eq_escToksBy] at h
  exact (raw_mem_escToksBy h).imp_right fun h2 => by simpa using h2

theorem count_raw_quoteToksBy {f : Char → Bool} {d : Char} (hd : f d = true) (ts : List Tok) :
    (quoteToksBy f ts).count (.raw d) = ts.count (.raw d) := by
  rw [quoteToksBy_eq_escToksBy]; exact count_raw_escToksBy (by simp [hd]) ts

theorem pct_quoteTokBy (f : Char → Bool) (t : Tok) : pct (quoteTokBy f t) = pctTok t := by
  rw [quoteTokBy_eq_escBy, pct_escBy]

theorem pct_quoteToksBy (f : Char → Bool) (ts : List Tok) : pct (quoteToksBy f ts) = pct ts := by
  rw [quoteToksBy_eq_escToksBy, pct_escToksBy]

theorem pct_quoteTok (t : Tok) : pct (quoteTok t) = pctTok t := by
  rw [quoteTok_fun]; exact pct_quoteTokBy _ t

theorem quoteToksBy_quoteTokBy (f : Char → Bool) (t : Tok) :
    quoteToksBy f (quoteTokBy f t) = quoteTokBy f t := by
  rw [quoteToksBy_eq_escToksBy, quoteTokBy_eq_escBy, escToksBy_escBy]
  congr 1; funext c; simp

theorem quoteToksBy_idem (f : Char → Bool) (ts : List Tok) :
    quoteToksBy f (quoteToksBy f ts) = quoteToksBy f ts := by
  rw [quoteToksBy_eq_escToksBy, quoteToksBy_eq_escToksBy, escToksBy_absorb_inner fun _ h => h]

theorem quoteToks_quoteTok (t : Tok) : quoteToks (quoteTok t) = quoteTok t := by
  rw [quoteToks_fun, quoteTok_fun]; exact quoteToksBy_quoteTokBy _ t

theorem mem_safelyQuoteBy {f : Char → Bool} {s : Str} {ch : Char} (h : ch ∈ safelyQuoteBy f s) :
    (ch ∈ s ∧ f ch = true) ∨ ch = '%' ∨ isHexDigit ch = true := by
  have hx : EscHex (quoteToksBy f (tokens s)) := by
    rw [quoteToksBy_eq_escToksBy]; exact escHex_escToksBy (escHex_of_wf (wf_tokens s))
  exact (mem_render_escHex hx h).imp_left fun hr => (raw_mem_quoteToksBy hr).imp_left mem_of_raw_mem_tokens

theorem ascii_safelyQuoteBy {f : Char → Bool} (hf : SafeSet f) (s : Str) :
    ∀ ch ∈ safelyQuoteBy f s, ch.toNat < 0x80 := by
  intro ch hch
  rcases mem_safelyQuoteBy hch with h | rfl | h
  · exact hf.ascii h.2
  · decide
  · exact isHexDigit_lt h

/-! ### segmentation of decoded bytes -/

def segBytes : Char ⊕ UInt8 → List UInt8
  | .inl c => utf8 c
  | .inr b => [b]

theorem segment_go_skip (x rest : List UInt8) : segment.go (x ++ rest) x.length = segment.go rest 0 := by
  induction x with
  | nil => rfl
  | cons b t ih => simp [segment.go, ih]

@[simp] theorem segment_nil : segment [] = [] := by simp [segment, segment.go]

theorem segment_utf8_append (c : Char) (l : List UInt8) : segment (utf8 c ++ l) = .inl c :: segment l := by
  obtain ⟨b, t, hbt⟩ := List.exists_cons_of_ne_nil (utf8_ne_nil c)
  have hd := decodeHead_utf8_append c l
  have hlen : t.length = c.utf8Size - 1 := by
    have := utf8_length c; rw [hbt] at this; simp at this; omega
  rw [hbt] at hd ⊢
  unfold segment
  simp only [List.cons_append, segment.go] at hd ⊢
  simp only [hd, ← hlen, segment_go_skip]

theorem segment_cons_none {b : UInt8} {l : List UInt8} (h : decodeHead (b :: l) = none) :
    segment (b :: l) = .inr b :: segment l := by
  unfold segment
  simp only [segment.go, h]

theorem segment_induction {motive : List UInt8 → Prop} (nil : motive [])
    (char : ∀ c l, motive l → motive (utf8 c ++ l))
    (bad : ∀ b l, decodeHead (b :: l) = none → motive l → motive (b :: l)) (bs : List UInt8) : motive bs := by
  induction h : bs.length using Nat.strongRecOn generalizing bs with
  | _ n ih =>
    cases bs with
    | nil => exact nil
    | cons b rest =>
      cases hd : decodeHead (b :: rest) with
      | none => exact bad b rest hd (ih _ (by simp at h; omega) rest rfl)
      | some c =>
        obtain ⟨l, hl⟩ := decodeHead_some hd
        rw [hl]
        refine char c l (ih l.length ?_ l rfl)
        have h1 := congrArg List.length hl
        have h2 := utf8_length c
        have h3 := c.utf8Size_pos
        simp only [List.length_cons, List.length_append] at h h1
        omega

theorem segment_bytes (bs : List UInt8) : (segment bs).flatMap segBytes = bs := by
  induction bs using segment_induction with
  | nil => simp
  | char c l ih => rw [segment_utf8_append, List.flatMap_cons, ih]; rfl
  | bad b l hd ih => rw [segment_cons_none hd, List.flatMap_cons, ih]; rfl

/-- what a segment of a run of bytes ≥ 0x80 can be -/
def SegHigh : Char ⊕ UInt8 → Prop
  | .inl c => 0x80 ≤ c.toNat
  | .inr b => 0x80 ≤ b.toNat

theorem segment_high (bs : List UInt8) (hb : ∀ b ∈ bs, 0x80 ≤ b.toNat) :
    ∀ x ∈ segment bs, SegHigh x := by
  induction bs using segment_induction with
  | nil => simp
  | char c l ih =>
    rw [segment_utf8_append, List.forall_mem_cons]
    refine ⟨Nat.le_of_not_lt fun hlt => ?_, ih fun b h => hb b (by simp [h])⟩
    have := hb (UInt8.ofNat c.toNat) (by simp [utf8_ascii hlt])
    simp at this; omega
  | bad b l hd ih =>
    rw [segment_cons_none hd, List.forall_mem_cons]
    exact ⟨hb b (by simp), ih fun b h => hb b (by simp [h])⟩

/-! ### safely_unquote_*: decoded bytes are preserved -/

theorem keepEsc_iff (U : List UInt8) (b : UInt8) :
    keepEsc U b = true ↔ b.toNat < 0x20 ∨ b.toNat = 0x7f ∨ b ∈ U := by
  simp only [keepEsc, Bool.or_eq_true, decide_eq_true_eq, beq_iff_eq, List.contains_eq_mem, or_assoc,
    UInt8.lt_iff_toNat_lt, ← UInt8.toNat_inj]
  rfl

theorem keepEsc_of_mem {U : List UInt8} {b : UInt8} (h : b ∈ U) : keepEsc U b = true :=
  (keepEsc_iff U b).2 (.inr (.inr h))

theorem keepEsc_eq_false {U : List UInt8} {b : UInt8} (h : keepEsc U b = false) :
    0x20 ≤ b.toNat ∧ b.toNat ≠ 0x7f ∧ b ∉ U := by
  have h' := mt (keepEsc_iff U b).2 (by rw [h]; exact Bool.false_ne_true)
  exact ⟨Nat.le_of_not_lt fun e => h' (.inl e), fun e => h' (.inr (.inl e)), fun e => h' (.inr (.inr e))⟩

/-- the four things `_unquote_impl` does with an escape, by its byte: kept as written; the
space, spelled `%20`; another ASCII character, decoded; a byte ≥ 0x80, left pending -/
theorem itemOf_esc (U : List UInt8) (h1 h2 : Char) :
    (keepEsc U (byteOf h1 h2) = true ∧ itemOf U (.esc h1 h2) = .lit (.esc h1 h2)) ∨
    (keepEsc U (byteOf h1 h2) = false ∧ byteOf h1 h2 = 0x20 ∧
      itemOf U (.esc h1 h2) = .lit (.esc '2' '0')) ∨
    (keepEsc U (byteOf h1 h2) = false ∧ (byteOf h1 h2).toNat < 0x80 ∧ byteOf h1 h2 ≠ 0x20 ∧
      itemOf U (.esc h1 h2) = .lit (.raw (Char.ofNat (byteOf h1 h2).toNat))) ∨
    (keepEsc U (byteOf h1 h2) = false ∧ 0x80 ≤ (byteOf h1 h2).toNat ∧
      itemOf U (.esc h1 h2) = .byte (byteOf h1 h2)) := by
  have hlt : byteOf h1 h2 < 0x80 ↔ (byteOf h1 h2).toNat < 0x80 := UInt8.lt_iff_toNat_lt
  simp only [itemOf]
  cases hk : keepEsc U (byteOf h1 h2)
  · by_cases h80 : (byteOf h1 h2).toNat < 0x80
    · by_cases h20 : byteOf h1 h2 = 0x20
      · exact .inr (.inl ⟨rfl, h20, by simp [h20]⟩)
      · exact .inr (.inr (.inl ⟨rfl, h80, h20, by simp [hlt.2 h80, h20]⟩))
    · exact .inr (.inr (.inr ⟨rfl, Nat.le_of_not_lt h80, by simp [mt hlt.1 h80]⟩))
  · exact .inl ⟨rfl, by simp⟩

theorem itemOf_raw (U : List UInt8) {c : Char} (h : c ≠ ' ') : itemOf U (.raw c) = .lit (.raw c) := by
  simp [itemOf, h]

theorem itemOf_esc20 (U : List UInt8) : itemOf U (.esc '2' '0') = .lit (.esc '2' '0') := by
  have e : byteOf '2' '0' = 0x20 := by decide
  rcases itemOf_esc U '2' '0' with ⟨_, h⟩ | ⟨_, _, h⟩ | ⟨_, _, h20, _⟩ | ⟨_, hge, _⟩
  · exact h
  · exact h
  · exact absurd e h20
  · rw [e] at hge; exact absurd hge (by decide)

theorem lit_raw_itemOf {U : List UInt8} {t : Tok} {c : Char} (h : itemOf U t = .lit (.raw c)) :
    (t = .raw c ∧ c ≠ ' ') ∨
      (∃ b : UInt8, c = Char.ofNat b.toNat ∧ b.toNat < 0x80 ∧ keepEsc U b = false ∧ b ≠ 0x20) := by
  cases t with
  | raw c0 =>
    simp only [itemOf] at h
    split at h
    · cases h
    · rename_i hne; cases h; exact .inl ⟨rfl, hne⟩
  | stray => cases h
  | esc h1 h2 =>
    rcases itemOf_esc U h1 h2 with ⟨_, e⟩ | ⟨_, _, e⟩ | ⟨hk, hlt, h20, e⟩ | ⟨_, _, e⟩ <;>
      rw [e] at h <;> cases h
    exact .inr ⟨_, rfl, hlt, hk, h20⟩

theorem byte_itemOf_high {U : List UInt8} {t : Tok} {b : UInt8} (h : itemOf U t = .byte b) :
    0x80 ≤ b.toNat := by
  cases t with
  | raw c => simp only [itemOf] at h; split at h <;> cases h
  | stray => cases h
  | esc h1 h2 =>
    rcases itemOf_esc U h1 h2 with ⟨_, e⟩ | ⟨_, _, e⟩ | ⟨_, _, _, e⟩ | ⟨_, hge, e⟩ <;>
      rw [e] at h <;> cases h
    exact hge

def bytesOf : Item → List UInt8
  | .lit t => pctTok t
  | .byte b => [b]

theorem utf8_space : utf8 ' ' = [0x20] := by decide

theorem bytesOf_itemOf (U : List UInt8) (t : Tok) : bytesOf (itemOf U t) = pctTok t := by
  cases t with
  | raw c =>
    simp only [itemOf]
    split
    · rename_i h; subst h; simp [bytesOf, pctTok, utf8_space]; decide
    · rfl
  | stray => simp [itemOf, bytesOf, pctTok]; decide
  | esc h1 h2 =>
    rcases itemOf_esc U h1 h2 with ⟨_, e⟩ | ⟨_, h20, e⟩ | ⟨_, hlt, _, e⟩ | ⟨_, _, e⟩ <;> rw [e]
    · rfl
    · simp [bytesOf, pctTok, h20]; decide
    · simp only [bytesOf, pctTok]
      rw [utf8_ascii (by rw [toNat_ofNat_small _ (by omega)]; exact hlt),
        toNat_ofNat_small _ (by omega)]
      simp
    · rfl

theorem pct_flush (bs : List UInt8) : pct (flush bs) = bs := by
  have h := segment_bytes bs
  unfold flush
  generalize segment bs = segs at h
  induction segs generalizing bs with
  | nil => simpa using h
  | cons x xs ih =>
    simp only [List.flatMap_cons] at h ⊢
    rw [pct_append, ih _ rfl, ← h]
    congr 1
    cases x with
    | inl c => simp only [segBytes]; split <;> simp [pct_map_escOfByte, pctTok]
    | inr b => simp [segBytes, pctTok_escOfByte]

theorem pct_assemble (its : List Item) (acc : List UInt8) :
    pct (assemble its acc) = acc ++ its.flatMap bytesOf := by
  induction its generalizing acc with
  | nil => simp [assemble, pct_flush]
  | cons it its ih =>
    cases it with
    | lit t => simp [assemble, pct_append, pct_flush, ih, bytesOf]
    | byte b => simp [assemble, ih, bytesOf]

theorem pct_unquoteToks (U : List UInt8) (ts : List Tok) : pct (unquoteToks U ts) = pct ts := by
  unfold unquoteToks
  rw [pct_assemble]
  simp only [List.nil_append, List.flatMap_map, bytesOf_itemOf]
  rfl

/-! ### safely_unquote_*: what an output token can be -/

/-- Every token of the output is: a raw character of the input other than a space; a
well-formed escape; a decoded ASCII character that is printable, not a space and not
`keepEsc`; or a decoded non-ASCII character that is not a C1 control (`0xa0 ≤`: a decoded
character is `≥ U+0080`, and `isC1`, U+0080–U+009F, is escaped again by `flush`). -/
inductive OutTok (U : List UInt8) (ts : List Tok) : Tok → Prop where
  | input (c : Char) : .raw c ∈ ts → c ≠ ' ' → OutTok U ts (.raw c)
  | esc (h1 h2 : Char) : isHexDigit h1 = true → isHexDigit h2 = true → OutTok U ts (.esc h1 h2)
  | ascii (b : UInt8) : b.toNat < 0x80 → keepEsc U b = false → b ≠ 0x20 →
      OutTok U ts (.raw (Char.ofNat b.toNat))
  | high (c : Char) : 0xa0 ≤ c.toNat → OutTok U ts (.raw c)

def ItemOk (U : List UInt8) (ts : List Tok) : Item → Prop
  | .lit t => OutTok U ts t
  | .byte b => 0x80 ≤ b.toNat

theorem itemOk_itemOf (U : List UInt8) (ts : List Tok) (t : Tok) (ht : t ∈ ts) (hw : WfTok t) :
    ItemOk U ts (itemOf U t) := by
  cases t with
  | raw c =>
    simp only [itemOf]
    split
    · exact .esc _ _ (by decide) (by decide)
    · rename_i h; exact .input c ht h
  | stray => exact .esc _ _ (by decide) (by decide)
  | esc h1 h2 =>
    rcases itemOf_esc U h1 h2 with ⟨_, e⟩ | ⟨_, _, e⟩ | ⟨hk, hlt, h20, e⟩ | ⟨_, hge, e⟩ <;> rw [e]
    · exact .esc _ _ hw.1 hw.2
    · exact .esc _ _ (by decide) (by decide)
    · exact .ascii _ hlt hk h20
    · exact hge

theorem mem_flush {bs : List UInt8} {t : Tok} (ht : t ∈ flush bs) :
    (∃ b, t = escOfByte b) ∨ (∃ c, t = .raw c ∧ .inl c ∈ segment bs ∧ staysEscaped c = false) := by
  simp only [flush, List.mem_flatMap] at ht
  obtain ⟨x, hx, ht⟩ := ht
  cases x with
  | inl c =>
    simp only at ht
    split at ht
    · simp only [List.mem_map] at ht
      obtain ⟨b, _, rfl⟩ := ht
      exact .inl ⟨b, rfl⟩
    · rename_i hc
      simp only [List.mem_singleton] at ht
      exact .inr ⟨c, ht, hx, by simpa using hc⟩
  | inr b =>
    simp only [List.mem_singleton] at ht
    exact .inl ⟨b, ht⟩

theorem mem_assemble {its : List Item} {acc : List UInt8} {t : Tok} (h : t ∈ assemble its acc) :
    .lit t ∈ its ∨ ∃ bs, (∀ b ∈ bs, b ∈ acc ∨ .byte b ∈ its) ∧ t ∈ flush bs := by
  induction its generalizing acc with
  | nil => exact .inr ⟨acc, fun _ hb => .inl hb, h⟩
  | cons it r ih =>
    cases it with
    | lit t0 =>
      simp only [assemble, List.mem_append, List.mem_cons] at h
      rcases h with h | rfl | h
      · exact .inr ⟨acc, fun _ hb => .inl hb, h⟩
      · exact .inl List.mem_cons_self
      · rcases ih h with h | ⟨bs, hbs, ht⟩
        · exact .inl (List.mem_cons_of_mem _ h)
        · exact .inr ⟨bs, fun b hb => .inr (by simpa using hbs b hb), ht⟩
    | byte b0 =>
      rcases ih h with h | ⟨bs, hbs, ht⟩
      · exact .inl (List.mem_cons_of_mem _ h)
      · exact .inr ⟨bs, fun b hb => by simpa [or_assoc] using hbs b hb, ht⟩

theorem mem_unquoteToks {U : List UInt8} {ts : List Tok} {t : Tok} (h : t ∈ unquoteToks U ts) :
    (∃ t0 ∈ ts, itemOf U t0 = .lit t) ∨ (∃ b, t = escOfByte b) ∨
      ∃ c, t = .raw c ∧ 0x80 ≤ c.toNat ∧ staysEscaped c = false := by
  rcases mem_assemble h with h | ⟨bs, hbs, ht⟩
  · exact .inl (by simpa using h)
  · have hb : ∀ b ∈ bs, 0x80 ≤ b.toNat := fun b hb => by
      obtain ⟨t0, _, e⟩ := List.mem_map.1 ((hbs b hb).resolve_left (by simp))
      exact byte_itemOf_high e
    rcases mem_flush ht with h | ⟨c, rfl, hc, hs⟩
    · exact .inr (.inl h)
    · exact .inr (.inr ⟨c, rfl, segment_high bs hb _ hc, hs⟩)

theorem outTok_unquoteToks (U : List UInt8) (ts : List Tok) (hw : ∀ t ∈ ts, WfTok t) :
    ∀ t ∈ unquoteToks U ts, OutTok U ts t := by
  intro t ht
  rcases mem_unquoteToks ht with ⟨t0, h0, e⟩ | ⟨b, rfl⟩ | ⟨c, rfl, hc, hs⟩
  · have := itemOk_itemOf U ts t0 h0 (hw t0 h0)
    rwa [e] at this
  · exact .esc _ _ (canon_escOfByte b).1 (canon_escOfByte b).2
  · refine .high c ?_
    simp only [staysEscaped, Bool.or_eq_false_iff, isC1, Bool.and_eq_false_iff,
      decide_eq_false_iff_not] at hs
    omega

theorem escHex_unquoteToks (U : List UInt8) {ts : List Tok} (hw : ∀ t ∈ ts, WfTok t) :
    EscHex (unquoteToks U ts) := by
  intro h1 h2 hm
  cases outTok_unquoteToks U ts hw _ hm with
  | esc _ _ a b => exact ⟨a, b⟩

/-- with `%` in the unsafe set, every output token is canonical (re-scans to itself) -/
theorem canon_of_outTok {U : List UInt8} {ts : List Tok} (hU : (0x25 : UInt8) ∈ U)
    (hw : ∀ t ∈ ts, WfTok t) {t : Tok} (h : OutTok U ts t) : CanonTok t := by
  cases h with
  | input c hc _ => exact hw _ hc
  | esc h1 h2 a b => exact ⟨a, b⟩
  | ascii b hlt hk h20 =>
    show Char.ofNat b.toNat ≠ '%'
    intro heq
    have : (Char.ofNat b.toNat).toNat = 37 := by rw [heq]; rfl
    rw [toNat_ofNat_small _ (by omega)] at this
    have hb : b = 0x25 := UInt8.toNat_inj.1 (by simpa using this)
    rw [hb, keepEsc_of_mem hU] at hk
    cases hk
  | high c hc =>
    show c ≠ '%'
    rintro rfl
    revert hc; decide

/-! ### safely_unquote_*: raw delimiters are neither created nor removed -/

theorem assemble_append_lit (its1 its2 : List Item) (t : Tok) (acc : List UInt8) :
    assemble (its1 ++ .lit t :: its2) acc = assemble its1 acc ++ t :: assemble its2 [] := by
  induction its1 generalizing acc with
  | nil => simp [assemble]
  | cons it its ih =>
    cases it with
    | lit t0 => simp [assemble, ih]
    | byte b => simp [assemble, ih]

theorem unquoteToks_append_raw (U : List UInt8) {c : Char} (hsp : c ≠ ' ') (ta tb : List Tok) :
    unquoteToks U (ta ++ .raw c :: tb) = unquoteToks U ta ++ .raw c :: unquoteToks U tb := by
  unfold unquoteToks
  simp only [List.map_append, List.map_cons]
  rw [itemOf_raw U hsp, assemble_append_lit]

theorem raw_mem_unquoteToks_of_keep {U : List UInt8} {d : Char} (hd : d.toNat < 0x80)
    (hk : keepEsc U (UInt8.ofNat d.toNat) = true) {ts : List Tok} (h : Tok.raw d ∈ unquoteToks U ts) :
    Tok.raw d ∈ ts := by
  rcases mem_unquoteToks h with ⟨t0, h0, e⟩ | ⟨b, e⟩ | ⟨c, e, hc, _⟩
  · rcases lit_raw_itemOf e with ⟨rfl, _⟩ | ⟨b, rfl, hlt, hk', _⟩
    · exact h0
    · rw [toNat_ofNat_small _ (by omega), UInt8.ofNat_toNat, hk'] at hk
      cases hk
  · cases e
  · cases e; omega

theorem count_unquoteToks (U : List UInt8) (d : Char) (hd : d.toNat < 0x80) (hsp : d ≠ ' ')
    (hk : keepEsc U (UInt8.ofNat d.toNat) = true) (ts : List Tok) :
    (unquoteToks U ts).count (.raw d) = ts.count (.raw d) :=
  count_of_cut (unquoteToks_append_raw U hsp) (fun _ ha h => ha (raw_mem_unquoteToks_of_keep hd hk h)) ts

/-! ### raw non-printable characters are escaped first (`escapeRaw`) -/

theorem escapeRaw_eq_by (ts : List Tok) : escapeRaw ts = escToksBy staysEscaped ts := by
  unfold escapeRaw escToksBy
  congr 1
  funext t
  cases t with
  | raw c => rfl
  | esc h1 h2 => rfl
  | stray => rfl

theorem uSpaces_high : ∀ n ∈ uSpaces, 0x80 ≤ n := by decide

theorem staysEscaped_high {c : Char} (h : staysEscaped c = true) : 0x80 ≤ c.toNat := by
  simp only [staysEscaped, Bool.or_eq_true] at h
  rcases h with h | h
  · simp only [isC1, Bool.and_eq_true, decide_eq_true_eq] at h; exact h.1
  · exact uSpaces_high _ (by simpa using h)

theorem staysEscaped_of_lt {c : Char} (h : c.toNat < 0x80) : staysEscaped c = false := by
  cases hs : staysEscaped c with
  | false => rfl
  | true => have := staysEscaped_high hs; omega

theorem escTok_raw {c : Char} (h : staysEscaped c = false) : escTok (.raw c) = [.raw c] := by
  simp [escTok, h]

theorem escapeRaw_append (a b : List Tok) : escapeRaw (a ++ b) = escapeRaw a ++ escapeRaw b := by
  simp [escapeRaw]

theorem escapeRaw_cons (t : Tok) (r : List Tok) : escapeRaw (t :: r) = escTok t ++ escapeRaw r := by
  simp [escapeRaw]

theorem wf_escapeRaw {ts : List Tok} (h : ∀ t ∈ ts, WfTok t) : ∀ t ∈ escapeRaw ts, WfTok t := by
  intro t ht
  rw [escapeRaw_eq_by] at ht
  rcases mem_escToksBy ht with h' | ⟨b, rfl⟩
  · exact h t h'
  · exact (canon_escOfByte b).wf

theorem canon_unquoteToks {U : List UInt8} (hpct : (0x25 : UInt8) ∈ U) (s : Str) :
    ∀ t ∈ unquoteToks U (escapeRaw (tokens s)), CanonTok t := fun t ht =>
  canon_of_outTok hpct (wf_escapeRaw (wf_tokens s))
    (outTok_unquoteToks U (escapeRaw (tokens s)) (wf_escapeRaw (wf_tokens s)) t ht)

theorem pct_escapeRaw (ts : List Tok) : pct (escapeRaw ts) = pct ts := by
  rw [escapeRaw_eq_by]; exact pct_escToksBy _ ts

/-- a raw character that survives `escapeRaw` is a raw character of the input that
`NON_PRINTABLE_RE` does not match -/
theorem raw_mem_escapeRaw {ts : List Tok} {c : Char} (h : Tok.raw c ∈ escapeRaw ts) :
    Tok.raw c ∈ ts ∧ staysEscaped c = false := by
  rw [escapeRaw_eq_by] at h; exact raw_mem_escToksBy h

theorem escapeRaw_fixed {ts : List Tok} (h : ∀ c, Tok.raw c ∈ ts → staysEscaped c = false) :
    escapeRaw ts = ts := by
  rw [escapeRaw_eq_by]; exact escToksBy_fixed (.inl (by decide)) h

theorem count_escapeRaw (d : Char) (hd : d.toNat < 0x80) (ts : List Tok) :
    (escapeRaw ts).count (.raw d) = ts.count (.raw d) := by
  rw [escapeRaw_eq_by]; exact count_raw_escToksBy (staysEscaped_of_lt hd) ts

theorem mem_safelyUnquote (U : List UInt8) {s : Str} {ch : Char} (h : ch ∈ safelyUnquote U s) :
    (ch ∈ s ∧ ch ≠ ' ') ∨ ch = '%' ∨ isHexDigit ch = true ∨
      (ch.toNat < 0x80 ∧ ch ≠ ' ' ∧ keepEsc U (UInt8.ofNat ch.toNat) = false) ∨
      0xa0 ≤ ch.toNat := by
  have hw := wf_escapeRaw (wf_tokens s)
  rcases mem_render_escHex (escHex_unquoteToks U hw) h with hr | h | h
  · generalize hc : Tok.raw ch = t at hr
    cases outTok_unquoteToks U _ hw t hr with
    | input c hin hsp => cases hc; exact .inl ⟨mem_of_raw_mem_tokens (raw_mem_escapeRaw hin).1, hsp⟩
    | esc h1 h2 a b => cases hc
    | ascii b hlt hk h20 =>
      cases hc
      have hn : (Char.ofNat b.toNat).toNat = b.toNat := toNat_ofNat_small _ (by omega)
      refine .inr (.inr (.inr (.inl ⟨by omega, fun e => h20 (byte_of_ofNat_eq e), ?_⟩)))
      rw [hn, UInt8.ofNat_toNat]
      exact hk
    | high c hge => cases hc; exact .inr (.inr (.inr (.inr hge)))
  · exact .inr (.inl h)
  · exact .inr (.inr (.inl h))

theorem space_not_mem_safelyUnquote (U : List UInt8) (s : Str) : ' ' ∉ safelyUnquote U s := by
  intro h
  rcases mem_safelyUnquote U h with ⟨_, hsp⟩ | hpct | hhex | ⟨_, hsp, _⟩ | hhigh
  · exact hsp rfl
  · revert hpct; decide
  · revert hhex; decide
  · exact hsp rfl
  · revert hhigh; decide

theorem mem_of_control_mem_safelyUnquote {U : List UInt8} {s : Str} {ch : Char}
    (hmem : ch ∈ safelyUnquote U s)
    (hctl : ch.toNat < 0x20 ∨ (0x7f ≤ ch.toNat ∧ ch.toNat ≤ 0x9f)) : ch ∈ s := by
  rcases mem_safelyUnquote U hmem with ⟨hin, _⟩ | rfl | hhex | ⟨_, _, hk⟩ | hhigh
  · exact hin
  · exact absurd hctl (by decide)
  · have := (isHexDigit_toNat_iff ch).1 hhex; omega
  · -- decoded from an escape the unquoter does not keep: not a C0 control, not DEL
    obtain ⟨h1, h2, _⟩ := keepEsc_eq_false hk
    rw [UInt8.toNat_ofNat', Nat.mod_eq_of_lt (by omega)] at h1 h2
    omega
  · omega

end Ural.Quote
