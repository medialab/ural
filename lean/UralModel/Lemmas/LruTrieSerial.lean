import UralModel.Lemmas.LruTrie
import UralModel.Lemmas.LruSerial
/-!
# The two models of `ural/lru/serialization.py` / `clean_trailing_path` are the same functions

`Model/LruTrie.lean` (C11: accumulator splitter `splitGo`, tag class regenerated into
`Gen.LruSplitter.tags`, `join`) and `Model/Lru.lean` (C12 / C13: `splitBy`, hand-written
`tagChars`, `joinChar`) model the same three Python functions twice.  Here they are proved equal
as functions, so that what C12 proves of the stems of a URL (`Lru.StemsOK`) discharges the
hypothesis `LruTrie.WellTagged` of the C11 theorems, and the serialisation round trip of C11
(`unserialize_serialize`) is the one of C12 (`Lru.unserialize_serialize_ok`).

The only link that is not pure unfolding is the tag class: `tags_same_set` is a table obligation
(`decide` over the regenerated list).
-/
set_option linter.unusedSimpArgs false

namespace Ural.LruTrie
open Ural Ural.Py

/-- **table obligation**: the tag letters read off the compiled `SERIALIZED_LRU_SPLITTER_RE`
(regenerated) are, as a set, the hand-written class of `Model/Lru.lean` -/
theorem tags_same_set :
    (Gen.LruSplitter.tags.all Lru.tagChars.contains &&
      Lru.tagChars.all Gen.LruSplitter.tags.contains) = true := by decide

theorem tags_contains (c : Char) : Gen.LruSplitter.tags.contains c = Lru.tagChars.contains c := by
  have h := tags_same_set
  simp only [Bool.and_eq_true, List.all_eq_true] at h
  obtain ⟨h1, h2⟩ := h
  cases ha : Gen.LruSplitter.tags.contains c with
  | true =>
    have hm : c ∈ Gen.LruSplitter.tags := by simpa using ha
    exact (h1 c hm).symm
  | false =>
    cases hb : Lru.tagChars.contains c with
    | false => rfl
    | true =>
      have hm : c ∈ Lru.tagChars := by simpa using hb
      rw [h2 c hm] at ha
      cases ha

/-- the two look-aheads `(?=[shtpqfuw]:)` -/
theorem startsTag_eq_tagAhead (s : Str) : startsTag s = Lru.tagAhead s := by
  match s with
  | [] => rfl
  | [_] => rfl
  | c :: d :: r =>
    by_cases hd : d = ':'
    · subst hd
      simp only [startsTag, Lru.tagAhead, beq_self_eq_true, Bool.true_and]
      exact tags_contains c
    · have : Lru.tagAhead (c :: d :: r) = false := by
        unfold Lru.tagAhead
        split
        · next a r' heq =>
          simp only [List.cons.injEq] at heq
          exact absurd heq.2.1 hd
        · rfl
      rw [this]
      simp [startsTag, hd]

/-- glue `a` in front of the first piece -/
def prependHead (a : Str) : List Str → List Str
  | [] => [a]
  | h :: t => (a ++ h) :: t

theorem prependHead_nil {l : List Str} (h : l ≠ []) : prependHead [] l = l := by
  cases l with
  | nil => exact absurd rfl h
  | cons x xs => rfl

theorem prependHead_consHead (a : Str) (c : Char) {l : List Str} (h : l ≠ []) :
    prependHead a (consHead c l) = prependHead (a ++ [c]) l := by
  cases l with
  | nil => exact absurd rfl h
  | cons x xs => simp [prependHead, consHead]

/-- the accumulator splitter of `Model/LruTrie.lean` is `splitBy` with the piece in progress
glued in front -/
theorem splitGo_eq (s acc : Str) :
    splitGo s acc =
      prependHead acc.reverse (splitBy (fun c rest => c == '|' && Lru.tagAhead rest) s) := by
  induction s generalizing acc with
  | nil => simp [splitGo, splitBy, prependHead]
  | cons c cs ih =>
    simp only [splitGo, splitBy]
    by_cases h : c = '|' ∧ startsTag cs = true
    · have h' : (c == '|' && Lru.tagAhead cs) = true := by
        rw [← startsTag_eq_tagAhead]; simp [h.1, h.2]
      rw [if_pos h, if_pos h', ih [], List.reverse_nil, prependHead_nil (splitBy_ne_nil cs)]
      simp only [prependHead, List.append_nil]
    · have h' : ¬ ((c == '|' && Lru.tagAhead cs) = true) := by
        rw [← startsTag_eq_tagAhead]
        intro e
        simp only [Bool.and_eq_true, beq_iff_eq] at e
        exact h e
      rw [if_neg h, if_neg h', ih (c :: acc), prependHead_consHead _ _ (splitBy_ne_nil cs)]
      simp

/-- **`unserialize_lru`: the two models are the same function** -/
theorem unserializeLru_eq (lru : Str) : unserializeLru lru = Lru.unserializeLru lru := by
  unfold unserializeLru Lru.unserializeLru
  rw [splitGo_eq]
  exact prependHead_nil (splitBy_ne_nil _)

/-- **`serialize_lru`: the two models are the same function** -/
theorem serializeLru_eq (stems : List Str) : serializeLru stems = Lru.serializeLru stems := by
  unfold serializeLru Lru.serializeLru
  rw [← joinChar_eq_join]

/-- **`clean_trailing_path`: the two models are the same function** -/
theorem cleanTrailingPath_eq (stems : List Str) :
    cleanTrailingPath stems = Lru.cleanTrailingPath stems := by
  unfold cleanTrailingPath Lru.cleanTrailingPath emptyPathStem
  congr 1
  funext s
  by_cases h : s = ['p', ':'] <;> simp [h]

/-- **what C12 proves of the stems of a URL is what the C11 theorems ask for** -/
theorem wellTagged_of_stemsOK {stems : List Str} (h : Lru.StemsOK stems) : WellTagged stems := by
  refine ⟨h.ne, fun l hl c hc e => h.nobar l hl (e ▸ hc), ?_⟩
  intro l hl
  have := h.tagged l hl []
  rw [List.append_nil] at this
  rw [startsTag_eq_tagAhead]
  exact this

/-- … and conversely: the two well-formedness predicates are the same -/
theorem stemsOK_of_wellTagged {stems : List Str} (h : WellTagged stems) : Lru.StemsOK stems := by
  obtain ⟨hne, hbf, htag⟩ := h
  refine ⟨hne, fun s hs hm => hbf s hs '|' hm rfl, ?_⟩
  intro s hs r
  rw [← startsTag_eq_tagAhead]
  exact startsTag_append s r (htag s hs)

/-- the round trip of `serialization.py` on well-formed stem lists -/
theorem unserialize_serialize (stems : List Str) (h : WellTagged stems) :
    unserializeLru (serializeLru stems) = stems := by
  rw [serializeLru_eq, unserializeLru_eq]
  exact Lru.unserialize_serialize_ok (stemsOK_of_wellTagged h)

end Ural.LruTrie
