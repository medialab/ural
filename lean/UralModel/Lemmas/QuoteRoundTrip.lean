import UralModel.Lemmas.QuoteIdem
/-!
# Escape-equivalence, and unquote ∘ quote ∘ unquote

(1) escape-equivalence (`é` vs `%C3%A9`, besides `A` vs `%41` and a raw space vs `%20`, which
are equalities of `itemOf`); (2) `unquote ∘ quote ∘ unquote` is `unquote` with the raw characters
that do not survive a quote/unquote cycle spelled as escapes (`hardenBy`), hence
`unquote ∘ quote ∘ unquote = unquote` on inputs all of whose raw characters survive (`cleanRawBy`).
Each statement is made for `safely_quote` with any set of characters left alone (`…By f`) and then
for the default `safe="/"`.  (1) is `assemble_expand` read on strings; (2) rests on
`unquoteToks_escToksBy` and `unquoteToks_idem` (`Lemmas/QuoteIdem.lean`).
-/

namespace Ural.Quote
open Ural.Py

/-- the normal form of a string for the safe unquoter with unsafe set `U`: what each token
turns into, raw non-ASCII characters spelled as their bytes -/
def normItems (U : List UInt8) (s : Str) : List Item :=
  ((escapeRaw (tokens s)).map (itemOf U)).flatMap expand

/-- **escape-equivalence**: two strings with the same normal form (`%41` vs `A`, a raw space
vs `%20`, `é` vs `%C3%A9` or `%c3%a9`, in any mixture) are unquoted to the same string -/
theorem unquote_respects_equiv (U : List UInt8) (a b : Str) (h : normItems U a = normItems U b) :
    safelyUnquote U a = safelyUnquote U b := by
  unfold safelyUnquote unquoteToks
  rw [← assemble_expand ((escapeRaw (tokens a)).map (itemOf U)),
    ← assemble_expand ((escapeRaw (tokens b)).map (itemOf U))]
  unfold normItems at h
  rw [h]

/-! ### the mode round trip: `unquote ∘ quote ∘ unquote = unquote` -/

/-- a raw character that comes back from `safely_quote` followed by the safe unquoter:
ASCII and left alone by `quote`, or ASCII and decoded again (not a control, not in `U`);
or non-ASCII (a non-ASCII character that `NON_PRINTABLE_RE` matches is escaped by the first
pass already, `escapeRaw`; any other one is decoded again from its quoted bytes) -/
def cleanRawBy (f : Char → Bool) (U : List UInt8) (c : Char) : Bool :=
  if c.toNat < 0x80 then f c || !keepEsc U (UInt8.ofNat c.toNat) else true

/-- every character of the string other than a space (normalised to `%20`) and `%` is clean -/
def cleanStrBy (f : Char → Bool) (U : List UInt8) (s : Str) : Bool :=
  s.all fun c => c == ' ' || c == '%' || cleanRawBy f U c

theorem cleanRawBy_decoded {f : Char → Bool} {U : List UInt8} {b : UInt8} (hlt : b.toNat < 0x80) (hk : keepEsc U b = false) :
    cleanRawBy f U (Char.ofNat b.toNat) = true := by
  have hn : (Char.ofNat b.toNat).toNat = b.toNat := toNat_ofNat_small _ (by omega)
  simp only [cleanRawBy, hn, hlt, if_true, UInt8.ofNat_toNat, hk]
  simp

theorem not_cleanRawBy {f : Char → Bool} {U : List UInt8} {c : Char} (h : ¬ cleanRawBy f U c = true) :
    c.toNat < 0x80 ∧ f c = false ∧ keepEsc U (UInt8.ofNat c.toNat) = true := by
  unfold cleanRawBy at h
  by_cases hlt : c.toNat < 0x80
  · simp only [hlt, if_true, Bool.or_eq_true, Bool.not_eq_true', not_or, Bool.not_eq_false,
      Bool.not_eq_true] at h
    exact ⟨hlt, h.1, h.2⟩
  · simp [hlt] at h

theorem itemOf_escOfByte_keep {U : List UInt8} {b : UInt8} (h : keepEsc U b = true) :
    itemOf U (escOfByte b) = .lit (escOfByte b) := by
  simp only [escOfByte, itemOf, byteOf_escOfByte, h, if_true]

theorem outTok_not_space {U : List UInt8} {ts : List Tok} (h : OutTok U ts (.raw ' ')) : False := by
  generalize ht : Tok.raw ' ' = t at h
  cases h with
  | input c _ hsp => cases ht; exact hsp rfl
  | esc h1 h2 _ _ => cases ht
  | ascii b hlt hk h20 =>
    simp only [Tok.raw.injEq] at ht
    exact h20 (byte_of_ofNat_eq ht.symm)
  | high c hc =>
    simp only [Tok.raw.injEq] at ht
    subst ht
    revert hc; decide

theorem cleanStrBy_raw {f : Char → Bool} {U : List UInt8} {s : Str} (h : cleanStrBy f U s = true) {c : Char}
    (hc : Tok.raw c ∈ tokens s) (hsp : c ≠ ' ') : cleanRawBy f U c = true := by
  have hm := mem_of_raw_mem_tokens hc
  have hw : c ≠ '%' := wf_tokens s _ hc
  simp only [cleanStrBy, List.all_eq_true] at h
  have := h c hm
  simpa [hsp, hw] using this

/-! ### a token-wise map commutes with the safe unquoters when `flush` does not see it -/

def mapLit (f : Tok → Tok) : Item → Item
  | .lit t => .lit (f t)
  | .byte b => .byte b

/-- `P`: a property of the pending bytes under which `f` fixes what `flush` emits -/
theorem assemble_mapLit (f : Tok → Tok) (P : UInt8 → Prop)
    (hf : ∀ bs, (∀ b ∈ bs, P b) → (flush bs).map f = flush bs) (its : List Item) :
    ∀ (acc : List UInt8), (∀ b ∈ acc, P b) → (∀ b, Item.byte b ∈ its → P b) →
      (assemble its acc).map f = assemble (its.map (mapLit f)) acc := by
  induction its with
  | nil => intro acc hacc _; simp only [assemble, List.map_nil]; exact hf acc hacc
  | cons it r ih =>
    intro acc hacc hits
    have hr : ∀ b, Item.byte b ∈ r → P b := fun b hb => hits b (by simp [hb])
    cases it with
    | lit t =>
      simp only [List.map_cons, mapLit, assemble, List.map_append, hf acc hacc]
      rw [ih [] (by simp) hr]
    | byte b =>
      simp only [List.map_cons, mapLit, assemble]
      exact ih _ (forall_mem_snoc hacc (hits _ (by simp))) hr

end Ural.Quote

namespace Ural.QuoteUpper
open Ural.Py Ural.Quote

/-! ### unquote, quote, unquote again: `hardenBy`

`u ∘ q ∘ u = u` only holds for inputs without raw delimiters (`safelyUnquote_quote_unquote`,
`cleanStr`): a raw `?` of a path is quoted to `%3F`, which the unquoter then keeps.  But that
is the only difference — `u (q x)` is `x` with such characters spelled as escapes (`hardenBy`) —
and `q` does not see it (`quoteToksBy_map_hardenBy`; the idempotence of `q ∘ u` itself is
`Props/C14.lean` `quoteBy_unquote_idempotent`). -/

/-- a raw ASCII character that `quote` escapes and the unquoter then keeps escaped (a raw
delimiter or control character), spelled as that escape -/
def hardenBy (f : Char → Bool) (U : List UInt8) : Tok → Tok
  | .raw c => if cleanRawBy f U c = true then .raw c else escOfByte (UInt8.ofNat c.toNat)
  | t => t

theorem quoteTokBy_hardenBy (f : Char → Bool) (U : List UInt8) (t : Tok) : quoteTokBy f (hardenBy f U t) = quoteTokBy f t := by
  cases t with
  | esc h1 h2 => rfl
  | stray => rfl
  | raw c =>
    simp only [hardenBy]
    split
    · rfl
    · rename_i h
      obtain ⟨hlt, hq, _⟩ := not_cleanRawBy h
      simp only [quoteTokBy, hq, Bool.false_eq_true, if_false, utf8_ascii hlt, List.map_cons,
        List.map_nil]
      rfl

theorem quoteToksBy_map_hardenBy (f : Char → Bool) (U : List UInt8) (ts : List Tok) :
    quoteToksBy f (ts.map (hardenBy f U)) = quoteToksBy f ts := by
  simp only [quoteToksBy, List.flatMap_map, quoteTokBy_hardenBy]

theorem itemOf_hardenBy (f : Char → Bool) (U : List UInt8) (t : Tok) :
    itemOf U (hardenBy f U t) = mapLit (hardenBy f U) (itemOf U t) := by
  cases t with
  | stray => rfl
  | raw c =>
    simp only [hardenBy]
    split
    · rename_i hcl
      simp only [itemOf]
      split
      · rfl
      · simp [mapLit, hardenBy, hcl]
    · -- not clean: spelled as the escape that the unquoter keeps as written
      rename_i hcl
      obtain ⟨hlt, hq, hk⟩ := not_cleanRawBy hcl
      rw [itemOf_escOfByte_keep hk]
      simp only [itemOf]
      split
      · rename_i hsp
        subst hsp
        rfl
      · simp [mapLit, hardenBy, hcl]
  | esc h1 h2 =>
    show itemOf U (.esc h1 h2) = _
    rcases itemOf_esc U h1 h2 with ⟨_, e⟩ | ⟨_, _, e⟩ | ⟨hk, hlt, _, e⟩ | ⟨_, _, e⟩ <;> rw [e]
    · rfl
    · rfl
    · -- a decoded ASCII character is one the unquoter does not keep escaped: clean
      simp only [mapLit, hardenBy]
      rw [if_pos (cleanRawBy_decoded hlt hk)]
    · rfl

theorem flush_map_hardenBy (f : Char → Bool) (U : List UInt8) (bs : List UInt8) (hb : ∀ b ∈ bs, 0x80 ≤ b.toNat) :
    (flush bs).map (hardenBy f U) = flush bs := by
  apply map_eq_self
  intro t ht
  rcases mem_flush ht with ⟨b, rfl⟩ | ⟨c, rfl, hc, _⟩
  · rfl
  · have := segment_high bs hb _ hc
    simp only [hardenBy]
    rw [if_pos]
    unfold cleanRawBy
    rw [if_neg (by unfold SegHigh at this; omega)]

theorem unquoteToks_map_hardenBy (f : Char → Bool) (U : List UInt8) (ts : List Tok) :
    unquoteToks U (ts.map (hardenBy f U)) = (unquoteToks U ts).map (hardenBy f U) := by
  unfold unquoteToks
  rw [assemble_mapLit (hardenBy f U) (fun b => 0x80 ≤ b.toNat) (flush_map_hardenBy f U) _ [] (by simp)
    (by
      intro b hb
      simp only [List.mem_map] at hb
      obtain ⟨t, _, ht⟩ := hb
      exact byte_itemOf_high ht)]
  simp only [List.map_map]
  congr 1
  apply List.map_congr_left
  intro t _
  exact itemOf_hardenBy f U t

theorem itemOf_escBy_ascii (f : Char → Bool) (U : List UInt8) (t : Tok) (hsp : t ≠ .raw ' ')
    (hns : t ≠ .stray) :
    (escBy (fun c => !f c && decide (c.toNat < 0x80)) t).map (itemOf U) = [itemOf U (hardenBy f U t)] := by
  cases t with
  | esc h1 h2 => rfl
  | stray => exact absurd rfl hns
  | raw c =>
    have hc : c ≠ ' ' := fun e => hsp (by rw [e])
    simp only [escBy, hardenBy]
    by_cases hlt : c.toNat < 0x80
    · by_cases hq : f c = true
      · simp [hq, cleanRawBy, hlt]
      · have hq' : f c = false := by simpa using hq
        simp only [hq', Bool.not_false, hlt, decide_true, Bool.and_self, if_true, utf8_ascii hlt,
          List.map_cons, List.map_nil, cleanRawBy, Bool.false_or, Bool.not_eq_true']
        cases hk : keepEsc U (UInt8.ofNat c.toNat)
        · -- not kept: decoded to `c` again
          have h := itemOf_esc U (hexDigitUpper ((UInt8.ofNat c.toNat).toNat / 16))
            (hexDigitUpper ((UInt8.ofNat c.toNat).toNat % 16))
          rw [byteOf_escOfByte] at h
          rcases h with ⟨hk', _⟩ | ⟨_, h20, _⟩ | ⟨_, _, _, e⟩ | ⟨_, hge, _⟩
          · rw [hk] at hk'; cases hk'
          · exact absurd (by rw [← char_ofNat_byte hlt, h20]; rfl) hc
          · simp only [if_true, escOfByte, e, char_ofNat_byte hlt, itemOf_raw U hc]
          · rw [UInt8.toNat_ofNat', Nat.mod_eq_of_lt (by omega)] at hge; omega
        · simp
    · simp [hlt, cleanRawBy]

/-- **unquote, quote, unquote again** = the first result with its raw delimiters and control
characters spelled as escapes: `quote` is an escaping pass over ASCII characters (read again:
`hardenBy`) followed by one over all non-ASCII characters (not seen: `unquoteToks_escToksBy`) -/
theorem unquoteToks_quoteBy_unquote_hardenBy {f : Char → Bool} (hf : SafeSet f) (U : List UInt8)
    (hpct : (0x25 : UInt8) ∈ U) (hU : AsciiSet U) (ts : List Tok) (hw : ∀ t ∈ ts, WfTok t)
    (hst : ∀ c, Tok.raw c ∈ ts → staysEscaped c = false) :
    unquoteToks U (quoteToksBy f (unquoteToks U ts)) = (unquoteToks U ts).map (hardenBy f U) := by
  have hout := outTok_unquoteToks U ts hw
  have hraw := raw_unquoteToks U hst
  have hidem := unquoteToks_idem U hpct hU ts
  generalize unquoteToks U ts = out at hout hraw hidem ⊢
  have e1 : quoteToksBy f out = escToksBy (fun c => decide (0x80 ≤ c.toNat))
      (escToksBy (fun c => !f c && decide (c.toNat < 0x80)) out) := by
    rw [quoteToksBy_eq_escToksBy, escToksBy_comp]
    congr 1; funext c
    by_cases hlt : c.toNat < 0x80
    · simp [hlt, Nat.not_le.2 hlt]
    · cases hq : f c
      · simp [hlt]; omega
      · exact absurd (hf.ascii hq) hlt
  rw [e1, unquoteToks_escToksBy U hU (fun c h => by simpa using staysEscaped_high h)
      (fun c h => by simpa using h),
    escapeRaw_fixed fun c hc => hraw c (raw_mem_escToksBy hc).1]
  have e2 : (escToksBy (fun c => !f c && decide (c.toNat < 0x80)) out).map (itemOf U) =
      (out.map (hardenBy f U)).map (itemOf U) := by
    clear e1 hraw hidem
    induction out with
    | nil => rfl
    | cons t r ih =>
      rw [escToksBy_cons, List.map_append, ih fun t ht => hout t (by simp [ht]),
        itemOf_escBy_ascii f U t (fun e => outTok_not_space (e ▸ hout t (by simp)))
          fun e => by have := canon_of_outTok hpct hw (hout t (by simp)); rw [e] at this; exact this]
      rfl
  unfold unquoteToks
  rw [e2]
  exact (unquoteToks_map_hardenBy f U out).trans (by rw [hidem])

end Ural.QuoteUpper

namespace Ural.Quote
open Ural.Py

/-- **round trip on tokens**: unquote, quote, unquote again = unquote, when every raw
character of the input other than a space is clean and not one `NON_PRINTABLE_RE` matches -/
theorem unquoteToks_quoteBy_unquote {f : Char → Bool} (hf : SafeSet f) (U : List UInt8) (hpct : (0x25 : UInt8) ∈ U) (hU : AsciiSet U)
    (ts : List Tok) (hw : ∀ t ∈ ts, WfTok t)
    (hcl : ∀ c, Tok.raw c ∈ ts → c ≠ ' ' → cleanRawBy f U c = true)
    (hst : ∀ c, Tok.raw c ∈ ts → staysEscaped c = false) :
    unquoteToks U (quoteToksBy f (unquoteToks U ts)) = unquoteToks U ts := by
  rw [QuoteUpper.unquoteToks_quoteBy_unquote_hardenBy hf U hpct hU ts hw hst]
  apply map_eq_self
  intro t ht
  cases t with
  | raw c =>
    have hc : cleanRawBy f U c = true := by
      cases outTok_unquoteToks U ts hw _ ht with
      | input _ hin hsp => exact hcl _ hin hsp
      | ascii b hlt hk _ => exact cleanRawBy_decoded hlt hk
      | high _ hc' =>
        unfold cleanRawBy
        rw [if_neg (by omega)]
    simp [QuoteUpper.hardenBy, hc]
  | esc h1 h2 => rfl
  | stray => rfl

theorem tokens_safelyQuoteBy {f : Char → Bool} (hf : SafeSet f) (s : Str) : tokens (safelyQuoteBy f s) = quoteToksBy f (tokens s) :=
  tokens_render_of_canon _ (canon_quoteToksBy hf (wf_tokens s))

theorem escapeRaw_quoteToksBy {f : Char → Bool} (hf : SafeSet f) (ts : List Tok) : escapeRaw (quoteToksBy f ts) = quoteToksBy f ts := by
  exact escapeRaw_fixed fun c hc => staysEscaped_of_lt (hf.ascii (raw_mem_quoteToksBy hc).2)

/-- **round trip on strings**: the safe unquoter applied to the quoted output of the safe
unquoter gives that output back, for every clean input -/
theorem safelyUnquote_quoteBy_unquote {f : Char → Bool} (hf : SafeSet f) (U : List UInt8) (hpct : (0x25 : UInt8) ∈ U) (hU : AsciiSet U)
    (s : Str) (hcl : cleanStrBy f U s = true) :
    safelyUnquote U (safelyQuoteBy f (safelyUnquote U s)) = safelyUnquote U s := by
  have h := unquoteToks_quoteBy_unquote hf U hpct hU (escapeRaw (tokens s)) (wf_escapeRaw (wf_tokens s))
    (fun c hc hsp => cleanStrBy_raw hcl (raw_mem_escapeRaw hc).1 hsp)
    (fun c hc => (raw_mem_escapeRaw hc).2)
  show render (unquoteToks U (escapeRaw (tokens (safelyQuoteBy f (safelyUnquote U s))))) = safelyUnquote U s
  rw [tokens_safelyQuoteBy hf, tokens_safelyUnquote U hpct, escapeRaw_quoteToksBy hf, h]
  rfl

/-! ### the default `safe="/"` -/

/-- `cleanRawBy` for `safely_quote`'s default set -/
def cleanRaw (U : List UInt8) (c : Char) : Bool :=
  if c.toNat < 0x80 then quoteSafe c || !keepEsc U (UInt8.ofNat c.toNat) else true

/-- every character of the string other than a space (normalised to `%20`) and `%` is clean -/
def cleanStr (U : List UInt8) (s : Str) : Bool := s.all fun c => c == ' ' || c == '%' || cleanRaw U c

theorem cleanRaw_eq_by (U : List UInt8) (c : Char) : cleanRaw U c = cleanRawBy quoteSafe U c := rfl
theorem cleanStr_eq_by (U : List UInt8) (s : Str) : cleanStr U s = cleanStrBy quoteSafe U s := rfl

theorem cleanStr_raw {U : List UInt8} {s : Str} (h : cleanStr U s = true) {c : Char}
    (hc : Tok.raw c ∈ tokens s) (hsp : c ≠ ' ') : cleanRaw U c = true :=
  cleanStrBy_raw (f := quoteSafe) h hc hsp

theorem items_quoteTok (U : List UInt8) (hU : AsciiSet U) (t : Tok) (hw : CanonTok t)
    (hcl : ∀ c, t = .raw c → c ≠ ' ' ∧ cleanRaw U c = true ∧ staysEscaped c = false) :
    (quoteTok t).map (itemOf U) = expand (itemOf U t) := by
  rw [quoteTok_fun, quoteTokBy_eq_escBy]
  cases t with
  | stray => exact absurd hw (by simp [CanonTok])
  | esc h1 h2 =>
    simp only [escBy, List.map_cons, List.map_nil]
    rcases itemOf_esc U h1 h2 with ⟨_, e⟩ | ⟨_, _, e⟩ | ⟨_, hlt, _, e⟩ | ⟨_, _, e⟩ <;> rw [e]
    · rfl
    · rfl
    · simp only [expand]; rw [if_neg]; rw [toNat_ofNat_small _ (by omega)]; omega
    · rfl
  | raw c =>
    obtain ⟨hsp, hclean, hstay⟩ := hcl c rfl
    rw [itemOf_raw U hsp]
    by_cases hlt : c.toNat < 0x80
    · have h := QuoteUpper.itemOf_escBy_ascii quoteSafe U (.raw c) (fun e => hsp (by cases e; rfl)) (fun e => nomatch e)
      have hh : QuoteUpper.hardenBy quoteSafe U (.raw c) = .raw c := by
        simp only [QuoteUpper.hardenBy]; rw [if_pos (show cleanRawBy quoteSafe U c = true from hclean)]
      rw [hh, itemOf_raw U hsp] at h
      simp only [escBy, hlt, decide_true, Bool.and_true] at h ⊢
      rw [h, expand, if_neg (by omega)]
    · have hq : quoteSafe c = false := by
        cases h : quoteSafe c
        · rfl
        · exact absurd (safeSet_quoteSafe.ascii h) hlt
      simp only [escBy, hq, Bool.not_false, if_true, expand]
      rw [if_pos ⟨by omega, hstay⟩]
      exact map_itemOf_escOfByte U hU (utf8_high (by omega))

theorem unquoteToks_quote_unquote (U : List UInt8) (hpct : (0x25 : UInt8) ∈ U) (hU : AsciiSet U)
    (ts : List Tok) (hw : ∀ t ∈ ts, WfTok t)
    (hcl : ∀ c, Tok.raw c ∈ ts → c ≠ ' ' → cleanRaw U c = true)
    (hst : ∀ c, Tok.raw c ∈ ts → staysEscaped c = false) :
    unquoteToks U (quoteToks (unquoteToks U ts)) = unquoteToks U ts := by
  rw [quoteToks_fun]; exact unquoteToks_quoteBy_unquote safeSet_quoteSafe U hpct hU ts hw hcl hst

theorem safelyUnquote_quote_unquote (U : List UInt8) (hpct : (0x25 : UInt8) ∈ U) (hU : AsciiSet U)
    (s : Str) (hcl : cleanStr U s = true) :
    safelyUnquote U (safelyQuote (safelyUnquote U s)) = safelyUnquote U s := by
  rw [safelyQuote_fun]; exact safelyUnquote_quoteBy_unquote safeSet_quoteSafe U hpct hU s hcl

theorem pctStr_safelyUnquote (U : List UInt8) (hU : (0x25 : UInt8) ∈ U) (s : Str) :
    pctStr (safelyUnquote U s) = pctStr s := by
  unfold pctStr
  rw [tokens_safelyUnquote U hU, pct_unquoteToks, pct_escapeRaw]

theorem pctStr_safelyQuoteBy {f : Char → Bool} (hf : SafeSet f) (s : Str) :
    pctStr (safelyQuoteBy f s) = pctStr s := by
  unfold pctStr
  rw [tokens_safelyQuoteBy hf, pct_quoteToksBy]

theorem raw_tokens_safelyQuoteBy {f : Char → Bool} (hf : SafeSet f) (s : Str) :
    ∀ c, Tok.raw c ∈ tokens (safelyQuoteBy f s) → f c = true := by
  rw [tokens_safelyQuoteBy hf]; exact fun c hc => (raw_mem_quoteToksBy hc).2

theorem stray_not_mem_safelyQuoteBy {f : Char → Bool} (hf : SafeSet f) (s : Str) :
    Tok.stray ∉ tokens (safelyQuoteBy f s) := by
  rw [tokens_safelyQuoteBy hf]; exact fun hc => canon_quoteToksBy hf (wf_tokens s) _ hc

theorem safelyQuoteBy_idem {f : Char → Bool} (hf : SafeSet f) (s : Str) :
    safelyQuoteBy f (safelyQuoteBy f s) = safelyQuoteBy f s := by
  have h := tokens_safelyQuoteBy hf s
  unfold safelyQuoteBy at h ⊢
  rw [h, quoteToksBy_idem]

theorem pctStr_safelyQuote (s : Str) : pctStr (safelyQuote s) = pctStr s := by
  rw [safelyQuote_fun]; exact pctStr_safelyQuoteBy safeSet_quoteSafe s

end Ural.Quote
