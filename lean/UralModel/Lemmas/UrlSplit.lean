import UralModel.Py.UrlSplit
import UralModel.Model.UrlParts
import UralModel.Lemmas.StrSplit
/-!
# The modelled parser `urlsplit`, `PROTOCOL_RE`, `squeezeSlashes`

`urlsplit u d = splitRest sch x` for the scheme step `(sch, x)` on the cleaned string.  Forward there is one equation
per step of the parser, together `urlsplit_parts` (a printed `scheme://netloc path ?query #fragment` is read back);
backward, `urlsplit_some` says what any result is made of.  `PROTOCOL_RE` is `UrlParts.protoLen`; `ensure_protocol`
has three equations, and to the parser its default protocol decides the scheme only (`urlsplit_ensureProtocol`).
-/
namespace Ural.Py
open Ural.UrlParts

theorem isControlChar_lowerChar (c : Char) : isControlChar (lowerChar c) = isControlChar c := by
  rw [Bool.eq_iff_iff]
  simp only [isControlChar, Bool.or_eq_true, Bool.and_eq_true, decide_eq_true_eq, lowerChar_toNat]
  split <;> omega

theorem stripControl_eq_self_iff {s : Str} : stripControl s = s ↔ ∀ c ∈ s, isControlChar c = false := by
  unfold stripControl
  rw [List.filter_eq_self]
  constructor
  · intro h c hc; simpa using h c hc
  · intro h c hc; simpa using h c hc

theorem not_unsafe_of {P : Char → Prop} (hP : ¬ P '\t' ∧ ¬ P '\r' ∧ ¬ P '\n') {c : Char} (h : P c) :
    isUnsafeUrlChar c = false := by
  cases hu : isUnsafeUrlChar c with
  | false => rfl
  | true =>
    simp only [isUnsafeUrlChar, Bool.or_eq_true, decide_eq_true_eq] at hu
    rcases hu with (rfl | rfl) | rfl
    · exact absurd h hP.1
    · exact absurd h hP.2.1
    · exact absurd h hP.2.2

theorem not_unsafe_of_not_control {c : Char} (h : isControlChar c = false) : isUnsafeUrlChar c = false :=
  not_unsafe_of (P := (isControlChar · = false)) (by decide) h

theorem netlocDelim_safe {c : Char} (h : isNetlocDelim c = true) : isUnsafeUrlChar c = false :=
  not_unsafe_of (P := (isNetlocDelim · = true)) (by decide) h

theorem netlocOk_of_no_bracket {nl : Str} (hL : '[' ∉ nl) (hR : ']' ∉ nl) : netlocOk nl = true := by
  have h1 : nl.contains '[' = false := by simpa using hL
  have h2 : nl.contains ']' = false := by simpa using hR
  unfold netlocOk
  simp only [h1, h2]
  rfl

theorem cleanUrl_slash (t : Str) :
    cleanUrl ('/' :: t) = '/' :: t.filter (fun c => !isUnsafeUrlChar c) := by
  unfold cleanUrl
  rw [List.dropWhile_cons_of_neg (by decide)]
  simp [isUnsafeUrlChar]

theorem splitScheme_slash (t dflt : Str) : splitScheme ('/' :: t) dflt = (dflt, '/' :: t) := by
  unfold splitScheme
  rw [splitFirst_cons]
  simp only [show ('/' : Char) ≠ ':' by decide, if_false]
  cases (splitFirst t ':').2 with
  | none => rfl
  | some post => simp [isAsciiAlpha]

end Ural.Py

/-! # `urlsplit`

The scheme predicate and the printed `?query` / `#fragment` of `UrlRoundTrip`, and `Sites.dropUnsafe` (removal of TAB,
CR, LF), stand here because every statement below speaks of them. -/

namespace Ural.UrlRoundTrip
open Ural.Py

/-- a scheme as `urlsplit` recognises one: an ASCII letter, then letters, digits, `+-.` -/
def SchemeShaped (s : Str) : Prop :=
  (∃ c r, s = c :: r ∧ isAsciiAlpha c = true) ∧ s.all isSchemeChar = true

/-- what follows the path in the printed URL -/
def queryPart (query : Str) : Str := if query ≠ [] then '?' :: query else []
def fragPart (fragment : Str) : Str := if fragment ≠ [] then '#' :: fragment else []

theorem alpha_not_c0 {c : Char} (h : isAsciiAlpha c = true) : isC0OrSpace c = false := by
  rw [isAsciiAlpha_iff] at h
  simp only [isC0OrSpace, decide_eq_false_iff_not]
  omega

theorem mem_queryPart {c : Char} {q : Str} (h : c ∈ queryPart q) : c ∈ q ∨ c = '?' := by
  unfold queryPart at h
  split at h
  · simp only [List.mem_cons] at h; exact h.symm
  · simp at h

theorem mem_fragPart {c : Char} {f : Str} (h : c ∈ fragPart f) : c ∈ f ∨ c = '#' := by
  unfold fragPart at h
  split at h
  · simp only [List.mem_cons] at h; exact h.symm
  · simp at h

theorem pathTail_head (path q f : Str) (hp : path = [] ∨ ∃ r, path = '/' :: r) (c : Char)
    (h : (path ++ (queryPart q ++ fragPart f)).head? = some c) : isNetlocDelim c = true := by
  rcases hp with rfl | ⟨r, rfl⟩
  · unfold queryPart fragPart at h
    by_cases hq : q = [] <;> by_cases hf : f = [] <;> simp [hq, hf] at h <;> simp [← h, isNetlocDelim]
  · simp at h; subst h; decide

theorem splitNetloc_slashes_eq (y : Str) :
    splitNetloc ('/' :: '/' :: y) =
      (y.takeWhile (fun c => !isNetlocDelim c), y.dropWhile (fun c => !isNetlocDelim c)) := by
  simp [splitNetloc, startsWith, List.isPrefixOf]

theorem splitNetloc_slashes (nl rest : Str) (hnl : ∀ c ∈ nl, isNetlocDelim c = false)
    (hrest : ∀ c, rest.head? = some c → isNetlocDelim c = true) :
    splitNetloc ('/' :: '/' :: (nl ++ rest)) = (nl, rest) := by
  rw [splitNetloc_slashes_eq,
    takeWhile_append_of_stop _ nl rest (fun c hc => by simp [hnl c hc]) (fun c hc => by simp [hrest c hc]),
    dropWhile_append_of_stop _ nl rest (fun c hc => by simp [hnl c hc]) (fun c hc => by simp [hrest c hc])]

theorem splitNetloc_none (u : Str) (h : startsWith u ['/', '/'] = false) :
    splitNetloc u = ([], u) := by
  unfold splitNetloc; simp [h]

end Ural.UrlRoundTrip

namespace Ural.Sites
open Ural.Py

/-- removal of TAB, CR, LF (`_UNSAFE_URL_BYTES_TO_REMOVE`) -/
def dropUnsafe (s : Str) : Str := s.filter (fun c => !isUnsafeUrlChar c)

end Ural.Sites

namespace Ural.Py
open Ural.UrlRoundTrip Ural.Sites

/-! ## stage 1: cleaning -/

theorem dropUnsafe_append (a b : Str) : dropUnsafe (a ++ b) = dropUnsafe a ++ dropUnsafe b := by
  simp [dropUnsafe]

theorem dropUnsafe_eq_self {s : Str} (h : ∀ c ∈ s, isUnsafeUrlChar c = false) : dropUnsafe s = s :=
  List.filter_eq_self.2 fun c hc => by simp [h c hc]

theorem dropUnsafe_cons {c : Char} (h : isUnsafeUrlChar c = false) (s : Str) :
    dropUnsafe (c :: s) = c :: dropUnsafe s := by
  simp [dropUnsafe, h]

theorem dropUnsafe_head_delim {tl : Str} (h : ∀ c, tl.head? = some c → isNetlocDelim c = true) :
    ∀ c, (dropUnsafe tl).head? = some c → isNetlocDelim c = true := by
  cases tl with
  | nil => intro c hc; cases hc
  | cons d t =>
    rw [dropUnsafe_cons (netlocDelim_safe (h d rfl))]
    exact h

theorem cleanUrl_eq_dropUnsafe {u : Str} (h : ∀ c, u.head? = some c → isC0OrSpace c = false) :
    cleanUrl u = dropUnsafe u := by
  unfold cleanUrl dropUnsafe
  cases u with
  | nil => rfl
  | cons c r => rw [List.dropWhile_cons_of_neg (by simp [h c rfl])]

theorem mem_cleanUrl {u : Str} {c : Char} (h : c ∈ cleanUrl u) : isUnsafeUrlChar c = false ∧ c ∈ u :=
  have h' := List.mem_filter.mp h
  ⟨by simpa using h'.2, (List.dropWhile_sublist _).subset h'.1⟩

theorem cleanUrl_sublist (u : Str) : (cleanUrl u).Sublist u :=
  List.filter_sublist.trans (List.dropWhile_sublist _)

theorem cleanUrl_suffix {u : Str} (h : ∀ c ∈ u, isUnsafeUrlChar c = false) : cleanUrl u <:+ u := by
  unfold cleanUrl
  rw [List.filter_eq_self.2 fun c hc => by simp [h c ((List.dropWhile_sublist _).subset hc)]]
  exact List.dropWhile_suffix _

theorem schemeChar_safe {c : Char} (h : isSchemeChar c = true) : isUnsafeUrlChar c = false :=
  not_unsafe_of (P := (isSchemeChar · = true)) (by decide) h

theorem isSchemeChar_lowerChar {c : Char} (h : isSchemeChar c = true) :
    isSchemeChar (lowerChar c) = true := by
  by_cases hu : 65 ≤ c.toNat ∧ c.toNat ≤ 90
  · have : isAsciiAlpha (lowerChar c) = true :=
      isAsciiAlpha_lowerChar ((isAsciiAlpha_iff c).2 (Or.inr hu))
    simp [isSchemeChar, this]
  · rw [lowerChar_of_not_upper hu]; exact h

theorem schemeShaped_safe {S : Str} (h : SchemeShaped S) : ∀ c ∈ S, isUnsafeUrlChar c = false :=
  fun c hc => schemeChar_safe (List.all_eq_true.1 h.2 c hc)

theorem schemeShaped_lower {S : Str} (h : SchemeShaped S) : SchemeShaped (lower S) := by
  obtain ⟨⟨c, r, rfl, hc⟩, hall⟩ := h
  refine ⟨⟨lowerChar c, lower r, rfl, isAsciiAlpha_lowerChar hc⟩, ?_⟩
  apply List.all_eq_true.2
  intro x hx
  simp only [Py.lower, List.mem_map] at hx
  obtain ⟨d, hd, rfl⟩ := hx
  exact isSchemeChar_lowerChar (List.all_eq_true.1 hall d hd)

theorem cleanUrl_scheme {S : Str} (hS : SchemeShaped S) (rest : Str) :
    cleanUrl (S ++ ':' :: rest) = S ++ ':' :: dropUnsafe rest := by
  have hh : ∀ c, (S ++ ':' :: rest).head? = some c → isC0OrSpace c = false := by
    obtain ⟨⟨d, r, rfl, hd⟩, _⟩ := hS
    intro c hc
    simp only [List.cons_append, List.head?_cons, Option.some.injEq] at hc
    exact hc ▸ alpha_not_c0 hd
  rw [cleanUrl_eq_dropUnsafe hh, dropUnsafe_append, dropUnsafe_eq_self (schemeShaped_safe hS),
    dropUnsafe_cons (by decide)]

/-! ## stage 2: the scheme -/

theorem schemeShaped_no_colon {S : Str} (h : SchemeShaped S) : ':' ∉ S := fun hm =>
  absurd (List.all_eq_true.1 h.2 ':' hm) (by decide)

theorem splitScheme_lower (sc rest dflt : Str) (h : SchemeShaped sc) :
    splitScheme (sc ++ ':' :: rest) dflt = (lower sc, rest) := by
  obtain ⟨⟨c, r, rfl, hc⟩, hall⟩ := h
  have hno : ':' ∉ c :: r := schemeShaped_no_colon ⟨⟨c, r, rfl, hc⟩, hall⟩
  unfold splitScheme
  rw [splitFirst_append_sep _ _ _ hno]
  simp only [hc, hall, Bool.and_self, if_true]

theorem splitScheme_cases (u dflt : Str) :
    (∃ S, SchemeShaped S ∧ u = S ++ ':' :: (splitScheme u dflt).2 ∧ (splitScheme u dflt).1 = lower S) ∨
    splitScheme u dflt = (dflt, u) := by
  unfold splitScheme
  have hspec := (splitFirst_spec u ':').2
  cases hsf : splitFirst u ':' with
  | mk pre post =>
    rw [hsf] at hspec
    cases post with
    | none => exact Or.inr rfl
    | some post =>
      cases pre with
      | nil => exact Or.inr rfl
      | cons c pre' =>
        simp only [] at hspec ⊢
        split
        · rename_i hok
          simp only [Bool.and_eq_true] at hok
          exact Or.inl ⟨c :: pre', ⟨⟨c, pre', rfl, hok.1⟩, hok.2⟩, hspec, rfl⟩
        · exact Or.inr rfl

/-! ## stages 3–5: netloc, fragment, query -/

/-- the result once scheme and netloc are cut off -/
def withTail (sch nl tl : Str) : SplitResult :=
  ⟨sch, nl, (splitFirst (splitFirst tl '#').1 '?').1, ((splitFirst (splitFirst tl '#').1 '?').2).getD [],
    ((splitFirst tl '#').2).getD []⟩

/-- `urlsplit` after the scheme step -/
def splitRest (sch x : Str) : Option SplitResult :=
  if netlocOk (splitNetloc x).1 then some (withTail sch (splitNetloc x).1 (splitNetloc x).2) else none

theorem urlsplit_eq (u dflt : Str) :
    urlsplit u dflt = splitRest (splitScheme (cleanUrl u) dflt).1 (splitScheme (cleanUrl u) dflt).2 := by
  unfold urlsplit splitRest withTail
  dsimp only
  cases netlocOk (splitNetloc (splitScheme (cleanUrl u) dflt).2).1 <;> rfl

theorem splitRest_scheme (s1 s2 x : Str) :
    splitRest s1 x = (splitRest s2 x).map fun r => { r with scheme := s1 } := by
  unfold splitRest
  split <;> rfl

theorem urlsplit_scheme {S : Str} (hS : SchemeShaped S) (rest dflt : Str) :
    urlsplit (S ++ ':' :: rest) dflt = splitRest (lower S) (dropUnsafe rest) := by
  rw [urlsplit_eq, cleanUrl_scheme hS, splitScheme_lower _ _ _ hS]

theorem urlsplit_scheme_slashes {S : Str} (hS : SchemeShaped S) (rest dflt : Str) :
    urlsplit (S ++ ':' :: '/' :: '/' :: rest) dflt = splitRest (lower S) ('/' :: '/' :: dropUnsafe rest) := by
  rw [urlsplit_scheme hS, dropUnsafe_cons (by decide), dropUnsafe_cons (by decide)]

theorem urlsplit_slash (t dflt : Str) :
    urlsplit ('/' :: t) dflt = splitRest dflt ('/' :: dropUnsafe t) := by
  rw [urlsplit_eq, cleanUrl_slash, splitScheme_slash]; rfl

theorem urlsplit_slashes (y dflt : Str) :
    urlsplit ('/' :: '/' :: y) dflt = splitRest dflt ('/' :: '/' :: dropUnsafe y) := by
  rw [urlsplit_slash, dropUnsafe_cons (by decide)]

theorem splitRest_auth (sch : Str) {nl tl : Str} (hnl : ∀ c ∈ nl, isNetlocDelim c = false)
    (htl : ∀ c, tl.head? = some c → isNetlocDelim c = true) :
    splitRest sch ('/' :: '/' :: (nl ++ tl)) = if netlocOk nl then some (withTail sch nl tl) else none := by
  unfold splitRest
  rw [splitNetloc_slashes nl tl hnl htl]

theorem splitRest_auth_unsafe (sch : Str) {nl tl : Str}
    (hnl : ∀ c ∈ nl, isNetlocDelim c = false ∧ isUnsafeUrlChar c = false)
    (htl : ∀ c, tl.head? = some c → isNetlocDelim c = true) :
    splitRest sch ('/' :: '/' :: dropUnsafe (nl ++ tl)) =
      if netlocOk nl then some (withTail sch nl (dropUnsafe tl)) else none := by
  rw [dropUnsafe_append, dropUnsafe_eq_self fun c hc => (hnl c hc).2,
    splitRest_auth sch (fun c hc => (hnl c hc).1) (dropUnsafe_head_delim htl)]

theorem splitRest_no_netloc (sch : Str) {x : Str} (h : startsWith x ['/', '/'] = false) :
    splitRest sch x = some (withTail sch [] x) := by
  unfold splitRest
  rw [splitNetloc_none x h]
  rfl

theorem withTail_opt (sch nl : Str) {p : Str} (q f : Option Str) (hpq : '?' ∉ p) (hph : '#' ∉ p)
    (hqh : ∀ x, q = some x → '#' ∉ x) :
    withTail sch nl (p ++ (sepSuffix '?' q ++ sepSuffix '#' f)) = ⟨sch, nl, p, q.getD [], f.getD []⟩ := by
  have hq : '#' ∉ p ++ sepSuffix '?' q := by
    cases q with
    | none => simpa [sepSuffix] using hph
    | some x => simp [sepSuffix, hph, hqh x rfl]
  unfold withTail
  rw [← List.append_assoc, splitFirst_append_sepSuffix _ f '#' hq]
  simp only [splitFirst_append_sepSuffix p q '?' hpq]

theorem withTail_parts (sch nl : Str) {p q : Str} (f : Str) (hpq : '?' ∉ p) (hph : '#' ∉ p) (hqh : '#' ∉ q) :
    withTail sch nl (p ++ (queryPart q ++ fragPart f)) = ⟨sch, nl, p, q, f⟩ := by
  have h := withTail_opt sch nl (if q ≠ [] then some q else none) (if f ≠ [] then some f else none) hpq hph
    fun x e => by split at e <;> cases e; exact hqh
  unfold queryPart fragPart
  by_cases h1 : q = [] <;> by_cases h2 : f = [] <;> simpa [h1, h2, sepSuffix] using h

theorem printed_safe {nl p q f : Str} (h : ∀ c ∈ nl ++ p ++ q ++ f, isUnsafeUrlChar c = false) :
    ∀ c ∈ '/' :: '/' :: (nl ++ (p ++ (queryPart q ++ fragPart f))), isUnsafeUrlChar c = false := by
  intro c hc
  simp only [List.mem_cons, List.mem_append] at hc
  rcases hc with rfl | rfl | hc | hc | hc | hc
  · decide
  · decide
  · exact h c (by simp [hc])
  · exact h c (by simp [hc])
  · rcases mem_queryPart hc with h1 | rfl
    · exact h c (by simp [h1])
    · decide
  · rcases mem_fragPart hc with h1 | rfl
    · exact h c (by simp [h1])
    · decide

theorem splitRest_slashes (sch y : Str) :
    splitRest sch ('/' :: '/' :: y) =
      if netlocOk (y.takeWhile (fun c => !isNetlocDelim c)) then
        some (withTail sch (y.takeWhile (fun c => !isNetlocDelim c)) (y.dropWhile (fun c => !isNetlocDelim c)))
      else none := by
  unfold splitRest
  rw [splitNetloc_slashes_eq]

theorem urlsplit_parts {S nl p q : Str} (f dflt : Str) (hS : SchemeShaped S)
    (hnd : ∀ c ∈ nl, isNetlocDelim c = false) (hpa : p = [] ∨ ∃ r, p = '/' :: r)
    (hpq : '?' ∉ p) (hph : '#' ∉ p) (hqh : '#' ∉ q)
    (hsafe : ∀ c ∈ nl ++ p ++ q ++ f, isUnsafeUrlChar c = false) :
    urlsplit (S ++ ':' :: '/' :: '/' :: (nl ++ (p ++ (queryPart q ++ fragPart f)))) dflt =
      if netlocOk nl then some ⟨lower S, nl, p, q, f⟩ else none := by
  rw [urlsplit_scheme hS, dropUnsafe_eq_self (printed_safe hsafe), splitRest_auth _ hnd (pathTail_head p q f hpa),
    withTail_parts _ _ f hpq hph hqh]

/-! ## inversion: what any result is made of -/

/-- `tl` read as path, `?`query, `#`fragment -/
structure TailOf (tl : Str) (r : SplitResult) : Prop where
  path_noq : '?' ∉ r.path
  path_noh : '#' ∉ r.path
  query_noh : '#' ∉ r.query
  eq : ∃ qs fs, tl = r.path ++ (qs ++ fs) ∧ (qs = [] ∧ r.query = [] ∨ qs = '?' :: r.query) ∧
    (fs = [] ∧ r.fragment = [] ∨ fs = '#' :: r.fragment)

theorem withTail_tailOf (sch nl tl : Str) : TailOf tl (withTail sch nl tl) := by
  obtain ⟨hf1, hf2⟩ := splitFirst_spec tl '#'
  obtain ⟨hq1, hq2⟩ := splitFirst_spec (splitFirst tl '#').1 '?'
  unfold withTail
  generalize splitFirst (splitFirst tl '#').1 '?' = Q at hq1 hq2 ⊢
  generalize splitFirst tl '#' = F at hf1 hf2 hq2 ⊢
  obtain ⟨a, fo⟩ := F
  obtain ⟨p, qo⟩ := Q
  simp only [] at hf1 hf2 hq1 hq2 ⊢
  have hpa : ∀ c ∈ p, c ∈ a := fun c hc => by
    cases qo with
    | none => exact (show a = p from hq2) ▸ hc
    | some b => rw [show a = p ++ '?' :: b from hq2]; simp [hc]
  have hqa : ∀ c ∈ qo.getD [], c ∈ a := fun c hc => by
    cases qo with
    | none => cases hc
    | some b => rw [show a = p ++ '?' :: b from hq2]; simp [show c ∈ b from hc]
  refine ⟨hq1, fun h => hf1 (hpa _ h), fun h => hf1 (hqa _ h),
    match qo with | none => [] | some b => '?' :: b, match fo with | none => [] | some b => '#' :: b, ?_, ?_, ?_⟩
  · cases qo <;> cases fo <;> simp only [] at hf2 hq2 ⊢ <;> rw [hf2, hq2] <;> simp
  · cases qo <;> simp
  · cases fo <;> simp

theorem withTail_path_abs (sch nl : Str) {tl : Str} (h : ∀ c, tl.head? = some c → isNetlocDelim c = true) :
    (withTail sch nl tl).path = [] ∨ ∃ p, (withTail sch nl tl).path = '/' :: p := by
  unfold withTail
  cases tl with
  | nil => left; simp [splitFirst_nil]
  | cons d t =>
    have hd := h d rfl
    simp only [isNetlocDelim, Bool.or_eq_true, decide_eq_true_eq] at hd
    rcases hd with (rfl | rfl) | rfl
    · right
      simp only [splitFirst_cons, show ('/' : Char) ≠ '#' by decide,
        show ('/' : Char) ≠ '?' by decide, if_false]
      exact ⟨_, rfl⟩
    · left
      simp only [splitFirst_cons, show ('?' : Char) ≠ '#' by decide, if_false, if_true]
    · left
      simp only [splitFirst_cons, if_true, splitFirst_nil]

theorem splitRest_slashes_path_abs {sch y : Str} {r : SplitResult} (h : splitRest sch ('/' :: '/' :: y) = some r) :
    r.path = [] ∨ ∃ p, r.path = '/' :: p := by
  rw [splitRest_slashes] at h
  split at h
  · injection h with h
    rw [← h]
    refine withTail_path_abs _ _ fun c hc => ?_
    have := List.head?_dropWhile_not (fun c => !isNetlocDelim c) y
    rw [hc] at this
    simpa using this
  · cases h

theorem splitNetloc_spec (x : Str) :
    ∃ pre, x = pre ++ (splitNetloc x).2 ∧ '?' ∉ pre ∧ '#' ∉ pre ∧
      (∀ c ∈ (splitNetloc x).1, isNetlocDelim c = false ∧ c ∈ pre) ∧
      (startsWith x ['/', '/'] = true → ∀ c, (splitNetloc x).2.head? = some c → isNetlocDelim c = true) ∧
      (startsWith x ['/', '/'] = false → (splitNetloc x).1 = []) := by
  by_cases hs : startsWith x ['/', '/'] = true
  · obtain ⟨y, rfl⟩ : ∃ y, x = '/' :: '/' :: y := by
      obtain ⟨r, hr⟩ := List.isPrefixOf_iff_prefix.1 hs
      exact ⟨r, hr.symm⟩
    rw [splitNetloc_slashes_eq]
    have hnd : ∀ c ∈ y.takeWhile (fun c => !isNetlocDelim c), isNetlocDelim c = false := fun c hc => by
      simpa using mem_takeWhile_pos _ _ c hc
    refine ⟨'/' :: '/' :: y.takeWhile (fun c => !isNetlocDelim c), by simp, ?_, ?_,
      fun c hc => ⟨hnd c hc, by simp [hc]⟩, fun _ c hc => ?_, fun h => by rw [hs] at h; cases h⟩
    · intro hm
      simp only [List.mem_cons] at hm
      rcases hm with h | h | h
      · cases h
      · cases h
      · exact absurd (hnd _ h) (by decide)
    · intro hm
      simp only [List.mem_cons] at hm
      rcases hm with h | h | h
      · cases h
      · cases h
      · exact absurd (hnd _ h) (by decide)
    · have := List.head?_dropWhile_not (fun c => !isNetlocDelim c) y
      rw [hc] at this
      simpa using this
  · have hs' : startsWith x ['/', '/'] = false := by simpa using hs
    unfold splitNetloc
    simp only [hs', Bool.false_eq_true, if_false]
    exact ⟨[], rfl, by simp, by simp, by simp, by simp, fun _ => trivial⟩

theorem splitScheme_spec (u dflt : Str) :
    ∃ pre, u = pre ++ (splitScheme u dflt).2 ∧ '?' ∉ pre ∧ '#' ∉ pre := by
  rcases splitScheme_cases u dflt with ⟨S, hS, he, _⟩ | h
  · refine ⟨S ++ [':'], by rw [List.append_assoc]; exact he, ?_, ?_⟩ <;>
    · intro hm
      rcases List.mem_append.1 hm with h | h
      · exact absurd (List.all_eq_true.1 hS.2 _ h) (by decide)
      · simp at h
  · exact ⟨[], by rw [h]; rfl, by simp, by simp⟩

/-- `r` is read in the cleaned url `c = pre ++ tl`: scheme and netloc in `pre`, path, query and fragment in `tl` -/
structure SplitOf (c : Str) (r : SplitResult) (pre tl : Str) : Prop where
  eq : c = pre ++ tl
  pre_noq : '?' ∉ pre
  pre_noh : '#' ∉ pre
  read : r = withTail r.scheme r.netloc tl
  ok : netlocOk r.netloc = true
  netloc : ∀ x ∈ r.netloc, isNetlocDelim x = false ∧ x ∈ pre
  tail_head : r.netloc ≠ [] → ∀ x, tl.head? = some x → isNetlocDelim x = true

theorem urlsplit_some {u dflt : Str} {r : SplitResult} (h : urlsplit u dflt = some r) :
    ∃ pre tl, SplitOf (cleanUrl u) r pre tl := by
  rw [urlsplit_eq] at h
  obtain ⟨p1, h1, hq1, hf1⟩ := splitScheme_spec (cleanUrl u) dflt
  generalize (splitScheme (cleanUrl u) dflt).2 = x at h h1
  generalize (splitScheme (cleanUrl u) dflt).1 = sch at h
  obtain ⟨p2, h2, hq2, hf2, hnl, hd, hno⟩ := splitNetloc_spec x
  unfold splitRest at h
  split at h
  · rename_i hok
    injection h with h
    subst h
    refine ⟨p1 ++ p2, (splitNetloc x).2, {
      eq := by rw [List.append_assoc, ← h2, ← h1]
      pre_noq := by simp [hq1, hq2]
      pre_noh := by simp [hf1, hf2]
      read := rfl
      ok := hok
      netloc := fun c hc => ⟨(hnl c hc).1, by simp [(hnl c hc).2]⟩
      tail_head := fun hne => ?_ }⟩
    cases hs : startsWith x ['/', '/'] with
    | true => exact hd hs
    | false => exact absurd (hno hs) hne
  · cases h

theorem urlsplit_tailOf {u dflt : Str} {r : SplitResult} (h : urlsplit u dflt = some r) :
    ∃ pre tl, cleanUrl u = pre ++ tl ∧ '?' ∉ pre ∧ '#' ∉ pre ∧ r.netloc ⊆ pre ∧ TailOf tl r := by
  obtain ⟨pre, tl, hs⟩ := urlsplit_some h
  have ht := withTail_tailOf r.scheme r.netloc tl
  rw [← hs.read] at ht
  exact ⟨pre, tl, hs.eq, hs.pre_noq, hs.pre_noh, fun c hc => (hs.netloc c hc).2, ht⟩

theorem TailOf.subset {tl : Str} {r : SplitResult} (h : TailOf tl r) :
    r.path ⊆ tl ∧ r.query ⊆ tl ∧ r.fragment ⊆ tl := by
  obtain ⟨_, _, _, qs, fs, he, hq, hf⟩ := h
  rw [he]
  refine ⟨fun c hc => by simp [hc], fun c hc => ?_, fun c hc => ?_⟩
  · rcases hq with ⟨_, e⟩ | e
    · rw [e] at hc; cases hc
    · simp [e, hc]
  · rcases hf with ⟨_, e⟩ | e
    · rw [e] at hc; cases hc
    · simp [e, hc]

theorem urlsplit_subset {u dflt : Str} {r : SplitResult} (h : urlsplit u dflt = some r) :
    r.netloc ⊆ cleanUrl u ∧ r.path ⊆ cleanUrl u ∧ r.query ⊆ cleanUrl u ∧ r.fragment ⊆ cleanUrl u := by
  obtain ⟨pre, tl, h1, _, _, hnl, ht⟩ := urlsplit_tailOf h
  obtain ⟨hp, hq, hf⟩ := ht.subset
  rw [h1]
  exact ⟨fun c hc => List.mem_append_left _ (hnl hc), fun c hc => List.mem_append_right _ (hp hc),
    fun c hc => List.mem_append_right _ (hq hc), fun c hc => List.mem_append_right _ (hf hc)⟩

theorem urlsplit_path_abs {u dflt : Str} {r : SplitResult} (h : urlsplit u dflt = some r) (hn : r.netloc ≠ []) :
    r.path = [] ∨ ∃ p, r.path = '/' :: p := by
  obtain ⟨_, tl, hs⟩ := urlsplit_some h
  rw [hs.read]
  exact withTail_path_abs _ _ (hs.tail_head hn)

end Ural.Py

/-! # `PROTOCOL_RE` (`UrlParts.protoLen`) and `ensure_protocol`

"Letters" is written out: 1 to 64 ASCII letters (`Ural.AlphaProto`, `LruString.Letters` unfold to it). -/

namespace Ural.UrlParts
open Ural.Py Ural.UrlRoundTrip

theorem letters_not_slashes {l : Str} (hne : l ≠ []) (hall : ∀ c ∈ l, isAsciiAlpha c = true) (r : Str) :
    startsWith (l ++ ':' :: '/' :: '/' :: r) ['/', '/'] = false := by
  cases l with
  | nil => exact absurd rfl hne
  | cons c t =>
    have : '/' ≠ c := fun e => absurd (hall c (by simp)) (by rw [← e]; decide)
    simp [startsWith, List.isPrefixOf, this]

theorem letters_shaped {l : Str} (hne : l ≠ []) (hall : ∀ c ∈ l, isAsciiAlpha c = true) : SchemeShaped l := by
  cases l with
  | nil => exact absurd rfl hne
  | cons c r =>
    exact ⟨⟨c, r, rfl, hall c (by simp)⟩, List.all_eq_true.2 fun a ha => by simp [isSchemeChar, hall a ha]⟩

theorem alpha_lower {S : Str} (hS : ∀ c ∈ S, isAsciiAlpha c = true) : ∀ c ∈ lower S, isAsciiAlpha c = true := by
  intro c hc
  obtain ⟨d, hd, rfl⟩ := List.mem_map.1 hc
  exact isAsciiAlpha_lowerChar (hS d hd)

theorem letters_lower {l : Str} (h : l ≠ [] ∧ (∀ c ∈ l, isAsciiAlpha c = true) ∧ l.length ≤ 64) :
    lower l ≠ [] ∧ (∀ c ∈ lower l, isAsciiAlpha c = true) ∧ (lower l).length ≤ 64 :=
  ⟨mt lower_eq_nil.1 h.1, alpha_lower h.2.1, by rw [length_lower]; exact h.2.2⟩

theorem protoLen_slashes_eq (r : Str) : protoLen ('/' :: '/' :: r) = some 2 := by
  simp [protoLen, startsWith, List.isPrefixOf]

theorem protoLen_letters {l : Str} (h : l ≠ [] ∧ (∀ c ∈ l, isAsciiAlpha c = true) ∧ l.length ≤ 64) (r : Str) :
    protoLen (l ++ ':' :: '/' :: '/' :: r) = some (l.length + 3) := by
  obtain ⟨hne, hall, hlen⟩ := h
  have htw : (l ++ ':' :: '/' :: '/' :: r).takeWhile isAsciiAlpha = l :=
    takeWhile_append_cons_stop _ l ':' _ hall (by decide)
  have h1 : 1 ≤ l.length := by
    cases l with
    | nil => exact absurd rfl hne
    | cons _ _ => simp
  unfold protoLen
  rw [letters_not_slashes hne hall r]
  simp [htw, h1, hlen, startsWith, List.isPrefixOf]

theorem protoLen_some {v : Str} {n : Nat} (h : protoLen v = some n) :
    (∃ r, v = '/' :: '/' :: r) ∨
    (∃ l r, (l ≠ [] ∧ (∀ c ∈ l, isAsciiAlpha c = true) ∧ l.length ≤ 64) ∧ v = l ++ ':' :: '/' :: '/' :: r) := by
  unfold protoLen at h
  by_cases hs : startsWith v ['/', '/'] = true
  · obtain ⟨r, hr⟩ := List.isPrefixOf_iff_prefix.mp hs
    exact Or.inl ⟨r, hr.symm⟩
  · rw [if_neg hs] at h
    simp only at h
    split at h
    · rename_i hk
      obtain ⟨r, hr⟩ := List.isPrefixOf_iff_prefix.mp hk.2.2
      refine Or.inr ⟨v.takeWhile isAsciiAlpha, r,
        ⟨fun e => by rw [e] at hk; simp at hk, fun c hc => mem_takeWhile_pos _ _ c hc, hk.2.1⟩, ?_⟩
      conv => lhs; rw [← List.takeWhile_append_dropWhile (p := isAsciiAlpha) (l := v), ← drop_length_takeWhile, ← hr]
      rfl
    · cases h

theorem protoLen_none_of {v : Str} (h1 : ∀ r, v ≠ '/' :: '/' :: r)
    (h2 : ∀ l r, (∀ c ∈ l, isAsciiAlpha c = true) → v ≠ l ++ ':' :: '/' :: '/' :: r) : protoLen v = none := by
  cases h : protoLen v with
  | none => rfl
  | some n =>
    rcases protoLen_some h with ⟨r, e⟩ | ⟨l, r, hl, e⟩
    · exact absurd e (h1 r)
    · exact absurd e (h2 l r hl.2.1)

theorem protoLen_none_of_no_slash (c : Str) (h : '/' ∉ c) : protoLen c = none := by
  apply protoLen_none_of
  · rintro r rfl; exact h (by simp)
  · rintro l r _ rfl; exact h (by simp)

/-- **a scheme-less `netloc rest` is not mistaken for a URL with a scheme**, except in the one ambiguous spelling:
a netloc `letters:` followed by `//…` -/
theorem protoLen_netloc_none {nl rest : Str} (hne : nl ≠ []) (hnd : ∀ c ∈ nl, isNetlocDelim c = false)
    (hrest : ∀ c, rest.head? = some c → isNetlocDelim c = true)
    (h : (∀ l : Str, (∀ c ∈ l, isAsciiAlpha c = true) → nl ≠ l ++ [':']) ∨ startsWith rest ['/', '/'] = false) :
    protoLen (nl ++ rest) = none := by
  apply protoLen_none_of
  · intro r e
    cases nl with
    | nil => exact hne rfl
    | cons c t =>
      injection e with e _
      exact absurd (hnd c (by simp)) (by rw [e]; decide)
  · intro l r hl e
    have hl' : ∀ c ∈ l ++ [':'], (!isNetlocDelim c) = true := by
      intro c hc
      rcases List.mem_append.1 hc with hc | hc
      · cases hd : isNetlocDelim c with
        | false => rfl
        | true =>
          simp only [isNetlocDelim, Bool.or_eq_true, decide_eq_true_eq] at hd
          rcases hd with (rfl | rfl) | rfl <;> exact absurd (hl _ hc) (by decide)
      · rw [List.mem_singleton.1 hc]; decide
    -- both sides are cut at their first delimiter: what stands before it (`e1`) and from it on (`e2`) agree
    have e' : nl ++ rest = (l ++ [':']) ++ '/' :: '/' :: r := by rw [e]; simp
    have e1 := congrArg (List.takeWhile fun c => !isNetlocDelim c) e'
    have e2 := congrArg (List.dropWhile fun c => !isNetlocDelim c) e'
    rw [takeWhile_append_of_stop _ nl rest (fun c hc => by simp [hnd c hc]) (fun c hc => by simp [hrest c hc]),
      takeWhile_append_cons_stop _ _ '/' _ hl' (by decide)] at e1
    rw [dropWhile_append_of_stop _ nl rest (fun c hc => by simp [hnd c hc]) (fun c hc => by simp [hrest c hc]),
      dropWhile_append_cons_stop _ _ '/' _ hl' (by decide)] at e2
    rcases h with h | h
    · exact h l hl e1
    · rw [e2] at h; simp [startsWith, List.isPrefixOf] at h

theorem ensureProtocol_none {u : Str} (h : protoLen u = none) (dp : Str) :
    ensureProtocol u dp = rstripChars dp [':', '/'] ++ ':' :: '/' :: '/' :: u := by
  unfold ensureProtocol
  simp only [h]
  simp

theorem ensureProtocol_slashes (r dp : Str) :
    ensureProtocol ('/' :: '/' :: r) dp = rstripChars dp [':', '/'] ++ ':' :: '/' :: '/' :: r := by
  unfold ensureProtocol
  simp [protoLen_slashes_eq, startsWith, List.isPrefixOf]

theorem ensureProtocol_letters {l : Str} (h : l ≠ [] ∧ (∀ c ∈ l, isAsciiAlpha c = true) ∧ l.length ≤ 64) (r dp : Str) :
    ensureProtocol (l ++ ':' :: '/' :: '/' :: r) dp = l ++ ':' :: '/' :: '/' :: r := by
  unfold ensureProtocol
  simp only [protoLen_letters h r, letters_not_slashes h.1 h.2.1 r, Bool.false_eq_true, if_false]

theorem ensureProtocol_cases (u dp : Str) :
    (∃ rest, rest <:+ u ∧ ensureProtocol u dp = rstripChars dp [':', '/'] ++ ':' :: '/' :: '/' :: rest) ∨
    (∃ l rest, (l ≠ [] ∧ (∀ c ∈ l, isAsciiAlpha c = true) ∧ l.length ≤ 64) ∧ rest <:+ u ∧
      u = l ++ ':' :: '/' :: '/' :: rest ∧ ensureProtocol u dp = u) := by
  cases hpl : protoLen u with
  | none =>
    exact Or.inl ⟨u, List.suffix_refl _, ensureProtocol_none hpl dp⟩
  | some k =>
    rcases protoLen_some hpl with ⟨r, rfl⟩ | ⟨l, r, hl, rfl⟩
    · exact Or.inl ⟨r, ⟨['/', '/'], rfl⟩, ensureProtocol_slashes r dp⟩
    · exact Or.inr ⟨l, r, hl, ⟨l ++ [':', '/', '/'], by simp⟩, rfl, ensureProtocol_letters hl r dp⟩

/-- **the default protocol decides the scheme only**: in `ensure_protocol(u, dp)` the parser reads what it reads in
`u` with `http://` put in front unless `PROTOCOL_RE` matches (what `safe_urlsplit` and `normalize_url` hand to it),
up to the scheme -/
theorem urlsplit_ensureProtocol (u dp : Str) (hdp : SchemeShaped (rstripChars dp [':', '/'])) :
    ∃ sch, urlsplit (ensureProtocol u dp) [] =
      (urlsplit (if (protoLen u).isSome then u else 'h' :: 't' :: 't' :: 'p' :: ':' :: '/' :: '/' :: u) []).map
        fun r => { r with scheme := sch } := by
  cases hpl : protoLen u with
  | none =>
    rw [ensureProtocol_none hpl, urlsplit_scheme_slashes hdp]
    exact ⟨_, (splitRest_scheme _ _ _).trans (congrArg _
      (urlsplit_scheme_slashes (S := ['h', 't', 't', 'p']) ⟨⟨_, _, rfl, by decide⟩, by decide⟩ u []).symm)⟩
  | some k =>
    simp only [Option.isSome_some, if_true]
    rcases protoLen_some hpl with ⟨r, rfl⟩ | ⟨l, r, hl, rfl⟩
    · rw [ensureProtocol_slashes, urlsplit_scheme_slashes hdp, urlsplit_slashes]
      exact ⟨_, splitRest_scheme _ _ _⟩
    · rw [ensureProtocol_letters hl]
      cases urlsplit (l ++ ':' :: '/' :: '/' :: r) [] with
      | none => exact ⟨[], rfl⟩
      | some p => exact ⟨p.scheme, rfl⟩

end Ural.UrlParts

namespace Ural.Py
open Ural.UrlParts

theorem sq_nil : squeezeSlashes [] = [] := by simp [squeezeSlashes]

theorem sq_slash_nil : squeezeSlashes ['/'] = ['/'] := by simp [squeezeSlashes]

theorem sq_slash_slash (r : Str) : squeezeSlashes ('/' :: '/' :: r) = squeezeSlashes ('/' :: r) := by
  simp [squeezeSlashes]

theorem sq_cons_ne (c : Char) (r : Str) (h : c ≠ '/') :
    squeezeSlashes (c :: r) = c :: squeezeSlashes r := by
  cases r with
  | nil => simp [squeezeSlashes]
  | cons d r => rw [squeezeSlashes]; intro _ h1 _; exact absurd h1 h

theorem sq_slash_ne (c : Char) (r : Str) (h : c ≠ '/') :
    squeezeSlashes ('/' :: c :: r) = '/' :: squeezeSlashes (c :: r) := by
  rw [squeezeSlashes]; intro _ _ h2; cases h2; exact absurd rfl h

theorem sq_of_not_mem (s : Str) (h : '/' ∉ s) : squeezeSlashes s = s := by
  induction s with
  | nil => exact sq_nil
  | cons c r ih =>
    rw [sq_cons_ne c r (fun e => h (by simp [e])), ih (fun e => h (by simp [e]))]

theorem sq_append_slash (s rest : Str) (h : '/' ∉ s) :
    squeezeSlashes (s ++ '/' :: rest) = s ++ squeezeSlashes ('/' :: rest) := by
  induction s with
  | nil => rfl
  | cons c r ih =>
    simp only [List.cons_append]
    rw [sq_cons_ne c _ (fun e => h (by simp [e])), ih (fun e => h (by simp [e]))]

theorem squeeze_head (s : Str) : (squeezeSlashes s).head? = s.head? := by
  induction s using squeezeSlashes.induct with
  | case1 => rfl
  | case2 rest ih => rw [squeezeSlashes, ih]; rfl
  | case3 c rest hne => rw [squeezeSlashes]; rfl; exact hne

end Ural.Py

namespace Ural.Normpath
open Ural.Py Ural.UrlParts

/-- what `SLASH_SQUEEZE_RE.sub("/", …)` does to the list of segments: every empty segment but
the last disappears -/
def squeezeSegs : List Str → List Str
  | [] => []
  | [s] => [s]
  | s :: rest => if s = [] then squeezeSegs rest else s :: squeezeSegs rest

theorem squeezeSegs_ne_nil : ∀ (ds : List Str), ds ≠ [] → squeezeSegs ds ≠ []
  | [], h => absurd rfl h
  | [s], _ => by simp [squeezeSegs]
  | s :: t :: r, _ => by
    rw [squeezeSegs]
    split
    · exact squeezeSegs_ne_nil (t :: r) (by simp)
    · simp
    · intro h; cases h

theorem squeezeSegs_cons_cons (s t : Str) (r : List Str) :
    squeezeSegs (s :: t :: r) = if s = [] then squeezeSegs (t :: r) else s :: squeezeSegs (t :: r) := by
  rw [squeezeSegs]; intro h; cases h

theorem mem_squeezeSegs : ∀ (ds : List Str) (x : Str), x ∈ squeezeSegs ds → x ∈ ds
  | [], x, h => by simp [squeezeSegs] at h
  | [s], x, h => by simpa [squeezeSegs] using h
  | s :: t :: r, x, h => by
    rw [squeezeSegs_cons_cons] at h
    split at h
    · exact List.mem_cons_of_mem _ (mem_squeezeSegs (t :: r) x h)
    · simp only [List.mem_cons] at h
      rcases h with rfl | h
      · simp
      · exact List.mem_cons_of_mem _ (mem_squeezeSegs (t :: r) x (by simpa using h))

theorem squeezeSegs_inner : ∀ ds : List Str, ∀ s ∈ (squeezeSegs ds).dropLast, s ≠ []
  | [], s, h => by simp [squeezeSegs] at h
  | [_], s, h => by simp [squeezeSegs] at h
  | a :: b :: r, s, h => by
    rw [squeezeSegs_cons_cons] at h
    split at h
    · exact squeezeSegs_inner (b :: r) s h
    · rename_i ha
      rw [List.dropLast_cons_of_ne_nil (squeezeSegs_ne_nil _ (by simp))] at h
      rcases List.mem_cons.mp h with e | h
      · rw [e]; exact ha
      · exact squeezeSegs_inner (b :: r) s h

theorem sq_join : ∀ (ds : List Str), ds ≠ [] → (∀ s ∈ ds, '/' ∉ s) →
    squeezeSlashes ('/' :: join ['/'] ds) = '/' :: join ['/'] (squeezeSegs ds)
  | [], h, _ => absurd rfl h
  | [s], _, hs => by
    have h1 : '/' ∉ s := hs s (by simp)
    simp only [join, squeezeSegs]
    cases s with
    | nil => exact sq_slash_nil
    | cons c r =>
      have hc : c ≠ '/' := fun e => h1 (by simp [e])
      rw [sq_slash_ne c r hc, sq_of_not_mem _ h1]
  | s :: t :: r, _, hs => by
    have ih := sq_join (t :: r) (by simp) (fun x hx => hs x (List.mem_cons_of_mem _ hx))
    have h1 : '/' ∉ s := hs s (by simp)
    rw [join_cons_cons, squeezeSegs_cons_cons]
    cases s with
    | nil =>
      simp only [List.nil_append, List.singleton_append, if_true]
      rw [sq_slash_slash, ih]
    | cons c r' =>
      have hc : c ≠ '/' := fun e => h1 (by simp [e])
      have hne : (c :: r') ≠ [] := by simp
      simp only [hne, if_false]
      rw [join_cons_of_ne_nil _ _ _ (squeezeSegs_ne_nil (t :: r) (by simp))]
      have e : c :: r' ++ ['/'] ++ join ['/'] (t :: r) = (c :: r') ++ '/' :: join ['/'] (t :: r) := by simp
      rw [e, List.cons_append, sq_slash_ne c _ hc, ← List.cons_append, sq_append_slash _ _ h1, ih]
      simp

end Ural.Normpath
