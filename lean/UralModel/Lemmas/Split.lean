import UralModel.Py.Split
import UralModel.Lemmas.Str
import UralModel.Lemmas.StrSplit
/-!
# Lemmas on the splitting prelude (`splitBy`, `joinChar`, `splitAtFirst`, `afterLast`)

`Py/Split.lean` is the prelude of the LRU model.  Its `splitAtFirst` / `beforeFirst` / `afterLast` and `splitChar` /
`joinChar` are `splitFirst` / `splitLast` and `splitOn` / `join` of `Py/Str.lean` written differently, and get
their facts from those; `splitBy`, which splits wherever a test on a character and what follows it fires, has laws
of its own.
-/
namespace Ural.Py

/-! ## `splitAtFirst`, `beforeFirst`, `afterLast`: `splitFirst` / `splitLast` of the `str` prelude

`Py/Split.lean` models `s.split(sep, 1)` / `s.rpartition(sep)` a second time (for the LRU model); three
equations carry every fact over. -/

theorem splitAtFirst_eq (sep : Char) (s : Str) :
    splitAtFirst sep s = (splitFirst s sep).2.map fun b => ((splitFirst s sep).1, b) := by
  induction s with
  | nil => simp [splitFirst_nil, splitAtFirst]
  | cons c cs ih =>
    rw [splitFirst_cons]
    simp only [splitAtFirst]
    by_cases h : c = sep
    · simp [h]
    · simp only [if_neg h, ih]; cases (splitFirst cs sep).2 <;> rfl

theorem splitAtFirst_eq_none {sep : Char} {s : Str} : splitAtFirst sep s = none ↔ sep ∉ s := by
  rcases splitFirst_cases s sep with ⟨hn, e⟩ | ⟨a, b, _, rfl, e⟩ <;> rw [splitAtFirst_eq, e]
  · simp [hn]
  · simp

theorem splitAtFirst_append {sep : Char} {a : Str} (b : Str) (h : sep ∉ a) :
    splitAtFirst sep (a ++ sep :: b) = some (a, b) := by
  rw [splitAtFirst_eq, splitFirst_append_sep a b sep h]; rfl

theorem splitAtFirst_eq_some {sep : Char} {s a b : Str} :
    splitAtFirst sep s = some (a, b) ↔ s = a ++ sep :: b ∧ sep ∉ a := by
  constructor
  · intro h
    rcases splitFirst_cases s sep with ⟨_, e⟩ | ⟨a', b', ha, rfl, e⟩ <;> rw [splitAtFirst_eq, e] at h
    · cases h
    · cases h; exact ⟨rfl, ha⟩
  · rintro ⟨rfl, hn⟩; exact splitAtFirst_append b hn

theorem splitAtFirst_of_not_mem {sep : Char} {s : Str} (h : sep ∉ s) : splitAtFirst sep s = none :=
  splitAtFirst_eq_none.mpr h

theorem beforeFirst_eq (sep : Char) (s : Str) : beforeFirst sep s = (splitFirst s sep).1 := by
  unfold beforeFirst
  rcases splitFirst_cases s sep with ⟨_, e⟩ | ⟨a, b, _, rfl, e⟩ <;> rw [splitAtFirst_eq, e] <;> rfl

theorem beforeFirst_append {sep : Char} {a : Str} (b : Str) (h : sep ∉ a) :
    beforeFirst sep (a ++ sep :: b) = a := by
  rw [beforeFirst_eq, splitFirst_append_sep a b sep h]

theorem beforeFirst_of_not_mem {sep : Char} {s : Str} (h : sep ∉ s) : beforeFirst sep s = s := by
  rw [beforeFirst_eq, splitFirst_notMem s sep h]

theorem afterLast_eq (sep : Char) (s : Str) : afterLast sep s = (splitLast s sep).2 := by
  rw [splitLast_snd]
  unfold afterLast
  congr 2
  funext c
  by_cases h : c = sep <;> simp [h]

theorem afterLast_of_not_mem {sep : Char} {s : Str} (h : sep ∉ s) : afterLast sep s = s := by
  rw [afterLast_eq, splitLast_of_not_mem s sep h]

theorem afterLast_append {sep : Char} (a : Str) {b : Str} (h : sep ∉ b) :
    afterLast sep (a ++ sep :: b) = b := by
  rw [afterLast_eq, splitLast_append_cons sep a b h]

theorem afterLast_suffix (sep : Char) (s : Str) : ∃ a, s = a ++ afterLast sep s := by
  rw [afterLast_eq]
  rcases splitLast_cases s sep with ⟨_, e⟩ | ⟨a, b, _, rfl, e⟩ <;> rw [e]
  · exact ⟨[], rfl⟩
  · exact ⟨a ++ [sep], by simp⟩

theorem beforeFirst_prefix (sep : Char) (s : Str) : ∃ b, s = beforeFirst sep s ++ b := by
  rw [beforeFirst_eq]
  obtain ⟨b, e⟩ := splitFirst_fst_prefix s sep
  exact ⟨b, e.symm⟩

/-! ## `splitBy` / `joinChar` -/

variable {p : Char → Str → Bool}

theorem splitBy_ne_nil (s : Str) : splitBy p s ≠ [] := by
  cases s with
  | nil => simp [splitBy]
  | cons c cs =>
    simp only [splitBy]
    split
    · simp
    · cases h : splitBy p cs <;> simp [consHead]

theorem consHead_ne_nil (c : Char) (l : List Str) : consHead c l ≠ [] := by
  cases l <;> simp [consHead]

theorem joinChar_consHead (sep c : Char) {l : List Str} (h : l ≠ []) :
    joinChar sep (consHead c l) = c :: joinChar sep l := by
  match l, h with
  | [x], _ => simp [consHead, joinChar]
  | x :: y :: ys, _ => simp [consHead, joinChar]

theorem joinChar_cons (sep : Char) (x : Str) {l : List Str} (h : l ≠ []) :
    joinChar sep (x :: l) = x ++ sep :: joinChar sep l := by
  match l, h with
  | y :: ys, _ => simp [joinChar]

/-- joining the pieces with the separator gives the string back -/
theorem joinChar_splitBy (sep : Char) (hp : ∀ c r, p c r = true → c = sep) (s : Str) :
    joinChar sep (splitBy p s) = s := by
  induction s with
  | nil => simp [splitBy, joinChar]
  | cons c cs ih =>
    simp only [splitBy]
    split
    · next h =>
      rw [joinChar_cons _ _ (splitBy_ne_nil cs), ih, hp c cs h]; simp
    · rw [joinChar_consHead _ _ (splitBy_ne_nil cs), ih]

/-- put `a` in front of the first piece -/
def prependHead (a : Str) : List Str → List Str
  | [] => [a]
  | x :: xs => (a ++ x) :: xs

theorem prependHead_nil (l : List Str) (h : l ≠ []) : prependHead [] l = l := by
  cases l <;> simp_all [prependHead]

theorem consHead_prependHead (c : Char) (a : Str) {l : List Str} (h : l ≠ []) :
    consHead c (prependHead a l) = prependHead (c :: a) l := by
  cases l <;> simp_all [prependHead, consHead]

/-- a prefix in which the separator pattern never fires (given what follows) stays glued to
the first piece -/
theorem splitBy_prefix (a b : Str)
    (h : ∀ x c y, a = x ++ c :: y → p c (y ++ b) = false) :
    splitBy p (a ++ b) = prependHead a (splitBy p b) := by
  induction a with
  | nil => simp [prependHead_nil _ (splitBy_ne_nil b)]
  | cons c cs ih =>
    have h0 : p c (cs ++ b) = false := h [] c cs rfl
    have ih' := ih (fun x c' y e => h (c :: x) c' y (by simp [e]))
    simp only [List.cons_append, splitBy, h0, Bool.false_eq_true, if_false, ih']
    exact consHead_prependHead c cs (splitBy_ne_nil b)

/-- no split inside a string whose characters never fire -/
theorem splitBy_of_never (s : Str) (h : ∀ c ∈ s, ∀ r, p c r = false) : splitBy p s = [s] := by
  have := splitBy_prefix (p := p) s [] (fun x c y e => h c (by simp [e]) _)
  simpa [splitBy, prependHead] using this

/-- splitting a join gives the list back, when no character of a piece can fire and the
separator fires in front of every non-first piece -/
theorem splitBy_joinChar (sep : Char) (xs : List Str) (hne : xs ≠ [])
    (hno : ∀ x ∈ xs, ∀ c ∈ x, ∀ r, p c r = false)
    (hfire : ∀ y ∈ xs.tail, ∀ r, p sep (y ++ r) = true) :
    splitBy p (joinChar sep xs) = xs := by
  induction xs with
  | nil => exact absurd rfl hne
  | cons x rest ih =>
    cases rest with
    | nil =>
      simp only [joinChar]
      exact splitBy_of_never x (hno x (by simp))
    | cons y ys =>
      have ih' := ih (by simp) (fun x' hx' => hno x' (by simp [hx']))
        (fun y' hy' => hfire y' (by simp only [List.tail_cons] at hy' ⊢; exact List.mem_of_mem_tail hy'))
      rw [joinChar_cons _ _ (by simp)]
      rw [splitBy_prefix x _ (fun a c b e => hno x (by simp) c (by simp [e]) _)]
      have hf : p sep (joinChar sep (y :: ys)) = true := by
        cases ys with
        | nil => simpa [joinChar] using hfire y (by simp) []
        | cons z zs =>
          rw [joinChar_cons _ _ (by simp)]
          exact hfire y (by simp) _
      simp [splitBy, hf, ih', prependHead]

/-- every character of a piece is a character of the string -/
theorem mem_of_mem_splitBy {s x : Str} {c : Char} (hx : x ∈ splitBy p s) (hc : c ∈ x) : c ∈ s := by
  induction s generalizing x with
  | nil => simp [splitBy] at hx; subst hx; simp at hc
  | cons d ds ih =>
    simp only [splitBy] at hx
    split at hx
    · simp only [List.mem_cons] at hx
      rcases hx with rfl | hx
      · simp at hc
      · exact List.mem_cons_of_mem _ (ih hx hc)
    · cases hs : splitBy p ds with
      | nil => exact absurd hs (splitBy_ne_nil ds)
      | cons y ys =>
        rw [hs] at hx ih
        simp only [consHead, List.mem_cons] at hx
        rcases hx with rfl | hx
        · simp only [List.mem_cons] at hc
          rcases hc with rfl | hc
          · simp
          · exact List.mem_cons_of_mem _ (ih (by simp) hc)
        · exact List.mem_cons_of_mem _ (ih (by simp [hx]) hc)

/-! ## `splitChar` / `joinChar`: `splitOn` / `join` of the `str` prelude, written without accumulator -/

theorem joinChar_eq_join (sep : Char) (xs : List Str) : joinChar sep xs = join [sep] xs := by
  induction xs with
  | nil => rfl
  | cons x r ih =>
    cases r with
    | nil => rfl
    | cons y ys => rw [joinChar, ih, join_cons_cons]; simp

theorem splitChar_eq_splitOn (sep : Char) (s : Str) : splitChar sep s = splitOn s sep := by
  induction s with
  | nil => rfl
  | cons c cs ih =>
    unfold splitChar at ih ⊢
    simp only [splitBy]
    by_cases h : c = sep
    · subst h
      simp [splitOn_cons_sep, ih]
    · rw [if_neg (by simpa using h), splitOn_cons_ne _ _ _ h, ih]
      cases splitOn cs sep <;> rfl

theorem splitChar_of_not_mem {sep : Char} {s : Str} (h : sep ∉ s) : splitChar sep s = [s] := by
  rw [splitChar_eq_splitOn]; exact splitOn_of_not_mem sep s h

theorem joinChar_splitChar (sep : Char) (s : Str) : joinChar sep (splitChar sep s) = s := by
  rw [joinChar_eq_join, splitChar_eq_splitOn]; exact join_splitOn sep s

theorem not_mem_of_mem_splitChar {sep : Char} {s x : Str} (hx : x ∈ splitChar sep s) : sep ∉ x := by
  rw [splitChar_eq_splitOn] at hx; exact not_mem_of_mem_splitOn sep s x hx

theorem splitChar_append_sep (sep : Char) (a b : Str) :
    splitChar sep (a ++ sep :: b) = splitChar sep a ++ splitChar sep b := by
  simp only [splitChar_eq_splitOn]; exact splitOn_append a b sep

theorem splitChar_joinChar (sep : Char) (xs : List Str) (hne : xs ≠ [])
    (hno : ∀ x ∈ xs, sep ∉ x) : splitChar sep (joinChar sep xs) = xs := by
  rw [joinChar_eq_join, splitChar_eq_splitOn]; exact splitOn_join sep xs hne hno

theorem joinChar_append (sep : Char) {l₁ l₂ : List Str} (h1 : l₁ ≠ []) (h2 : l₂ ≠ []) :
    joinChar sep (l₁ ++ l₂) = joinChar sep l₁ ++ sep :: joinChar sep l₂ := by
  simp [joinChar_eq_join, join_append _ _ _ h1 h2]

theorem joinChar_append_singleton (sep : Char) {l : List Str} (h : l ≠ []) (s : Str) :
    joinChar sep (l ++ [s]) = joinChar sep l ++ sep :: s :=
  joinChar_append sep h (List.cons_ne_nil s [])

theorem joinChar_append_pair (sep : Char) (l : List Str) (a b : Str) :
    joinChar sep (l ++ [a, b]) = joinChar sep (l ++ [a ++ sep :: b]) := by
  induction l with
  | nil => simp [joinChar]
  | cons x xs ih =>
    have h1 : xs ++ [a, b] ≠ [] := by simp
    have h2 : xs ++ [a ++ sep :: b] ≠ [] := by simp
    rw [List.cons_append, List.cons_append, joinChar_cons _ _ h1, joinChar_cons _ _ h2, ih]

theorem joinChar_cons_append (sep : Char) (acc v : Str) (vs : List Str) :
    joinChar sep ((acc ++ sep :: v) :: vs) = acc ++ sep :: joinChar sep (v :: vs) := by
  cases vs <;> simp [joinChar]

theorem mem_joinChar {sep c : Char} {l : List Str} (h : c ∈ joinChar sep l) :
    c = sep ∨ ∃ g ∈ l, c ∈ g := by
  rw [joinChar_eq_join] at h
  simpa using mem_join _ _ h

end Ural.Py
