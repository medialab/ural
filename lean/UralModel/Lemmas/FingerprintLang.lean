import UralModel.Lemmas.Fingerprint
import UralModel.Lemmas.StrLit
/-!
# C06 — the language / country label

What `strip_lang_subdomains_from_hostname` does with `label.rest` (`stripLang_spec`: the label goes iff
at least two labels remain **and** it passes the code's own test `isLangLabel`), and that a language
label in front of a host goes through `normalize_url`'s hostname steps untouched (it is no punycode, no
irrelevant label, no `amp-` prefix), shielding nothing but a leading `amp-` of the rest
(`normHost_langLabel`).  The country-code test enters through `CcLaws` only (codes are ASCII letters,
the test ignores ASCII case), proved for the regenerated table at the end of the file.
-/
namespace Ural.Fingerprint
open Ural.Py Ural.UrlParts Ural.Normalize Ural.Canonicalize

/-- 65, 90, 97, 122 are `A`, `Z`, `a`, `z`; 45, below, is `-` -/
theorem upperRange_iff (c : Char) : ('A' ≤ c ∧ c ≤ 'Z') ↔ (65 ≤ c.toNat ∧ c.toNat ≤ 90) := by
  rw [char_le_iff, char_le_iff]
  exact Iff.rfl

theorem lowerRange_iff (c : Char) : ('a' ≤ c ∧ c ≤ 'z') ↔ (97 ≤ c.toNat ∧ c.toNat ≤ 122) := by
  rw [char_le_iff, char_le_iff]
  exact Iff.rfl

theorem alpha_toNat {c : Char} (h : isAsciiAlpha c = true) :
    (97 ≤ c.toNat ∧ c.toNat ≤ 122) ∨ (65 ≤ c.toNat ∧ c.toNat ≤ 90) := by
  simpa only [isAsciiAlpha, Bool.or_eq_true, decide_eq_true_eq, lowerRange_iff, upperRange_iff] using h

theorem lowerChar_toNat_of_alpha {c : Char} (h : isAsciiAlpha c = true) :
    97 ≤ (lowerChar c).toNat ∧ (lowerChar c).toNat ≤ 122 := by
  rw [UrlRoundTrip.lowerChar_toNat]
  rcases alpha_toNat h with h | h <;> split <;> omega

theorem lowerChar_alpha_ne {c : Char} (h : isAsciiAlpha c = true) (d : Char)
    (hd : d.toNat < 97 ∨ 122 < d.toNat) : lowerChar c ≠ d := by
  intro e
  have := lowerChar_toNat_of_alpha h
  rw [e] at this
  omega

theorem alpha_ne {c : Char} (h : isAsciiAlpha c = true) (d : Char)
    (hd : d.toNat < 65 ∨ (90 < d.toNat ∧ d.toNat < 97) ∨ 122 < d.toNat) : c ≠ d := by
  intro e
  rcases alpha_toNat h with h | h <;> (rw [e] at h; omega)

theorem isAsciiAlpha_lowerChar {c : Char} (h : isAsciiAlpha c = true) : isAsciiAlpha (lowerChar c) = true :=
  Py.isAsciiAlpha_lowerChar h

/-- what the theorems assume of `isCC` -/
structure CcLaws (isCC : Str → Bool) : Prop where
  /-- a code is made of ASCII letters -/
  alpha : ∀ c, isCC c = true → ∀ x ∈ c, isAsciiAlpha x = true
  /-- the test ignores ASCII case (`code.upper() in …`) -/
  lower : ∀ c, isCC (lower c) = isCC c

/-- the code's own test on the first label: `xx`, or `xx-yy`, every half a code -/
def isLangLabel (isCC : Str → Bool) (w : Str) : Bool :=
  if w.length = 5 ∧ w.contains '-' then
    decide ((splitFirst w '-').1.length = 2) &&
      (match (splitFirst w '-').2 with
       | some country => decide (country.length = 2) && isCC (splitFirst w '-').1 && isCC country
       | none => false)
  else decide (w.length = 2) && isCC w

theorem countDots_label (w R : Str) (hw : '.' ∉ w) : countDots (w ++ '.' :: R) = 1 + countDots R := by
  simp only [countDots, List.count_append, List.count_cons_self]
  rw [List.count_eq_zero_of_not_mem hw]; omega

/-- **`strip_lang_subdomains_from_hostname`, both halves**: the first label goes iff at least
two labels remain after it and it passes the test -/
theorem stripLang_spec (isCC : Str → Bool) (w R : Str) (hw : '.' ∉ w) :
    stripLangSubdomainsFromHostname isCC (w ++ '.' :: R) =
      if 1 ≤ countDots R ∧ isLangLabel isCC w = true then R else w ++ '.' :: R := by
  unfold stripLangSubdomainsFromHostname
  rw [countDots_label w R hw, splitFirst_append_sep w R '.' hw]
  by_cases hd : 1 ≤ countDots R
  · have hd' : 1 + countDots R > 1 := by omega
    simp only [hd', if_true, hd, true_and]
    unfold isLangLabel
    by_cases h5 : w.length = 5 ∧ w.contains '-'
    · simp only [h5, and_self, if_true]
      rcases hsp : splitFirst w '-' with ⟨lang, _ | country⟩
      · simp
      · by_cases h1 : lang.length = 2 <;> by_cases h2 : country.length = 2 <;>
          cases h3 : isCC lang <;> cases h4 : isCC country <;> simp [h1, h2, h3, h4]
    · simp only [h5, if_false]
      by_cases h2 : w.length = 2
      · cases isCC w <;> simp [h2]
      · simp [h2]
  · have hd' : ¬ (1 + countDots R > 1) := by omega
    simp [hd', hd]

theorem stripLang_few_labels (isCC : Str → Bool) (h : Str) (hd : countDots h ≤ 1) :
    stripLangSubdomainsFromHostname isCC h = h := by
  unfold stripLangSubdomainsFromHostname
  have : ¬ (countDots h > 1) := by omega
  simp [this]

theorem stripLang_subset (isCC : Str → Bool) (h : Str) :
    stripLangSubdomainsFromHostname isCC h ⊆ h := by
  rcases splitFirst_cases h '.' with ⟨hw, _⟩ | ⟨w, R, hw, rfl, _⟩
  · have hd : countDots h ≤ 1 := by
      unfold countDots
      rw [List.count_eq_zero_of_not_mem hw]; omega
    rw [stripLang_few_labels isCC h hd]
    exact fun _ hx => hx
  · rw [stripLang_spec isCC w R hw]
    split
    · exact fun _ hx => List.mem_append_right _ (List.mem_cons_of_mem _ hx)
    · exact fun _ hx => hx

/-- `xx` or `xx-yy` with every half a code -/
inductive LangShape (isCC : Str → Bool) : Str → Prop
  | two (a b : Char) : isCC [a, b] = true → LangShape isCC [a, b]
  | five (a b c d : Char) : isCC [a, b] = true → isCC [c, d] = true → LangShape isCC [a, b, '-', c, d]

theorem langShape_lower {isCC : Str → Bool} (hcc : CcLaws isCC) {w : Str} (h : LangShape isCC w) :
    LangShape isCC (lower w) := by
  have hm : lowerChar '-' = '-' := by decide
  cases h with
  | two a b h1 =>
    have := hcc.lower [a, b]
    simp only [lower, List.map_cons, List.map_nil] at this ⊢
    exact .two _ _ (by rw [this]; exact h1)
  | five a b c d h1 h2 =>
    have e1 := hcc.lower [a, b]
    have e2 := hcc.lower [c, d]
    simp only [lower, List.map_cons, List.map_nil] at e1 e2 ⊢
    rw [hm]
    exact .five _ _ _ _ (by rw [e1]; exact h1) (by rw [e2]; exact h2)

/-- a label of one of the two shapes passes the code's test -/
theorem isLangLabel_of_shape {isCC : Str → Bool} (hcc : CcLaws isCC) {w : Str} (h : LangShape isCC w) :
    isLangLabel isCC w = true := by
  cases h with
  | two a b h1 => simp [isLangLabel, h1]
  | five a b c d h1 h2 =>
    have ha : a ≠ '-' := alpha_ne (hcc.alpha _ h1 a (by simp)) '-' (by decide)
    have hb : b ≠ '-' := alpha_ne (hcc.alpha _ h1 b (by simp)) '-' (by decide)
    have hs : splitFirst [a, b, '-', c, d] '-' = ([a, b], some [c, d]) := by
      have := splitFirst_append_sep [a, b] [c, d] '-' (by simp [ha.symm, hb.symm])
      simpa using this
    simp [isLangLabel, hs, h1, h2]

/-- conversely the code's test only accepts the two shapes -/
theorem shape_of_isLangLabel {isCC : Str → Bool} {w : Str} (h : isLangLabel isCC w = true) :
    LangShape isCC w := by
  unfold isLangLabel at h
  split at h
  · rename_i h5
    rcases splitFirst_cases w '-' with ⟨_, hsp⟩ | ⟨lang, country, _, rfl, hsp⟩
    · simp [hsp] at h
    · simp only [hsp, Bool.and_eq_true, decide_eq_true_eq] at h
      obtain ⟨hl, ⟨hc, h1⟩, h2⟩ := h
      match lang, country, hl, hc with
      | [a, b], [c, d], _, _ => exact .five a b c d h1 h2
  · simp only [Bool.and_eq_true, decide_eq_true_eq] at h
    match w, h.1 with
    | [a, b], _ => exact .two a b h.2

/-- the hostname steps before the `amp-` prefix is looked at -/
def preAmp (puny : Str → Str) (h : Str) : Str :=
  subdomainSub true (lower (decodePunycodeHostname puny h))

theorem normHost_eq (puny : Str → Str) (h : Str) :
    normHost puny fpOpts h = stripAmpPrefix puny true (preAmp puny h) := by
  rw [Normalize.normHost_eq_tail]; rfl

theorem isIrrLabel_of_shape {isCC : Str → Bool} {w : Str} (h : LangShape isCC w) :
    isIrrLabel true w = false := by
  cases hi : isIrrLabel true w with
  | false => rfl
  | true => cases h <;> simpa using isIrrLabel_length hi

theorem shape_chars {isCC : Str → Bool} (hcc : CcLaws isCC) {w : Str} (h : LangShape isCC w) :
    ∀ x ∈ w, isAsciiAlpha x = true ∨ x = '-' := by
  intro x hx
  cases h with
  | two a b h1 => exact Or.inl (hcc.alpha _ h1 x hx)
  | five a b c d h1 h2 =>
    simp only [List.mem_cons, List.not_mem_nil, or_false] at hx
    rcases hx with e | e | e | e | e
    · exact Or.inl (hcc.alpha _ h1 x (by simp [e]))
    · exact Or.inl (hcc.alpha _ h1 x (by simp [e]))
    · exact Or.inr e
    · exact Or.inl (hcc.alpha _ h2 x (by simp [e]))
    · exact Or.inl (hcc.alpha _ h2 x (by simp [e]))

/-- a label of the two shapes has none of the characters the steps below cut at -/
theorem shape_not_mem {isCC : Str → Bool} (hcc : CcLaws isCC) {w : Str} (h : LangShape isCC w)
    (d : Char) (hd : d.toNat < 45 ∨ (45 < d.toNat ∧ d.toNat < 65) ∨ (90 < d.toNat ∧ d.toNat < 97) ∨ 122 < d.toNat) :
    d ∉ w := by
  intro hm
  rcases shape_chars hcc h d hm with ha | ha
  · exact alpha_ne ha d (by omega) rfl
  · rw [ha] at hd
    have : ('-' : Char).toNat = 45 := by decide
    omega

theorem decode_label (puny : Str → Str) (w h : Str) (hw : '.' ∉ w)
    (hx : lower (w.take 4) ≠ "xn--".toList) :
    decodePunycodeHostname puny (w ++ '.' :: h) = w ++ '.' :: decodePunycodeHostname puny h := by
  unfold decodePunycodeHostname
  rw [Ural.Py.splitOn_append_sep '.' w h hw, List.map_cons]
  have hne : (splitOn h '.').map (fun part =>
      if lower (part.take 4) = "xn--".toList then puny (lower (part.take 4) ++ part.drop 4) else part) ≠ [] := by
    intro e
    exact Ural.Py.splitOn_ne_nil h '.' (List.map_eq_nil_iff.1 e)
  rw [join_cons_of_ne_nil _ _ _ hne]
  simp only [hx, if_false, List.append_assoc, List.singleton_append]

theorem shape_not_xn {isCC : Str → Bool} (hcc : CcLaws isCC) {w : Str} (h : LangShape isCC w) :
    lower (w.take 4) ≠ "xn--".toList := by
  have e : "xn--".toList = ['x', 'n', '-', '-'] := by decide
  rw [e]
  cases h with
  | two a b h1 => simp [lower]
  | five a b c d h1 h2 =>
    have hc : lowerChar c ≠ '-' := lowerChar_alpha_ne (hcc.alpha _ h2 c (by simp)) '-' (by decide)
    simp only [List.take, lower, List.map_cons, List.map_nil, ne_eq, List.cons.injEq, and_true, not_and]
    intro _ _ _; exact hc

theorem shape_not_amp {isCC : Str → Bool} {w : Str} (h : LangShape isCC w) (r : Str) :
    startsWith (w ++ '.' :: r) ampDash = false := by
  have e : ampDash = ['a', 'm', 'p', '-'] := by decide
  rw [e]
  cases h with
  | two a b h1 => simp [startsWith, List.isPrefixOf]
  | five a b c d h1 h2 => simp [startsWith, List.isPrefixOf]

/-- **a language label in front of a host goes through `normalize_url`'s hostname steps
untouched**, and the rest is treated as it is alone — except that the label shields a leading
`amp-` of the rest (`preAmp`, not `normHost`, on the right) -/
theorem normHost_langLabel (puny : Str → Str) {isCC : Str → Bool} (hcc : CcLaws isCC) {w : Str}
    (hw : LangShape isCC w) (h : Str) :
    normHost puny fpOpts (w ++ '.' :: h) = lower w ++ '.' :: preAmp puny h := by
  have hlw := langShape_lower hcc hw
  have hdot : '.' ∉ w := shape_not_mem hcc hw '.' (by decide)
  have hdotl : '.' ∉ lower w := shape_not_mem hcc hlw '.' (by decide)
  rw [normHost_eq]
  have hpre : preAmp puny (w ++ '.' :: h) = lower w ++ '.' :: preAmp puny h := by
    unfold preAmp
    rw [decode_label puny w h hdot (shape_not_xn hcc hw), lower_append]
    have hl : lower ('.' :: decodePunycodeHostname puny h) = '.' :: lower (decodePunycodeHostname puny h) := by
      simp [lower]; decide
    rw [hl]
    unfold subdomainSub
    rw [subFrom_label true (lower w) _ hdotl, isIrrLabel_of_shape hlw]
    rfl
  rw [hpre]
  unfold stripAmpPrefix
  rw [shape_not_amp hlw]
  simp

/-- `.hostname` lower-cases a `%`-free prefix and goes on -/
theorem hostnameView_append (a x : Str) (ha : '%' ∉ a) :
    hostnameView (a ++ x) = lower a ++ hostnameView x := by
  unfold hostnameView
  rw [splitFirst_append_left a x '%' ha]
  simp [lower_append]

theorem hostnameView_label {isCC : Str → Bool} (hcc : CcLaws isCC) {w : Str} (hw : LangShape isCC w) (R : Str) :
    hostnameView (lower w ++ '.' :: R) = lower w ++ '.' :: hostnameView R := by
  have hlw := langShape_lower hcc hw
  have hpc : '%' ∉ lower w ++ ['.'] := by
    simp only [List.mem_append, List.mem_cons, List.not_mem_nil, or_false, not_or]
    exact ⟨shape_not_mem hcc hlw '%' (by decide), by decide⟩
  have e : lower w ++ '.' :: R = (lower w ++ ['.']) ++ R := by simp
  rw [e, hostnameView_append _ _ hpc, lower_append, lower_idem]
  simp [lower]; decide

/-- the second pass on a host led by a language label -/
theorem stripLang_seen {isCC : Str → Bool} (hcc : CcLaws isCC) {w : Str} (hw : LangShape isCC w) (R : Str) :
    stripLangSubdomainsFromHostname isCC (hostnameView (lower w ++ '.' :: R)) =
      if 1 ≤ countDots (hostnameView R) then hostnameView R else lower w ++ '.' :: hostnameView R := by
  have hlw := langShape_lower hcc hw
  rw [hostnameView_label hcc hw, stripLang_spec isCC _ _ (shape_not_mem hcc hlw '.' (by decide)),
    isLangLabel_of_shape hcc hlw]
  simp

/-! ## the regenerated ISO-3166 table obeys `CcLaws`

`isCountry code` is `code.upper() in ISO_3166_1_COUNTRIES_ALPHA_2` on the regenerated table.
The only thing asked of the table (`isoCountries_upper`, by `decide`) is that every entry is
made of the letters `A`–`Z`; a code added or removed changes no theorem. -/

def isUpperAlpha (c : Char) : Bool := decide ('A' ≤ c ∧ c ≤ 'Z')

/-- **table obligation**: every entry of the regenerated table is made of `A`–`Z` -/
theorem isoCountries_upper :
    Gen.Normalize.isoCountries.all (fun c => c.toList.all isUpperAlpha) = true := by decide +kernel

theorem alpha_of_upperChar_upper (x : Char) (h : isUpperAlpha (upperChar x) = true) :
    isAsciiAlpha x = true := by
  unfold upperChar at h
  simp only [isAsciiAlpha, Bool.or_eq_true, decide_eq_true_eq]
  split at h
  · rename_i hx; exact Or.inl hx
  · simp only [isUpperAlpha, decide_eq_true_eq] at h; exact Or.inr h

/-- **the regenerated table obeys the laws** -/
theorem ccLaws_isCountry : CcLaws isCountry := by
  refine ⟨?_, ?_⟩
  · intro c hc x hx
    simp only [isCountry, List.any_eq_true, beq_iff_eq] at hc
    obtain ⟨e, he, heq⟩ := hc
    have hall := List.all_eq_true.1 isoCountries_upper e he
    rw [heq] at hall
    have hux : upperChar x ∈ upper c := by
      simp only [upper, List.mem_map]; exact ⟨x, hx, rfl⟩
    exact alpha_of_upperChar_upper x (List.all_eq_true.1 hall _ hux)
  · intro c
    simp only [isCountry, upper_lower]

end Ural.Fingerprint
