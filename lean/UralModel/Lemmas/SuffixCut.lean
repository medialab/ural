import UralModel.Model.SuffixTrie
import UralModel.Lemmas.StrSplit
/-!
# From the suffix length to the answers of `split` / `extract_suffix` / `extract_domain_name`

`__walk` turns the suffix length `n` it found into an `offset` (`-1` when the host is itself a
suffix); `split`, `extract_suffix`, `extract_domain_name` turn the offset back into a cut of the
label list.  For `1 ≤ n ≤ parts.length` (`C08.hostLen_bounds`) the detour through `Int` vanishes:
the three functions read `cut parts n`, and the two sides of the cut re-join to the host.
-/
namespace Ural.SuffixTrie
open Ural.Py

/-- the `offset` that `__walk` returns for a public suffix of `n` labels -/
def offset (parts : List Str) (n : Nat) : Int :=
  if parts.length = n then -1 else max 1 ((parts.length : Int) - (n : Int))

def cut (parts : List Str) (n : Nat) : Str × Str :=
  (join dot (parts.take (parts.length - n)), join dot (parts.drop (parts.length - n)))

theorem walk_some (t : SNode Str) (hn : Str) (hs : isSpecialHost hn = false) :
    walk t (some hn) = (SNode.walkLen starStr t (hostParts hn).reverse).map fun n =>
      (hostParts hn, offset (hostParts hn) n) := by
  simp only [walk, hs, Bool.false_eq_true, if_false]
  cases SNode.walkLen starStr t (hostParts hn).reverse <;> rfl

theorem walk_congr (t : SNode Str) {a b : Str} (hs : isSpecialHost a = isSpecialHost b)
    (hp : hostParts a = hostParts b) : walk t (some a) = walk t (some b) := by
  simp only [walk, hs, hp]

theorem answers_congr (t : SNode Str) {x y : Option Str} (h : walk t x = walk t y) :
    split t x = split t y ∧ extractDomainName t x = extractDomainName t y ∧
    extractSuffix t x = extractSuffix t y ∧ hasValidDomainName t x = hasValidDomainName t y := by
  simp only [split, extractDomainName, extractSuffix, hasValidDomainName, h, and_self]

theorem hostParts_of_lower_eq {a b : Str} (h : lower a = lower b) : hostParts a = hostParts b := by
  simp only [hostParts, h]

theorem hostParts_lower (hn : Str) : hostParts (lower hn) = hostParts hn :=
  hostParts_of_lower_eq (lower_idem hn)

theorem lower_append_dot (a : Str) : lower (a ++ ['.']) = lower a ++ ['.'] := by
  rw [lower_append]; rfl

theorem hostParts_append_dot (a : Str) : hostParts (a ++ ['.']) = hostParts a := by
  simp only [hostParts, lower_append_dot, rstripChars_append_self]

variable {parts : List Str} {n : Nat}

theorem natCast_not_neg (k : Nat) : ¬ ((k : Int) < 0) := by omega

theorem offset_of_lt (h2 : n ≤ parts.length) (he : parts.length ≠ n) :
    offset parts n = ((parts.length - n : Nat) : Int) := by
  unfold offset; rw [if_neg he]; omega

theorem splitOf_offset (h2 : n ≤ parts.length) :
    splitOf (some (parts, offset parts n)) = some (cut parts n) := by
  by_cases he : parts.length = n
  · simp [splitOf, offset, cut, he, join]
  · simp [splitOf, offset_of_lt h2 he, cut, natCast_not_neg]

theorem suffixOf_offset (h2 : n ≤ parts.length) :
    suffixOf (some (parts, offset parts n)) = some (cut parts n).2 := by
  by_cases he : parts.length = n
  · simp [suffixOf, offset, cut, he]
  · simp [suffixOf, offset_of_lt h2 he, cut, natCast_not_neg]

theorem domainOf_offset (h2 : n ≤ parts.length) :
    domainOf (some (parts, offset parts n)) =
      some (join dot (parts.drop (parts.length - n - 1))) := by
  by_cases he : parts.length = n
  · simp [domainOf, offset, he]
  · have e : (((parts.length - n : Nat) : Int) - 1).toNat = parts.length - n - 1 := by omega
    simp [domainOf, offset_of_lt h2 he, e, natCast_not_neg]

theorem cut_rejoin (h1 : 1 ≤ n) (h2 : n ≤ parts.length) :
    (n = parts.length ∧ (cut parts n).1 = [] ∧ (cut parts n).2 = join dot parts) ∨
      (cut parts n).1 ++ '.' :: (cut parts n).2 = join dot parts := by
  by_cases he : n = parts.length
  · left; subst he; simp [cut, join]
  · right
    have hA : parts.take (parts.length - n) ≠ [] := fun e => by
      have := congrArg List.length e
      simp only [List.length_take, List.length_nil] at this
      omega
    have hB : parts.drop (parts.length - n) ≠ [] := fun e => by
      have := congrArg List.length e
      simp only [List.length_drop, List.length_nil] at this
      omega
    have := join_append dot _ _ hA hB
    rw [List.take_append_drop] at this
    rw [this]; simp [cut, dot]

end Ural.SuffixTrie
