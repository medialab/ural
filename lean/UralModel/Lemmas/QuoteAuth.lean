import UralModel.Model.QuoteAuth
import UralModel.Lemmas.QuoteRoundTrip
import UralModel.Lemmas.QuotePost
import UralModel.Lemmas.QuoteSplit
import UralModel.Lemmas.QuoteUpper
import UralModel.Lemmas.StrLit
/-!
# `safely_unquote_auth_item` (FX-C01-194b1c7): the partial, then `requoteNfkc`

What the theorems about `canonicalize_url` / `normalize_url` need of the `requoteNfkc` step.  It is the
token pass `escToksBy` over the table (`nfkcToks_eq_by`), so what holds of every such pass holds of it;
the safe unquoter undoes it and `safely_quote` does not see it.
-/
namespace Ural.Quote
open Ural.Py

/-! ## the table (obligations by `decide` over the regenerated list) -/

theorem nfkcCodes_high : ∀ n ∈ Gen.nfkcDelimCodes, 0x80 ≤ n := by decide

theorem nfkcDelimChar_mem {c : Char} (h : nfkcDelimChar c = true) : c.toNat ∈ Gen.nfkcDelimCodes := by
  simpa [nfkcDelimChar] using h

theorem nfkcDelimChar_high {c : Char} (h : nfkcDelimChar c = true) : 0x80 ≤ c.toNat :=
  nfkcCodes_high _ (nfkcDelimChar_mem h)

theorem nfkcDelimChar_of_lt {c : Char} (h : c.toNat < 0x80) : nfkcDelimChar c = false := by
  cases e : nfkcDelimChar c with
  | false => rfl
  | true => have := nfkcDelimChar_high e; omega

/-! ## the string pass -/

theorem requoteNfkc_eq_by (q : Str) : requoteNfkc q = requoteBy nfkcDelimChar q := rfl

theorem requoteNfkc_nil : requoteNfkc [] = [] := rfl

/-- the identity on a string without a character of the table -/
theorem requoteNfkc_eq_self {s : Str} (h : ∀ c ∈ s, c.toNat ∉ Gen.nfkcDelimCodes) :
    requoteNfkc s = s := by
  rw [requoteNfkc_eq_by]
  apply requoteBy_eq_self
  intro c hc
  cases e : nfkcDelimChar c with
  | false => rfl
  | true => exact absurd (nfkcDelimChar_mem e) (h c hc)

/-- every character of the result is a character of the input, a `%` or a hex digit -/
theorem mem_requoteNfkc_cases {s : Str} {d : Char} (h : d ∈ requoteNfkc s) :
    d ∈ s ∨ d = '%' ∨ isHexDigit d = true := by
  rw [requoteNfkc_eq_by] at h
  rcases mem_requoteBy h with h | h
  · exact .inl h.1
  · exact .inr h

/-- no raw character of the table is left -/
theorem requoteNfkc_no_nfkc (s : Str) : ∀ d ∈ requoteNfkc s, nfkcDelimChar d = false := by
  intro d h
  rw [requoteNfkc_eq_by] at h
  rcases mem_requoteBy h with h | rfl | h
  · exact h.2
  · exact nfkcDelimChar_of_lt (by decide)
  · exact nfkcDelimChar_of_lt (isHexDigit_lt h)

theorem requoteNfkc_idem (s : Str) : requoteNfkc (requoteNfkc s) = requoteNfkc s :=
  requoteNfkc_eq_self fun c hc hm => by
    have := requoteNfkc_no_nfkc s c hc
    simp [nfkcDelimChar, hm] at this

/-! ## the token pass -/

theorem nfkcToks_append (a b : List Tok) : nfkcToks (a ++ b) = nfkcToks a ++ nfkcToks b := by
  simp [nfkcToks]

theorem nfkcToks_eq_by (ts : List Tok) : nfkcToks ts = escToksBy nfkcDelimChar ts := by
  unfold nfkcToks escToksBy
  congr 1
  funext t
  cases t with
  | raw c => rfl
  | esc h1 h2 => rfl
  | stray => simp [nfkcTok, escBy, nfkcDelimChar_of_lt]

/-- **the string pass is the token pass** on every token list whose escapes are escapes -/
theorem requoteNfkc_render (ts : List Tok) (h : EscHex ts) :
    requoteNfkc (render ts) = render (nfkcToks ts) := by
  rw [nfkcToks_eq_by]
  rw [requoteNfkc_eq_by]
  exact requoteBy_render (nfkcDelimChar_of_lt (by decide))
    (fun c hc => nfkcDelimChar_of_lt (isHexDigit_lt hc)) ts h

theorem canon_nfkcToks {ts : List Tok} (h : ∀ t ∈ ts, CanonTok t) : ∀ t ∈ nfkcToks ts, CanonTok t := by
  intro t ht
  rw [nfkcToks_eq_by] at ht
  rcases mem_escToksBy ht with h' | ⟨b, rfl⟩
  · exact h t h'
  · exact canon_escOfByte b

theorem pct_nfkcToks (ts : List Tok) : pct (nfkcToks ts) = pct ts := by
  rw [nfkcToks_eq_by]; exact pct_escToksBy _ ts

theorem count_raw_nfkcToks (d : Char) (hd : d.toNat < 0x80) (ts : List Tok) :
    (nfkcToks ts).count (.raw d) = ts.count (.raw d) := by
  rw [nfkcToks_eq_by]; exact count_raw_escToksBy (nfkcDelimChar_of_lt hd) ts

theorem requoteNfkc_eq_render (q : Str) : requoteNfkc q = render (nfkcToks (tokens q)) := by
  conv => lhs; rw [← render_tokens q]
  exact requoteNfkc_render _ fun _ _ hm => wf_tokens q _ hm

/-- `safely_quote` does not see the step: it would escape those characters anyway -/
theorem quoteToks_nfkcToks (ts : List Tok) : quoteToks (nfkcToks ts) = quoteToks ts := by
  rw [quoteToks_fun, nfkcToks_eq_by, quoteToksBy_eq_escToksBy,
    quoteToksBy_eq_escToksBy]
  refine escToksBy_absorb_inner (fun c hc => ?_) _
  cases h : quoteSafe c
  · rfl
  · have := safeSet_quoteSafe.ascii h; have := nfkcDelimChar_high hc; omega

/-- **the safe unquoters undo the step**: a character of the table is `≥ U+0080`, so its escapes are
decoded to the character again, whatever pending bytes surround them (`unquoteToks_escToksBy`) -/
theorem unquoteToks_nfkcToks (U : List UInt8) (hU : AsciiSet U) (ts : List Tok) :
    unquoteToks U (escapeRaw (nfkcToks ts)) = unquoteToks U (escapeRaw ts) := by
  rw [nfkcToks_eq_by, escapeRaw_eq_by (escToksBy _ _), escToksBy_comp]
  refine unquoteToks_escToksBy U hU (fun c h => by simp [h]) (fun c h => ?_) ts
  rcases Bool.or_eq_true _ _ ▸ h with h | h
  · exact nfkcDelimChar_high h
  · exact staysEscaped_high h

/-! ## `safely_unquote_auth_item` -/

theorem pct_auth : (0x25 : UInt8) ∈ Gen.Quote.unsafeForAuthItem := unsafeForAuthItem_ok.1
theorem asciiSet_authItem : AsciiSet Gen.Quote.unsafeForAuthItem := unsafeForAuthItem_ok.2

/-- the token form of the function -/
theorem authItem_eq_render (s : Str) :
    safelyUnquoteAuthItem s =
      render (nfkcToks (unquoteToks Gen.Quote.unsafeForAuthItem (escapeRaw (tokens s)))) := by
  unfold safelyUnquoteAuthItem
  rw [requoteNfkc_eq_render, tokens_safelyUnquote _ pct_auth]

theorem tokens_authItem (s : Str) :
    tokens (safelyUnquoteAuthItem s) =
      nfkcToks (unquoteToks Gen.Quote.unsafeForAuthItem (escapeRaw (tokens s))) := by
  rw [authItem_eq_render]
  exact tokens_render_of_canon _ (canon_nfkcToks (canon_unquoteToks pct_auth s))

theorem nfkcToks_map_upperTok (ts : List Tok) :
    (nfkcToks ts).map upperTok = nfkcToks (ts.map upperTok) := by
  rw [nfkcToks_eq_by, nfkcToks_eq_by]; exact (QuoteUpper.escToksBy_map_upperTok _ ts).symm

theorem authItem_upperQuoted (s : Str) :
    safelyUnquoteAuthItem (upperQuoted s) = upperQuoted (safelyUnquoteAuthItem s) := by
  show requoteNfkc (safelyUnquote _ (upperQuoted s)) = _
  rw [QuoteUpper.safelyUnquote_upperQuoted _ pct_auth, requoteNfkc_eq_render, QuoteUpper.tokens_upperQuoted,
    ← nfkcToks_map_upperTok]
  unfold upperQuoted
  rw [tokens_authItem, tokens_safelyUnquote _ pct_auth]

theorem authItem_nil : safelyUnquoteAuthItem [] = [] := rfl

/-- same decoded bytes -/
theorem pctStr_authItem (s : Str) : pctStr (safelyUnquoteAuthItem s) = pctStr s := by
  unfold pctStr
  rw [tokens_authItem, pct_nfkcToks, pct_unquoteToks, pct_escapeRaw]

/-- the partial undoes the wrapper: `_safely_unquote_auth_item(safely_unquote_auth_item(s))` is
`_safely_unquote_auth_item(s)` -/
theorem safelyUnquote_authItem (s : Str) :
    safelyUnquote Gen.Quote.unsafeForAuthItem (safelyUnquoteAuthItem s) =
      safelyUnquote Gen.Quote.unsafeForAuthItem s := by
  show render (unquoteToks _ (escapeRaw (tokens (safelyUnquoteAuthItem s)))) = _
  rw [tokens_authItem, unquoteToks_nfkcToks _ asciiSet_authItem, escapeRaw_unquoteToks,
    unquoteToks_idem _ pct_auth asciiSet_authItem]
  rfl

/-- **idempotent** -/
theorem authItem_idem (s : Str) :
    safelyUnquoteAuthItem (safelyUnquoteAuthItem s) = safelyUnquoteAuthItem s := by
  show requoteNfkc (safelyUnquote _ (safelyUnquoteAuthItem s)) = _
  rw [safelyUnquote_authItem]; rfl

theorem safelyQuote_authItem (s : Str) :
    safelyQuote (safelyUnquoteAuthItem s) =
      safelyQuote (safelyUnquote Gen.Quote.unsafeForAuthItem s) := by
  unfold safelyQuote
  rw [tokens_authItem, quoteToks_nfkcToks, tokens_safelyUnquote _ pct_auth]

/-- no delimiter of the authority is created -/
theorem not_mem_authItem {d : Char} (hd : d ∈ ['@', ':', '/', '?', '#', '[', ']'])
    (s : Str) (hs : d ∉ s) : d ∉ safelyUnquoteAuthItem s := by
  have key : ∀ d ∈ ['@', ':', '/', '?', '#', '[', ']'], (d ≠ '%' ∧ isHexDigit d = false) ∧
      d.toNat < 0x80 ∧ UInt8.ofNat d.toNat ∈ Gen.Quote.unsafeForAuthItem := by decide
  obtain ⟨hsep, hlt, hU⟩ := key d hd
  intro hm
  rcases mem_requoteNfkc_cases hm with h | h | h
  · exact not_mem_safelyUnquote _ hsep hlt hU s hs h
  · exact hsep.1 h
  · rw [hsep.2] at h; cases h

/-- **no raw look-alike is left**: no character of the result is in the table -/
theorem authItem_no_nfkc (s : Str) : ∀ d ∈ safelyUnquoteAuthItem s, nfkcDelimChar d = false :=
  requoteNfkc_no_nfkc _

/-- without a decoded look-alike the function is the partial -/
theorem authItem_eq_partial {s : Str}
    (h : ∀ c ∈ safelyUnquote Gen.Quote.unsafeForAuthItem s, c.toNat ∉ Gen.nfkcDelimCodes) :
    safelyUnquoteAuthItem s = safelyUnquote Gen.Quote.unsafeForAuthItem s :=
  requoteNfkc_eq_self h

/-- the witness of FX-C01-194b1c7: `%EF%BC%A0x` (U+FF20 FULLWIDTH COMMERCIAL AT) stays
escaped, the partial alone decodes it -/
example :
    safelyUnquoteAuthItem "%EF%BC%A0x%C3%A9".toList = "%EF%BC%A0xé".toList ∧
    safelyUnquote Gen.Quote.unsafeForAuthItem "%EF%BC%A0x".toList = "＠x".toList ∧
    safelyUnquoteAuthItem "%ef%bc%9a＠".toList = "%EF%BC%9A%EF%BC%A0".toList := by
  simp only [toList_lit]
  decide +kernel

end Ural.Quote
