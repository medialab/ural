import UralModel.Lemmas.UrlRoundTrip
import UralModel.Lemmas.Canonicalize
import UralModel.Lemmas.CanonAuth
/-!
# Classes of characters that the (un)quoting rules never bring in

`EscapedClass K`: the safe unquoters never produce a character of `K` from an escape and escape it
when they meet it raw (C0 controls and DEL apart, which they pass through), so the output of
`safely_unquote_*`, `safely_quote`, `requote` holds a character of `K` only if the input held a raw
control character — and `canonicalize_url` hands them what `CONTROL_CHARS_RE.sub` has cleaned.
Two instances: the control characters (the `NoCtl` lemmas of `Lemmas/CanonRoundTrip.lean`; the
classes of the cleaning pass, `Props/C03Control.lean`) and the white space of `str.isspace` (C17:
the userinfo, path, query and fragment of a canonical url match `\S`, `.` of the `is_url` patterns).
-/
set_option linter.unusedSimpArgs false

namespace Ural.C03Control
open Ural.Py Ural.UrlParts Ural.Quote Ural.Canonicalize Ural.UrlRoundTrip

/-- a class of characters the safe unquoters never produce from an escape, and escape when they
meet them raw — except the raw C0 controls and DEL, which they pass through.  ASCII members are
C0 controls, the space or DEL; members beyond ASCII are in `NON_PRINTABLE_RE`. -/
structure EscapedClass (K : Char → Bool) : Prop where
  ascii : ∀ c, K c = true → c.toNat < 0x80 → c.toNat ≤ 0x20 ∨ c.toNat = 0x7f
  high : ∀ c, K c = true → 0x80 ≤ c.toNat → staysEscaped c = true

theorem EscapedClass.congr {K K' : Char → Bool} (h : EscapedClass K) (e : ∀ c, K' c = K c) :
    EscapedClass K' :=
  ⟨fun c hc => h.ascii c (e c ▸ hc), fun c hc => h.high c (e c ▸ hc)⟩

/-- printable ASCII other than the space: every character `canonicalize_url` prints by itself
(delimiters, `%`, hex digits, port digits, the scheme) -/
def Printable (c : Char) : Prop := 0x21 ≤ c.toNat ∧ c.toNat < 0x7f

theorem printable_pct : Printable '%' := by unfold Printable; decide

theorem printable_hexDigit {c : Char} (h : isHexDigit c = true) : Printable c := by
  have := (isHexDigit_toNat_iff c).1 h; unfold Printable; omega

theorem EscapedClass.not_printable {K : Char → Bool} (h : EscapedClass K) {c : Char}
    (hp : Printable c) : K c = false := by
  cases hk : K c with
  | false => rfl
  | true => have := h.ascii c hk (by unfold Printable at hp; omega); unfold Printable at hp; omega

/-- **the unquoters bring in no character of an escaped class**: a character of the class in
the output of `safely_unquote_*` was raw in the input, and is a C0 control or DEL (the only raw
characters of the class the unquoters pass through; the cleaning pass has removed them) -/
theorem mem_safelyUnquote_class (U : List UInt8) {K : Char → Bool} (hK : EscapedClass K)
    {c : Char} {s : Str} (hc : c ∈ safelyUnquote U s) (hk : K c = true) :
    c ∈ s ∧ (c.toNat < 0x20 ∨ c.toNat = 0x7f) := by
  by_cases hlt : c.toNat < 0x80
  · have h1 := hK.ascii c hk hlt
    have h20 : c.toNat ≠ 0x20 := fun e =>
      space_not_mem_safelyUnquote U s ((show c = ' ' by rw [← Char.ofNat_toNat c, e]) ▸ hc)
    exact ⟨mem_of_control_mem_safelyUnquote hc (by omega), by omega⟩
  · have := hK.high c hk (by omega)
    rw [staysEscaped_safelyUnquote U s c hc] at this
    cases this

/-- a cleaned component (no control character) comes out of a safe unquoter with no character
of the class -/
theorem noClass_safelyUnquote (U : List UInt8) {K : Char → Bool} (hK : EscapedClass K) {s : Str}
    (h : NoCtl s) : ∀ c ∈ safelyUnquote U s, K c = false := by
  intro c hc
  cases hk : K c with
  | false => rfl
  | true =>
    obtain ⟨hm, hr⟩ := mem_safelyUnquote_class U hK hc hk
    have := h c hm
    have h2 : isControlChar c = true := by rw [isControlChar_iff]; omega
    rw [this] at h2; cases h2

theorem noClass_safelyQuoteBy {f : Char → Bool} (hf : SafeSet f) {K : Char → Bool} (hK : EscapedClass K)
    (s : Str) : ∀ c ∈ safelyQuoteBy f s, K c = false := by
  intro c hc
  rcases mem_safelyQuoteBy hc with ⟨_, h1⟩ | rfl | h1
  · exact hK.not_printable (hf.printable h1)
  · exact hK.not_printable printable_pct
  · exact hK.not_printable (printable_hexDigit h1)

theorem noClass_safelyQuote {K : Char → Bool} (hK : EscapedClass K) (s : Str) :
    ∀ c ∈ safelyQuote s, K c = false := by
  rw [safelyQuote_fun]; exact noClass_safelyQuoteBy safeSet_quoteSafe hK s

theorem noClass_requoteItem {K : Char → Bool} (hK : EscapedClass K) (quoted : Bool)
    {s : Str} (h : NoCtl s) : ∀ c ∈ requoteItem quoted s, K c = false := by
  unfold requoteItem
  split
  · exact noClass_safelyQuoteBy safeSet_quoteSafeQ hK _
  · exact noClass_safelyUnquote _ hK h

theorem noClass_requote {K : Char → Bool} (hK : EscapedClass K) (quoted : Bool) (U : List UInt8)
    {s : Str} (h : NoCtl s) : ∀ c ∈ requote quoted (safelyUnquote U) s, K c = false := by
  unfold requote
  split
  · exact noClass_safelyQuote hK _
  · exact noClass_safelyUnquote U hK h

/-- the same for a user name / password: `requoteNfkc` adds `%` and hex digits only
(FX-C01-194b1c7) -/
theorem noClass_requote_auth {K : Char → Bool} (hK : EscapedClass K) (quoted : Bool)
    {s : Str} (h : NoCtl s) : ∀ c ∈ requote quoted unquoteAuthItem s, K c = false := by
  unfold requote
  split
  · exact noClass_safelyQuote hK _
  · intro c hc
    rcases mem_requoteNfkc_cases hc with h1 | rfl | h1
    · exact noClass_safelyUnquote _ hK h c h1
    · exact hK.not_printable printable_pct
    · exact hK.not_printable (printable_hexDigit h1)

theorem escapedClass_isControlChar : EscapedClass isControlChar where
  ascii c hc hlt := by rw [isControlChar_iff] at hc; omega
  high c hc hge := by
    rw [isControlChar_iff] at hc
    have h1 : isC1 c = true := by simp [isC1]; omega
    simp [staysEscaped, h1]

theorem escapedClass_isSpace : EscapedClass isSpace := by
  have key : ∀ n ∈ spaceCodes, (n < 0x80 → n ≤ 0x20 ∨ n = 0x7f) ∧
      (0x80 ≤ n → (0x80 ≤ n ∧ n ≤ 0x9f) ∨ n ∈ uSpaces) := by decide
  refine ⟨fun c hc hlt => ?_, fun c hc hge => ?_⟩ <;>
    simp only [isSpace, List.contains_eq_mem, decide_eq_true_eq] at hc
  · exact (key _ hc).1 hlt
  · rcases (key _ hc).2 hge with h | h
    · have : isC1 c = true := by simp [isC1]; omega
      simp [staysEscaped, this]
    · simp [staysEscaped, h]

end Ural.C03Control

namespace Ural.Quote
open Ural.Py Ural.UrlParts Ural.UrlRoundTrip

/-- **no whitespace**: on an input without control characters the safe unquoters produce no
`str.isspace` character -/
theorem noWs_safelyUnquote (U : List UInt8) {s : Str} (hs : NoCtl s) :
    ∀ c ∈ safelyUnquote U s, isSpace c = false :=
  C03Control.noClass_safelyUnquote U C03Control.escapedClass_isSpace hs

end Ural.Quote
