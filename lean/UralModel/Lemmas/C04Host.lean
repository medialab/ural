import UralModel.Model.Normalize
import UralModel.Lemmas.StrLit
import UralModel.Lemmas.Canonicalize
import UralModel.Lemmas.Redirect
import UralModel.Lemmas.Normalize
/-!
# C04 — the hostname: `IRRELEVANT_SUBDOMAIN(_AMP)_RE.sub("", host)` on the label structure

The scanner `subdomainSub` is characterised on `".".join(labels)`: a label that is not the
last one is dropped iff it is `www`, `www<digit>`, `mobile`, `m` (and `amp` in the AMP variant),
ignoring case; the last label always stays (the pattern needs the dot after the label).
`subdomainSub_labels` reads this as a deletion of labels (`DelSub`).  The host rule as a whole is
`normHost = hostTail ∘ canonHost` (`normHost_eq_tail`); a property kept by every step of `hostTail`
is shown by `hostTail_ind`.  At the end, `canonHost` on a label list (`canonHost_join`, `canonHost_label`).
-/
set_option linter.unusedSimpArgs false
namespace Ural.Normalize
open Ural Ural.Py Ural.UrlParts Ural.Canonicalize

/-! ## one label -/

/-- `pat` matches the whole label, ignoring case -/
def litOk (pat : String) (lab : Str) : Bool := matchLit pat.toList lab == some []

/-- `www` or `www<digit>`, ignoring case -/
def wwwOk (lab : Str) : Bool :=
  match matchLit "www".toList lab with
  | some r => r.isEmpty || (r.length == 1 && r.all isReDigit)
  | none => false

/-- the labels `(?:www\d?|mobile|amp|m)` (re.I) matches entirely -/
def isIrrLabel (amp : Bool) (lab : Str) : Bool :=
  wwwOk lab || litOk "mobile" lab || (amp && litOk "amp" lab) || litOk "m" lab

def NoDotPat (pat : List Char) : Prop := ∀ c ∈ pat, ciMatch c '.' = false

theorem matchLit_label (pat : List Char) (hpat : NoDotPat pat) (lab rest : Str) :
    matchLit pat (lab ++ '.' :: rest) = (matchLit pat lab).map (· ++ '.' :: rest) :=
  matchLit_before_sep pat '.' hpat lab rest

/-- `\.` after a dot-free remainder -/
theorem afterDot_label (r rest : Str) (hr : '.' ∉ r) :
    afterChar '.' (r ++ '.' :: rest) = if r.isEmpty then some rest else none := by
  cases r with
  | nil => simp [afterChar]
  | cons c cs =>
    have hc : c ≠ '.' := fun e => hr (by simp [e])
    simp [afterChar, hc]

theorem afterDot_nodot (r : Str) (hr : '.' ∉ r) : afterChar '.' r = none := by
  cases r with
  | nil => rfl
  | cons c cs =>
    have hc : c ≠ '.' := fun e => hr (by simp [e])
    simp [afterChar, hc]

theorem litDot_label (pat : String) (hpat : NoDotPat pat.toList) (lab rest : Str) (hl : '.' ∉ lab) :
    (matchLit pat.toList (lab ++ '.' :: rest)).bind (afterChar '.') =
      if litOk pat lab then some rest else none := by
  rw [matchLit_label _ hpat]
  unfold litOk
  cases h : matchLit pat.toList lab with
  | none => simp
  | some r =>
    simp only [Option.map_some, Option.bind_some]
    rw [afterDot_label r rest (not_mem_of_matchLit h hl)]
    cases r <;> simp

/-- the alternative `www\d?\.` -/
theorem wwwDot_label (lab rest : Str) (hl : '.' ∉ lab) :
    ((matchLit "www".toList (lab ++ '.' :: rest)).bind fun r =>
        ((afterDigit r).bind (afterChar '.')).or (afterChar '.' r)) =
      if wwwOk lab then some rest else none := by
  unfold wwwOk
  rw [matchLit_label _ (by intro c hc; revert c; decide +kernel)]
  cases h : matchLit "www".toList lab with
  | none => simp
  | some r =>
    have hr := not_mem_of_matchLit h hl
    simp only [Option.map_some, Option.bind_some]
    rw [afterDot_label r rest hr]
    cases r with
    | nil =>
      have : isReDigit '.' = false := by decide +kernel
      simp [afterDigit, this]
    | cons d ds =>
      have hds : '.' ∉ ds := fun e => hr (by simp [e])
      simp only [List.cons_append, afterDigit, List.isEmpty_cons, Bool.false_eq_true, if_false,
        Option.or_none, Bool.false_or, List.length_cons, List.all_cons]
      by_cases hdig : isReDigit d = true
      · simp only [hdig, if_true, Option.bind_some, Bool.true_and]
        rw [afterDot_label ds rest hds]
        cases ds <;> simp
      · simp [hdig]

/-- **locality**: at the start of a dot-free label followed by a dot, the pattern matches iff
the label is one of the irrelevant labels, and then it matches exactly the label and its dot -/
theorem irrelevantLabelHere_label (amp : Bool) (lab rest : Str) (hl : '.' ∉ lab) :
    irrelevantLabelHere amp (lab ++ '.' :: rest) =
      if isIrrLabel amp lab then some rest else none := by
  unfold irrelevantLabelHere
  simp only []
  rw [wwwDot_label lab rest hl,
    litDot_label "mobile" (by intro c hc; revert c; decide +kernel) lab rest hl,
    litDot_label "m" (by intro c hc; revert c; decide +kernel) lab rest hl]
  unfold isIrrLabel
  cases amp with
  | false =>
    simp only [Bool.false_eq_true, if_false, Bool.false_and, Bool.or_false]
    cases wwwOk lab <;> cases litOk "mobile" lab <;> cases litOk "m" lab <;> simp
  | true =>
    simp only [if_true, Bool.true_and]
    rw [litDot_label "amp" (by intro c hc; revert c; decide +kernel) lab rest hl]
    cases wwwOk lab <;> cases litOk "mobile" lab <;> cases litOk "amp" lab <;>
      cases litOk "m" lab <;> simp

/-- the labels `(?:www\d?|mobile|amp|m)` have 1, 3, 4 or 6 characters -/
theorem isIrrLabel_length {amp : Bool} {l : Str} (h : isIrrLabel amp l = true) :
    l.length = 1 ∨ l.length = 3 ∨ l.length = 4 ∨ l.length = 6 := by
  have lit : ∀ pat : String, litOk pat l = true → l.length = pat.toList.length := by
    intro pat hp
    simp only [litOk, beq_iff_eq] at hp
    simpa using matchLit_length _ _ _ hp
  simp only [isIrrLabel, Bool.or_eq_true, Bool.and_eq_true] at h
  rcases h with ((h | h) | ⟨_, h⟩) | h
  · unfold wwwOk at h
    cases hm : matchLit "www".toList l with
    | none => rw [hm] at h; cases h
    | some r =>
      rw [hm] at h
      have hl := matchLit_length _ _ _ hm
      have h3 : "www".toList.length = 3 := by decide
      simp only [Bool.or_eq_true, List.isEmpty_iff, Bool.and_eq_true, beq_iff_eq] at h
      rcases h with h | ⟨h, _⟩
      · subst h; right; left; simpa [h3] using hl
      · right; right; left; omega
  · right; right; right; rw [lit _ h]; decide
  · right; left; rw [lit _ h]; decide
  · left; rw [lit _ h]; decide

/-- without a dot, the pattern cannot match -/
theorem irrelevantLabelHere_nodot (amp : Bool) (s : Str) (hs : '.' ∉ s) :
    irrelevantLabelHere amp s = none := by
  have hb : ∀ pat : String, (matchLit pat.toList s).bind (afterChar '.') = none := by
    intro pat
    cases h : matchLit pat.toList s with
    | none => rfl
    | some r => simpa using afterDot_nodot r (not_mem_of_matchLit h hs)
  have hw : ((matchLit "www".toList s).bind fun r =>
      ((afterDigit r).bind (afterChar '.')).or (afterChar '.' r)) = none := by
    cases h : matchLit "www".toList s with
    | none => rfl
    | some r =>
      have hr := not_mem_of_matchLit h hs
      cases r with
      | nil => rfl
      | cons d ds =>
        have hds : '.' ∉ ds := fun e => hr (by simp [e])
        simp [afterDigit, afterDot_nodot _ hr, afterDot_nodot _ hds]
  unfold irrelevantLabelHere
  simp only []
  rw [hw, hb, hb, hb]
  cases amp <;> simp

/-! ## the scanner on a label list -/

theorem subFrom_skip (amp : Bool) (m rest : Str) (b : Bool) (hm : m ≠ []) :
    subdomainSubFrom amp (m ++ rest) b m.length =
      subdomainSubFrom amp rest (m.getLast hm == '.') 0 := by
  induction m generalizing b with
  | nil => exact absurd rfl hm
  | cons c cs ih =>
    cases cs with
    | nil => simp [subdomainSubFrom]
    | cons d ds =>
      show subdomainSubFrom amp (c :: ((d :: ds) ++ rest)) b ((d :: ds).length + 1) = _
      rw [subdomainSubFrom, ih (c == '.') (by simp)]
      simp [List.getLast_cons]

theorem subFrom_inside (amp : Bool) (cs rest : Str) (hcs : '.' ∉ cs) :
    subdomainSubFrom amp (cs ++ '.' :: rest) false 0 =
      cs ++ '.' :: subdomainSubFrom amp rest true 0 := by
  induction cs with
  | nil => simp [subdomainSubFrom]
  | cons c cs ih =>
    have hc : c ≠ '.' := fun e => hcs (by simp [e])
    have hcs' : '.' ∉ cs := fun e => hcs (by simp [e])
    simp only [List.cons_append, subdomainSubFrom, Bool.false_eq_true, if_false]
    have : (c == '.') = false := by simpa using hc
    rw [this, ih hcs']

theorem subFrom_inside_last (amp : Bool) (cs : Str) (hcs : '.' ∉ cs) :
    subdomainSubFrom amp cs false 0 = cs := by
  induction cs with
  | nil => simp [subdomainSubFrom]
  | cons c cs ih =>
    have hc : c ≠ '.' := fun e => hcs (by simp [e])
    have hcs' : '.' ∉ cs := fun e => hcs (by simp [e])
    simp only [subdomainSubFrom, Bool.false_eq_true, if_false]
    have : (c == '.') = false := by simpa using hc
    rw [this, ih hcs']

/-- a label followed by a dot, at a label boundary -/
theorem subFrom_label (amp : Bool) (lab rest : Str) (hl : '.' ∉ lab) :
    subdomainSubFrom amp (lab ++ '.' :: rest) true 0 =
      if isIrrLabel amp lab then subdomainSubFrom amp rest true 0
      else lab ++ '.' :: subdomainSubFrom amp rest true 0 := by
  cases lab with
  | nil =>
    have h := irrelevantLabelHere_label amp [] rest (by simp)
    have hirr : isIrrLabel amp [] = false := by cases amp <;> decide +kernel
    simp only [List.nil_append, hirr, Bool.false_eq_true, if_false] at h ⊢
    simp [subdomainSubFrom, h]
  | cons c cs =>
    have hc : c ≠ '.' := fun e => hl (by simp [e])
    have hcs : '.' ∉ cs := fun e => hl (by simp [e])
    have h := irrelevantLabelHere_label amp (c :: cs) rest hl
    simp only [List.cons_append] at h ⊢
    simp only [subdomainSubFrom, if_true, h]
    by_cases hirr : isIrrLabel amp (c :: cs) = true
    · simp only [hirr, if_true]
      have hlen : (c :: (cs ++ '.' :: rest)).length - rest.length - 1 = (cs ++ ['.']).length := by
        simp; omega
      rw [hlen]
      have := subFrom_skip amp (cs ++ ['.']) rest (c == '.') (by simp)
      simpa using this
    · have hirr' : isIrrLabel amp (c :: cs) = false := by simpa using hirr
      simp only [hirr', Bool.false_eq_true, if_false]
      have : (c == '.') = false := by simpa using hc
      rw [this, subFrom_inside amp cs rest hcs]

/-- the last label -/
theorem subFrom_last (amp : Bool) (lab : Str) (hl : '.' ∉ lab) :
    subdomainSubFrom amp lab true 0 = lab := by
  cases lab with
  | nil => simp [subdomainSubFrom]
  | cons c cs =>
    have hc : c ≠ '.' := fun e => hl (by simp [e])
    have hcs : '.' ∉ cs := fun e => hl (by simp [e])
    simp only [subdomainSubFrom, if_true, irrelevantLabelHere_nodot amp (c :: cs) hl]
    have : (c == '.') = false := by simpa using hc
    rw [this, subFrom_inside_last amp cs hcs]

/-- labels that survive: every label but the last is dropped iff it is irrelevant -/
def keepLabels (amp : Bool) : List Str → List Str
  | [] => []
  | [l] => [l]
  | l :: l' :: ls => if isIrrLabel amp l then keepLabels amp (l' :: ls) else l :: keepLabels amp (l' :: ls)

theorem keepLabels_ne_nil (amp : Bool) (ls : List Str) (h : ls ≠ []) : keepLabels amp ls ≠ [] := by
  induction ls with
  | nil => exact absurd rfl h
  | cons l ls ih =>
    cases ls with
    | nil => simp [keepLabels]
    | cons l' ls' =>
      simp only [keepLabels]
      split
      · exact ih (by simp)
      · simp

theorem join_dot_cons (l : Str) (ls : List Str) (h : ls ≠ []) :
    join ['.'] (l :: ls) = l ++ '.' :: join ['.'] ls := by
  simp [join_cons_of_ne_nil _ _ _ h]

/-- **`IRRELEVANT_SUBDOMAIN(_AMP)_RE.sub("", host)` on the label list** -/
theorem subdomainSub_join (amp : Bool) (ls : List Str) (hne : ls ≠ []) (hd : ∀ l ∈ ls, '.' ∉ l) :
    subdomainSub amp (join ['.'] ls) = join ['.'] (keepLabels amp ls) := by
  unfold subdomainSub
  induction ls with
  | nil => exact absurd rfl hne
  | cons l ls ih =>
    cases ls with
    | nil => simpa [join, keepLabels] using subFrom_last amp l (hd l (by simp))
    | cons l' ls' =>
      rw [join_dot_cons l _ (by simp), subFrom_label amp l _ (hd l (by simp)),
        ih (by simp) (fun x hx => hd x (List.mem_cons_of_mem _ hx))]
      simp only [keepLabels]
      split
      · rfl
      · rw [join_dot_cons l _ (keepLabels_ne_nil amp _ (by simp))]

/-- an irrelevant label in front of a dot, at any label position, does not change what survives -/
theorem keepLabels_insert (amp : Bool) (L1 L2 : List Str) (lab : Str) (h2 : L2 ≠ [])
    (hlab : isIrrLabel amp lab = true) :
    keepLabels amp (L1 ++ lab :: L2) = keepLabels amp (L1 ++ L2) := by
  induction L1 with
  | nil =>
    cases L2 with
    | nil => exact absurd rfl h2
    | cons l ls => simp [keepLabels, hlab]
  | cons x xs ih =>
    cases xs with
    | nil =>
      cases L2 with
      | nil => exact absurd rfl h2
      | cons l ls =>
        simp only [List.cons_append, List.nil_append, keepLabels] at ih ⊢
        rw [ih]
    | cons y ys =>
      simp only [List.cons_append, keepLabels] at ih ⊢
      rw [ih]

/-! ## the hostname steps after decoding -/

/-- lines 395–400, 412–420 on the decoded, lower-cased hostname -/
def hostTail (puny : Str → Str) (o : Opts) (c : Str) : Str :=
  let c := if o.stripIrrelevantSubdomains then subdomainSub o.normalizeAmp c else c
  if o.normalizeAmp then stripAmpPrefix puny o.stripIrrelevantSubdomains c else c

/-- the hostname after the irrelevant-subdomain step -/
def afterSub (o : Opts) (c : Str) : Str :=
  if o.stripIrrelevantSubdomains then subdomainSub o.normalizeAmp c else c

theorem hostTail_eq (puny : Str → Str) (o : Opts) (c : Str) :
    hostTail puny o c =
      if o.normalizeAmp then stripAmpPrefix puny o.stripIrrelevantSubdomains (afterSub o c) else afterSub o c := rfl

theorem subdomainSub_nil (amp : Bool) : subdomainSub amp [] = [] := by
  simp [subdomainSub, subdomainSubFrom]

theorem subdomainSubFrom_subset (amp : Bool) (s : Str) :
    ∀ (b : Bool) (k : Nat), subdomainSubFrom amp s b k ⊆ s := by
  induction s with
  | nil => intro b k; simp [subdomainSubFrom]
  | cons c cs ih =>
    intro b k
    cases k with
    | succ k =>
      simp only [subdomainSubFrom]
      exact fun x hx => List.mem_cons_of_mem _ (ih _ _ hx)
    | zero =>
      simp only [subdomainSubFrom]
      split
      · exact fun x hx => List.mem_cons_of_mem _ (ih _ _ hx)
      · intro x hx
        rcases List.mem_cons.1 hx with rfl | hx
        · simp
        · exact List.mem_cons_of_mem _ (ih _ _ hx)

theorem subdomainSub_subset (amp : Bool) (h : Str) : subdomainSub amp h ⊆ h :=
  subdomainSubFrom_subset amp h true 0

theorem hostTail_ind {P : Str → Prop} (puny : Str → Str) (o : Opts) (c : Str) (h0 : P c)
    (hsub : ∀ {a b : Str}, b ⊆ a → P a → P b)
    (hdec : ∀ {a : Str}, P a → P (decodePunycodeHostname puny a)) : P (hostTail puny o c) := by
  have h1 : P (afterSub o c) := by
    unfold afterSub
    split
    · exact hsub (subdomainSub_subset _ _) h0
    · exact h0
  rw [hostTail_eq]
  split
  · unfold stripAmpPrefix
    split
    · have h2 := hdec (hsub (List.drop_subset 4 _) h1)
      split
      · exact hsub (subdomainSub_subset _ _) h2
      · exact h2
    · exact h1
  · exact h1

/-- the hostname enters the result only through its decoded, lower-cased form -/
theorem normHost_eq_tail (puny : Str → Str) (o : Opts) (h : Str) :
    normHost puny o h = hostTail puny o (canonHost puny h) := by
  unfold normHost hostTail
  by_cases hh : h = []
  · subst hh
    rw [canonHost_nil]
    simp [subdomainSub_nil, stripAmpPrefix, startsWith, ampDash]
  · have : h.isEmpty = false := by cases h <;> simp_all
    simp only [this, Bool.false_eq_true, if_false]
    show _ = (if o.normalizeAmp = true then _ else _)
    by_cases hc : (lower (decodePunycodeHostname puny h)) = []
    · have e : canonHost puny h = [] := hc
      simp only [canonHost] at e ⊢
      simp [e, hc, subdomainSub_nil]
    · have : (lower (decodePunycodeHostname puny h)).isEmpty = false := by
        cases hx : lower (decodePunycodeHostname puny h) <;> simp_all
      simp [this, canonHost]

theorem mem_keepLabels (amp : Bool) (ls : List Str) (x : Str) (h : x ∈ keepLabels amp ls) : x ∈ ls := by
  induction ls with
  | nil => simp [keepLabels] at h
  | cons l ls ih =>
    cases ls with
    | nil => simpa [keepLabels] using h
    | cons l' ls' =>
      simp only [keepLabels] at h
      split at h
      · exact List.mem_cons_of_mem _ (ih h)
      · rcases List.mem_cons.mp h with h | h
        · rw [h]; simp
        · exact List.mem_cons_of_mem _ (ih h)

/-- the label pass is idempotent -/
theorem keepLabels_idem (amp : Bool) (ls : List Str) : keepLabels amp (keepLabels amp ls) = keepLabels amp ls := by
  induction ls with
  | nil => rfl
  | cons l ls ih =>
    cases ls with
    | nil => rfl
    | cons l' ls' =>
      simp only [keepLabels]
      split
      · exact ih
      · rename_i hl
        cases hk : keepLabels amp (l' :: ls') with
        | nil => exact absurd hk (keepLabels_ne_nil amp _ (by simp))
        | cons a as =>
          rw [hk] at ih
          simp only [keepLabels, hl, if_false]
          rw [ih]
          simp

/-- a second pass over a kept first label and the already filtered rest is one pass over all -/
theorem keepLabels_cons_keep (amp : Bool) (l : Str) (ls : List Str) (h : ls ≠ []) :
    keepLabels amp (l :: keepLabels amp ls) = keepLabels amp (l :: ls) := by
  cases ls with
  | nil => exact absurd rfl h
  | cons l' ls' =>
    cases hk : keepLabels amp (l' :: ls') with
    | nil => exact absurd hk (keepLabels_ne_nil amp _ (by simp))
    | cons a as =>
      have hi := keepLabels_idem amp (l' :: ls')
      rw [hk] at hi
      simp only [keepLabels]
      rw [hi, hk]

/-! ## the scanner as a deletion of labels -/

theorem isIrrelevantLabel_eq (amp : Bool) (l : Str) : isIrrelevantLabel amp l = isIrrLabel amp l := by
  unfold isIrrelevantLabel isIrrLabel wwwOk litOk ciEq
  cases matchLit "www".toList l with
  | none => simp
  | some r => rcases r with _ | ⟨d, _ | ⟨d', r'⟩⟩ <;> simp

/-- every string is a first label followed by the rest, or a single label -/
theorem label_cases (s : Str) : ('.' ∉ s) ∨ ∃ a t, s = a ++ '.' :: t ∧ '.' ∉ a :=
  if h : '.' ∈ s then .inr (List.eq_append_cons_of_mem h) else .inl h

theorem irrelevantLabelHere_spec (amp : Bool) (s r : Str) (h : irrelevantLabelHere amp s = some r) :
    ∃ l, s = l ++ '.' :: r ∧ isIrrelevantLabel amp l = true ∧ '.' ∉ l := by
  rcases label_cases s with hs | ⟨a, t, rfl, ha⟩
  · rw [irrelevantLabelHere_nodot amp s hs] at h
    cases h
  · rw [irrelevantLabelHere_label amp a t ha] at h
    split at h
    · rename_i hi
      cases h
      exact ⟨a, rfl, by rw [isIrrelevantLabel_eq]; exact hi, ha⟩
    · cases h

theorem delSub_keepLabels (amp : Bool) (ls : List Str) :
    DelSub (fun l => isIrrLabel amp l = true) ls (keepLabels amp ls) := by
  induction ls with
  | nil => exact .nil
  | cons l ls ih =>
    cases ls with
    | nil => exact .keep _ .nil
    | cons l' ls' =>
      simp only [keepLabels]
      split
      · rename_i h
        exact .drop l h ih
      · exact .keep l ih

/-- **the subdomain scanner removes whole irrelevant labels only**: the labels of the result
are the labels of the hostname minus some labels of the irrelevant set -/
theorem subdomainSub_labels (amp : Bool) (h : Str) :
    DelSub (fun l => isIrrelevantLabel amp l = true) (splitOn h '.') (splitOn (subdomainSub amp h) '.') := by
  have hd := not_mem_of_mem_splitOn '.' h
  have hne := splitOn_ne_nil h '.'
  have e : subdomainSub amp h = join ['.'] (keepLabels amp (splitOn h '.')) := by
    conv => lhs; rw [← join_splitOn '.' h]
    exact subdomainSub_join amp _ hne hd
  rw [e, splitOn_join '.' _ (keepLabels_ne_nil amp _ hne)
    (fun x hx => hd x (mem_keepLabels amp _ x hx))]
  simp only [isIrrelevantLabel_eq]
  exact delSub_keepLabels amp _

theorem isIrrLabel_ampDash (l : Str) : isIrrLabel true (ampDash ++ l) = false := by
  have h1 : ciMatch 'w' 'a' = false := by decide +kernel
  have h2 : ciMatch 'm' 'a' = false := by decide +kernel
  have h3 : ciMatch 'a' 'a' = true := by decide +kernel
  have h4 : ciMatch 'm' 'm' = true := by decide +kernel
  have h5 : ciMatch 'p' 'p' = true := by decide +kernel
  simp [isIrrLabel, wwwOk, litOk, ampDash, matchLit, h1, h2, h3, h4, h5]

theorem join_ampDash_cons (l : Str) (ls : List Str) :
    join ['.'] ((ampDash ++ l) :: ls) = ampDash ++ join ['.'] (l :: ls) := by
  cases ls with
  | nil => simp [join]
  | cons a b => simp [join]

theorem subdomainSub_ampDash (l : Str) (ls : List Str) (hd : ∀ x ∈ l :: ls, '.' ∉ x) :
    subdomainSub true (ampDash ++ join ['.'] (l :: ls)) =
      ampDash ++ join ['.'] (l :: keepLabels true ls) := by
  have hd2 : ∀ x ∈ (ampDash ++ l) :: ls, '.' ∉ x := by
    intro x hx
    rcases List.mem_cons.1 hx with rfl | hx
    · simp only [List.mem_append, not_or]
      exact ⟨by decide +kernel, hd l (by simp)⟩
    · exact hd x (List.mem_cons_of_mem _ hx)
  rw [← join_ampDash_cons, subdomainSub_join true _ (by simp) hd2, ← join_ampDash_cons]
  cases ls with
  | nil => rfl
  | cons l' ls' =>
    simp only [keepLabels, isIrrLabel_ampDash, Bool.false_eq_true, if_false]

theorem subdomainSub_second_pass (l : Str) (ls : List Str) (hd : ∀ x ∈ l :: ls, '.' ∉ x) :
    subdomainSub true (join ['.'] (l :: keepLabels true ls)) =
      subdomainSub true (join ['.'] (l :: ls)) := by
  have hmem : ∀ x ∈ l :: keepLabels true ls, '.' ∉ x := by
    intro x hx
    rcases List.mem_cons.1 hx with rfl | hx
    · exact hd x (by simp)
    · exact hd x (List.mem_cons_of_mem _ (mem_keepLabels true ls x hx))
  rw [subdomainSub_join true _ (by simp) hmem, subdomainSub_join true _ (by simp) hd]
  cases ls with
  | nil => rfl
  | cons l' ls' => rw [keepLabels_cons_keep true l (l' :: ls') (by simp)]

/-- `decode_punycode_hostname` works label by label: labels that are their own decoding stay -/
theorem decode_join_fixed (puny : Str → Str) (L : List Str) (hne : L ≠ []) (hd : ∀ x ∈ L, '.' ∉ x)
    (hdec : ∀ x ∈ L, decodePunycodeHostname puny x = x) :
    decodePunycodeHostname puny (join ['.'] L) = join ['.'] L := by
  unfold decodePunycodeHostname at hdec ⊢
  rw [splitOn_join '.' L hne hd]
  congr 1
  refine (List.map_congr_left fun x hx => ?_).trans (List.map_id _)
  have h := hdec x hx
  rw [splitOn_of_not_mem '.' x (hd x hx)] at h
  exact h

/-- the decoded, lower-cased hostname of `".".join(labels)` -/
theorem canonHost_join (puny : Str → Str) (H : List Str) (hne : H ≠ []) (hd : ∀ l ∈ H, '.' ∉ l) :
    canonHost puny (join ['.'] H) = join ['.'] (H.map (canonLabel puny)) := by
  rw [canonHost_eq, splitOn_join '.' H hne hd]

/-- **the host rule does not see whether a label is written `xn--…` or as the decoder reads it**:
in a host of dot-free labels `A ++ [L] ++ B`, the label `L` against `canonLabel puny L` — for an
`xn--` label, `lower (puny ("xn--" ++ L.drop 4))`: the Unicode spelling the idna codec gives -/
theorem canonHost_label (puny : Str → Str) (hp : PunyLaws puny) (A B : List Str) (L : Str)
    (hA : ∀ x ∈ A, '.' ∉ x) (hB : ∀ x ∈ B, '.' ∉ x) (hL : '.' ∉ L) :
    canonHost puny (join ['.'] (A ++ canonLabel puny L :: B)) =
      canonHost puny (join ['.'] (A ++ L :: B)) := by
  have hD := dot_not_mem_canonLabel puny hp L hL
  rw [canonHost_join puny _ (by simp)
      (List.forall_mem_append.2 ⟨hA, List.forall_mem_cons.2 ⟨hD, hB⟩⟩),
    canonHost_join puny _ (by simp)
      (List.forall_mem_append.2 ⟨hA, List.forall_mem_cons.2 ⟨hL, hB⟩⟩)]
  simp only [List.map_append, List.map_cons, canonLabel_idem puny hp]

end Ural.Normalize
