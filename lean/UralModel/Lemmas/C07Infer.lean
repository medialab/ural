import UralModel.Lemmas.Redirect
import UralModel.Lemmas.StrLit
/-!
# C07: `infer_redirection` leaves a bare hostname alone

`get_normalized_hostname(h)` runs `infer_redirection` on its argument first (default
`infer_redirection=True`).  On a string without `/`, `:` and `%` — every bare hostname — nothing can
be followed: the redirection domains of `REDIRECTION_DOMAINS_RE` all hold a `/`, and a
`key=value` hint is followed only when its (unquoted) value starts with `http://`, `https://` or
`/`, or when the url holds `youtube.com/redirect?`.
-/

namespace Ural.C07
open Ural Ural.Py Ural.UrlParts

theorem cacheHosts_slash : ∀ h ∈ Gen.cacheHosts, '/' ∈ h.toList := by
  simp only [Gen.cacheHosts, List.forall_mem_cons, toList_lit]
  decide +kernel

theorem inferTarget_none (s : Str) (h1 : '/' ∉ s) (h2 : ':' ∉ s) (h3 : '%' ∉ s) : inferTarget s = none := by
  unfold inferTarget
  rw [domainSplit_none_of_not_mem '/' (by decide) cacheHosts_slash s h1]
  simp only
  cases hr : redirectSearch s with
  | none => rfl
  | some kv =>
    obtain ⟨k, v⟩ := kv
    obtain ⟨_, _, hkv, -⟩ := redirectSearchFrom_spec s k v true hr
    have hv : v ⊆ s := hkv.value_sub
    simp only
    have hu : unquote v = v := by
      unfold unquote
      rw [if_neg]
      intro hc
      exact h3 (hv (by simpa using hc))
    have m1 : ':' ∈ httpsPrefix := by unfold httpsPrefix; simp only [toList_lit]; decide
    have m2 : ':' ∈ httpPrefix := by unfold httpPrefix; simp only [toList_lit]; decide
    have m3 : '/' ∈ "youtube.com/redirect?".toList := by simp only [toList_lit]; decide
    simp only [hintTarget, hu, startsWith_false m1 (fun hm => h2 (hv hm)),
      startsWith_false m2 (fun hm => h2 (hv hm)),
      startsWith_false List.mem_cons_self (fun hm => h1 (hv hm)), contains_false m3 h1,
      Bool.false_and, Bool.false_eq_true, if_false, ite_self]

end Ural.C07
