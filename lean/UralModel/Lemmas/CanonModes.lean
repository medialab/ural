import UralModel.Lemmas.Canonicalize
import UralModel.Lemmas.CanonAuth
/-!
# The quoted and the unquoted mode of `canonicalize_url`, component by component

For a text component `u` with safe unquoter `unq`, the unquoted mode returns `unq u` and the
quoted mode `quote (unq u)`.  A second pass over the result of a first pass:

* first pass unquoted: `unq (unq u) = unq u` (idempotence, `safelyUnquote_idem`) — no hypothesis;
* first pass quoted: `unq (quote (unq u)) = unq u` needs every raw character of `u` to survive
  a quote/unquote cycle (`cleanStr U u`): a raw character that `quote` escapes and that is in
  the component's unsafe set (`:` or `@` in a password, `=` in a query value: the known finding
  KF-C02-1) stays escaped.  The hypothesis is exactly the exclusion of that class.
-/
namespace Ural.Canonicalize
open Ural.Py Ural.UrlParts Ural.Quote

/-- what the second pass's unquoter sees is what the first pass's unquoter produced -/
theorem unquote_requote (U : List UInt8) (hU : (0x25 : UInt8) ∈ U) (hA : AsciiSet U) (q1 : Bool)
    (u : Str) (hcl : q1 = true → cleanStr U u = true) :
    safelyUnquote U (requote q1 (safelyUnquote U) u) = safelyUnquote U u := by
  cases q1 with
  | false => simp only [requote, Bool.false_eq_true, if_false]; exact safelyUnquote_idem U hU hA u
  | true => simp only [requote, if_true]; exact safelyUnquote_quote_unquote U hU hA u (hcl rfl)

theorem requote_modes (U : List UInt8) (hU : (0x25 : UInt8) ∈ U) (hA : AsciiSet U) (q1 q2 : Bool)
    (u : Str) (hcl : q1 = true → cleanStr U u = true) :
    requote q2 (safelyUnquote U) (requote q1 (safelyUnquote U) u) = requote q2 (safelyUnquote U) u := by
  have h := unquote_requote U hU hA q1 u hcl
  unfold requote at h ⊢
  cases q2 <;> simp only [Bool.false_eq_true, if_false, if_true, h]

/-- **mode round trips of an optional text component** (user, password, fragment) -/
theorem canonOpt_modes (U : List UInt8) (hU : (0x25 : UInt8) ∈ U) (hA : AsciiSet U) (q1 q2 : Bool)
    (o : Option Str) (hcl : q1 = true → ∀ u, o = some u → cleanStr U u = true) :
    canonOpt q2 (safelyUnquote U) (canonOpt q1 (safelyUnquote U) o) = canonOpt q2 (safelyUnquote U) o := by
  simp only [canonOpt_eq_map _ (safelyUnquote_nil U), Option.map_map]
  cases o with
  | none => rfl
  | some u => simp [requote_modes U hU hA q1 q2 u (fun e => hcl e u rfl)]

/-- `unquote_requote` for a user name / password: in quoted mode the rule is the one of the
partial (`requote_true_auth`) -/
theorem unquoteAuthItem_requote (q1 : Bool) (u : Str)
    (hcl : q1 = true → cleanStr Gen.Quote.unsafeForAuthItem u = true) :
    unquoteAuthItem (requote q1 unquoteAuthItem u) = unquoteAuthItem u := by
  cases q1
  · simp only [requote, Bool.false_eq_true, if_false, unquoteAuthItem_idem]
  · rw [requote_true_auth]
    simp only [requote, if_true]
    rw [unquoteAuthItem_eq, unquoteAuthItem_eq]
    unfold safelyUnquoteAuthItem
    rw [safelyUnquote_quote_unquote _ unsafeForAuthItem_ok.1 unsafeForAuthItem_ok.2 u (hcl rfl)]

theorem requote_auth_modes (q1 q2 : Bool) (u : Str)
    (hcl : q1 = true → cleanStr Gen.Quote.unsafeForAuthItem u = true) :
    requote q2 unquoteAuthItem (requote q1 unquoteAuthItem u) = requote q2 unquoteAuthItem u := by
  have h := unquoteAuthItem_requote q1 u hcl
  unfold requote at h ⊢
  cases q2 <;> simp only [Bool.false_eq_true, if_false, if_true, h]

/-- a query key / value whose raw characters all survive `safely_quote(…, safe="/+")` followed
by the safe unquoter of query items -/
def cleanItem (s : Str) : Bool := cleanStrBy quoteSafeQ Gen.Quote.unsafeForQueryItem s

/-- `safely_unquote_query_item ∘ safely_quote(…, safe="/+") ∘ safely_unquote_query_item` on a
clean key / value -/
theorem unquote_quoteQueryItem {s : Str} (h : cleanItem s = true) :
    unquoteQueryItem (quoteQueryItem (unquoteQueryItem s)) = unquoteQueryItem s :=
  safelyUnquote_quoteBy_unquote safeSet_quoteSafeQ Gen.Quote.unsafeForQueryItem unsafeForQueryItem_ok.1
    unsafeForQueryItem_ok.2 s h

/-- every key and value of the query is clean -/
def QslClean (x : Str) : Prop :=
  ∀ kv ∈ safeQslIter x, cleanItem kv.1 = true ∧ ∀ v ∈ kv.2, cleanItem v = true

theorem unquote_requoteItem (q1 : Bool) (s : Str) (hcl : q1 = true → cleanItem s = true) :
    unquoteQueryItem (requoteItem q1 s) = unquoteQueryItem s := by
  unfold requoteItem
  cases q1
  · simp only [Bool.false_eq_true, if_false]
    exact safelyUnquote_idem _ unsafeForQueryItem_ok.1 unsafeForQueryItem_ok.2 s
  · simp only [if_true]
    exact unquote_quoteQueryItem (hcl rfl)

theorem requoteItem_modes (q1 q2 : Bool) (s : Str) (hcl : q1 = true → cleanItem s = true) :
    requoteItem q2 (requoteItem q1 s) = requoteItem q2 s := by
  have key := unquote_requoteItem q1 s hcl
  unfold requoteItem at key ⊢
  cases q2 <;> simp only [Bool.false_eq_true, if_false, if_true, key]

/-- the view through which `normalize_url` reads the printed query (`Lemmas/C03.lean`) -/
theorem items_canonQuery (q1 : Bool) (x : Str) (hcl : q1 = true → QslClean x) :
    unquoteQsl (safeQslIter (canonQuery q1 x)) = unquoteQsl (safeQslIter x) := by
  rw [unquoteQsl_eq_map, unquoteQsl_eq_map]
  exact canonQuery_items_view_on unquoteQueryItem q1 x fun kv hkv =>
    ⟨unquote_requoteItem q1 _ fun e => (hcl e kv hkv).1,
      fun v hv => unquote_requoteItem q1 _ fun e => (hcl e kv hkv).2 v hv⟩

/-- **mode round trips of the query** -/
theorem canonQuery_modes (q1 q2 : Bool) (x : Str) (hcl : q1 = true → QslClean x) :
    canonQuery q2 (canonQuery q1 x) = canonQuery q2 x := by
  rw [canonQuery_eq_qmap q1, canonQuery_eq_qmap q2, canonQuery_eq_qmap q2,
    qmap_qmap (itemSafe_requoteItem q1)]
  exact qmap_congr x fun kv hkv =>
    ⟨requoteItem_modes q1 q2 _ fun e => (hcl e kv hkv).1,
      fun v hv => requoteItem_modes q1 q2 _ fun e => (hcl e kv hkv).2 v hv⟩

end Ural.Canonicalize
