import UralModel.Lemmas.FacebookRouter
/-!
Round trip of `ural/facebook.py` (C19): parsing a canonical url is routing its path and query, `urljoin`
puts the builders' references behind the base, and so, record shape by record shape, for a record
satisfying the (decidable) hypothesis of its shape, `.url` is the canonical url and `parse_facebook_url`
reads the same record back from it.
-/
namespace Ural.Facebook
open Ural.Py Ural
open Ural.UrlRoundTrip (queryPart)

/-! ## parsing a canonical url -/

theorem hostname_canonical : pyHostname hostL = hostL := by decide +kernel
theorem domain_accepts_hostL : reSearch Gen.C19Facebook.FACEBOOK_DOMAIN_RE hostL = true := by decide +kernel

theorem isFacebookUrlB_canonical (p' q : Str)
    (hp : ∀ c ∈ '/' :: p', pathChar c = true) (hq : ∀ c ∈ q, queryChar c = true) :
    isFacebookUrlB (BASE ++ ('/' :: p' ++ queryPart q)) = true := by
  unfold isFacebookUrlB
  rw [safe_urlsplit_canonical p' q hp hq]
  simp only [hostnameOf, hostname_canonical]
  have : hostL.isEmpty = false := by decide
  simp only [this, Bool.false_eq_true, if_false]
  exact domain_accepts_hostL

theorem startsWith_https_canonical (rest : Str) : startsWith (BASE ++ rest) (lit "https://") = true := by
  have : lit "https://" = httpsL ++ [':', '/', '/'] := String.toList_ofList
  rw [this, BASE_eq]
  simp [httpsL, startsWith, List.isPrefixOf]

/-! ## the builders' references behind the base, and their parse

The path of every canonical url is `slashed S` for pieces `S` with `piecesOk S` (`/watch/` is `[watch, ""]`). -/

theorem urljoin_base_pieces (S : List Str) (q : Str) (hS : piecesOk S = true) (hq : ∀ c ∈ q, queryChar c = true) :
    urljoin BASE (slashed S ++ queryPart q) = some (BASE ++ (slashed S ++ queryPart q)) := by
  obtain ⟨init, last, rfl, hall, hinit, hsemi⟩ := piecesOk_spec hS
  have hfree : ∀ x ∈ init ++ [last], '/' ∉ x := fun x hx hm => (segChar_spec ((hall x hx).1 _ hm)).1 rfl
  obtain ⟨x, y, hpar, hre0, hdot, hx⟩ := params_of_last (slashed init) last (hfree last (by simp)) hsemi
  have hxs : '/' ∉ x := fun hm => hfree last (by simp) (hx _ hm)
  have hsl : slashed (init ++ [last]) = slashed init ++ '/' :: last := slashed_append_single _ _
  obtain ⟨p', hp', hns⟩ : ∃ p', slashed (init ++ [last]) = '/' :: p' ∧ p'.head? ≠ some '/' := by
    cases init with
    | nil =>
      refine ⟨last ++ [], rfl, fun e => hfree last (by simp) ?_⟩
      rw [List.append_nil] at e
      exact List.mem_of_mem_head? e
    | cons s ss =>
      refine ⟨s ++ slashed (ss ++ [last]), rfl, fun e => hfree s (by simp) ?_⟩
      obtain ⟨c, cs, hs⟩ := List.exists_cons_of_ne_nil (hinit s (by simp)).1
      rw [hs] at e ⊢
      simp only [List.cons_append, List.head?_cons, Option.some.injEq] at e
      simp [e]
  rw [hp']
  refine urljoin_base_abs_params p' q (slashed init ++ '/' :: x) y hns ?_ hq (by rw [← hp', hsl]; exact hpar) ?_ ?_ ?_
  · exact hp' ▸ slashed_pathChar _ fun s hs => (hall s hs).1
  · rw [← hp', hsl, ← hre0]
    by_cases hy : y = [] <;> simp [hy]
  · rcases slashed_head init with h0 | ⟨t, ht⟩
    · rw [h0]; rfl
    · rw [ht]; rfl
  · intro z hz
    rw [← slashed_append_single, slashed_eq_join _ (by simp), splitOn_cons_sep,
      splitOn_join '/' (init ++ [x]) (by simp) (by
        intro w hw
        rcases List.mem_append.mp hw with hw | hw
        · exact hfree w (by simp [hw])
        · rw [List.mem_singleton.mp hw]; exact hxs)] at hz
    simp only [List.mem_cons, List.mem_append, List.not_mem_nil, or_false] at hz
    rcases hz with hz | hz | hz
    · rw [hz]; decide
    · exact (hinit z hz).2
    · rw [hz]; exact hdot

/-- whatever `allow_relative_urls`; the strip and the squeeze leave a printed path alone
(`squeezePath_pieces`) -/
theorem parse_canonical_pieces (S : List Str) (q : Str) (rel : Bool) (hS : piecesOk S = true)
    (hq : ∀ c ∈ q, queryChar c = true) :
    parse_facebook_url (BASE ++ (slashed S ++ queryPart q)) rel = parseSplit ⟨httpsL, hostL, slashed S, q, []⟩ := by
  obtain ⟨init, last, hSe, hall, _, _⟩ := piecesOk_spec hS
  obtain ⟨p', hp'⟩ : ∃ p', slashed S = '/' :: p' := by
    rcases slashed_head S with h | h
    · rw [hSe] at h; cases init <;> simp [slashed] at h
    · exact h
  have hp : ∀ c ∈ '/' :: p', pathChar c = true := hp' ▸ slashed_pathChar _ fun s hs => (hall s hs).1
  have hsq := squeezePath_pieces httpsL hostL q [] hS
  rw [hp'] at hsq ⊢
  rw [parse_facebook_url_eq]
  have hres : resolved (BASE ++ ('/' :: p' ++ queryPart q)) rel = some (BASE ++ ('/' :: p' ++ queryPart q)) := by
    unfold resolved
    simp only [startsWith_https_canonical, Bool.not_true, Bool.and_false, Bool.false_and, Bool.false_eq_true,
      if_false, isFacebookUrlB_canonical p' q hp hq, if_true]
  rw [hres]
  simp only [safe_urlsplit_canonical p' q hp hq, hsq]

/-! ## the round trip -/

theorem noWatch_spec {s : Str} (h : noWatch s = true) : watchL.isPrefixOf s = false := by
  unfold noWatch at h
  rw [lit_watch_word] at h
  simpa [startsWith] using h

/-- what re-parsing the url of `r` gives: the statement of the round trip for `r` -/
def Reparses (r : Parsed) : Prop :=
  ∃ u, r.url = .ok (some u) ∧ ∀ rel, parse_facebook_url u rel = .ok (some r)

theorem queryPart_qsWire (items : List (Str × Str)) (hne : items ≠ []) :
    queryPart (qsWire items) = '?' :: qsWire items := by
  unfold queryPart
  rw [if_pos (qsWire_ne_nil items hne)]

theorem joinBase_pieces (S : List Str) (q : Str) (hS : piecesOk S = true) (hq : ∀ c ∈ q, queryChar c = true) :
    joinBase (slashed S ++ queryPart q) = .ok (some (BASE ++ (slashed S ++ queryPart q))) :=
  joinBase_of_some (urljoin_base_pieces S q hS hq)

theorem lastOk_spec {s : Str} (h : lastOk s = true) : segOk s = true ∧ lastSemiOk s = true := by
  unfold lastOk at h
  simpa using h

/-- no route word starts with `watch`: the test `"/watch" in path` does not fire on them -/
theorem watch_not_prefix :
    watchL.isPrefixOf groupsL = false ∧ watchL.isPrefixOf postsL = false ∧ watchL.isPrefixOf videosL = false ∧
    watchL.isPrefixOf photosL = false ∧ watchL.isPrefixOf permalinkL = false := by decide

theorem segOk_literals :
    segOk videosL = true ∧ segOk photosL = true ∧ segOk postsL = true ∧ segOk groupsL = true ∧
    segOk permalinkL = true := by decide +kernel

theorem reparses_wire (r : Parsed) (S : List Str) (q : Str) (hS : piecesOk S = true) (hq : ∀ c ∈ q, queryChar c = true)
    (hurl : r.url = joinBase (slashed S ++ queryPart q))
    (hparse : parseSplit ⟨httpsL, hostL, slashed S, q, []⟩ = .ok (some r)) : Reparses r :=
  ⟨_, hurl.trans (joinBase_pieces S q hS hq), fun rel => (parse_canonical_pieces S q rel hS hq).trans hparse⟩

theorem reparses_slashed (r : Parsed) (s : Str) (ss : List Str) (hok : ∀ x ∈ s :: ss, segOk x = true)
    (hsemi : lastSemiOk ((s :: ss).getLast (List.cons_ne_nil _ _)) = true)
    (hurl : r.url = joinBase (slashed (s :: ss)))
    (hparse : parseSplit ⟨httpsL, hostL, slashed (s :: ss), [], []⟩ = .ok (some r)) : Reparses r :=
  reparses_wire r (s :: ss) [] (piecesOk_of_segOk (List.cons_ne_nil _ _) hok hsemi) (by simp)
    (by simpa [queryPart] using hurl) hparse

/-! ## `FacebookHandle` -/

theorem reparse_handle (h : Str) (hh : handleOk h = true) : Reparses (.handle h) := by
  unfold handleOk at hh
  simp only [Bool.and_eq_true, Bool.not_eq_true'] at hh
  obtain ⟨⟨⟨hlast, hw⟩, hpe⟩, hphp⟩ := hh
  obtain ⟨hseg, hsemi⟩ := lastOk_spec hlast
  have hok : ∀ x ∈ [h], segOk x = true := by simpa using hseg
  refine reparses_slashed _ h [] hok hsemi (by simp [Parsed.url, slashed]) ?_
  · rw [parseSplit_slashed _ _ _ h [] hok]
    have hpe' : peopleL.isPrefixOf h = false := by rw [lit_people_word] at hpe; simpa [startsWith] using hpe
    have hprof : slashed [h] ≠ '/' :: profilePhpL := by
      intro e
      have : h = profilePhpL := by simpa [slashed] using e
      rw [this, lit_dotphp] at hphp
      exact absurd hphp (by decide)
    simp only [List.any_cons, List.any_nil, noWatch_spec hw, Bool.or_false, Bool.false_eq_true, if_false,
      List.dropLast_singleton, hprof, hpe']
    rw [routeHandle_eq, pathsplit_slashed_cons h [] hok]
    simp only [hphp, Bool.not_false, if_true]

/-! ## `FacebookVideo` with a parent: `/<parent>/videos/<id>` -/

theorem reparse_video_parent (pid id : Str) (hh : videoParentOk pid id = true) :
    Reparses (.video id (some pid)) := by
  unfold videoParentOk at hh
  simp only [Bool.and_eq_true] at hh
  obtain ⟨⟨⟨hp, hil⟩, hwp⟩, hwi⟩ := hh
  obtain ⟨hi, hsemi⟩ := lastOk_spec hil
  have hok : ∀ x ∈ [pid, videosL, id], segOk x = true := by simp [hp, hi, segOk_literals]
  refine reparses_slashed _ _ _ hok hsemi ?_ ?_
  · simp only [Parsed.url]; rw [lit_videos]; simp [slashed]
  · rw [parseSplit_slashed _ _ _ _ _ hok]
    simp only [List.any_cons, List.any_nil, noWatch_spec hwp, noWatch_spec hwi, watch_not_prefix, Bool.or_false,
      Bool.false_eq_true, if_false, List.dropLast_cons_cons, List.dropLast_singleton, decide_true, Bool.or_true,
      if_true]
    rw [routeVideos_eq, pathsplit_slashed_cons _ _ hok]

/-! ## `FacebookPost` of a page: `/<handle>/posts/<id>` -/

theorem reparse_post_parent_handle (ph id : Str) (hh : postHandleOk ph id = true) :
    Reparses (.post id none (some ph) none none) := by
  unfold postHandleOk at hh
  rw [lit_videos_word, lit_photos_word, lit_groups_word] at hh
  simp only [Bool.and_eq_true, Bool.not_eq_true', decide_eq_true_eq] at hh
  obtain ⟨⟨⟨⟨⟨⟨⟨hp, hil⟩, hwp⟩, hwi⟩, hid⟩, hv⟩, hph⟩, hg⟩ := hh
  obtain ⟨hi, hsemi⟩ := lastOk_spec hil
  have hok : ∀ x ∈ [ph, postsL, id], segOk x = true := by simp [hp, hi, segOk_literals]
  refine reparses_slashed _ _ _ hok hsemi ?_ ?_
  · simp only [Parsed.url]; rw [lit_posts]; simp [slashed]
  · rw [parseSplit_slashed _ _ _ _ _ hok]
    simp +decide only [List.any_cons, List.any_nil, noWatch_spec hwp, noWatch_spec hwi, watch_not_prefix, Bool.or_false,
      Bool.false_eq_true, if_false, List.dropLast_cons_cons, List.dropLast_singleton, hv, hph,
      decide_false, decide_true, Bool.or_true, if_true]
    rw [routePosts_eq, pathsplit_slashed_cons _ _ hok, lit_groups_word]
    simp only [hg, if_false, hid, Bool.false_eq_true]

/-! ## `FacebookPost` of a group: `/groups/<group>/permalink/<id>` -/

theorem reparse_post_group (g id : Str) (hh : postGroupOk g id = true) :
    Reparses (if is_facebook_id g then .post id none none (some g) none else .post id none none none (some g)) := by
  unfold postGroupOk at hh
  rw [lit_videos_word, lit_photos_word] at hh
  simp only [Bool.and_eq_true, decide_eq_true_eq] at hh
  obtain ⟨⟨⟨⟨⟨hg, hil⟩, hwg⟩, hwi⟩, hv⟩, hph⟩ := hh
  obtain ⟨hi, hsemi⟩ := lastOk_spec hil
  have hok : ∀ x ∈ [groupsL, g, permalinkL, id], segOk x = true := by simp [hg, hi, segOk_literals]
  refine reparses_slashed _ _ _ hok hsemi ?_ ?_
  · rw [apply_ite Parsed.url]
    simp only [Parsed.url, ite_self]
    rw [lit_groups, lit_permalink]; simp [slashed]
  · rw [parseSplit_slashed _ _ _ _ _ hok]
    simp +decide only [List.any_cons, List.any_nil, noWatch_spec hwg, noWatch_spec hwi, watch_not_prefix,
      Bool.or_false, Bool.false_eq_true, if_false, List.dropLast_cons_cons, List.dropLast_singleton, hv, hph,
      decide_false, decide_true, Bool.false_or, Bool.true_or, if_true]
    by_cases hgp : g = postsL
    · -- `/groups/posts/permalink/<id>` is taken by the posts route, which reads the same record
      simp only [hgp, decide_true, if_true]
      rw [routePosts_eq, pathsplit_slashed_cons _ _ (hgp ▸ hok), lit_groups_word]
      simp only [if_true]
    · simp only [hgp, decide_false, Bool.false_eq_true, if_false]
      rw [routeGroups_eq, pathsplit_slashed_cons _ _ hok, contains_eq_hasInfix, lit_permalink,
        hasInfix_slashed_exact _ permalinkL (by decide) (fun x hx => segOk_not_mem_slash (hok x hx))]
      simp only [List.dropLast_cons_cons, List.dropLast_singleton, List.any_cons, List.any_nil, decide_true,
        Bool.true_or, Bool.or_true, if_true]

/-! ## `FacebookGroup`: `/groups/<group>` -/

theorem joinBase_groups (g : Str) (hg : segOk g = true) (hsemi : lastSemiOk g = true) :
    joinBase (lit "groups/" ++ g) = joinBase (slashed [groupsL, g]) := by
  have hs := segOk_spec hg
  have e : lit "groups/" ++ g = groupsL ++ '/' :: g := by rw [lit_groups_rel]; simp
  have hS : piecesOk [groupsL, g] = true :=
    piecesOk_of_segOk (by simp) (by simp [hg, segOk_literals]) hsemi
  rw [e, joinBase_of_some (urljoin_base_groups g (fun c hc => segChar_pathChar (hs.2.1 c hc)) hsemi
    (segOk_not_mem_slash hg))]
  simpa [slashed, queryPart] using (joinBase_pieces [groupsL, g] [] hS (by simp)).symm

theorem reparse_group (g : Str) (hh : groupOk g = true) :
    Reparses (if is_facebook_id g then .group (some g) none else .group none (some g)) := by
  unfold groupOk at hh
  simp only [Bool.and_eq_true] at hh
  obtain ⟨hgl, hwg⟩ := hh
  obtain ⟨hg, hsemi⟩ := lastOk_spec hgl
  have hok : ∀ x ∈ [groupsL, g], segOk x = true := by simp [hg, segOk_literals]
  refine reparses_slashed _ _ _ hok hsemi ?_ ?_
  · rw [apply_ite Parsed.url]
    simp only [Parsed.url, fmtOpt, Option.getD_some, ite_self]
    exact joinBase_groups g hg hsemi
  · rw [parseSplit_slashed _ _ _ _ _ hok]
    simp +decide only [List.any_cons, List.any_nil, noWatch_spec hwg, watch_not_prefix,
      Bool.or_false, Bool.false_eq_true, if_false, List.dropLast_cons_cons, List.dropLast_singleton,
      decide_true, if_true]
    rw [routeGroups_eq, pathsplit_slashed_cons _ _ hok, contains_eq_hasInfix, lit_permalink,
      hasInfix_slashed_exact _ permalinkL (by decide) (fun x hx => segOk_not_mem_slash (hok x hx))]
    simp +decide only [List.dropLast_cons_cons, List.dropLast_singleton, List.any_cons, List.any_nil, Bool.or_false,
      if_false]

/-! ## `FacebookPhoto` of a page: `/<page>/photos/a.<album>/<id>` -/

theorem segOk_album (aid : Str) (h : aid.all segChar = true) (hl : blankLast aid = false) :
    segOk (aDot ++ aid) = true := by
  unfold segOk
  have h1 : (aDot ++ aid).isEmpty = false := rfl
  have h2 : (aDot ++ aid).all segChar = true := by
    rw [List.all_append, h]; decide
  have h3 : isDotSeg (aDot ++ aid) = false := by
    simp [isDotSeg, aDot]
  have h4 : blankHead (aDot ++ aid) = false := by
    have : isSpace 'a' = false := by decide
    simp [blankHead, aDot, this]
  have h5 : blankLast (aDot ++ aid) = false := by
    cases aid with
    | nil => decide
    | cons c cs =>
      unfold blankLast at hl ⊢
      rw [List.getLast?_append]
      cases hx : (c :: cs).getLast? with
      | none => simp at hx
      | some x => rw [hx] at hl; simpa using hl
  simp [h1, h2, h3, h4, h5]

theorem albumOf_prefixed (aid : Str) : albumOf (aDot ++ aid) = aid := by
  unfold albumOf
  rw [lit_adot]
  have : startsWith (aDot ++ aid) aDot = true := List.isPrefixOf_iff_prefix.mpr ⟨aid, rfl⟩
  simp only [this, if_true]
  rfl

-- the conditions are decided by `rw`: `simp` would normalise the `"None"` of the branch not taken
theorem url_photo_path (p aid id : Str) (hp : p ≠ []) (c : Prop) [Decidable c] :
    (if c then Parsed.photo id none (some p) none (some aid)
      else Parsed.photo id none none (some p) (some aid)).url =
      joinBase ('/' :: p ++ lit "/photos/a." ++ aid ++ '/' :: id) := by
  have htr : truthy (some p) = true := by
    cases p with
    | nil => exact absurd rfl hp
    | cons c cs => rfl
  have h1 : (!truthy none && truthy (some p)) = true := by rw [htr]; rfl
  have h0 : ¬(!truthy none && truthy none) = true := by decide
  split <;> rw [Parsed.url]
  · rw [if_pos h1]; rfl
  · rw [if_neg h0, if_pos h1]; rfl

theorem reparse_photo_path (p aid id : Str) (hh : photoPathOk p aid id = true) :
    Reparses (if is_facebook_id p then .photo id none (some p) none (some aid)
              else .photo id none none (some p) (some aid)) := by
  unfold photoPathOk at hh
  rw [lit_videos_word] at hh
  simp only [Bool.and_eq_true, decide_eq_true_eq, Bool.not_eq_true'] at hh
  obtain ⟨⟨⟨⟨⟨⟨⟨hp, hil⟩, hane⟩, ha⟩, hal⟩, hwp⟩, hwi⟩, hv⟩ := hh
  obtain ⟨hi, hsemi⟩ := lastOk_spec hil
  have hok : ∀ x ∈ [p, photosL, aDot ++ aid, id], segOk x = true := by
    simp [hp, hi, segOk_literals, segOk_album aid ha hal]
  refine reparses_slashed _ _ _ hok hsemi ?_ ?_
  · rw [url_photo_path p aid id (segOk_spec hp).1, lit_photos_a]
    simp [slashed]
  · rw [parseSplit_slashed _ _ _ _ _ hok]
    have w1 : watchL.isPrefixOf (aDot ++ aid) = false := by simp [watchL, aDot, List.isPrefixOf]
    have e2 : decide (aDot ++ aid = videosL) = false := by simp [aDot, videosL]
    simp +decide only [List.any_cons, List.any_nil, noWatch_spec hwp, noWatch_spec hwi, watch_not_prefix, w1,
      Bool.or_false, Bool.false_eq_true, if_false, List.dropLast_cons_cons, List.dropLast_singleton, hv,
      e2, decide_false, decide_true, Bool.true_or, Bool.or_true, if_true]
    rw [routePhotos_eq, pathsplit_slashed_cons _ _ hok]
    simp only [albumOf_prefixed, hane, Bool.false_eq_true, if_false]

/-! ## urls with a query -/

theorem qkeyOk_keys :
    qkeyOk vK = true ∧ qkeyOk idK = true ∧ qkeyOk storyK = true ∧ qkeyOk fbidK = true ∧ qkeyOk setK = true := by
  decide +kernel

/-- `FacebookUser`: `/profile.php?id=<id>` -/
theorem reparse_user (id : Str) (hh : qvalOk id = true) : Reparses (.user id none) := by
  have hitems : ∀ kv ∈ [(idK, id)], itemOk kv = true := by simp [itemOk, qkeyOk_keys, hh]
  refine reparses_wire _ [profilePhpL] (qsWire [(idK, id)]) (by decide +kernel) (qsWire_queryChar _ hitems) ?_ ?_
  · simp only [Parsed.url]; rw [lit_profile_q]; simp [qsWire, join, wireItem, slashed, queryPart, idK]
  · show parseSplit ⟨_, _, '/' :: profilePhpL, _, _⟩ = _
    rw [parseSplit_profile_php, routeProfile_eq, safe_parse_qs_qsWire _ (by simp) hitems, lit_id]
    rfl

/-- `FacebookVideo` without parent: `/watch/?v=<id>` -/
theorem reparse_video (id : Str) (hh : qvalOk id = true) : Reparses (.video id none) := by
  have hitems : ∀ kv ∈ [(vK, id)], itemOk kv = true := by simp [itemOk, qkeyOk_keys, hh]
  refine reparses_wire _ [watchL, []] (qsWire [(vK, id)]) (by decide +kernel) (qsWire_queryChar _ hitems) ?_ ?_
  · simp only [Parsed.url]; rw [lit_watch_q]; simp [qsWire, join, wireItem, slashed, queryPart, vK]
  · show parseSplit ⟨_, _, '/' :: (watchL ++ ['/']), _, _⟩ = _
    rw [parseSplit_watch, routeWatch_eq, safe_parse_qs_qsWire _ (by simp) hitems, lit_v]
    rfl

/-- `FacebookPost` of a page known by its id: `/permalink.php?story_fbid=<id>&id=<page>` -/
theorem reparse_post_parent_id (pid id : Str) (hp : qvalOk pid = true) (hi : qvalOk id = true) :
    Reparses (.post id (some pid) none none none) := by
  have hitems : ∀ kv ∈ [(storyK, id), (idK, pid)], itemOk kv = true := by simp [itemOk, qkeyOk_keys, hp, hi]
  refine reparses_wire _ [permalinkPhpL] (qsWire [(storyK, id), (idK, pid)]) (by decide +kernel)
    (qsWire_queryChar _ hitems) ?_ ?_
  · simp only [Parsed.url]; rw [lit_permalink_q, lit_and_id]
    simp [qsWire, join, wireItem, slashed, queryPart, storyK]
  · show parseSplit ⟨_, _, '/' :: permalinkPhpL, _, _⟩ = _
    rw [parseSplit_permalink_php _ _ _ _ (qsWire_ne_nil _ (by simp)), routePermalink_eq,
      safe_parse_qs_qsWire _ (by simp) hitems, lit_id, lit_story]
    rfl

/-! ## `FacebookPhoto` by its id: `/photo.php?fbid=<id>[&set=g.<group>][&set=a.<album>]` -/

def photoItems (id : Str) (gid aid : Option Str) : List (Str × Str) :=
  (fbidK, id) :: ((gid.map fun g => (setK, gDot ++ g)).toList ++ (aid.map fun a => (setK, aDot ++ a)).toList)

theorem qvalOk_prefixed (pre s : Str) (hpre : pre.all qvalChar = true) (hpct : '%' ∉ pre) (h : qvalOk s = true) :
    qvalOk (pre ++ s) = true := by
  have hs := qvalOk_spec h
  have hesc : hasEscape (pre ++ s) = false := by
    rw [hasEscape_append_of_no_pct pre s hpct]; exact qvalOk_noEscape h
  unfold qvalOk
  have : (pre ++ s).isEmpty = false := by
    cases pre with
    | nil => cases hx : s with
      | nil => exact absurd hx hs.1
      | cons c cs => rfl
    | cons c cs => rfl
  simp only [this, Bool.not_false, Bool.true_and, List.all_append, hpre, hesc, Bool.and_true]
  exact List.all_eq_true.mpr hs.2

theorem truthy_of_qvalOk {s : Str} (h : qvalOk s = true) : truthy (some s) = true := by
  have := (qvalOk_spec h).1
  cases hx : s with
  | nil => exact absurd hx this
  | cons c cs => rfl

theorem setId_nil (p : Str) : setId [] p = .ok none := rfl

theorem setId_hit (p x : Str) (rest : List Str) (hx : (p ++ x).isEmpty = false) (hxne : x.isEmpty = false) :
    setId ((p ++ x) :: rest) p = .ok (some x) := by
  unfold setId firstWithPrefix
  have : startsWith (p ++ x) p = true := List.isPrefixOf_iff_prefix.mpr ⟨x, rfl⟩
  simp only [List.find?_cons, this, hx, Bool.false_eq_true, if_false, splitStr1_prefix]
  show Except.ok (orNone x) = _
  simp [orNone, hxne]

theorem setId_skip (p y : Str) (rest : List Str) (hy : startsWith y p = false) :
    setId (y :: rest) p = setId rest p := by
  unfold setId firstWithPrefix
  simp only [List.find?_cons, hy]

theorem isEmpty_of_qvalOk {x : Str} (hx : qvalOk x = true) : x.isEmpty = false := by
  cases x with
  | nil => exact absurd rfl (qvalOk_spec hx).1
  | cons c cs => rfl

theorem photoItems_read (id : Str) (gid aid : Option Str) (hg : optQvalOk gid = true) (ha : optQvalOk aid = true) :
    qsValues (photoItems id gid aid) fbidK = [id] ∧ photoSets (photoItems id gid aid) = .ok (gid, aid) := by
  unfold photoSets
  rw [lit_set, lit_gdot, lit_adot]
  have hag : ∀ a : Str, startsWith (aDot ++ a) gDot = false := by
    intro a; simp [aDot, gDot, startsWith, List.isPrefixOf]
  have hga : ∀ g : Str, startsWith (gDot ++ g) aDot = false := by
    intro g; simp [aDot, gDot, startsWith, List.isPrefixOf]
  have hge : ∀ g : Str, (gDot ++ g).isEmpty = false := fun _ => rfl
  have hae : ∀ a : Str, (aDot ++ a).isEmpty = false := fun _ => rfl
  have k1 : (setK = fbidK) = False := by simp [setK, fbidK]
  have k2 : (fbidK = setK) = False := by simp [setK, fbidK]
  cases gid with
  | none =>
    cases aid with
    | none =>
      simp [photoItems, qsHas, qsValues, pure, Except.pure, k2]
    | some a =>
      simp [photoItems, qsItem, qsHas, qsValues, bind, Except.bind, pure, Except.pure, k1, k2,
        setId_skip _ _ _ (hag a), setId_nil, setId_hit aDot a [] (hae a) (isEmpty_of_qvalOk ha)]
  | some g =>
    cases aid with
    | none =>
      simp [photoItems, qsItem, qsHas, qsValues, bind, Except.bind, pure, Except.pure, k1, k2,
        setId_skip _ _ _ (hga g), setId_nil, setId_hit gDot g [] (hge g) (isEmpty_of_qvalOk hg)]
    | some a =>
      simp [photoItems, qsItem, qsHas, qsValues, bind, Except.bind, pure, Except.pure, k1, k2,
        setId_skip _ _ _ (hga g), setId_hit aDot a [] (hae a) (isEmpty_of_qvalOk ha),
        setId_hit gDot g [aDot ++ a] (hge g) (isEmpty_of_qvalOk hg)]

theorem reparse_photo_query (id : Str) (gid aid : Option Str) (hh : photoQueryOk id gid aid = true) :
    Reparses (.photo id gid none none aid) := by
  unfold photoQueryOk at hh
  simp only [Bool.and_eq_true] at hh
  obtain ⟨⟨hi, hg⟩, ha⟩ := hh
  have hfn : truthy none = false := rfl
  have hitems : ∀ kv ∈ photoItems id gid aid, itemOk kv = true := by
    intro kv hkv
    unfold photoItems at hkv
    simp only [List.mem_cons, List.mem_append, Option.mem_toList, Option.map_eq_some_iff] at hkv
    rcases hkv with hkv | ⟨g, hg', hkv⟩ | ⟨a, ha', hkv⟩
    · rw [hkv]; simp [itemOk, qkeyOk_keys, hi]
    · rw [← hkv]
      rw [hg'] at hg
      simp [itemOk, qkeyOk_keys, qvalOk_prefixed gDot g (by decide +kernel) (by decide +kernel) hg]
    · rw [← hkv]
      rw [ha'] at ha
      simp [itemOk, qkeyOk_keys, qvalOk_prefixed aDot a (by decide +kernel) (by decide +kernel) ha]
  have hne : photoItems id gid aid ≠ [] := by simp [photoItems]
  refine reparses_wire _ [photoPhpL] (qsWire (photoItems id gid aid)) (by decide +kernel) (qsWire_queryChar _ hitems) ?_ ?_
  · rw [queryPart_qsWire _ hne]
    simp only [Parsed.url, hfn, Bool.and_false, Bool.false_eq_true, if_false, photoQueryPath]
    rw [lit_photo_q, lit_set_g, lit_set_a]
    cases gid with
    | none =>
      cases aid with
      | none => simp [hfn, photoItems, qsWire, join, wireItem, slashed]
      | some a => simp [hfn, truthy_of_qvalOk ha, photoItems, qsWire, join, wireItem, fmtOpt, slashed]
    | some g =>
      cases aid with
      | none => simp [hfn, truthy_of_qvalOk hg, photoItems, qsWire, join, wireItem, fmtOpt, slashed]
      | some a =>
        simp [truthy_of_qvalOk hg, truthy_of_qvalOk ha, photoItems, qsWire, join, wireItem, fmtOpt, slashed]
  · obtain ⟨hid, hsets⟩ := photoItems_read id gid aid hg ha
    rw [← safe_parse_qs_qsWire _ hne hitems] at hid hsets
    show parseSplit ⟨_, _, '/' :: photoPhpL, _, _⟩ = _
    rw [parseSplit_photo_php _ _ _ _ (qsWire_ne_nil _ hne), routePhotoQuery_eq _ _ hsets, lit_fbid, hid]

end Ural.Facebook
