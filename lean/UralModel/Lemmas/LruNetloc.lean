import UralModel.Model.LruSpec
import UralModel.Lemmas.Split
import UralModel.Lemmas.Netloc
/-!
# The netloc: grammar (`specHostPort`) vs stems.py's splitting (`PORT_SPLITTER`, `@`, `:`)

`Grammar n ui host op`: `n` is `[ui@]host[:op]` in the grammar of the specification.  The readers
of stems.py, of the specification and of CPython are each computed on such a netloc by one lemma
(here and in `Lemmas/LruHostname.lean`); `grammar_of_wf` gives it for a netloc of `wfNetloc`.
-/
namespace Ural.Lru
open Ural Ural.Py

theorem noneOf_iff {cs : List Char} {s : Str} : noneOf cs s = true ↔ ∀ c ∈ s, c ∉ cs := by
  simp [noneOf, List.all_eq_true]

/-- no character of the string is a bracket or a colon -/
def Plain (s : Str) : Prop := ∀ c ∈ s, c ≠ ':' ∧ c ≠ '[' ∧ c ≠ ']'

/-- no bracket -/
def NoBracket (s : Str) : Prop := ∀ c ∈ s, c ≠ '[' ∧ c ≠ ']'

/-- a host of the grammar: `[inner]` without inner bracket, or a name without `:[]` -/
def HostShape (host : Str) : Prop :=
  (∃ inner, host = '[' :: inner ++ [']'] ∧ NoBracket inner) ∨ Plain host

theorem plain_of_noneOf {s : Str} (h : noneOf [':', '[', ']'] s = true) : Plain s := by
  intro c hc
  have := noneOf_iff.mp h c hc
  simp only [List.mem_cons, List.not_mem_nil, or_false, not_or] at this
  exact this

theorem noneOf_of_plain {s : Str} (h : Plain s) : noneOf [':', '[', ']'] s = true := by
  apply noneOf_iff.mpr
  intro c hc
  have := h c hc
  simp only [List.mem_cons, List.not_mem_nil, or_false, not_or]
  exact this

theorem plain_lower {s : Str} (h : Plain s) : Plain (lower s) := by
  intro c hc
  exact ⟨fun e => (h _ (mem_of_mem_lower (by decide) (e ▸ hc))).1 rfl,
    fun e => (h _ (mem_of_mem_lower (by decide) (e ▸ hc))).2.1 rfl,
    fun e => (h _ (mem_of_mem_lower (by decide) (e ▸ hc))).2.2 rfl⟩

theorem hostShape_of_hostOK {host : Str} (h : hostOK host = true) : HostShape host := by
  unfold hostOK at h
  split at h
  · next r =>
    simp only [Bool.and_eq_true, beq_iff_eq] at h
    left
    refine ⟨r.dropLast, ?_, ?_⟩
    · have hr : r ≠ [] := by intro e; simp [e] at h
      have hl : r.getLast hr = ']' := by
        have := h.1
        rw [List.getLast?_eq_some_getLast hr] at this
        simpa using this
      have := List.dropLast_concat_getLast hr
      rw [hl] at this
      rw [List.cons_append, this]
    · intro c hc
      have := noneOf_iff.mp h.2 c hc
      simp only [List.mem_cons, List.not_mem_nil, or_false, not_or] at this
      exact this
  · right; exact plain_of_noneOf h

theorem hostOK_of_hostShape {host : Str} (h : HostShape host) : hostOK host = true := by
  rcases h with ⟨inner, rfl, hi⟩ | hp
  · simp only [List.cons_append, hostOK, Bool.and_eq_true, beq_iff_eq]
    refine ⟨by simp, ?_⟩
    apply noneOf_iff.mpr
    intro c hc
    simp only [List.dropLast_concat] at hc
    have := hi c hc
    simp only [List.mem_cons, List.not_mem_nil, or_false, not_or]
    exact this
  · unfold hostOK
    split
    · next r => exact absurd rfl (hp '[' (by simp)).2.1
    · exact noneOf_of_plain hp

/-! ## `PORT_SPLITTER` -/

theorem portLookahead_inner (y rest : Str) (hy : NoBracket y) :
    portLookahead (y ++ ']' :: rest) = true := by
  unfold portLookahead
  have : (y ++ ']' :: rest).dropWhile (fun c => c != '[' && c != ']') = ']' :: rest := by
    induction y with
    | nil => simp [List.dropWhile]
    | cons c cs ih =>
      have hc := hy c (by simp)
      simp only [List.cons_append, List.dropWhile]
      have : (c != '[' && c != ']') = true := by simp [hc.1, hc.2]
      rw [this]
      exact ih (fun d hd => hy d (by simp [hd]))
  rw [this]; rfl

theorem portLookahead_plain (s : Str) (hs : NoBracket s) : portLookahead s = false := by
  unfold portLookahead
  have : s.dropWhile (fun c => c != '[' && c != ']') = [] := by
    induction s with
    | nil => rfl
    | cons c cs ih =>
      have hc := hs c (by simp)
      simp only [List.dropWhile]
      have : (c != '[' && c != ']') = true := by simp [hc.1, hc.2]
      rw [this]
      exact ih (fun d hd => hs d (by simp [hd]))
  rw [this]; rfl

abbrev portP : Char → Str → Bool := fun c rest => c == ':' && !portLookahead rest

/-- inside `inner]` (no bracket in `inner`) no `:` separates: the look-ahead finds the `]` -/
theorem portP_inner (inner rest : Str) (hi : NoBracket inner) (x : Str) (c : Char) (y : Str)
    (e : inner ++ [']'] = x ++ c :: y) : portP c (y ++ rest) = false := by
  by_cases hc : c = ':'
  · subst hc
    rcases List.append_eq_append_iff.1 e with ⟨a', _, h2⟩ | ⟨c', h1, h2⟩
    · cases a' with
      | nil => cases h2
      | cons z a' => cases a' <;> simp at h2
    · cases c' with
      | nil => cases h2
      | cons z y' =>
        obtain ⟨rfl, rfl⟩ := List.cons.inj h2
        have hy : NoBracket y' := fun d hd => hi d (by rw [h1]; simp [hd])
        simp [portP, portLookahead_inner y' rest hy]
  · simp [portP, hc]

theorem splitBy_port_plain (s : Str) (hs : Plain s) : splitBy portP s = [s] := by
  apply splitBy_of_never
  intro c hc r
  have := (hs c hc).1
  simp [portP, this]

theorem splitBy_port_tail (port : Str) (hp : Plain port) :
    splitBy portP (':' :: port) = [[], port] := by
  have hl : portLookahead port = false := portLookahead_plain port (fun c hc => (hp c hc).2)
  simp [splitBy, portP, hl, splitBy_port_plain port hp]

/-- **`PORT_SPLITTER` agrees with the grammar**: on `host` and on `host:port` (host bracketed
or plain, port plain) it returns exactly `[host]` / `[host, port]` -/
theorem portSplit_hostShape (host : Str) (hh : HostShape host) :
    portSplit host = [host] ∧
    ∀ port, Plain port → portSplit (host ++ ':' :: port) = [host, port] := by
  unfold portSplit
  rcases hh with ⟨inner, rfl, hi⟩ | hp
  · have h0 : ∀ rest, splitBy portP ('[' :: inner ++ [']'] ++ rest) =
        prependHead ('[' :: inner ++ [']']) (splitBy portP rest) := fun rest =>
      splitBy_prefix _ rest fun x c y e => by
        cases x with
        | nil => obtain ⟨rfl, _⟩ := List.cons.inj e; simp [portP]
        | cons z x => exact portP_inner inner rest hi x c y (List.cons.inj e).2
    constructor
    · have := h0 []
      simpa [splitBy, prependHead] using this
    · intro port hport
      rw [h0, splitBy_port_tail port hport]
      simp [prependHead]
  · constructor
    · exact splitBy_port_plain host hp
    · intro port hport
      rw [splitBy_prefix host _ (fun x c y e => by
        have := (hp c (by simp [e])).1
        simp [this])]
      rw [splitBy_port_tail port hport]
      simp [prependHead]

/-! ## the grammar parser -/

theorem specHostPort_assemble (host : Str) (op : Option Str) (hh : HostShape host) :
    specHostPort (host ++ optPart ':' op) = some (host, op) := by
  rcases hh with ⟨inner, rfl, hi⟩ | hp
  · have hn : ']' ∉ inner := fun h => (hi ']' h).2 rfl
    have e : ('[' :: inner ++ [']'] ++ optPart ':' op) = '[' :: (inner ++ ']' :: optPart ':' op) := by simp
    rw [e]
    simp only [specHostPort, splitAtFirst_append _ hn]
    cases op with
    | none => simp [optPart]
    | some port => simp [optPart]
  · have hc : ':' ∉ host := fun h => (hp ':' h).1 rfl
    have hb : ∀ r, host ++ optPart ':' op ≠ '[' :: r := by
      intro r e
      cases host with
      | nil => cases op <;> simp [optPart] at e
      | cons c cs =>
        simp only [List.cons_append, List.cons.injEq] at e
        exact (hp c (by simp)).2.1 e.1
    unfold specHostPort
    split
    · next r heq => exact absurd heq (hb r)
    · cases op with
      | none => simp [optPart, splitAtFirst_of_not_mem hc]
      | some port => simp [optPart, splitAtFirst_append port hc]

theorem specHostPort_some {hp host : Str} {op : Option Str}
    (e : specHostPort hp = some (host, op)) : hp = host ++ optPart ':' op := by
  unfold specHostPort at e
  split at e
  · next r =>
    cases hs : splitAtFirst ']' r with
    | none => simp [hs] at e
    | some ia =>
      obtain ⟨inner, after⟩ := ia
      have hr := (splitAtFirst_eq_some.mp hs).1
      simp only [hs] at e
      split at e
      · simp only [Option.some.injEq, Prod.mk.injEq] at e
        obtain ⟨rfl, rfl⟩ := e
        simp [optPart, hr]
      · next port =>
        simp only [Option.some.injEq, Prod.mk.injEq] at e
        obtain ⟨rfl, rfl⟩ := e
        simp [optPart, hr]
      · cases e
  · cases hs : splitAtFirst ':' hp with
    | none =>
      simp only [hs, Option.some.injEq, Prod.mk.injEq] at e
      obtain ⟨rfl, rfl⟩ := e
      simp [optPart]
    | some hp' =>
      obtain ⟨h, port⟩ := hp'
      have hr := (splitAtFirst_eq_some.mp hs).1
      simp only [hs, Option.some.injEq, Prod.mk.injEq] at e
      obtain ⟨rfl, rfl⟩ := e
      simp [optPart, hr]

theorem hostportOf_of_specHost {n : Str} (h : specHost n ≠ []) :
    hostportOf n = specHost n ++ optPart ':' (specPort n) := by
  unfold specHost specPort at *
  cases hs : specHostPort (hostportOf n) with
  | none => simp [hs] at h
  | some hp => exact specHostPort_some hs

/-! ## the netloc as the grammar reads it -/

theorem netloc_eq (n : Str) :
    n = Netloc.pre (authOf n) ++ hostportOf n ∧ ∀ u, authOf n = some u → '@' ∉ u := by
  unfold authOf hostportOf
  cases hs : splitAtFirst '@' n with
  | none => exact ⟨rfl, fun u e => by cases e⟩
  | some ab =>
    obtain ⟨h1, h2⟩ := splitAtFirst_eq_some.mp hs
    exact ⟨by simpa [Netloc.pre] using h1, fun u e => by cases e; exact h2⟩

theorem mem_hostportOf {n : Str} {c : Char} (h : c ∈ hostportOf n) : c ∈ n := by
  rw [(netloc_eq n).1]; exact List.mem_append_right _ h

/-- **`n` is `[ui@]host[:op]` in the grammar of the specification**: no `@` but the one after the
userinfo, a host of the grammar, a port without `:[]`.  Every reader of stems.py and of the
specification is read off it (one lemma each, below; CPython's: `Grammar.reads`), a netloc of
`wfNetloc` has it (`grammar_of_wf`), and so has what `lru_to_url` prints (`Grammar.canon`). -/
structure Grammar (n : Str) (ui : Option Str) (host : Str) (op : Option Str) : Prop where
  eq : n = Netloc.pre ui ++ (host ++ optPart ':' op)
  ui_noat : ∀ u, ui = some u → '@' ∉ u
  noat : '@' ∉ host ++ optPart ':' op
  host : HostShape host
  port : ∀ p, op = some p → Plain p

section
variable {n : Str} {ui : Option Str} {host : Str} {op : Option Str} (g : Grammar n ui host op)
include g

theorem Grammar.splitAt :
    splitAtFirst '@' n = ui.map fun u => (u, host ++ optPart ':' op) := by
  rw [g.eq]
  cases ui with
  | none => exact splitAtFirst_of_not_mem g.noat
  | some u =>
    simpa [Netloc.pre] using splitAtFirst_append (host ++ optPart ':' op) (g.ui_noat u rfl)

theorem Grammar.authOf : Lru.authOf n = ui := by
  simp only [Lru.authOf, g.splitAt]; cases ui <;> rfl

theorem Grammar.hostportOf : Lru.hostportOf n = host ++ optPart ':' op := by
  simp only [Lru.hostportOf, g.splitAt]
  cases ui with
  | none => exact g.eq
  | some u => rfl

theorem Grammar.specHostPort : Lru.specHostPort (Lru.hostportOf n) = some (host, op) := by
  rw [g.hostportOf]; exact specHostPort_assemble host op g.host

theorem Grammar.specHost : Lru.specHost n = host := by simp only [Lru.specHost, g.specHostPort]

theorem Grammar.specPort : Lru.specPort n = op := by simp only [Lru.specPort, g.specHostPort]

theorem Grammar.wf : wfNetloc n = true := by
  simp only [wfNetloc, g.specHostPort, Bool.and_eq_true]
  refine ⟨noneOf_iff.mpr fun c hc => ?_, hostOK_of_hostShape g.host, ?_⟩
  · rw [g.hostportOf] at hc
    simp only [List.mem_cons, List.not_mem_nil, or_false]
    rintro rfl; exact g.noat hc
  · cases op with
    | none => rfl
    | some p => exact noneOf_of_plain (g.port p rfl)

theorem Grammar.portSplit : Lru.portSplit (Lru.hostportOf n) = host :: op.toList := by
  rw [g.hostportOf]
  cases op with
  | none => simpa [optPart] using (portSplit_hostShape _ g.host).1
  | some p => simpa [optPart] using (portSplit_hostShape _ g.host).2 p (g.port p rfl)

end

/-- what `wfNetloc` gives -/
theorem grammar_of_wf {n : Str} (h : wfNetloc n = true) :
    Grammar n (authOf n) (specHost n) (specPort n) := by
  unfold wfNetloc at h
  simp only [Bool.and_eq_true] at h
  obtain ⟨h1, h2⟩ := h
  cases hs : specHostPort (hostportOf n) with
  | none => simp [hs] at h2
  | some hp =>
    obtain ⟨host, op⟩ := hp
    simp only [hs, Bool.and_eq_true] at h2
    have e1 : specHost n = host := by simp [specHost, hs]
    have e2 : specPort n = op := by simp [specPort, hs]
    rw [e1, e2]
    exact ⟨specHostPort_some hs ▸ (netloc_eq n).1, (netloc_eq n).2,
      fun hm => by simpa using noneOf_iff.mp h1 '@' (specHostPort_some hs ▸ hm),
      hostShape_of_hostOK h2.1, fun p e => plain_of_noneOf (by subst e; exact h2.2)⟩

/-- on a well-formed netloc `PORT_SPLITTER` returns the host, then the port if there is one -/
theorem portSplit_wf {n : Str} (h : wfNetloc n = true) :
    portSplit (hostportOf n) = specHost n :: (specPort n).toList :=
  (grammar_of_wf h).portSplit

end Ural.Lru
