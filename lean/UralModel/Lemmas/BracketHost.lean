import UralModel.Lemmas.CanonRoundTrip
/-!
# The host rule keeps an ip literal acceptable

`canonicalize_url` prints a bracketed host between brackets again (FX-C01-feb1ed1); the
parser will then run its bracket check (`Py.bracketedHostOk`, the model of
`_check_bracketed_host`) on the *canonical* host — lower-cased by the accessor (`lowerHost`),
its `xn--` labels decoded and the whole lower-cased again (`canonHost`).  This file proves
that the check still passes: `bracketedHostOk h → bracketedHostOk (canonHost puny (lowerHost h))`
(`bracketedHostOk_canon`) for every decoder that brings in no `%` and never decodes a label to
the empty string (`PunyClean`).

* IPvFuture `v<hex>.<more>`: the first label `v<hex>` is not an `xn--` label; what follows the
  dot stays non-empty;
* IPv6 `<addr>[%<zone>]`: `addr` is made of hex digits and colons (no dot, no `x`), so it lies
  inside the first label, which is not an `xn--` label; lower-casing keeps the groups; labels
  can only be decoded inside the zone, which stays non-empty and free of `%`.
-/
set_option linter.unusedSimpArgs false

namespace Ural.BracketHost
open Ural.Py Ural.UrlParts Ural.Quote Ural.Canonicalize Ural.UrlRoundTrip Ural.CanonRoundTrip

/-! ## characters -/

theorem lowerChar_eq_colon (c : Char) : lowerChar c = ':' ↔ c = ':' :=
  lowerChar_eq_iff_of_not_letter (by decide) (by decide)

theorem lowerChar_eq_pct (c : Char) : lowerChar c = '%' ↔ c = '%' :=
  lowerChar_eq_iff_of_not_letter (by decide) (by decide)

/-- a hex digit or a colon is not one of these letters -/
theorem hexColon_ne {c : Char} (h : isHexDigit c = true ∨ c = ':') :
    c ≠ 'x' ∧ c ≠ 'X' ∧ c ≠ 'v' ∧ c ≠ '.' ∧ c ≠ '%' := by
  rcases h with h | rfl
  · rw [isHexDigit_toNat_iff] at h
    refine ⟨?_, ?_, ?_, ?_, ?_⟩ <;> rintro rfl <;> revert h <;> decide
  · decide

theorem colons_prefix_lower (s : Str) :
    [':', ':'].isPrefixOf (lower s) = [':', ':'].isPrefixOf s :=
  isPrefixOf_lower _ (by intro c hc d; simp at hc; subst hc; exact lowerChar_eq_colon d) s

theorem find_colons_lower (s : Str) : find (lower s) [':', ':'] = find s [':', ':'] := by
  unfold find
  rw [length_lower]
  exact find_go_congr _ lower (fun c cs => ⟨lowerChar c, rfl⟩) rfl colons_prefix_lower _ s 0

/-! ## `hexGroups` -/

theorem all_hex_lower (p : Str) : (lower p).all isHexDigit = p.all isHexDigit := by
  simp only [Py.lower, List.all_map]
  congr 1
  funext c
  exact isHexDigit_lowerChar c

theorem hexGroups_lower (s : Str) : hexGroups (lower s) = hexGroups s := by
  unfold hexGroups
  by_cases hs : s = []
  · subst hs; rfl
  · have hs' : lower s ≠ [] := by
      intro h; apply hs
      cases s with
      | nil => rfl
      | cons c cs => simp [Py.lower] at h
    rw [if_neg hs', if_neg hs]
    simp only [splitOn_lower lowerChar_eq_colon, List.all_map, List.length_map]
    have : ((fun p : Str => decide (p ≠ []) && decide (p.length ≤ 4) && p.all isHexDigit) ∘ lower) =
        (fun p : Str => decide (p ≠ []) && decide (p.length ≤ 4) && p.all isHexDigit) := by
      funext p
      simp only [Function.comp, all_hex_lower, length_lower]
      congr 2
      cases p with
      | nil => rfl
      | cons c cs => simp [Py.lower]
    rw [this]

/-- the characters of a string `hexGroups` accepts -/
theorem hexGroups_chars {s : Str} {n : Nat} (h : hexGroups s = some n) :
    ∀ c ∈ s, isHexDigit c = true ∨ c = ':' := by
  unfold hexGroups at h
  by_cases hs : s = []
  · subst hs; simp
  · rw [if_neg hs] at h
    simp only at h
    split at h
    · rename_i hall
      intro c hc
      rw [← join_splitOn ':' s] at hc
      rcases mem_join _ _ hc with h1 | ⟨p, hp, hcp⟩
      · right; simpa using h1
      · left
        have := List.all_eq_true.1 hall p hp
        simp only [Bool.and_eq_true] at this
        exact List.all_eq_true.1 this.2 c hcp
    · cases h

/-! ## the two branches of the bracket check -/

/-- the address part of an IPv6 literal: hex groups with at most one `::` -/
def v6Ok (addr : Str) : Bool :=
  match find addr [':', ':'] with
  | none => hexGroups addr == some 8
  | some i =>
    match hexGroups (addr.take i), hexGroups (addr.drop (i + 2)) with
    | some a, some b => a + b ≤ 7
    | _, _ => false

/-- the optional zone: non-empty, without `%` -/
def zoneOk (z : Option Str) : Bool :=
  match z with
  | none => true
  | some z => z ≠ [] && !z.contains '%'

theorem bracketedHostOk_nonv (h : Str) (hv : h.head? ≠ some 'v') :
    bracketedHostOk h = (zoneOk (splitFirst h '%').2 && v6Ok (splitFirst h '%').1) := by
  unfold bracketedHostOk zoneOk v6Ok
  split
  · rename_i rest; simp at hv
  · generalize splitFirst h '%' = r
    obtain ⟨a, z⟩ := r
    cases z <;> rfl

theorem bracketedHostOk_v (rest : Str) :
    bracketedHostOk ('v' :: rest) =
      (decide (rest.takeWhile isHexDigit ≠ []) &&
        (match rest.dropWhile isHexDigit with | '.' :: more => decide (more ≠ []) | _ => false)) := by
  simp only [bracketedHostOk]
  rfl

theorem v6Ok_lower (addr : Str) : v6Ok (lower addr) = v6Ok addr := by
  unfold v6Ok
  rw [find_colons_lower]
  cases find addr [':', ':'] with
  | none => simp only [hexGroups_lower]
  | some i => simp only [← lower_take, ← lower_drop, hexGroups_lower]

/-- an accepted address is made of hex digits and colons, and is not empty -/
theorem v6Ok_chars {addr : Str} (h : v6Ok addr = true) :
    (∀ c ∈ addr, isHexDigit c = true ∨ c = ':') ∧ addr ≠ [] := by
  unfold v6Ok at h
  cases hf : find addr [':', ':'] with
  | none =>
    rw [hf] at h
    simp only [beq_iff_eq] at h
    refine ⟨hexGroups_chars h, ?_⟩
    rintro rfl
    simp [hexGroups] at h
  | some i =>
    rw [hf] at h
    simp only at h
    have hpre := find_spec hf
    cases h1 : hexGroups (addr.take i) with
    | none => rw [h1] at h; simp at h
    | some a =>
      cases h2 : hexGroups (addr.drop (i + 2)) with
      | none => rw [h1, h2] at h; simp at h
      | some b =>
        obtain ⟨r, hr⟩ : ∃ r, addr.drop i = ':' :: ':' :: r :=
          (List.isPrefixOf_iff_prefix.1 hpre).imp fun _ e => e.symm
        have hr2 : addr.drop (i + 2) = r := by
          have : addr.drop (i + 2) = (addr.drop i).drop 2 := by rw [List.drop_drop]
          rw [this, hr]; rfl
        have hsplit : addr = addr.take i ++ ':' :: ':' :: r := by
          rw [← hr]; exact (List.take_append_drop i addr).symm
        constructor
        · intro c hc
          rw [hsplit] at hc
          simp only [List.mem_append, List.mem_cons] at hc
          rcases hc with hc | rfl | rfl | hc
          · exact hexGroups_chars h1 c hc
          · exact Or.inr rfl
          · exact Or.inr rfl
          · exact hexGroups_chars h2 c (by rw [hr2]; exact hc)
        · rw [hsplit]; simp

/-! ## the host rule on a string with a label-free prefix -/

theorem lower_eq_nil_iff (x : Str) : lower x = [] ↔ x = [] := lower_eq_nil

/-- a label whose first character is not an `x` is only lower-cased -/
theorem canonLabel_of_head (puny : Str → Str) (c : Char) (r : Str)
    (hx : lowerChar c ≠ 'x') : canonLabel puny (c :: r) = lower (c :: r) := by
  unfold canonLabel
  have : ¬ lower ((c :: r).take 4) = "xn--".toList := by
    intro h
    have e : (c :: r).take 4 = c :: r.take 3 := rfl
    rw [e] at h
    have e2 : lower (c :: r.take 3) = lowerChar c :: lower (r.take 3) := rfl
    rw [e2] at h
    have := (List.cons.inj h).1
    exact hx this
  rw [if_neg this]

theorem canonLabel_ne_nil {puny : Str → Str} (hpc : PunyClean puny) {part : Str} (h : part ≠ []) :
    canonLabel puny part ≠ [] := by
  unfold canonLabel
  rw [Ne, lower_eq_nil_iff]
  split
  · rename_i hh
    apply hpc.nonempty
    rw [hh]; simp
  · exact h

theorem canonHost_ne_nil {puny : Str → Str} (hpc : PunyClean puny) {h : Str} (hh : h ≠ []) :
    canonHost puny h ≠ [] := by
  rw [canonHost_eq]
  have hj := join_splitOn '.' h
  cases hs : splitOn h '.' with
  | nil => exact absurd hs (splitOn_ne_nil h '.')
  | cons x r =>
    cases r with
    | nil =>
      rw [hs] at hj
      simp only [join] at hj
      subst hj
      simpa [join] using canonLabel_ne_nil hpc hh
    | cons y r' => simp [join]

/-- what the host rule makes of the part after a label-free prefix -/
def tailOf (puny : Str → Str) (b : Str) : Str :=
  match splitOn b '.' with
  | [] => []
  | z1 :: zs => join ['.'] (lower z1 :: zs.map (canonLabel puny))

/-- **the host rule leaves a prefix without dot, not starting with an `x`, alone** (but for
the lower-casing) -/
theorem canonHost_prefix (puny : Str → Str) (c : Char) (a b : Str) (hdot : '.' ∉ c :: a)
    (hx : lowerChar c ≠ 'x') :
    canonHost puny (c :: a ++ b) = lower (c :: a) ++ tailOf puny b := by
  rw [canonHost_eq, splitOn_append_left '.' (c :: a) b hdot]
  unfold tailOf
  cases hs : splitOn b '.' with
  | nil => exact absurd hs (splitOn_ne_nil b '.')
  | cons z1 zs =>
    simp only [List.map_cons]
    rw [show c :: a ++ z1 = c :: (a ++ z1) from rfl, canonLabel_of_head puny c (a ++ z1) hx]
    rw [show c :: (a ++ z1) = (c :: a) ++ z1 from rfl, lower_append, join_append_head]

theorem tailOf_nil (puny : Str → Str) : tailOf puny [] = [] := by
  simp [tailOf, splitOn_nil, join, Py.lower]

theorem tailOf_ne_nil (puny : Str → Str) {b : Str} (hb : b ≠ []) : tailOf puny b ≠ [] := by
  unfold tailOf
  have hj := join_splitOn '.' b
  cases hs : splitOn b '.' with
  | nil => exact absurd hs (splitOn_ne_nil b '.')
  | cons z1 zs =>
    cases zs with
    | nil =>
      rw [hs] at hj
      simp only [join] at hj
      subst hj
      simpa [join, lower_eq_nil_iff] using hb
    | cons y r => simp [join]

theorem tailOf_bad {puny : Str → Str} (hpc : PunyClean puny) (b : Str) {c : Char}
    (hb : isPunyBad c = true) (hc : c ∈ tailOf puny b) : c ∈ b := by
  unfold tailOf at hc
  cases hs : splitOn b '.' with
  | nil => exact absurd hs (splitOn_ne_nil b '.')
  | cons z1 zs =>
    rw [hs] at hc
    simp only at hc
    rcases mem_join _ _ hc with h1 | ⟨q, hq, hcq⟩
    · simp only [List.mem_singleton] at h1
      subst h1; exact absurd hb (by decide)
    · simp only [List.mem_cons, List.mem_map] at hq
      rcases hq with rfl | ⟨l, hl, rfl⟩
      · exact piece_subset b '.' z1 (by rw [hs]; simp) (mem_of_mem_lower (punyBad_not_lower hb) hcq)
      · exact piece_subset b '.' l (by rw [hs]; simp [hl]) (canonLabel_bad hpc l hb hcq)

theorem tailOf_dot (puny : Str → Str) (m : Str) :
    tailOf puny ('.' :: m) = '.' :: canonHost puny m := by
  unfold tailOf
  rw [splitOn_cons_sep, canonHost_eq]
  cases hs : splitOn m '.' with
  | nil => exact absurd hs (splitOn_ne_nil m '.')
  | cons p ps => simp [join, Py.lower]

theorem tailOf_cons_pct (puny : Str → Str) (zone : Str) :
    tailOf puny ('%' :: zone) = '%' :: tailOf puny zone := by
  unfold tailOf
  rw [splitOn_cons_ne _ _ _ (by decide)]
  cases hs : splitOn zone '.' with
  | nil => exact absurd hs (splitOn_ne_nil zone '.')
  | cons z1 zs => exact join_append_head ['.'] ['%'] (lower z1) _

/-! ## the accessor's lower-casing -/

theorem lowerHost_ne_nil {x : Str} (hx : x ≠ []) : lowerHost x ≠ [] :=
  mt Netloc.lowerHost_eq_nil.1 hx

/-! ## the theorem -/

theorem hexColon_lower {s : Str} (h : ∀ c ∈ s, isHexDigit c = true ∨ c = ':') :
    ∀ c ∈ lower s, isHexDigit c = true ∨ c = ':' := by
  intro c hc
  simp only [Py.lower, List.mem_map] at hc
  obtain ⟨d, hd, rfl⟩ := hc
  rcases h d hd with h1 | rfl
  · left; rw [isHexDigit_lowerChar]; exact h1
  · right; decide

theorem bracketedHostOk_v_iff (rest : Str) :
    bracketedHostOk ('v' :: rest) = true ↔
      ∃ hex more, rest = hex ++ '.' :: more ∧ hex ≠ [] ∧ (∀ x ∈ hex, isHexDigit x = true) ∧
        more ≠ [] := by
  rw [bracketedHostOk_v]
  constructor
  · intro hok
    simp only [Bool.and_eq_true, decide_eq_true_eq] at hok
    obtain ⟨hhex, hafter⟩ := hok
    have hcat := List.takeWhile_append_dropWhile (p := isHexDigit) (l := rest)
    cases hd : rest.dropWhile isHexDigit with
    | nil => rw [hd] at hafter; simp at hafter
    | cons d more =>
      rw [hd] at hafter hcat
      have hdd : d = '.' := by
        by_cases e : d = '.'
        · exact e
        · exfalso
          revert hafter
          split
          · rename_i heq; exact absurd (List.cons.inj heq).1 e
          · simp
      subst hdd
      exact ⟨_, more, hcat.symm, hhex, fun x hx => mem_takeWhile_pos _ _ x hx, by simpa using hafter⟩
  · rintro ⟨hex, more, rfl, hhex, hall, hmore⟩
    rw [takeWhile_append_stop _ _ _ hall (fun x hx => by simp at hx; subst hx; decide),
      dropWhile_append_stop _ _ _ hall (fun x hx => by simp at hx; subst hx; decide)]
    simp [hhex, hmore]

theorem bracketedHostOk_canon_future {puny : Str → Str} (hpc : PunyClean puny) (rest : Str)
    (hok : bracketedHostOk ('v' :: rest) = true) :
    bracketedHostOk (canonHost puny (lowerHost ('v' :: rest))) = true := by
  obtain ⟨hex, more, rfl, hhex, hallhex, hmore⟩ := (bracketedHostOk_v_iff rest).1 hok
  have hpct : '%' ∉ 'v' :: hex ++ ['.'] := by
    intro hm
    simp only [List.cons_append, List.mem_cons, List.mem_append, List.not_mem_nil, or_false] at hm
    rcases hm with hm | hm | hm
    · cases hm
    · have := hallhex _ hm; revert this; decide
    · cases hm
  have e1 : 'v' :: (hex ++ '.' :: more) = ('v' :: hex ++ ['.']) ++ more := by simp
  have hL : lowerHost ('v' :: (hex ++ '.' :: more)) = 'v' :: lower hex ++ '.' :: lowerHost more := by
    rw [e1, Netloc.lowerHost_append _ _ hpct]
    simp [Py.lower, lowerChar]
  rw [hL]
  have hdot : '.' ∉ 'v' :: lower hex := by
    intro hm
    simp only [List.mem_cons] at hm
    rcases hm with hm | hm
    · cases hm
    · have := dot_mem_lower.1 hm
      have := hallhex _ this; revert this; decide
  have e2 : 'v' :: lower hex ++ '.' :: lowerHost more = 'v' :: lower hex ++ ('.' :: lowerHost more) := rfl
  rw [e2, canonHost_prefix puny 'v' (lower hex) _ hdot (by decide), tailOf_dot]
  have e3 : lower ('v' :: lower hex) = 'v' :: lower hex := by
    show lowerChar 'v' :: lower (lower hex) = _
    rw [lower_idem]; rfl
  rw [e3]
  refine (bracketedHostOk_v_iff _).2 ⟨lower hex, _, rfl, ?_, ?_,
    canonHost_ne_nil hpc (lowerHost_ne_nil hmore)⟩
  · rw [Ne, lower_eq_nil_iff]; exact hhex
  · intro x hx
    simp only [Py.lower, List.mem_map] at hx
    obtain ⟨y, hy, rfl⟩ := hx
    rw [isHexDigit_lowerChar]; exact hallhex y hy

theorem bracketedHostOk_canon_v6 {puny : Str → Str} (hpc : PunyClean puny) (h0 : Str)
    (hv : h0.head? ≠ some 'v') (hok : bracketedHostOk h0 = true) :
    bracketedHostOk (canonHost puny (lowerHost h0)) = true := by
  rw [bracketedHostOk_nonv h0 hv] at hok
  rw [Bool.and_eq_true] at hok
  obtain ⟨hz, hv6⟩ := hok
  obtain ⟨hchars, hane⟩ := v6Ok_chars hv6
  have hspec := splitFirst_spec h0 '%'
  generalize haddr : (splitFirst h0 '%').1 = addr at *
  have hlchars := hexColon_lower hchars
  -- the lower-cased address: first character, no dot, no percent sign
  cases hla : lower addr with
  | nil => exact absurd ((lower_eq_nil_iff addr).1 hla) hane
  | cons c a =>
    have hc := hexColon_ne (hlchars c (by rw [hla]; simp))
    have hcx : lowerChar c ≠ 'x' := by
      intro e
      have h1 : isHexDigit (lowerChar c) = true ∨ lowerChar c = ':' := by
        rcases hlchars c (by rw [hla]; simp) with h | h
        · left; rw [isHexDigit_lowerChar]; exact h
        · right; rw [h]; decide
      exact (hexColon_ne h1).1 e
    have hdot : '.' ∉ c :: a := by
      intro hm; exact (hexColon_ne (hlchars _ (by rw [hla]; exact hm))).2.2.2.1 rfl
    have hpct : '%' ∉ c :: a := by
      intro hm; exact (hexColon_ne (hlchars _ (by rw [hla]; exact hm))).2.2.2.2 rfl
    have hlow : lower (c :: a) = c :: a := by rw [← hla, lower_idem]
    have hv6' : v6Ok (c :: a) = true := by rw [← hla, v6Ok_lower]; exact hv6
    -- the accessor keeps the zone part; the host rule only touches it, label by label
    have hL : lowerHost h0 = (c :: a) ++
        (match (splitFirst h0 '%').2 with | some zone => '%' :: zone | none => []) := by
      unfold lowerHost; rw [haddr, hla]
      cases (splitFirst h0 '%').2 <;> rfl
    rw [hL, canonHost_prefix puny c a _ hdot hcx, hlow,
      bracketedHostOk_nonv _ (by simpa using hc.2.2.1)]
    cases hzz : (splitFirst h0 '%').2 with
    | none =>
      simp only [tailOf_nil, List.append_nil]
      rw [splitFirst_notMem _ _ hpct]
      simp [zoneOk, hv6']
    | some zone =>
      rw [hzz] at hz
      simp only [zoneOk, Bool.and_eq_true, decide_eq_true_eq, Bool.not_eq_true'] at hz
      obtain ⟨hzne, hzp⟩ := hz
      have hzp' : '%' ∉ zone := by
        intro hm; rw [contains_true_of_mem hm] at hzp; cases hzp
      simp only [tailOf_cons_pct]
      rw [splitFirst_append_sep _ _ _ hpct]
      have hT1 : tailOf puny zone ≠ [] := tailOf_ne_nil puny hzne
      have hT2 : '%' ∉ tailOf puny zone := fun hm => hzp' (tailOf_bad hpc zone (by decide) hm)
      simp [zoneOk, hv6', hT1, hT2]

/-- **the bracket check survives the host rule**: the text `urlsplit` validated between the
brackets, once lower-cased by `.hostname`, decoded label by label and lower-cased again by
`canonicalize_url`, is still an acceptable ip literal -/
theorem bracketedHostOk_canon {puny : Str → Str} (hpc : PunyClean puny) (h0 : Str)
    (hok : bracketedHostOk h0 = true) :
    bracketedHostOk (canonHost puny (lowerHost h0)) = true := by
  by_cases hv : h0.head? = some 'v'
  · cases h0 with
    | nil => simp at hv
    | cons c rest =>
      simp only [List.head?_cons, Option.some.injEq] at hv
      subst hv
      exact bracketedHostOk_canon_future hpc rest hok
  · exact bracketedHostOk_canon_v6 hpc h0 hv hok

/-- the `hbr` that statements of `Lemmas/CanonIdem.lean` take holds for every accepted parse -/
theorem hbr_holds {puny : Str → Str} (hpc : PunyClean puny) (quoted sf : Bool) {S rest : Str}
    {p : Parsed} (h : FromParse S rest p) (hui : userinfoBrackets p.netloc = false) :
    bracketedHost p.netloc = true →
      bracketedHostOk (strOf (canonComps puny quoted sf p).host) = true := by
  intro hB
  rw [canonComps_host, strOf_hostRule, h.host, strOf_hostname]
  exact bracketedHostOk_canon hpc _ ((hostText_facts h.split.ok hui).2.2 hB)

end Ural.BracketHost
