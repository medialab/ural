import UralModel.Lemmas.Fingerprint
import UralModel.Model.FingerprintUrl
import UralModel.Lemmas.NormBridge
/-!
# C06 — the suffix step: what it asks of `safe_urlsplit(hostname).hostname`, what it keeps

`WalkLaws` is what the theorems assume of `Env.walkHost`: a plain hostname comes back lower-cased.
It is **proved** for the hand model `pyWalkHost`, which is the field of the environment of the
whole-string model (`Model/FingerprintUrl.lean`); that model answers `None` on `""`, a second fact the
theorems take as a hypothesis of its own (`WalkLaws` asks nothing about the empty host).  What
`SuffixTrie.split` keeps is made of labels of the lower-cased host, for every trie (`split_fst_mem`).
-/
namespace Ural.Fingerprint
open Ural Ural.Py Ural.UrlParts Ural.Normalize Ural.SuffixTrie

/-- a character of a plain hostname: no delimiter of the URL or of the authority, no control
character or space, and no `%` (`.hostname` lower-cases only what stands before a `%`, the zone
of a scoped IPv6 address) -/
def plainHostChar (c : Char) : Bool :=
  decide (0x20 < c.toNat) &&
    !(c = '/' || c = '?' || c = '#' || c = '@' || c = ':' || c = '[' || c = ']' || c = '%')

def PlainHost (h : Str) : Prop := h ≠ [] ∧ ∀ c ∈ h, plainHostChar c = true

/-- what the theorems assume of `Env.walkHost` -/
structure WalkLaws (walk : Str → Except Err (Option Str)) : Prop where
  plain : ∀ h, PlainHost h → walk h = .ok (some (lower h))

theorem plain_not_mem {h : Str} (hp : PlainHost h) (d : Char) (hd : plainHostChar d = false) : d ∉ h := by
  intro hm
  rw [hp.2 d hm] at hd
  cases hd

theorem pyHostname_plain {h : Str} (hp : PlainHost h) : pyHostname h = some (lower h) := by
  rw [pyHostname_eq, (Netloc.Reads.bare (plain_not_mem hp '@' (by decide))
      (plain_not_mem hp ':' (by decide)) (plain_not_mem hp '[' (by decide))).hostname,
    if_neg hp.1, Netloc.lowerHost_of_no_pct (plain_not_mem hp '%' (by decide))]

/-- **the hand model of `safe_urlsplit(h).hostname` obeys the law** -/
theorem walkLaws_py : WalkLaws pyWalkHost := by
  refine ⟨fun h hp => ?_⟩
  have hno : ∀ d, plainHostChar d = false → d ∉ h := plain_not_mem hp
  have hproto : protoLen h = none :=
    (protoLen_urlParts _).symm.trans (UrlParts.protoLen_none_of_no_slash h (hno '/' (by decide)))
  have hchar : ∀ c ∈ h, isNetlocDelim c = false ∧ isUnsafeUrlChar c = false := fun c hc => by
    constructor
    · cases hd : isNetlocDelim c with
      | false => rfl
      | true =>
        simp only [isNetlocDelim, Bool.or_eq_true, decide_eq_true_eq] at hd
        rcases hd with (rfl | rfl) | rfl <;> exact absurd hc (hno _ (by decide))
    · exact not_unsafe_of (P := (· ∈ h)) ⟨hno _ (by decide), hno _ (by decide), hno _ (by decide)⟩ hc
  -- `http://` is put in front, and the whole of `h` is read as the authority
  have hs := splitRest_auth_unsafe ['h', 't', 't', 'p'] (nl := h) (tl := []) hchar (fun c hc => by cases hc)
  rw [List.append_nil, netlocOk_of_no_bracket (hno '[' (by decide)) (hno ']' (by decide)), if_pos rfl] at hs
  unfold pyWalkHost
  rw [NormBridge.urlsplit_ensureHttp, safe_urlsplit_of_none hproto, hs]
  exact congrArg Except.ok (pyHostname_plain hp)

theorem stringEnv_walkHost (puny platform : Str → Str) (trie : SNode Str) :
    (stringEnv puny platform trie).walkHost = pyWalkHost := by
  simp only [stringEnv, pyEnv]

theorem stringEnv_isCC (puny platform : Str → Str) (trie : SNode Str) :
    (stringEnv puny platform trie).isCC = isCountry := by
  simp only [stringEnv, pyEnv]

theorem stringEnv_walk (puny platform : Str → Str) (trie : SNode Str) :
    WalkLaws (stringEnv puny platform trie).walkHost := by
  rw [stringEnv_walkHost]
  exact walkLaws_py

theorem pyWalkHost_nil : pyWalkHost [] = .ok none := by decide

theorem stringEnv_walkHost_nil (puny platform : Str → Str) (trie : SNode Str) :
    (stringEnv puny platform trie).walkHost [] = .ok none := by
  rw [stringEnv_walkHost]; exact pyWalkHost_nil

theorem splitOf_fst (parts : List Str) (off : Int) (d s : Str)
    (h : SuffixTrie.splitOf (some (parts, off)) = some (d, s)) :
    d = [] ∨ ∃ k, d = join SuffixTrie.dot (parts.take k) := by
  simp only [SuffixTrie.splitOf] at h
  split at h
  · simp only [Option.some.injEq, Prod.mk.injEq] at h; exact Or.inl h.1.symm
  · simp only [Option.some.injEq, Prod.mk.injEq] at h; exact Or.inr ⟨_, h.1.symm⟩

/-- the domain part `SuffixTrie.split` returns is made of labels of the (lower-cased) host -/
theorem split_fst_mem (t : SNode Str) (hn d s : Str)
    (h : SuffixTrie.split t (some hn) = some (d, s)) : ∀ c ∈ d, c = '.' ∨ c ∈ lower hn := by
  unfold SuffixTrie.split SuffixTrie.walk at h
  simp only at h
  split at h
  · simp [SuffixTrie.splitOf] at h
  · have hparts : ∀ k (c : Char), c ∈ join SuffixTrie.dot ((SuffixTrie.hostParts hn).take k) →
        c = '.' ∨ c ∈ lower hn := by
      intro k c hc
      rcases mem_join _ _ hc with h1 | ⟨p, hp, hcp⟩
      · left; simpa [SuffixTrie.dot] using h1
      · right
        have h2 := CanonRoundTrip.piece_subset _ '.' p (List.mem_of_mem_take hp) hcp
        obtain ⟨tl, htl, _⟩ := rstripChars_decomp (lower hn) ['.']
        rw [htl]; exact List.mem_append_left _ h2
    cases hw : SNode.walkLen SuffixTrie.starStr t (SuffixTrie.hostParts hn).reverse with
    | none => rw [hw] at h; simp [SuffixTrie.splitOf] at h
    | some n =>
      rw [hw] at h
      rcases splitOf_fst _ _ _ _ h with rfl | ⟨k, rfl⟩
      · intro c hc; simp at hc
      · exact hparts k

end Ural.Fingerprint
