import UralModel.Model.LinksFromHtml
/-!
Helper lemmas about the `links_from_html` loop (`Model/LinksFromHtml.lean`): what one
iteration does, and the loop invariant (every yielded link comes from a later href through
`step`, was not seen before, the yielded list has no repetition when `unique`).
-/
namespace Ural.Html
open Ural.Py

variable (E : Env) (cfg : Cfg)

theorem ite_skip_iff {c : Prop} [Decidable c] {r : Step} {l : Str} :
    (if c then Step.skip else r) = .yield l ↔ ¬ c ∧ r = .yield l := by
  split <;> simp [*]

/-- the filter chain of one iteration (links_from_html.py:25-51): the href `h`, resolved to `u`,
comes out as the link `l` -/
structure FilterChain (base h u l : Str) : Prop where
  nonempty : h ≠ []
  follow : shouldFollowHref E h = true
  resolved : resolve E base h = .ok u
  isUrl : E.isUrl u = true
  finished : finish E cfg u = .ok l
  notBase : l ≠ base
  recheck : cfg.canonicalize = true → E.isUrl l = true

theorem step_yield_iff (base h l : Str) :
    step E cfg base h = .yield l ↔ ∃ u, FilterChain E cfg base h u l := by
  have fields : (h ≠ [] ∧ shouldFollowHref E h = true ∧
      ∃ u, resolve E base h = .ok u ∧ E.isUrl u = true ∧ finish E cfg u = .ok l ∧ l ≠ base ∧
        (cfg.canonicalize = true → E.isUrl l = true)) ↔ ∃ u, FilterChain E cfg base h u l :=
    ⟨fun ⟨h1, h2, u, h3, h4, h5, h6, h7⟩ => ⟨u, h1, h2, h3, h4, h5, h6, h7⟩, fun ⟨u, c⟩ =>
      ⟨c.nonempty, c.follow, u, c.resolved, c.isUrl, c.finished, c.notBase, c.recheck⟩⟩
  rw [← fields]
  unfold step
  simp only [ite_skip_iff]
  cases hr : resolve E base h with
  | error e => simp
  | ok u1 =>
    simp only [ite_skip_iff]
    cases hc : finish E cfg u1 with
    | error e => simp [hc]
    | ok u2 =>
      simp only [ite_skip_iff, Step.yield.injEq, Except.ok.injEq, exists_eq_left']
      constructor
      · rintro ⟨h1, h2, h3, h4, h5, rfl⟩
        exact ⟨by simpa using h1, by simpa using h2, by simpa using h3, hc, h5, by simpa using h4⟩
      · rintro ⟨h1, h2, h3, h4, h5, h6⟩
        rw [hc] at h4
        cases h4
        exact ⟨by simpa using h1, by simpa using h2, by simpa using h3, by simpa using h6, h5, rfl⟩

theorem linksLoop_cons_cases (base h : Str) (rest seen : List Str) :
    (linksLoop E cfg base (h :: rest) seen = linksLoop E cfg base rest seen ∧
      (step E cfg base h = .skip ∨ ∃ u, step E cfg base h = .yield u ∧ u ∈ seen)) ∨
    (∃ e, linksLoop E cfg base (h :: rest) seen = ([], some e)) ∨
    (∃ u seen', step E cfg base h = .yield u ∧ (cfg.unique = true → u ∉ seen ∧ seen' = u :: seen) ∧
      (seen' = seen ∨ seen' = u :: seen) ∧
      linksLoop E cfg base (h :: rest) seen =
        (u :: (linksLoop E cfg base rest seen').1, (linksLoop E cfg base rest seen').2)) := by
  cases hs : step E cfg base h with
  | skip => exact Or.inl ⟨by simp only [linksLoop, hs], Or.inl rfl⟩
  | raise e => exact Or.inr (Or.inl ⟨e, by simp only [linksLoop, hs]⟩)
  | «yield» u =>
    cases hu : cfg.unique with
    | true =>
      by_cases hc : seen.contains u = true
      · exact Or.inl ⟨by simp only [linksLoop, hs, hu, hc, ↓reduceIte],
          Or.inr ⟨u, rfl, by simpa using hc⟩⟩
      · exact Or.inr (Or.inr ⟨u, u :: seen, rfl, fun _ => ⟨by simpa using hc, rfl⟩, Or.inr rfl,
          by simp only [linksLoop, hs, hu, hc, Bool.false_eq_true, ↓reduceIte]⟩)
    | false =>
      exact Or.inr (Or.inr ⟨u, seen, rfl, fun h => Bool.noConfusion h, Or.inl rfl,
        by simp only [linksLoop, hs, hu, Bool.false_eq_true, ↓reduceIte]⟩)

/-- loop invariant: the yielded links are the `step`-images of a sub-sequence of the hrefs,
in the same order (`ps` pairs each retained href with the link yielded for it) -/
theorem linksLoop_sublist (base : Str) (hrefs seen : List Str) :
    ∃ ps : List (Str × Str), (ps.map (·.1)).Sublist hrefs ∧
      ps.map (·.2) = (linksLoop E cfg base hrefs seen).1 ∧
      ∀ p ∈ ps, step E cfg base p.1 = .yield p.2 := by
  induction hrefs generalizing seen with
  | nil => exact ⟨[], by simp, by simp [linksLoop], by simp⟩
  | cons h rest ih =>
    rcases linksLoop_cons_cases E cfg base h rest seen with ⟨e, _⟩ | ⟨e, he⟩ | ⟨u, seen', hy, _, _, e⟩
    · obtain ⟨ps, h1, h2, h3⟩ := ih seen
      exact ⟨ps, h1.cons _, by rw [e]; exact h2, h3⟩
    · exact ⟨[], by simp, by simp [he], by simp⟩
    · obtain ⟨ps, h1, h2, h3⟩ := ih seen'
      refine ⟨(h, u) :: ps, by simpa using h1.cons_cons h, by simp [e, h2], ?_⟩
      exact List.forall_mem_cons.mpr ⟨hy, h3⟩

/-- every yielded link is the `step`-image of some href -/
theorem linksLoop_mem (base : Str) (hrefs seen : List Str) (l : Str)
    (hl : l ∈ (linksLoop E cfg base hrefs seen).1) : ∃ h ∈ hrefs, step E cfg base h = .yield l := by
  obtain ⟨ps, hsub, hmap, hall⟩ := linksLoop_sublist E cfg base hrefs seen
  rw [← hmap] at hl
  obtain ⟨p, hp, rfl⟩ := List.mem_map.mp hl
  exact ⟨p.1, hsub.subset (List.mem_map_of_mem hp), hall p hp⟩

/-- with `unique`, nothing already in `seen` is yielded, and nothing is yielded twice -/
theorem linksLoop_unique (hu : cfg.unique = true) (base : Str) (hrefs seen : List Str) :
    (∀ l ∈ (linksLoop E cfg base hrefs seen).1, l ∉ seen) ∧
      (linksLoop E cfg base hrefs seen).1.Nodup := by
  induction hrefs generalizing seen with
  | nil => simp [linksLoop]
  | cons h rest ih =>
    rcases linksLoop_cons_cases E cfg base h rest seen with ⟨e, _⟩ | ⟨e, he⟩ | ⟨u, seen', _, hq, _, e⟩
    · rw [e]; exact ih seen
    · simp [he]
    · obtain ⟨hc, rfl⟩ := hq hu
      obtain ⟨h1, h2⟩ := ih (u :: seen)
      rw [e]
      refine ⟨List.forall_mem_cons.mpr ⟨hc, fun l hm hm' => h1 l hm (List.mem_cons_of_mem _ hm')⟩, ?_⟩
      exact List.nodup_cons.mpr ⟨fun hm => h1 u hm (List.mem_cons_self ..), h2⟩

/-- when the generator ends normally, every href that passes the chain has its link in the
output (the filter drops nothing else) -/
theorem linksLoop_complete (base : Str) (hrefs seen : List Str)
    (hok : (linksLoop E cfg base hrefs seen).2 = none) (h l : Str) (hh : h ∈ hrefs)
    (hy : step E cfg base h = .yield l) : l ∈ (linksLoop E cfg base hrefs seen).1 ∨ l ∈ seen := by
  induction hrefs generalizing seen with
  | nil => cases hh
  | cons h0 rest ih =>
    have same : ∀ u, h = h0 → step E cfg base h0 = .yield u → l = u := by
      intro u e hu
      subst e
      rw [hy] at hu
      exact Step.yield.inj hu
    rcases linksLoop_cons_cases E cfg base h0 rest seen with ⟨e, hd⟩ | ⟨e, he⟩ | ⟨u, seen', hu, _, hs', e⟩
    · rw [e] at hok ⊢
      rcases List.mem_cons.mp hh with rfl | hm
      · rcases hd with hs | ⟨u, hu, hmem⟩
        · rw [hs] at hy; cases hy
        · exact Or.inr (same u rfl hu ▸ hmem)
      · exact ih seen hok hm
    · rw [he] at hok; cases hok
    · rw [e] at hok ⊢
      rcases List.mem_cons.mp hh with rfl | hm
      · exact Or.inl (same u rfl hu ▸ List.mem_cons_self ..)
      · rcases ih seen' hok hm with h1 | h1
        · exact Or.inl (List.mem_cons_of_mem _ h1)
        · rcases hs' with rfl | rfl
          · exact Or.inr h1
          · rcases List.mem_cons.mp h1 with rfl | h2
            · exact Or.inl (List.mem_cons_self ..)
            · exact Or.inr h2

end Ural.Html
