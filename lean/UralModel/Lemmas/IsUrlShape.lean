import UralModel.Lemmas.UrlShape
import UralModel.Lemmas.IsUrl
import UralModel.Model.LinksConcrete
/-!
# `is_url` (as `links_from_html` calls it, parser inside the model) on URLs of the shape
# `http(s)://[userinfo@]host[:port][tail]`

* `region`: the decidable class of inputs of the theorem "`canonicalize_url` preserves
  `is_url`": ASCII scheme, no `@` behind the authority;
* `shape_of_isUrl`: an accepted string of the region has the shape, and its host passes the
  TLD test;
* `isUrl_of_shape`: a string of the shape without whitespace, whose host passes the TLD test,
  is accepted.
-/
namespace Ural.UrlPattern
open Ural.Py Ural.Py.Re Ural.Py.Re.Extra Ural.Gen.Patterns Ural.UrlParts Ural.UrlRoundTrip Ural.CanonRoundTrip
open Ural.Html Ural.IsUrl

/-! ## the region -/

def schemeOf (s : Str) : Str := s.takeWhile (· ≠ ':')
def afterScheme (s : Str) : Str := (s.dropWhile (· ≠ ':')).drop 3
def authorityOf (s : Str) : Str := (afterScheme s).takeWhile (fun c => !isNetlocDelim c)
def afterAuthority (s : Str) : Str := (afterScheme s).dropWhile (fun c => !isNetlocDelim c)

/-- the scheme (what precedes the first `:`) is made of ASCII letters, and there is no `@`
behind the authority (what follows `://` up to the first `/`, `?` or `#`) -/
def region (u : Str) : Bool :=
  let s := strip u
  (schemeOf s).all isAsciiAlpha && !(afterAuthority s).contains '@'

/-! ## list helpers -/

theorem cut_colon {x : Str} (h : ':' ∉ x) (y : Str) :
    schemeOf (x ++ ':' :: '/' :: '/' :: y) = x ∧ afterScheme (x ++ ':' :: '/' :: '/' :: y) = y := by
  have hp : ∀ c ∈ x, decide (c ≠ ':') = true := fun c hc => by
    simp only [ne_eq, decide_eq_true_eq]; rintro rfl; exact h hc
  refine ⟨takeWhile_append_stop _ _ _ hp (by simp), ?_⟩
  unfold afterScheme
  rw [dropWhile_append_stop _ _ _ hp (by simp)]
  rfl

/-! ## `PROTOCOL_RE`, `HTTP_PROTOCOL_RE` on the shape -/

theorem cAscii_mem {c : Char} (h : isAsciiAlpha c = true) : cAsciiLetters.mem c = true := by
  rw [cAsciiLetters_eq]
  simp only [isAsciiAlpha, Bool.or_eq_true, decide_eq_true_eq, char_le_iff] at h
  have e1 : 'a'.toNat = 97 := rfl
  have e2 : 'z'.toNat = 122 := rfl
  have e3 : 'A'.toNat = 65 := rfl
  have e4 : 'Z'.toNat = 90 := rfl
  rw [e1, e2, e3, e4] at h
  simp only [CharClass.mem, Bool.false_bne, CharClass.inRanges, List.any_cons, List.any_nil,
    Bool.or_false, Bool.or_eq_true, Bool.and_eq_true, decide_eq_true_eq]
  omega

theorem protocol_accepts {sch : Str} (hs : SchHttp sch) (rest : Str) :
    pyMatch PROTOCOL_RE (sch ++ ':' :: '/' :: '/' :: rest) = true := by
  rw [pyMatch_iff protocol_noNullRep, accepts_bos_iff protocol_spine rfl]
  refine ⟨sch ++ [':', '/', '/'], rest, by simp, ?_⟩
  simp only [langL_opt_cons, langL_cls_cons, langL_nil, lang_run_cls_iff, cColon_mem, cSlash_mem]
  exact ⟨sch ++ [':'], _, by simp, Or.inr ⟨sch, ':', rfl, ⟨fun c hc => cAscii_mem (hs.alpha c hc),
    hs.length_pos, fun b hb => by cases hb; have := hs.length_le; omega⟩, rfl⟩,
    '/', _, rfl, rfl, '/', _, rfl, rfl, rfl⟩

theorem http_pyMatch (rest : Str) :
    pyMatch HTTP_PROTOCOL_RE ("http".toList ++ ':' :: '/' :: '/' :: rest) = true ∧
    pyMatch HTTP_PROTOCOL_RE ("https".toList ++ ':' :: '/' :: '/' :: rest) = true :=
  ⟨(pyMatch_iff http_noNullRep _).mpr (http_accepts rest).1,
   (pyMatch_iff http_noNullRep _).mpr (http_accepts rest).2⟩

/-! ## the hostname `is_url` looks at -/

theorem safeHostname_shape {y sch ui H po tl : Str} (h : Shape y sch ui H po tl) :
    safeHostname y =
      if netlocOk (ui ++ (H ++ po)) then .ok (some (lower H)) else .error .valueError := by
  unfold safeHostname
  have hp : pyMatch PROTOCOL_RE y = true := by rw [h.eq]; exact protocol_accepts h.sch _
  simp only [hp, if_true, h.urlsplit_eq]
  cases netlocOk (ui ++ (H ++ po))
  · rfl
  · exact congrArg (Except.ok ·) h.hostname_eq

/-- the TLD test of `is_url` on a host -/
def TldOk (W : World) (h : Str) : Prop :=
  W.validTld (IsUrl.lastLabel h) = true ∨ pyMatch SPECIAL_HOSTS_RE h = true

theorem tldCheck_shape (W : World) {y sch ui H po tl : Str} (h : Shape y sch ui H po tl) :
    tldCheck (isUrlEnv W) y = .ok true ↔
      netlocOk (ui ++ (H ++ po)) = true ∧ TldOk W (lower H) := by
  have hne : lower H ≠ [] := fun e => lang_host_ne_nil h.host (by simpa [lower] using e)
  rw [tldCheck_iff]
  unfold isUrlEnv TldOk
  cases hok : netlocOk (ui ++ (H ++ po)) <;> simp [safeHostname_shape h, hok, hne, or_comm]

/-! ## from `is_url` to the shape -/

theorem pattern_linkOpts : IsUrl.pattern linkOpts = RELAXED_URL_WITH_PROTOCOL_RE := rfl

theorem isUrlC_iff (W : World) (u : Str) :
    isUrlC W u = true ↔
      (strip u).isEmpty = false ∧ pyMatch HTTP_PROTOCOL_RE (strip u) = true ∧
      pyMatch RELAXED_URL_WITH_PROTOCOL_RE (strip u) = true ∧
      tldCheck (isUrlEnv W) (strip u) = .ok true := by
  unfold isUrlC
  have key := is_url_true_iff (isUrlEnv W) u linkOpts
  rw [pattern_linkOpts] at key
  constructor
  · intro h
    have h' : is_url (isUrlEnv W) u linkOpts = .ok true := by
      cases hr : is_url (isUrlEnv W) u linkOpts with
      | error e => rw [hr] at h; cases h
      | ok b => rw [hr] at h; simp only at h; rw [h]
    obtain ⟨h1, h2, h3, h4⟩ := key.mp h'
    exact ⟨h1, h2 rfl rfl, h3, h4 rfl⟩
  · rintro ⟨h1, h2, h3, h4⟩
    rw [key.mpr ⟨h1, fun _ _ => h2, h3, fun _ => h4⟩]

theorem SchHttp.of_http {a b c d : Char} {e : Str} (ha : a = 'h' ∨ a = 'H') (hb : b = 't' ∨ b = 'T')
    (hc : c = 't' ∨ c = 'T') (hd : d = 'p' ∨ d = 'P')
    (he : e = [] ∨ ∃ x, e = [x] ∧ (x = 's' ∨ x = 'S' ∨ x = longS))
    (hasc : ∀ x ∈ a :: b :: c :: d :: e, isAsciiAlpha x = true) : SchHttp (a :: b :: c :: d :: e) := by
  refine ⟨a, b, c, d, e, rfl, ha, hb, hc, hd, ?_⟩
  rcases he with rfl | ⟨x, rfl, rfl | rfl | rfl⟩
  · exact Or.inl rfl
  · exact Or.inr (Or.inl rfl)
  · exact Or.inr (Or.inr rfl)
  · exact absurd (hasc longS (by simp)) (by decide)

theorem uiChar_of_region {w r : Str}
    (hat : ((w ++ '@' :: r).dropWhile fun c => !isNetlocDelim c).contains '@' = false)
    (hw : ∀ x ∈ w, cNonSpace.mem x = true) : ∀ x ∈ w, UiChar x := by
  intro x hx
  refine ⟨?_, ?_⟩
  · cases hdx : isNetlocDelim x with
    | false => rfl
    | true =>
      have : '@' ∈ (w ++ '@' :: r).dropWhile fun c => !isNetlocDelim c :=
        mem_dropWhile_of _ ⟨x, hx, by simp [hdx]⟩
      rw [List.contains_iff_mem.mpr this] at hat; cases hat
  · exact not_unsafe_of (P := (·.toNat ∉ [9, 10, 13])) (by decide)
      (CharClass.avoids_sound cNonSpace_no_tab_lf_cr (hw x hx))

theorem shape_of_isUrl (W : World) (u : Str) (hu : isUrlC W u = true) (hr : region u = true) :
    ∃ sch ui H po tl, Shape (strip u) sch ui H po tl ∧ netlocOk (ui ++ (H ++ po)) = true ∧
      TldOk W (lower H) := by
  obtain ⟨_, hhttp, hre, htld⟩ := (isUrlC_iff W u).mp hu
  simp only [region, Bool.and_eq_true, Bool.not_eq_true', List.all_eq_true] at hr
  obtain ⟨hsch, hat⟩ := hr
  have hnl : (strip u).getLast? ≠ some '\n' := fun hm => absurd ((strip_ends u).2 _ hm) (by decide)
  generalize strip u = s at *
  -- the two patterns read the same scheme: both cut `s` at its first colon
  obtain ⟨a, b, c, d, e, rest, es, ha, hb, hc, hd, he⟩ := http_accepts_iff.mp (pyMatch_sound hhttp)
  have hcol : ':' ∉ a :: b :: c :: d :: e := by
    simp only [List.mem_cons, not_or]
    exact ⟨by rcases ha with rfl | rfl <;> decide, by rcases hb with rfl | rfl <;> decide,
      by rcases hc with rfl | rfl <;> decide, by rcases hd with rfl | rfl <;> decide,
      by rcases he with rfl | ⟨x, rfl, rfl | rfl | rfl⟩ <;> decide⟩
  have es' : s = (a :: b :: c :: d :: e) ++ ':' :: '/' :: '/' :: rest := by rw [es]; simp
  obtain ⟨pr, ui, H, po, tl, ep, hpr, hui, hH, hpo, htl⟩ := accepts_decomp (pyMatch_sound hre) hnl
  obtain ⟨ls, rfl, hls⟩ : ∃ ls, pr = ls ++ [':'] ∧ ∀ c ∈ ls, cLetters.mem c = true := by
    rcases hpr with rfl | h
    · rw [es] at ep
      rcases ha with h | h <;> rw [h] at ep <;> exact absurd (List.cons.inj ep).1 (by decide)
    · exact h
  have ep' : s = ls ++ ':' :: '/' :: '/' :: (ui ++ (H ++ (po ++ tl))) := by rw [ep]; simp
  have hcl : ':' ∉ ls := fun hm => CharClass.avoids_sound cLetters_no_colon (hls _ hm) (by decide)
  have h1 := cut_colon hcol rest
  have h2 := cut_colon hcl (ui ++ (H ++ (po ++ tl)))
  rw [← es'] at h1
  rw [← ep'] at h2
  have hui' : ui = [] ∨ ∃ w, ui = w ++ ['@'] ∧ ∀ x ∈ w, UiChar x :=
    hui.imp_right fun ⟨w, e, hw⟩ => ⟨w, e, uiChar_of_region (r := H ++ (po ++ tl)) (by
      rw [afterAuthority, h2.2, e] at hat; simpa using hat) hw⟩
  have hshape : Shape s (a :: b :: c :: d :: e) ui H po tl :=
    ⟨by rw [ep', ← h2.1, h1.1], .of_http ha hb hc hd he (h1.1 ▸ hsch), hui', hH, hpo, htl⟩
  obtain ⟨hok, htldok⟩ := (tldCheck_shape W hshape).mp htld
  exact ⟨_, ui, H, po, tl, hshape, hok, htldok⟩

/-! ## from the shape to `is_url` -/

theorem isUrl_of_shape (W : World) {y sch ui H po tl : Str} (h : Shape y sch ui H po tl)
    (hsch : sch = "http".toList ∨ sch = "https".toList)
    (hws : ∀ c ∈ y, isSpace c = false)
    (hui : ui = [] ∨ ∃ w, ui = w ++ ['@'] ∧ w ≠ [])
    (hpo : po = [] ∨ ∃ ds, po = ':' :: ds ∧ ds.length ≤ 5)
    (hok : netlocOk (ui ++ (H ++ po)) = true)
    (htld : TldOk W (lower H)) : isUrlC W y = true := by
  have hstrip : strip y = y := strip_eq_self hws
  rw [isUrlC_iff, hstrip]
  have hyne : y ≠ [] := by
    rw [h.eq]
    obtain ⟨a, b, c, d, e, rfl, _⟩ := h.sch
    simp
  refine ⟨by simpa using hyne, ?_, ?_, (tldCheck_shape W h).mpr ⟨hok, htld⟩⟩
  · rw [h.eq]
    rcases hsch with rfl | rfl
    · exact (http_pyMatch _).1
    · exact (http_pyMatch _).2
  · rw [pyMatch_iff R_noNullRep, h.eq]
    apply accepts_of_parts
    · rcases hsch with rfl | rfl
      · exact ⟨by decide, by decide, by decide⟩
      · exact ⟨by decide, by decide, by decide⟩
    · rcases hui with rfl | ⟨w, rfl, hw⟩
      · exact Or.inl rfl
      · refine Or.inr ⟨w, rfl, hw, ?_⟩
        intro c hc
        apply hws
        rw [h.eq]
        simp [hc]
    · exact h.host
    · rcases hpo with rfl | ⟨ds, rfl, hlen⟩
      · exact Or.inl rfl
      · rcases h.port with e | ⟨ds', e, hne, hds⟩
        · cases e
        · simp only [List.cons.injEq, true_and] at e
          subst e
          exact Or.inr ⟨ds, rfl, hne, hlen, hds⟩
    · rcases h.tail with rfl | ⟨d, r, rfl, hd⟩
      · exact Or.inl rfl
      · refine Or.inr ⟨d, r, rfl, hd, ?_⟩
        intro hm
        have : isSpace '\n' = false := by
          apply hws
          rw [h.eq]
          simp [hm]
        revert this; decide

end Ural.UrlPattern
