import UralModel.Model.C07
import UralModel.Lemmas.CanonClosure
/-!
# C07: the round trip of `canonicalize_url`'s result, as `lru_stems` needs it

The round-trip development (`Lemmas/UrlRoundTrip.lean`, `Lemmas/CanonRoundTrip.lean`) proves
that the modelled parser reads back the 5-tuple `canonicalize_url` printed.  `lru_stems` first
runs `ensure_protocol` on the string; here: the canonical string already has a protocol
(`ensureProtocol_urlunsplit20`: its scheme is the lower-cased scheme `ensure_protocol` recognised or
added during the cleaning — ASCII letters only, at most 64 — followed by `://` as soon as there is
a netloc), so `ensure_protocol` leaves it alone and the parse is the tuple.
-/
namespace Ural.C07
open Ural.Py Ural.UrlParts Ural.LruVariants Ural.UrlRoundTrip Ural.CanonRoundTrip
open Ural.Canonicalize (canonParts canonComps)

/-- a string `letters ++ "://" ++ …` (1 to 64 letters) is left alone by `ensure_protocol` -/
theorem ensureProtocol_of_scheme (sc rest dp : Str) (hne : sc ≠ [])
    (halpha : ∀ c ∈ sc, isAsciiAlpha c = true) (hlen : sc.length ≤ 64) :
    ensureProtocol (sc ++ ':' :: '/' :: '/' :: rest) dp = sc ++ ':' :: '/' :: '/' :: rest :=
  ensureProtocol_letters ⟨hne, halpha, hlen⟩ rest dp

/-- with a netloc, `urlunsplit20` prints `scheme://netloc…` -/
theorem urlunsplit20_of_netloc (scheme netloc path query fragment : Str) (hs : scheme ≠ [])
    (hn : netloc ≠ []) :
    ∃ rest, urlunsplit20 scheme netloc path query fragment = scheme ++ ':' :: '/' :: '/' :: rest := by
  rw [urlunsplit20_eq]
  exact ⟨_, by simp [schemePart, bodyOf, hs, hn, List.append_assoc]; rfl⟩

theorem ensureProtocol_urlunsplit20 (scheme netloc path query fragment dp : Str) (hs : scheme ≠ [])
    (hn : netloc ≠ []) (halpha : ∀ c ∈ scheme, isAsciiAlpha c = true) (hlen : scheme.length ≤ 64) :
    ensureProtocol (urlunsplit20 scheme netloc path query fragment) dp =
      urlunsplit20 scheme netloc path query fragment := by
  obtain ⟨r, hr⟩ := urlunsplit20_of_netloc scheme netloc path query fragment hs hn
  rw [hr]
  exact ensureProtocol_of_scheme scheme r dp hs halpha hlen

section
variable {puny : Str → Str} (hpc : PunyClean puny)
include hpc

/-- **the canonical string reparses to the canonical tuple, after `ensure_protocol`** (modelled
parser): for every URL whose cleaned form parses, whose netloc holds no bracket and whose
canonical netloc is not empty -/
theorem canon_reparse (u : Str) (p : Parsed)
    (hp : parseUrl (Canonicalize.cleanUrl u httpsStr) = some p)
    (hb : '[' ∉ p.netloc ∧ ']' ∉ p.netloc)
    (hn : (canonParts puny false false p).netloc ≠ []) :
    modelSplit5 (ensureProtocol (UrlParts.urlunsplit (canonParts puny false false p)) httpStr) =
      some ⟨(canonParts puny false false p).scheme, (canonParts puny false false p).netloc,
        (canonParts puny false false p).path, (canonParts puny false false p).query,
        (canonParts puny false false p).fragment.getD []⟩ ∧
    (canonParts puny false false p).scheme ≠ [] := by
  have hdp : SchemeShaped (rstripChars httpsStr [':', '/']) :=
    ⟨⟨'h', "ttps".toList, by decide +kernel, by decide +kernel⟩, by decide +kernel⟩
  obtain ⟨S, rest, hcl, hal⟩ := cleanUrl_cleaned u httpsStr hdp
  obtain ⟨halpha, hlen⟩ := hal (by decide +kernel) (by decide +kernel)
  have hf := fromParse hcl hp
  obtain ⟨hui, hnB⟩ := no_bracket_facts hb
  have hok := netlocOk_new hpc false false hf hui
  have hwf := CanonRoundTrip.canonParts_wf hpc false false hf hok
  have hscheme : (canonParts puny false false p).scheme = lower S := hf.split.scheme
  obtain ⟨hsne, hlalpha, hllen⟩ := UrlParts.letters_lower
    ⟨by obtain ⟨⟨c, r, e, _⟩, _⟩ := hf.shaped; rw [e]; simp, halpha, hlen⟩
  rw [hscheme] at hwf
  rw [urlunsplit_eq_urlunsplit20, hscheme]
  refine ⟨?_, hsne⟩
  rw [ensureProtocol_urlunsplit20 _ _ _ _ _ _ hsne hn hlalpha hllen]
  unfold modelSplit5
  rw [urlsplit_urlunsplit20 _ _ _ _ _ hwf]
  simp only [Option.map_some]

end

end Ural.C07
