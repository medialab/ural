import UralModel.Model.Canonicalize
import UralModel.Model.PathHyp
import UralModel.Lemmas.Str
import UralModel.Lemmas.Canonicalize
import UralModel.Lemmas.QuoteIdem
import UralModel.Lemmas.QuoteRoundTrip
import UralModel.Lemmas.UrlSplit
/-!
# `normpath` and the path rule of `canonicalize_url` compute the segment view

First at plain-string level (no escapes involved): for an absolute path `q` (empty, or starting with
`/` — what `urlsplit` returns when the URL has an authority), the path rule

    trailing = q.endswith(("/", "/.", "/..")); q = normpath(q); empty-path rule; re-append "/"

(`resolvePath`, the part of `canonPath` after the first `safely_unquote_path`) is
`renderSegs (segView q)`: it depends on `q` only through the resolved list of segments
(`.`, `..` and empty segments resolved, `..` never pops the root) and the trailing-slash flag,
and `segView (renderSegs v) = v` on the range.  Everything is by induction over arbitrary
lists of segments.  Then with escapes: fixed points of `safely_unquote_path` (`Unq`), the key
`pathKey` through which `canonPath` factors, the decoded view of C01's path clause (`byteView`),
and the printed path of either mode (`pathOut`, `pathClean`).  Property theorems are in
`Props/C01.lean` and `Props/C02.lean`.
-/
set_option linter.unusedSimpArgs false

namespace Ural.Normpath
open Ural.Py Ural.UrlParts Ural.Quote Ural.Canonicalize

/-! ## the plain-string view -/

/-- one step of dot-segment resolution on a stack of segments (top = last) -/
def segStep (acc : List Str) (s : Str) : List Str :=
  if s = [] ∨ s = ['.'] then acc else if s = ['.', '.'] then acc.dropLast else acc ++ [s]

/-- a last segment that makes the path "end with a slash" -/
def dotLike (s : Str) : Bool := s = [] || s = ['.'] || s = ['.', '.']

/-- the resolved segments of a path and whether it ends with a slash (dropped at the root) -/
def segView (p : Str) : List Str × Bool :=
  let ds := splitOn p '/'
  let r := ds.foldl segStep []
  (r, !r.isEmpty && (ds.getLast?.any dotLike))

/-- the canonical spelling of a view; `hasMore` decides between `""` and `"/"` at the root -/
def renderSegs (v : List Str × Bool) (hasMore : Bool) : Str :=
  if v.1.isEmpty then (if hasMore then ['/'] else [])
  else '/' :: join ['/'] v.1 ++ (if v.2 then ['/'] else [])

/-- the path rule after the first unescaping (`canonicalize_url.py`, from `trailing_slash = …` to `path += "/"`) -/
def resolvePath (q : Str) (hasMore : Bool) : Str :=
  let trailing := endsWith q ['/'] || endsWith q "/.".toList || endsWith q "/..".toList
  let np := normpath q
  if np.isEmpty ∨ np = ['/'] then (if hasMore then ['/'] else [])
  else if trailing then np ++ ['/'] else np

theorem canonPath_eq (path : Str) (hasMore : Bool) :
    canonPath path hasMore = resolvePath (unquotePath path) hasMore := rfl

/-- a segment that stays on the stack: non-empty, not a dot segment, without `/` -/
def Normal (s : Str) : Prop := s ≠ [] ∧ s ≠ ['.'] ∧ s ≠ ['.', '.'] ∧ '/' ∉ s

/-! ## `splitOn` of a concatenation -/

theorem splitOn_abs (q : Str) : splitOn ('/' :: q) '/' = [] :: splitOn q '/' :=
  splitOn_cons_sep '/' q

/-! ## `squeezeSlashes` -/

/-- the segments of the squeezed absolute path -/
theorem splitOn_sq_abs (q : Str) :
    splitOn (squeezeSlashes ('/' :: q)) '/' = [] :: squeezeSegs (splitOn q '/') := by
  have hne := splitOn_ne_nil q '/'
  have hfree := not_mem_of_mem_splitOn '/' q
  conv => lhs; rw [← join_splitOn '/' q]
  rw [sq_join _ hne hfree, splitOn_abs]
  rw [splitOn_join '/' _ (squeezeSegs_ne_nil _ hne)
    (fun p hp => hfree p (mem_squeezeSegs _ p hp))]

/-! ## the loop of `normpath` on an absolute path -/

/-- the accumulator of the loop (kept reversed) for a stack `st` of the view: every segment
with its slash, the root `"/"` at the bottom -/
def enc (st : List Str) : List Str := (st.map (· ++ ['/'])).reverse ++ [['/']]

theorem enc_length (st : List Str) : (enc st).length = st.length + 1 := by simp [enc]

theorem enc_push (st : List Str) (s : Str) : (s ++ ['/']) :: enc st = enc (st ++ [s]) := by
  simp [enc]

theorem enc_tail (st : List Str) : (enc st).tail = if st = [] then [] else enc st.dropLast := by
  cases h : st.reverse with
  | nil => simp at h; subst h; simp [enc]
  | cons x r =>
    have e : st = r.reverse ++ [x] := by
      have := congrArg List.reverse h; simpa using this
    subst e
    simp [enc]

theorem enc_flatten (st : List Str) : (enc st).reverse.flatten = '/' :: st.flatMap (· ++ ['/']) := by
  simp [enc, List.flatMap]

theorem withSlashes_cons (s : Str) (r : List Str) (h : r ≠ []) :
    withSlashes (s :: r) = (s ++ ['/']) :: withSlashes r := by
  cases r with
  | nil => exact absurd rfl h
  | cons t r => rfl

theorem loop_cons (s t : Str) (hs : '/' ∉ s) (ht : t = [] ∨ t = ['/']) (rest st : List Str) :
    resolveLoop ((s ++ t) :: rest) (enc st) =
      if s = ['.', '.'] then resolveLoop rest (enc st.dropLast)
      else if s = ['.'] then resolveLoop rest (enc st)
      else resolveLoop rest ((s ++ t) :: enc st) := by
  have key : ∀ d : Str, '/' ∉ d → ((s ++ t = d ++ ['/'] ∨ s ++ t = d) ↔ s = d) := by
    intro d hd
    rcases ht with rfl | rfl
    · rw [List.append_nil]
      constructor
      · rintro (e | e)
        · exact absurd (e ▸ List.mem_append_right d (List.mem_singleton_self '/')) hs
        · exact e
      · exact Or.inr
    · constructor
      · rintro (e | e)
        · exact List.append_cancel_right e
        · exact absurd (e ▸ List.mem_append_right s (List.mem_singleton_self '/')) hd
      · exact fun e => Or.inl (by rw [e])
  have k2 : (s ++ t = "../".toList ∨ s ++ t = "..".toList) ↔ s = ['.', '.'] := key ['.', '.'] (by decide)
  have k1 : (s ++ t = "./".toList ∨ s ++ t = ".".toList) ↔ s = ['.'] := key ['.'] (by decide)
  rw [resolveLoop]
  simp only [k1, k2, enc_length, enc_tail]
  split
  · by_cases hst : st = []
    · subst hst; simp
    · have : st.length + 1 > 1 := by
        cases st with
        | nil => exact absurd rfl hst
        | cons _ _ => simp
      simp [hst, this]
  · rfl

/-- one step of the loop on a segment followed by its slash -/
theorem loop_step (s : Str) (hs : '/' ∉ s) (hne : s ≠ []) (rest : List Str) (st : List Str) :
    resolveLoop ((s ++ ['/']) :: rest) (enc st) = resolveLoop rest (enc (segStep st s)) := by
  rw [loop_cons s ['/'] hs (Or.inr rfl), enc_push]
  unfold segStep
  by_cases h2 : s = ['.', '.']
  · subst h2; simp
  · by_cases h1 : s = ['.']
    · subst h1; simp
    · simp [hne, h1, h2]

/-- the last segment (no slash appended) -/
theorem loop_last (l : Str) (hl : '/' ∉ l) (st : List Str) :
    (resolveLoop [l] (enc st)).flatten =
      '/' :: (if dotLike l then (segStep st l).flatMap (· ++ ['/']) else join ['/'] (segStep st l)) := by
  have := loop_cons l [] hl (Or.inl rfl) [] st
  rw [List.append_nil] at this
  rw [this]
  unfold segStep dotLike
  by_cases h2 : l = ['.', '.']
  · subst h2; simp [resolveLoop, enc_flatten]
  · by_cases h1 : l = ['.']
    · subst h1; simp [resolveLoop, enc_flatten]
    · by_cases h0 : l = []
      · subst h0; simp [resolveLoop, enc_flatten]
      · simp only [h0, h1, h2, false_or, if_false, decide_false, Bool.or_self, Bool.false_eq_true,
          resolveLoop]
        rw [join_eq_flatMap, List.reverse_cons, List.flatten_append, enc_flatten]
        simp
/-- **the loop computes the stack of the view** -/
theorem loop_spec : ∀ (ds : List Str) (hne : ds ≠ []), (∀ s ∈ ds, '/' ∉ s) → ∀ (st : List Str),
    (resolveLoop (withSlashes (squeezeSegs ds)) (enc st)).flatten =
      '/' :: (if dotLike (ds.getLast hne) then (ds.foldl segStep st).flatMap (· ++ ['/'])
              else join ['/'] (ds.foldl segStep st))
  | [], h, _, _ => absurd rfl h
  | [l], _, hs, st => by
    simp only [squeezeSegs, withSlashes, List.getLast_singleton, List.foldl_cons, List.foldl_nil]
    exact loop_last l (hs l (by simp)) st
  | s :: t :: r, _, hs, st => by
    have ih := loop_spec (t :: r) (by simp) (fun x hx => hs x (List.mem_cons_of_mem _ hx))
    rw [squeezeSegs_cons_cons]
    have hlast : (s :: t :: r).getLast (by simp) = (t :: r).getLast (by simp) := by simp
    rw [hlast, List.foldl_cons]
    by_cases h0 : s = []
    · subst h0
      simp only [if_true]
      rw [ih st]
      simp [segStep]
    · simp only [h0, if_false]
      rw [withSlashes_cons _ _ (squeezeSegs_ne_nil _ (by simp)),
        loop_step s (hs s (by simp)) h0, ih]

/-! ## `normpath` of an absolute path: `rstrip("/")`, the segments that stay -/

theorem rstrip_slash_of_last (a : Str) (c : Char) (hc : c ≠ '/') :
    rstripChars (a ++ [c]) ['/'] = a ++ [c] := by
  simp [rstripChars, hc]

/-- segments pushed by the resolution are segments of the input, non-empty and not dots -/
theorem mem_foldl_segStep (ds : List Str) : ∀ (st : List Str) (x : Str), x ∈ ds.foldl segStep st →
    x ∈ st ∨ (x ∈ ds ∧ x ≠ [] ∧ x ≠ ['.'] ∧ x ≠ ['.', '.']) := by
  induction ds with
  | nil => intro st x h; exact .inl h
  | cons d r ih =>
    intro st x h
    rw [List.foldl_cons] at h
    rcases ih _ x h with h1 | h1
    · unfold segStep at h1
      split at h1
      · exact .inl h1
      · rename_i hd
        split at h1
        · exact .inl ((List.dropLast_sublist _).subset h1)
        · rename_i hd2
          simp only [List.mem_append, List.mem_singleton] at h1
          rcases h1 with h1 | rfl
          · exact .inl h1
          · right
            simp only [not_or] at hd
            exact ⟨by simp, hd.1, hd.2, hd2⟩
    · exact .inr ⟨List.mem_cons_of_mem _ h1.1, h1.2⟩

theorem normal_segView (p : Str) : ∀ x ∈ (segView p).1, Normal x := by
  intro x hx
  rcases mem_foldl_segStep _ [] x hx with h | h
  · simp at h
  · exact ⟨h.2.1, h.2.2.1, h.2.2.2, not_mem_of_mem_splitOn '/' p x h.1⟩

/-- a non-empty list of non-empty slash-free segments, joined, ends with a non-slash -/
theorem join_ends (F : List Str) (hF : F ≠ []) (hn : ∀ x ∈ F, x ≠ [] ∧ '/' ∉ x) :
    ∃ a c, c ≠ '/' ∧ ('/' :: join ['/'] F) = a ++ [c] := by
  have e : F = F.dropLast ++ [F.getLast hF] := (List.dropLast_concat_getLast hF).symm
  obtain ⟨hx0, hx1⟩ := hn (F.getLast hF) (List.getLast_mem hF)
  generalize F.getLast hF = x at e hx0 hx1
  have e2 : x = x.dropLast ++ [x.getLast hx0] := (List.dropLast_concat_getLast hx0).symm
  refine ⟨'/' :: (F.dropLast.flatMap (· ++ ['/']) ++ x.dropLast), x.getLast hx0, ?_, ?_⟩
  · intro hc; exact hx1 (hc ▸ List.getLast_mem hx0)
  · conv => lhs; rw [e, join_eq_flatMap, e2]
    simp

/-- **`normpath` of an absolute path**: the resolved segments, each preceded by a slash;
the root gives the empty string -/
theorem normpath_abs (q : Str) :
    normpath ('/' :: q) =
      if (segView ('/' :: q)).1 = [] then [] else '/' :: join ['/'] (segView ('/' :: q)).1 := by
  have hne := splitOn_ne_nil q '/'
  have hfree := not_mem_of_mem_splitOn '/' q
  have hF : (segView ('/' :: q)).1 = (splitOn q '/').foldl segStep [] := by
    simp [segView, splitOn_abs, segStep]
  have hnorm := normal_segView ('/' :: q)
  rw [hF] at hnorm ⊢
  unfold normpath
  simp only []
  rw [splitOn_sq_abs, withSlashes_cons _ _ (squeezeSegs_ne_nil _ hne)]
  have hstart : resolveLoop ((([] : Str) ++ ['/']) :: withSlashes (squeezeSegs (splitOn q '/'))) [] =
      resolveLoop (withSlashes (squeezeSegs (splitOn q '/'))) (enc []) := by
    rw [List.nil_append, resolveLoop]
    simp [enc]
  rw [hstart, loop_spec _ hne hfree []]
  generalize (splitOn q '/').foldl segStep [] = F at hnorm ⊢
  have hn : ∀ x ∈ F, x ≠ [] ∧ '/' ∉ x := fun x hx => ⟨(hnorm x hx).1, (hnorm x hx).2.2.2⟩
  by_cases hF0 : F = []
  · subst hF0
    split <;> simp [join, rstripChars]
  · simp only [hF0, if_false]
    obtain ⟨a, c, hc, hac⟩ := join_ends F hF0 hn
    split
    · have e : F = F.dropLast ++ [F.getLast hF0] := (List.dropLast_concat_getLast hF0).symm
      have : '/' :: F.flatMap (· ++ ['/']) = ('/' :: join ['/'] F) ++ ['/'] := by
        conv => lhs; rw [e]
        conv => rhs; rw [e, join_eq_flatMap]
        simp
      rw [this, rstripChars_append_self, hac, rstrip_slash_of_last a c hc]
    · rw [hac, rstrip_slash_of_last a c hc]

/-! ## the trailing-slash test -/

theorem trailing_rev (rl ar : Str) (h : '/' ∉ rl) :
    (['/'].isPrefixOf (rl ++ '/' :: ar) || ['.', '/'].isPrefixOf (rl ++ '/' :: ar)
      || ['.', '.', '/'].isPrefixOf (rl ++ '/' :: ar)) = dotLike rl.reverse := by
  have h0 := isPrefixOf_sep_append_sep [] rl ar '/' (by simp) h
  have h1 := isPrefixOf_sep_append_sep ['.'] rl ar '/' (by decide) h
  have h2 := isPrefixOf_sep_append_sep ['.', '.'] rl ar '/' (by decide) h
  simp only [List.nil_append, List.cons_append] at h0 h1 h2
  have e : ∀ q : Str, decide (rl = q) = decide (rl.reverse = q.reverse) := fun q =>
    decide_eq_decide.2 ⟨fun h => by rw [h], fun h => List.reverse_inj.1 h⟩
  rw [h0, h1, h2, dotLike, e [], e ['.'], e ['.', '.']]
  rfl

/-- `path.endswith(("/", "/.", "/.."))` looks at the last segment -/
theorem trailing_eq (a l : Str) (hl : '/' ∉ l) :
    (endsWith (a ++ '/' :: l) ['/'] || endsWith (a ++ '/' :: l) "/.".toList ||
      endsWith (a ++ '/' :: l) "/..".toList) = dotLike l := by
  have := trailing_rev l.reverse a.reverse (by simpa using hl)
  simpa [endsWith] using this

theorem last_decomp (q : Str) :
    ∃ a, '/' :: q = a ++ '/' :: (splitOn q '/').getLast (splitOn_ne_nil q '/') := by
  have hne := splitOn_ne_nil q '/'
  have e : splitOn q '/' = (splitOn q '/').dropLast ++ [(splitOn q '/').getLast hne] :=
    (List.dropLast_concat_getLast hne).symm
  have hq := join_splitOn '/' q
  generalize (splitOn q '/').getLast hne = l at e
  generalize (splitOn q '/').dropLast = init at e
  rw [e] at hq
  by_cases hi : init = []
  · subst hi
    refine ⟨[], ?_⟩
    simp only [List.nil_append, join] at hq
    rw [hq]; rfl
  · refine ⟨'/' :: join ['/'] init, ?_⟩
    rw [join_concat, if_neg hi] at hq
    rw [← hq]; simp

/-! ## the path rule computes, and only depends on, the view -/

/-- **Theorem A**: on an absolute path the path rule of `canonicalize_url` (trailing-slash
test, `normpath`, empty-path rule, re-appended slash) is the canonical spelling of the view -/
theorem resolvePath_eq (q : Str) (m : Bool) (h : absPath q = true) :
    resolvePath q m = renderSegs (segView q) m := by
  cases q with
  | nil => cases m <;> decide
  | cons c q =>
    have hc : '/' = c := by simpa [absPath, startsWith] using h
    subst hc
    have hne := splitOn_ne_nil q '/'
    have hnorm := normal_segView ('/' :: q)
    have hn : ∀ x ∈ (segView ('/' :: q)).1, x ≠ [] ∧ '/' ∉ x :=
      fun x hx => ⟨(hnorm x hx).1, (hnorm x hx).2.2.2⟩
    have hflag : (segView ('/' :: q)).2 =
        (!(segView ('/' :: q)).1.isEmpty && dotLike ((splitOn q '/').getLast hne)) := by
      simp only [segView, splitOn_abs]
      congr 1
      rw [List.getLast?_cons_of_ne_nil hne, List.getLast?_eq_some_getLast hne]
      rfl
    obtain ⟨a, ha⟩ := last_decomp q
    have htr := trailing_eq a _ (not_mem_of_mem_splitOn '/' q _ (List.getLast_mem hne))
    rw [← ha] at htr
    unfold resolvePath
    simp only []
    rw [htr, normpath_abs]
    unfold renderSegs
    rw [hflag]
    generalize (segView ('/' :: q)).1 = F at hn ⊢
    by_cases hF : F = []
    · subst hF; simp
    · have hj : join ['/'] F ≠ [] :=
        let ⟨x, hx⟩ := List.exists_mem_of_ne_nil _ hF
        join_ne_nil _ hx (hn x hx).1
      have hemp : F.isEmpty = false := by cases F with
        | nil => exact absurd rfl hF
        | cons _ _ => rfl
      simp only [hF, if_false, hemp, Bool.not_false, Bool.true_and, Bool.false_eq_true]
      have h1 : ¬ (('/' :: join ['/'] F).isEmpty = true ∨ '/' :: join ['/'] F = ['/']) := by
        rintro (e | e)
        · simp at e
        · exact hj (by simpa using e)
      simp only [h1, if_false]
      cases dotLike ((splitOn q '/').getLast hne) <;> simp

theorem unquotePath_nil : unquotePath [] = [] := safelyUnquote_nil _

theorem unquotePath_append_slash (a b : Str) :
    unquotePath (a ++ '/' :: b) = unquotePath a ++ '/' :: unquotePath b :=
  safelyUnquote_append_sep _ sep_slash (by decide) (by decide) a b

/-! ## functions that work segment by segment -/

structure SegHom (f : Str → Str) : Prop where
  nil : f [] = []
  slash : ∀ a b, f (a ++ '/' :: b) = f a ++ '/' :: f b

theorem segHom_unquotePath : SegHom unquotePath := ⟨unquotePath_nil, unquotePath_append_slash⟩

theorem segHom_safelyQuote : SegHom safelyQuote :=
  ⟨safelyQuote_nil, safelyQuote_append_sep sep_slash (by decide)⟩

theorem SegHom.comp {f g : Str → Str} (hf : SegHom f) (hg : SegHom g) : SegHom (f ∘ g) :=
  ⟨by simp [hg.nil, hf.nil], fun a b => by simp [hg.slash, hf.slash]⟩

theorem SegHom.cons_slash {f : Str → Str} (hf : SegHom f) (r : Str) : f ('/' :: r) = '/' :: f r := by
  have := hf.slash [] r
  simpa [hf.nil] using this

theorem SegHom.absPath {f : Str → Str} (hf : SegHom f) {p : Str} (h : absPath p = true) :
    absPath (f p) = true := by
  cases p with
  | nil => rw [hf.nil]; rfl
  | cons c r =>
    have hc : '/' = c := by simpa [Normpath.absPath, startsWith] using h
    subst hc
    rw [hf.cons_slash]; simp [Normpath.absPath, startsWith]

theorem SegHom.render {f : Str → Str} (hf : SegHom f) (v : List Str × Bool) (m : Bool) :
    f (renderSegs v m) = renderSegs (v.1.map f, v.2) m := by
  unfold renderSegs
  simp only [List.isEmpty_map]
  split
  · cases m
    · exact hf.nil
    · simpa [hf.nil] using hf.cons_slash []
  · rename_i hF
    have hF' : v.1 ≠ [] := by intro e; rw [e] at hF; exact hF rfl
    have hj := map_join_of_append_sep hf.slash v.1 hF'
    cases v.2 with
    | true =>
      simp only [if_true]
      have e : '/' :: join ['/'] v.1 ++ ['/'] = ([] : Str) ++ '/' :: (join ['/'] v.1 ++ '/' :: []) := by simp
      rw [e, hf.slash, hf.slash, hj, hf.nil]; simp
    | false =>
      simp only [Bool.false_eq_true, if_false, List.append_nil]
      rw [hf.cons_slash, hj]

theorem mem_renderSegs {v : List Str × Bool} {m : Bool} {c : Char} (h : c ∈ renderSegs v m) :
    c = '/' ∨ ∃ x ∈ v.1, c ∈ x := by
  unfold renderSegs at h
  split at h
  · cases m
    · cases h
    · exact .inl (by simpa using h)
  · rcases List.mem_cons.1 h with h | h
    · exact .inl h
    · rcases List.mem_append.1 h with h | h
      · rcases mem_join _ _ h with h1 | ⟨x, hx, hc⟩
        · exact .inl (by simpa using h1)
        · exact .inr ⟨x, hx, hc⟩
      · by_cases hv2 : v.2 = true
        · rw [if_pos hv2] at h; exact .inl (by simpa using h)
        · rw [if_neg hv2] at h; cases h

theorem renderSegs_shape (v : List Str × Bool) (m : Bool) (hv : ∀ x ∈ v.1, x ≠ [] ∧ '/' ∉ x) :
    (renderSegs v m = [] ∨ ∃ q, renderSegs v m = '/' :: q) ∧
      startsWith (renderSegs v m) ['/', '/'] = false := by
  unfold renderSegs
  split
  · cases m <;> simp [startsWith]
  · refine ⟨.inr ⟨_, rfl⟩, ?_⟩
    cases hF : v.1 with
    | nil => rename_i h0; rw [hF] at h0; exact absurd rfl h0
    | cons x r =>
      obtain ⟨h0, hs⟩ := hv x (by rw [hF]; simp)
      cases x with
      | nil => exact absurd rfl h0
      | cons d x' =>
        have hd : d ≠ '/' := fun e => hs (by simp [e])
        cases r <;> simp [join, startsWith, List.isPrefixOf, hd, Ne.symm hd]

theorem absPath_unquotePath (p : Str) (h : absPath p = true) : absPath (unquotePath p) = true :=
  segHom_unquotePath.absPath h

/-- `canonPath` depends on its argument only through the view of the unescaped path -/
theorem canonPath_render (p : Str) (m : Bool) (h : absPath p = true) :
    canonPath p m = renderSegs (segView (unquotePath p)) m := by
  rw [canonPath_eq]
  exact resolvePath_eq _ _ (absPath_unquotePath p h)

/-! ## the view of a canonical spelling -/

theorem foldl_segStep_normal (xs : List Str) (h : ∀ x ∈ xs, Normal x) :
    ∀ st, xs.foldl segStep st = st ++ xs := by
  induction xs with
  | nil => simp
  | cons x r ih =>
    intro st
    obtain ⟨h0, h1, h2, _⟩ := h x (by simp)
    rw [List.foldl_cons, ih (fun y hy => h y (by simp [hy]))]
    simp [segStep, h0, h1, h2]

theorem dotLike_normal {x : Str} (h : Normal x) : dotLike x = false := by
  simp [dotLike, h.1, h.2.1, h.2.2.1]

/-- a view in the range of `segView`: normal segments, no flag at the root -/
def ViewOk (v : List Str × Bool) : Prop := (∀ x ∈ v.1, Normal x) ∧ (v.1 = [] → v.2 = false)

theorem viewOk_segView (p : Str) : ViewOk (segView p) := by
  refine ⟨normal_segView p, ?_⟩
  intro h
  have : (segView p).2 = (!(segView p).1.isEmpty && ((splitOn p '/').getLast?.any dotLike)) := rfl
  rw [this, h]; rfl

/-- **Theorem B**: the view of the canonical spelling of a view is that view -/
theorem segView_render (v : List Str × Bool) (m : Bool) (hv : ViewOk v) :
    segView (renderSegs v m) = v := by
  obtain ⟨F, fl⟩ := v
  obtain ⟨hn, h0⟩ := hv
  simp only at hn h0
  by_cases hF : F = []
  · subst hF
    have := h0 rfl; subst this
    cases m <;> decide
  · have hfree : ∀ x ∈ F, '/' ∉ x := fun x hx => (hn x hx).2.2.2
    have hemp := List.isEmpty_eq_false_iff.2 hF
    have hfold : F.foldl segStep [] = F := by simpa using foldl_segStep_normal F hn []
    unfold renderSegs
    simp only [hemp, Bool.false_eq_true, if_false]
    cases fl with
    | true =>
      have hs : splitOn ('/' :: join ['/'] F ++ ['/']) '/' = [] :: (F ++ [[]]) := by
        rw [List.cons_append, splitOn_abs, splitOn_append, splitOn_join '/' F hF hfree,
          splitOn_nil]
      simp only [if_true, segView, hs, List.foldl_cons, List.foldl_append, List.foldl_nil]
      have e1 : segStep [] [] = [] := by simp [segStep]
      rw [e1, hfold]
      have e2 : segStep F [] = F := by simp [segStep]
      rw [e2, hemp]
      have e3 : ([] :: (F ++ [[]]) : List Str).getLast? = some [] := by
        rw [← List.cons_append, List.getLast?_append]; simp
      rw [e3]
      simp [dotLike]
    | false =>
      have hs : splitOn ('/' :: join ['/'] F ++ []) '/' = [] :: F := by
        rw [List.append_nil, splitOn_abs, splitOn_join '/' F hF hfree]
      simp only [Bool.false_eq_true, if_false, segView, hs, List.foldl_cons]
      have e1 : segStep [] [] = [] := by simp [segStep]
      rw [e1, hfold, hemp]
      rw [List.getLast?_cons_of_ne_nil hF, List.getLast?_eq_some_getLast hF]
      simp [dotLike_normal (hn _ (List.getLast_mem hF))]

theorem absPath_render (v : List Str × Bool) (m : Bool) : absPath (renderSegs v m) = true := by
  unfold renderSegs
  split
  · cases m <;> decide
  · simp [absPath, startsWith]

/-- the path rule keeps the view -/
theorem segView_resolvePath (q : Str) (m : Bool) (h : absPath q = true) :
    segView (resolvePath q m) = segView q := by
  rw [resolvePath_eq q m h, segView_render _ _ (viewOk_segView q)]

/-- the path rule is idempotent (whatever the two `hasMore` flags) -/
theorem resolvePath_idem (q : Str) (m m' : Bool) (h : absPath q = true) :
    resolvePath (resolvePath q m) m' = resolvePath q m' := by
  have h2 : absPath (resolvePath q m) = true := by rw [resolvePath_eq q m h]; exact absPath_render _ _
  rw [resolvePath_eq _ m' h2, segView_resolvePath q m h, ← resolvePath_eq q m' h]

/-- two absolute paths with the same view have the same image under the path rule -/
theorem resolvePath_congr (q q' : Str) (m : Bool) (h : absPath q = true) (h' : absPath q' = true)
    (hv : segView q = segView q') : resolvePath q m = resolvePath q' m := by
  rw [resolvePath_eq q m h, resolvePath_eq q' m h', hv]

/-! ## escapes: fixed points of `safely_unquote_path` -/

theorem unquotePath_idem (s : Str) : unquotePath (unquotePath s) = unquotePath s :=
  safelyUnquote_idem _ unsafeForPath_ok.1 unsafeForPath_ok.2 s

/-- an unescaped string: `safely_unquote_path` leaves it alone -/
def Unq (s : Str) : Prop := unquotePath s = s

theorem splitOn_unquotePath (s : Str) :
    splitOn (unquotePath s) '/' = (splitOn s '/').map unquotePath :=
  splitOn_safelyUnquote _ sep_slash (by decide) (by decide) (by decide) s

/-- the segments of an unescaped string are unescaped -/
theorem unq_segments {s : Str} (h : Unq s) : ∀ x ∈ splitOn s '/', Unq x := by
  have e := splitOn_unquotePath s
  rw [h] at e
  intro x hx
  rw [e] at hx
  simp only [List.mem_map] at hx
  obtain ⟨y, _, rfl⟩ := hx
  exact unquotePath_idem y

/-- the canonical spelling of a view made of unescaped segments is unescaped -/
theorem unq_render (v : List Str × Bool) (m : Bool) (h : ∀ x ∈ v.1, Unq x) :
    Unq (renderSegs v m) := by
  unfold Unq
  rw [segHom_unquotePath.render, List.map_congr_left h, List.map_id']

theorem segView_subset (p : Str) : ∀ x ∈ (segView p).1, x ∈ splitOn p '/' := by
  intro x hx
  rcases mem_foldl_segStep _ [] x hx with h | h
  · simp at h
  · exact h.1

/-- the path rule maps unescaped paths to unescaped paths -/
theorem unq_resolvePath (q : Str) (m : Bool) (h : absPath q = true) (hq : Unq q) :
    Unq (resolvePath q m) := by
  rw [resolvePath_eq q m h]
  exact unq_render _ _ (fun x hx => unq_segments hq x (segView_subset q x hx))

/-- **the second `safely_unquote_path` of unquoted mode is a no-op** -/
theorem unquotePath_canonPath (p : Str) (m : Bool) (h : absPath p = true) :
    unquotePath (canonPath p m) = canonPath p m :=
  unq_resolvePath _ m (absPath_unquotePath p h) (unquotePath_idem p)

theorem absPath_canonPath (p : Str) (m : Bool) (h : absPath p = true) :
    absPath (canonPath p m) = true := by
  rw [canonPath_render p m h]; exact absPath_render _ _

/-- **path idempotence**: canonicalizing the canonical path (whatever the `hasMore` flags of
the two passes) gives the canonical path -/
theorem canonPath_idem (p : Str) (m m' : Bool) (h : absPath p = true) :
    canonPath (canonPath p m) m' = canonPath p m' := by
  rw [canonPath_eq (canonPath p m), unquotePath_canonPath p m h, canonPath_eq p m,
    resolvePath_idem _ m m' (absPath_unquotePath p h), canonPath_eq]

/-- the key of a path: resolved unescaped segments + trailing-slash flag; by
`splitOn_unquotePath` it is computed segment-wise from the escaped path -/
def pathKey (p : Str) : List Str × Bool := segView (unquotePath p)

theorem pathKey_eq (p : Str) :
    pathKey p = (((splitOn p '/').map unquotePath).foldl segStep [],
      !(((splitOn p '/').map unquotePath).foldl segStep []).isEmpty &&
        (((splitOn p '/').map unquotePath).getLast?.any dotLike)) := by
  simp only [pathKey, segView, splitOn_unquotePath]

/-- **`canonPath` factors through the key** -/
theorem canonPath_congr (p p' : Str) (m : Bool) (h : absPath p = true) (h' : absPath p' = true)
    (hk : pathKey p = pathKey p') : canonPath p m = canonPath p' m := by
  rw [canonPath_render p m h, canonPath_render p' m h']
  unfold pathKey at hk
  rw [hk]

/-! ## the decoded view (the meaning of a path in C01's statement)

`byteView` is `Props.C01.pathView` (same definition, `rfl`): segments are percent-decoded
before dot segments are detected.  On an unescaped path decoded dot segments are literal dot
segments (`dotHonest_of_unq`), so the decoded view is the image of the plain view. -/

def byteStep (acc : List (List UInt8)) (s : List UInt8) : List (List UInt8) :=
  if s = [] ∨ s = [0x2E] then acc else if s = [0x2E, 0x2E] then acc.dropLast else acc ++ [s]

def byteView (path : Str) : List (List UInt8) × Bool :=
  let ds := (splitOn path '/').map pctStr
  let r := ds.foldl byteStep []
  (r, !r.isEmpty && (ds.getLast? = some [] || ds.getLast? = some [0x2E] || ds.getLast? = some [0x2E, 0x2E]))

/-- a segment whose decoded form is a dot segment only if it literally is one -/
def DotHonest (s : Str) : Prop :=
  (pctStr s = [] → s = []) ∧ (pctStr s = [0x2E] → s = ['.']) ∧ (pctStr s = [0x2E, 0x2E] → s = ['.', '.'])

theorem DotHonest.iff {s : Str} (h : DotHonest s) :
    (pctStr s = [] ↔ s = []) ∧ (pctStr s = [0x2E] ↔ s = ['.']) ∧
      (pctStr s = [0x2E, 0x2E] ↔ s = ['.', '.']) :=
  ⟨⟨h.1, fun e => by rw [e]; decide⟩, ⟨h.2.1, fun e => by rw [e]; decide⟩,
    ⟨h.2.2, fun e => by rw [e]; decide⟩⟩

theorem byteStep_map (acc : List Str) (s : Str) (h : DotHonest s) :
    byteStep (acc.map pctStr) (pctStr s) = (segStep acc s).map pctStr := by
  obtain ⟨i0, i1, i2⟩ := h.iff
  unfold byteStep segStep
  simp only [i0, i1, i2]
  split
  · rfl
  · split
    · exact List.map_dropLast.symm
    · simp

theorem foldl_byteStep_map (ds : List Str) (h : ∀ s ∈ ds, DotHonest s) : ∀ (acc : List Str),
    (ds.map pctStr).foldl byteStep (acc.map pctStr) = (ds.foldl segStep acc).map pctStr := by
  induction ds with
  | nil => intro acc; rfl
  | cons d r ih =>
    intro acc
    simp only [List.map_cons, List.foldl_cons]
    rw [byteStep_map acc d (h d (by simp)), ih (fun s hs => h s (by simp [hs]))]

theorem dotLike_pct (l : Str) (h : DotHonest l) :
    (decide (some (pctStr l) = some ([] : List UInt8)) || decide (some (pctStr l) = some [0x2E]) ||
      decide (some (pctStr l) = some [0x2E, 0x2E])) = dotLike l := by
  obtain ⟨i0, i1, i2⟩ := h.iff
  unfold dotLike
  simp only [Option.some.injEq, i0, i1, i2]

/-- the decoded view of a path whose segments are dot-honest is the decoded plain view -/
theorem byteView_eq (p : Str) (h : ∀ s ∈ splitOn p '/', DotHonest s) :
    byteView p = ((segView p).1.map pctStr, (segView p).2) := by
  have hne := splitOn_ne_nil p '/'
  have hf := foldl_byteStep_map (splitOn p '/') h []
  simp only [List.map_nil] at hf
  unfold byteView segView
  simp only [hf, List.isEmpty_map]
  congr 2
  rw [List.getLast?_map, List.getLast?_eq_some_getLast hne]
  simp only [Option.map_some, Option.any_some]
  exact dotLike_pct _ (h _ (List.getLast_mem hne))

/-! ### unescaped strings are dot-honest -/

theorem utf8_dot : utf8 '.' = [0x2E] := by decide

/-- only `.` has a UTF-8 encoding that starts with 0x2E -/
theorem utf8_head_dot {c : Char} {l : List UInt8} (h : utf8 c = 0x2E :: l) : c = '.' := by
  have h1 := decodeHead_utf8_append c []
  rw [List.append_nil, h] at h1
  have h2 := decodeHead_utf8_append '.' l
  rw [utf8_dot] at h2
  simp only [List.singleton_append] at h2
  rw [h1] at h2
  exact Option.some.inj h2

/-- a token whose decoded bytes start with 0x2E decodes to exactly `[0x2E]` -/
theorem pctTok_head_dot {t : Tok} {l : List UInt8} (h : pctTok t = 0x2E :: l) : pctTok t = [0x2E] := by
  cases t with
  | raw c =>
    simp only [pctTok] at h ⊢
    rw [utf8_head_dot h, utf8_dot]
  | esc h1 h2 => simp only [pctTok, List.cons.injEq] at h ⊢; exact ⟨h.1, trivial⟩
  | stray => simp [pctTok] at h

theorem pct_head_dot {ts : List Tok} {rest : List UInt8} (h : pct ts = 0x2E :: rest) :
    ∃ t ts', ts = t :: ts' ∧ pctTok t = [0x2E] ∧ pct ts' = rest := by
  cases ts with
  | nil => simp [pct] at h
  | cons t r =>
    refine ⟨t, r, rfl, ?_⟩
    simp only [pct, List.flatMap_cons] at h
    have hne := pctTok_ne_nil t
    obtain ⟨b, l, hbl⟩ := List.exists_cons_of_ne_nil hne
    rw [hbl] at h
    simp only [List.cons_append, List.cons.injEq] at h
    have hb : pctTok t = 0x2E :: l := by rw [hbl, h.1]
    have h1 := pctTok_head_dot hb
    refine ⟨h1, ?_⟩
    rw [h1] at hbl
    simp only [List.cons.injEq] at hbl
    rw [← hbl.2] at h
    simpa [pct] using h.2

/-- `safely_unquote_path` turns every spelling of a dot (`.`, `%2E`, `%2e`) into a raw dot -/
theorem itemOf_dot {t : Tok} (h : pctTok t = [0x2E]) :
    itemOf Gen.Quote.unsafeForPath t = .lit (.raw '.') := by
  cases t with
  | raw c =>
    simp only [pctTok] at h
    rw [utf8_head_dot h]
    simp [itemOf]
  | esc h1 h2 =>
    simp only [pctTok, List.cons.injEq, and_true] at h
    have hk : keepEsc Gen.Quote.unsafeForPath 0x2E = false := by decide
    have hc : Char.ofNat (UInt8.toNat 0x2E) = '.' := by decide
    simp only [itemOf, h, hk, hc, Bool.false_eq_true, if_false]
    have h1 : (0x2E : UInt8) < 128 := by decide
    have h2 : ¬ ((0x2E : UInt8) = 32) := by decide
    simp only [h1, h2, if_true, if_false]
  | stray => simp [pctTok] at h

theorem escTok_dot {t : Tok} (h : pctTok t = [0x2E]) : escTok t = [t] := by
  cases t with
  | raw c =>
    simp only [pctTok] at h
    rw [utf8_head_dot h]
    decide
  | esc h1 h2 => rfl
  | stray => rfl

theorem dotHonest_of_unq {s : Str} (hs : Unq s) : DotHonest s := by
  -- a token that decodes to 0x2E is unquoted to a raw dot (`itemOf_dot`): a fixed point of the
  -- unquoter whose tokens decode to `.` / `..` is its own image, the literal `.` / `..`
  refine ⟨?_, ?_, ?_⟩
  · intro h
    have := pct_eq_nil (ts := tokens s) h
    rw [← render_tokens s, this]; rfl
  · intro h
    obtain ⟨t, ts', e, ht, hr⟩ := pct_head_dot (ts := tokens s) h
    have e' := pct_eq_nil hr
    subst e'
    rw [← hs]
    simp only [unquotePath, safelyUnquote, unquoteToks, e, escapeRaw, List.flatMap_cons,
      List.flatMap_nil, escTok_dot ht, List.append_nil, List.singleton_append, List.map_cons,
      List.map_nil, itemOf_dot ht, assemble, flush_nil]
    rfl
  · intro h
    obtain ⟨t, ts', e, ht, hr⟩ := pct_head_dot (ts := tokens s) h
    obtain ⟨t2, ts'', e2, ht2, hr2⟩ := pct_head_dot hr
    have e' := pct_eq_nil hr2
    subst e'
    subst e2
    rw [← hs]
    simp only [unquotePath, safelyUnquote, unquoteToks, e, escapeRaw, List.flatMap_cons,
      List.flatMap_nil, escTok_dot ht, escTok_dot ht2, List.append_nil, List.singleton_append,
      List.map_cons, List.map_nil, itemOf_dot ht, itemOf_dot ht2, assemble, flush_nil]
    rfl

theorem dotHonest_segments {q : Str} (hq : Unq q) : ∀ s ∈ splitOn q '/', DotHonest s :=
  fun s hs => dotHonest_of_unq (unq_segments hq s hs)

/-- **the path rule keeps the decoded view** of an unescaped absolute path -/
theorem byteView_resolvePath (q : Str) (m : Bool) (h : absPath q = true) (hq : Unq q) :
    byteView (resolvePath q m) = byteView q := by
  rw [byteView_eq _ (dotHonest_segments (unq_resolvePath q m h hq)), byteView_eq _ (dotHonest_segments hq),
    segView_resolvePath q m h]

/-! ## quoted mode: the second pass unquotes the quoted canonical path again -/

theorem pathClean_ascii : ∀ n, n < 128 →
    (Char.ofNat n != '?' && Char.ofNat n != '#' && !isControlChar (Char.ofNat n)) = true →
    (Char.ofNat n == ' ' || Char.ofNat n == '%' || cleanRaw Gen.Quote.unsafeForPath (Char.ofNat n)) = true := by
  decide +kernel

theorem pathClean_cleanStr {p : Str} (h : pathClean p = true) :
    cleanStr Gen.Quote.unsafeForPath p = true := by
  simp only [pathClean, cleanStr, List.all_eq_true] at h ⊢
  intro c hc
  have hc' := h c hc
  by_cases hlt : c.toNat < 128
  · have := pathClean_ascii c.toNat hlt
    rw [Char.ofNat_toNat] at this
    exact this hc'
  · have h1 : ¬ c.toNat < 0x80 := hlt
    simp [cleanRaw, h1]

theorem pathClean_segment {p x : Str} (h : pathClean p = true) (hx : x ∈ splitOn p '/') :
    pathClean x = true := by
  simp only [pathClean, List.all_eq_true] at h ⊢
  intro c hc
  exact h c (mem_of_mem_splitOn hx hc)

/-- a string that comes back unchanged from quoting and unquoting -/
def Rt (s : Str) : Prop := unquotePath (safelyQuote s) = s

theorem rt_unquotePath {x : Str} (h : pathClean x = true) : Rt (unquotePath x) :=
  safelyUnquote_quote_unquote _ unsafeForPath_ok.1 unsafeForPath_ok.2 x (pathClean_cleanStr h)

theorem rt_render (v : List Str × Bool) (m : Bool) (h : ∀ x ∈ v.1, Rt x) : Rt (renderSegs v m) := by
  unfold Rt at h ⊢
  have hmap : v.1.map (unquotePath ∘ safelyQuote) = v.1.map id :=
    List.map_congr_left fun x hx => by simp only [Function.comp_apply, id_eq]; exact h x hx
  have := (segHom_unquotePath.comp segHom_safelyQuote).render v m
  rw [Function.comp_apply, hmap, List.map_id] at this
  exact this

/-- **quoted mode**: unquoting the quoted canonical path gives the canonical path back, for
every absolute clean path -/
theorem unquote_quote_canonPath (p : Str) (m : Bool) (h : absPath p = true) (hc : pathClean p = true) :
    unquotePath (safelyQuote (canonPath p m)) = canonPath p m := by
  rw [canonPath_render p m h]
  apply rt_render
  intro x hx
  have hx' := segView_subset _ x hx
  rw [splitOn_unquotePath] at hx'
  simp only [List.mem_map] at hx'
  obtain ⟨y, hy, rfl⟩ := hx'
  exact rt_unquotePath (pathClean_segment hc hy)

/-- the `path` field of the result: quoted, or unquoted once more -/
def pathOut (quoted : Bool) (p : Str) (m : Bool) : Str :=
  if quoted then safelyQuote (canonPath p m) else unquotePath (canonPath p m)

theorem absPath_pathOut (q : Bool) (p : Str) (m : Bool) (h : absPath p = true) :
    absPath (pathOut q p m) = true := by
  cases q
  · simp only [pathOut, Bool.false_eq_true, if_false]
    exact absPath_unquotePath _ (absPath_canonPath p m h)
  · simp only [pathOut, if_true]
    exact segHom_safelyQuote.absPath (absPath_canonPath p m h)

theorem unquote_pathOut (q : Bool) (p : Str) (m : Bool) (h : absPath p = true)
    (hc : q = true → pathClean p = true) : unquotePath (pathOut q p m) = canonPath p m := by
  cases q with
  | false =>
    simp only [pathOut, Bool.false_eq_true, if_false]
    rw [unquotePath_canonPath p m h, unquotePath_canonPath p m h]
  | true =>
    simp only [pathOut, if_true]
    exact unquote_quote_canonPath p m h (hc rfl)

/-- **the four mode round trips on the path**: a second pass in mode `q2` over the path
produced in mode `q1` gives what mode `q2` gives on the original path; when the first pass was
the quoted one the path must be clean (`pathClean`) -/
theorem pathOut_modes (q1 q2 : Bool) (p : Str) (m m' : Bool) (h : absPath p = true)
    (hc : q1 = true → pathClean p = true) :
    pathOut q2 (pathOut q1 p m) m' = pathOut q2 p m' := by
  have key : canonPath (pathOut q1 p m) m' = canonPath p m' := by
    rw [canonPath_eq, unquote_pathOut q1 p m h hc, ← unquotePath_canonPath p m h, ← canonPath_eq,
      canonPath_idem p m m' h]
  unfold pathOut at key ⊢
  rw [key]

/-! ## dot-segment insertion -/

theorem segView_insert (a mid b : Str)
    (hmid : ∀ st, (splitOn mid '/').foldl segStep st = st) :
    segView (a ++ '/' :: (mid ++ '/' :: b)) = segView (a ++ '/' :: b) := by
  have hb := splitOn_ne_nil b '/'
  simp only [segView, splitOn_append, List.foldl_append, hmid]
  congr 2
  rw [List.getLast?_append, List.getLast?_append, List.getLast?_append]
  rw [List.getLast?_eq_some_getLast hb]
  rfl

theorem insert_dot_ok : ∀ st, (splitOn ['.'] '/').foldl segStep st = st := by
  intro st; simp [splitOn, splitOn.go, segStep]

theorem insert_empty_ok : ∀ st, (splitOn [] '/').foldl segStep st = st := by
  intro st; simp [splitOn, splitOn.go, segStep]

theorem insert_updir_ok (x : Str) (hx : Normal x) :
    ∀ st, (splitOn (x ++ '/' :: ['.', '.']) '/').foldl segStep st = st := by
  intro st
  rw [splitOn_append, splitOn_of_not_mem '/' x hx.2.2.2]
  simp [splitOn, splitOn.go, segStep, hx.1, hx.2.1, hx.2.2.1]

theorem absPath_append (a r : Str) (h : absPath a = true) : absPath (a ++ '/' :: r) = true := by
  cases a with
  | nil => simp [absPath, startsWith]
  | cons c t =>
    have hc : '/' = c := by simpa [absPath, startsWith] using h
    subst hc
    simp [absPath, startsWith]

/-- **inserting a piece that resolves to nothing never changes the canonical path**: `mid`
may be `.`, `%2E`, the empty string, `x/..`, … — anything whose unescaped segments leave every
stack unchanged -/
theorem canonPath_insert (a mid b : Str) (m : Bool) (h : absPath a = true)
    (hmid : ∀ st, (splitOn (unquotePath mid) '/').foldl segStep st = st) :
    canonPath (a ++ '/' :: (mid ++ '/' :: b)) m = canonPath (a ++ '/' :: b) m := by
  apply canonPath_congr _ _ m (absPath_append a _ h) (absPath_append a _ h)
  unfold pathKey
  rw [unquotePath_append_slash, unquotePath_append_slash, unquotePath_append_slash]
  exact segView_insert _ _ _ hmid

/-! ## `normpath` alone (used by the `normalize_url` family) -/

/-- `normpath` of an absolute path (empty, or starting with `/`) -/
theorem normpath_eq (q : Str) (h : absPath q = true) :
    normpath q = if (segView q).1 = [] then [] else '/' :: join ['/'] (segView q).1 := by
  cases q with
  | nil => decide
  | cons c r =>
    have hc : '/' = c := by simpa [absPath, startsWith] using h
    subst hc
    exact normpath_abs r

theorem normpath_eq_render (q : Str) (h : absPath q = true) :
    normpath q = renderSegs ((segView q).1, false) false := by
  rw [normpath_eq q h]
  unfold renderSegs
  by_cases hF : (segView q).1 = []
  · simp [hF]
  · simp [hF, List.isEmpty_eq_false_iff.2 hF]

theorem mem_normpath {c : Char} {p : Str} (ha : absPath p = true) (h : c ∈ normpath p) :
    c ∈ p ∨ c = '/' := by
  rw [normpath_eq_render p ha] at h
  rcases mem_renderSegs h with h | ⟨x, hx, hc⟩
  · exact .inr h
  · exact .inl (mem_of_mem_splitOn (segView_subset p x hx) hc)

theorem normpath_abs_shape (q : Str) :
    normpath ('/' :: q) = [] ∨ ∃ d r, normpath ('/' :: q) = '/' :: d :: r ∧ d ≠ '/' := by
  rw [normpath_abs]
  split
  · exact Or.inl rfl
  · rename_i hne
    right
    cases hv : (segView ('/' :: q)).1 with
    | nil => exact absurd hv hne
    | cons x r =>
      obtain ⟨h0, _, _, hs⟩ := normal_segView _ x (by rw [hv]; simp)
      cases x with
      | nil => exact absurd rfl h0
      | cons d x' =>
        have hd : d ≠ '/' := fun e => hs (by simp [e])
        cases r with
        | nil => exact ⟨d, x', by simp [join], hd⟩
        | cons b r' => exact ⟨d, x' ++ ['/'] ++ join ['/'] (b :: r'), by simp [join], hd⟩

theorem viewOk_flag (q : Str) (fl : Bool) (h : (segView q).1 ≠ []) : ViewOk ((segView q).1, fl) :=
  ⟨normal_segView q, fun e => absurd e h⟩

theorem absPath_normpath (q : Str) (h : absPath q = true) : absPath (normpath q) = true := by
  rw [normpath_eq_render q h]; exact absPath_render _ _

/-- `normpath` is idempotent on absolute paths -/
theorem normpath_idem (q : Str) (h : absPath q = true) : normpath (normpath q) = normpath q := by
  by_cases hF : (segView q).1 = []
  · have : normpath q = [] := by rw [normpath_eq q h]; simp [hF]
    rw [this]; decide
  · have e := normpath_eq_render q h
    rw [normpath_eq_render _ (absPath_normpath q h)]
    rw [e, segView_render _ _ (viewOk_flag q false hF)]

/-- a trailing slash added to a resolved non-root path is dropped again -/
theorem normpath_append_slash (q : Str) (h : absPath q = true) (hne : normpath q ≠ []) :
    normpath (normpath q ++ ['/']) = normpath q := by
  have hF : (segView q).1 ≠ [] := by
    intro e; apply hne; rw [normpath_eq q h]; simp [e]
  have e1 : normpath q ++ ['/'] = renderSegs ((segView q).1, true) false := by
    rw [normpath_eq q h]
    simp [renderSegs, hF, List.isEmpty_eq_false_iff.2 hF]
  have habs : absPath (normpath q ++ ['/']) = true := by rw [e1]; exact absPath_render _ _
  rw [normpath_eq_render _ habs, e1, segView_render _ _ (viewOk_flag q true hF),
    ← normpath_eq_render q h]

/-- `normpath` maps unescaped absolute paths to unescaped paths -/
theorem unq_normpath (q : Str) (h : absPath q = true) (hq : Unq q) : unquotePath (normpath q) = normpath q := by
  rw [normpath_eq_render q h]
  exact unq_render _ _ (fun x hx => unq_segments hq x (segView_subset q x hx))

theorem normpath_resolvePath (q : Str) (m : Bool) (h : absPath q = true) :
    normpath (resolvePath q m) = normpath q := by
  have h2 : absPath (resolvePath q m) = true := by rw [resolvePath_eq q m h]; exact absPath_render _ _
  rw [normpath_eq_render _ h2, segView_resolvePath q m h, ← normpath_eq_render q h]

theorem normpath_pathOut (q : Bool) (p : Str) (m : Bool) (h : absPath p = true)
    (hc : q = true → pathClean p = true) :
    normpath (unquotePath (pathOut q p m)) = normpath (unquotePath p) := by
  rw [unquote_pathOut q p m h hc, canonPath_eq, normpath_resolvePath _ m (absPath_unquotePath p h)]

theorem canonPath_of_unquote {p p' : Str} (h : unquotePath p' = unquotePath p) (m : Bool) :
    canonPath p' m = canonPath p m := by
  rw [canonPath_eq, canonPath_eq, h]

end Ural.Normpath
