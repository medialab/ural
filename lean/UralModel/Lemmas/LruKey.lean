import UralModel.Lemmas.LruPrefix
/-!
# The cleaned stems of a URL (`clean_trailing_path ∘ lru_stems`) and their prefix order

The stems are kept as (tag, text) pairs; `render` is injective, so the prefix order on the strings is the
one on the pairs.  `keyStemsG segs` reads the path through any `segs` (`cleanSegs`: what
`clean_trailing_path` leaves; `rawSegs`: the stems as emitted), and `keyStemsG_prefix_iff` is
`Groups.flat_prefix_iff` of `Lemmas/LruPrefix.lean` on its groups, written out as a relation between the
components of the two URLs.
-/
set_option linter.unusedSimpArgs false
namespace Ural.Lru
open Ural Ural.Py

variable (sp : Str → Option (Str × Str))

/-- path stems without the empty ones -/
def cleanPathStems (path : Str) : List TStem := (cleanSegs path).map (fun e => ('p', e))

/-- the stems of a URL, empty path stems aside, as pairs -/
def keyStems (sa : Bool) (p : Parts) : List TStem :=
  strStem 's' p.scheme ++ (portStems (portSplit (hostportOf p.netloc)) ++
    (hostStems sp sa p.netloc ((portSplit (hostportOf p.netloc)).headD []) ++ (cleanPathStems p.path ++
    (strStem 'q' p.query ++ (strStem 'f' p.fragment ++
    (optStem 'u' (userOf p.netloc) ++ optStem 'w' (passwordOf p.netloc)))))))

theorem render_injective (a b : TStem) (h : render a = render b) : a = b := by
  obtain ⟨a1, a2⟩ := a; obtain ⟨b1, b2⟩ := b
  simp only [render, List.cons.injEq, true_and] at h
  simp [h.1, h.2]

theorem filter_clean_of_tag {G : List TStem} (h : ∀ t ∈ G, t.1 ≠ 'p') :
    G.filter ((fun s => s != ['p', ':']) ∘ render) = G := by
  rw [List.filter_eq_self]
  intro t ht
  have := h t ht
  simp [render, this]

theorem filter_clean_pathStems (path : Str) :
    (pathStems path).filter ((fun s => s != ['p', ':']) ∘ render) = cleanPathStems path := by
  simp only [pathStems, cleanPathStems, cleanSegs, List.filter_map]
  congr 1

/-- `clean_trailing_path(lru_stems(u))` are the rendered key stems -/
theorem clean_lruStems (sa : Bool) (p : Parts) :
    cleanTrailingPath (lruStems sp sa p) = (keyStems sp sa p).map render := by
  unfold cleanTrailingPath lruStems
  rw [List.filter_map, lruStemsT_groups]
  simp only [List.filter_append, filter_clean_pathStems]
  rw [filter_clean_of_tag (fun t h => by rw [tag_strStem h]; decide),
    filter_clean_of_tag (fun t h => by rw [tag_portStems h]; decide),
    filter_clean_of_tag (fun t h => by rw [tag_hostStems sp h]; decide),
    filter_clean_of_tag (G := strStem 'q' p.query) (fun t h => by rw [tag_strStem h]; decide),
    filter_clean_of_tag (G := strStem 'f' p.fragment) (fun t h => by rw [tag_strStem h]; decide),
    filter_clean_of_tag (G := optStem 'u' _) (fun t h => by rw [tag_optStem h]; decide),
    filter_clean_of_tag (G := optStem 'w' _) (fun t h => by rw [tag_optStem h]; decide)]
  rfl

/-! ## the groups as relations on components -/

theorem segStems_eq_iff (a b : List Str) : segStems a = segStems b ↔ a = b := by
  unfold segStems
  constructor
  · intro h
    have := congrArg (List.map (·.2)) h
    simpa [List.map_map, Function.comp_def] using this
  · intro h; rw [h]

theorem segStems_prefix_iff (a b : List Str) : segStems a <+: segStems b ↔ a <+: b :=
  map_prefix_of_injective _ (fun x y h => by simpa using h)

theorem segStems_eq_nil_iff (a : List Str) : segStems a = [] ↔ a = [] := by
  simp [segStems]

theorem strStem_eq_iff (tag : Char) (x y : Str) : strStem tag x = strStem tag y ↔ x = y := by
  unfold strStem
  by_cases hx : x = [] <;> by_cases hy : y = [] <;> simp [hx, hy]

theorem strStem_eq_nil_iff (tag : Char) (x : Str) : strStem tag x = [] ↔ x = [] := by
  unfold strStem; by_cases hx : x = [] <;> simp [hx]

theorem strStem_prefix_iff (tag : Char) (x y : Str) :
    strStem tag x <+: strStem tag y ↔ x = [] ∨ x = y := by
  unfold strStem
  by_cases hx : x = [] <;> by_cases hy : y = [] <;> simp [hx, hy, List.cons_prefix_cons]

theorem portStems_eq_iff (h1 h2 : Str) (o1 o2 : Option Str) :
    portStems (h1 :: o1.toList) = portStems (h2 :: o2.toList) ↔ o1 = o2 := by
  cases o1 <;> cases o2 <;> simp [portStems]

theorem cleanPathStems_eq_iff (a b : Str) : cleanPathStems a = cleanPathStems b ↔ cleanSegs a = cleanSegs b :=
  segStems_eq_iff _ _

theorem cleanPathStems_prefix_iff (a b : Str) :
    cleanPathStems a <+: cleanPathStems b ↔ cleanSegs a <+: cleanSegs b :=
  segStems_prefix_iff _ _

theorem cleanPathStems_eq_nil_iff (a : Str) : cleanPathStems a = [] ↔ cleanSegs a = [] :=
  segStems_eq_nil_iff _

theorem tag_cleanPathStems {path : Str} {t : TStem} (h : t ∈ cleanPathStems path) : t.1 = 'p' :=
  tag_segStems h

theorem optStem_of_noUserinfo {n : Str} (h : noUserinfo n = true) :
    optStem 'u' (userOf n) = [] ∧ optStem 'w' (passwordOf n) = [] := by
  simp only [noUserinfo, Bool.and_eq_true, beq_iff_eq] at h
  constructor
  · cases hu : userOf n with
    | none => rfl
    | some x => simp [hu] at h; simp [optStem, strStem, h.1]
  · cases hw : passwordOf n with
    | none => rfl
    | some x => simp [hw] at h; simp [optStem, strStem, h.2]

/-! ## the same for any reading of the path segments -/

/-- the stems of a URL as pairs, the path read through `segs` (`cleanSegs`: `keyStems`;
`rawSegs`: `lruStemsT` itself) -/
def keyStemsG (segs : Str → List Str) (sa : Bool) (p : Parts) : List TStem :=
  strStem 's' p.scheme ++ (portStems (portSplit (hostportOf p.netloc)) ++
    (hostStems sp sa p.netloc ((portSplit (hostportOf p.netloc)).headD []) ++ (segStems (segs p.path) ++
    (strStem 'q' p.query ++ (strStem 'f' p.fragment ++
    (optStem 'u' (userOf p.netloc) ++ optStem 'w' (passwordOf p.netloc)))))))

theorem keyStems_eq_G (sa : Bool) (p : Parts) : keyStems sp sa p = keyStemsG sp cleanSegs sa p := rfl

theorem underBy_iff_G (f : Str → Str) (u v : Parts) : UnderBy f u v ↔ UnderByG cleanSegs f u v :=
  Iff.rfl

/-- the stems `lru_stems` emits, as they are -/
theorem lruStemsT_eq_G (sa : Bool) (p : Parts) : lruStemsT sp sa p = keyStemsG sp rawSegs sa p := by
  rw [lruStemsT_groups]; rfl

theorem keyStemsG_eq_flat (segs : Str → List Str) (sa : Bool) (p : Parts) :
    keyStemsG sp segs sa p = (groupsOf sp segs sa p).flat := by
  simp [keyStemsG, groupsOf, Groups.flat]

theorem keyStemsG_prefix_nested (segs : Str → List Str) (sa : Bool) (u v : Parts) :
    keyStemsG sp segs sa u <+: keyStemsG sp segs sa v ↔
      Groups.Nested (groupsOf sp segs sa u) (groupsOf sp segs sa v) := by
  rw [keyStemsG_eq_flat, keyStemsG_eq_flat]
  exact Groups.flat_prefix_iff (tagged_groupsOf sp segs sa u) (tagged_groupsOf sp segs sa v) rfl
    (nodup_tags_groupsOf sp segs sa u)

/-- **the prefix order on stems, group by group** (`u` without userinfo), for any reading `segs`
of the path segments (`cleanSegs`: empty path stems aside; `rawSegs`: the stems as emitted): same scheme,
same port, then host / path / query / fragment may each be extended only when everything after
it is absent from `u` -/
theorem keyStemsG_prefix_iff (segs : Str → List Str) (sa : Bool) (u v : Parts) (hu : noUserinfo u.netloc = true)
    (hwu : wfNetloc u.netloc = true) (hwv : wfNetloc v.netloc = true) :
    keyStemsG sp segs sa u <+: keyStemsG sp segs sa v ↔
      u.scheme = v.scheme ∧ specPort u.netloc = specPort v.netloc ∧
      ((hostStems sp sa u.netloc (specHost u.netloc) = hostStems sp sa v.netloc (specHost v.netloc) ∧
          ((segs u.path = segs v.path ∧
              ((u.query = v.query ∧ (u.fragment = [] ∨ u.fragment = v.fragment)) ∨
               (u.fragment = [] ∧ (u.query = [] ∨ u.query = v.query)))) ∨
           (u.query = [] ∧ u.fragment = [] ∧ segs u.path <+: segs v.path))) ∨
       (segs u.path = [] ∧ u.query = [] ∧ u.fragment = [] ∧
          hostStems sp sa u.netloc (specHost u.netloc) <+: hostStems sp sa v.netloc (specHost v.netloc))) := by
  obtain ⟨hU, hW⟩ := optStem_of_noUserinfo hu
  have hor : ∀ {a b : Prop}, (a ∨ b ∨ a) ↔ (b ∨ a) := ⟨fun h => h.elim Or.inr id, Or.inr⟩
  rw [keyStemsG_prefix_nested]
  -- `Nested` over the eight groups: the `u` / `w` groups of `u` are empty, so "nothing follows a
  -- group" is emptiness of the later components; each group relation becomes one on its component
  simp only [groupsOf, Groups.Nested, Groups.flat, hor, List.flatMap_cons, List.flatMap_nil, hU, hW,
    portSplit_wf hwu, portSplit_wf hwv, List.headD_cons, List.append_nil, List.nil_prefix,
    strStem_eq_iff, strStem_prefix_iff, strStem_eq_nil_iff, portStems_eq_iff,
    segStems_eq_iff, segStems_prefix_iff, segStems_eq_nil_iff,
    List.append_eq_nil_iff, hostStems_ne_nil sp sa u.netloc (specHost u.netloc),
    false_and, and_false, or_false, and_true, or_true, true_and, and_assoc]

/-- the cleaned reading (`clean_trailing_path` on both sides) -/
theorem keyStems_prefix_iff (sa : Bool) (u v : Parts) (hu : noUserinfo u.netloc = true)
    (hwu : wfNetloc u.netloc = true) (hwv : wfNetloc v.netloc = true) :
    keyStems sp sa u <+: keyStems sp sa v ↔
      u.scheme = v.scheme ∧ specPort u.netloc = specPort v.netloc ∧
      ((hostStems sp sa u.netloc (specHost u.netloc) = hostStems sp sa v.netloc (specHost v.netloc) ∧
          ((cleanSegs u.path = cleanSegs v.path ∧
              ((u.query = v.query ∧ (u.fragment = [] ∨ u.fragment = v.fragment)) ∨
               (u.fragment = [] ∧ (u.query = [] ∨ u.query = v.query)))) ∨
           (u.query = [] ∧ u.fragment = [] ∧ cleanSegs u.path <+: cleanSegs v.path))) ∨
       (cleanSegs u.path = [] ∧ u.query = [] ∧ u.fragment = [] ∧
          hostStems sp sa u.netloc (specHost u.netloc) <+: hostStems sp sa v.netloc (specHost v.netloc))) := by
  rw [keyStems_eq_G, keyStems_eq_G]
  exact keyStemsG_prefix_iff sp cleanSegs sa u v hu hwu hwv

end Ural.Lru
