import UralModel.Lemmas.NetlocFacts
import UralModel.Py.Split
import UralModel.Lemmas.Split
/-!
# The `.hostname` of `Py/Split.lean` is the one of `Py/UrlAccessors.lean`

`Py.pyHostname` (read by the LRU model, `Sites`, the platform parsers, `hostOfModel`) writes `""`
for `None` and splits with `splitAtFirst` / `afterLast`; `Py.hostname` uses `splitFirst` /
`splitLast`.  They are the same function (`pyHostname_eq`), so an authority is read by both alike.
-/
namespace Ural.Netloc
open Ural.Py

theorem splitFirst_eq_splitAtFirst (s : Str) (sep : Char) :
    splitFirst s sep =
      match splitAtFirst sep s with
      | none => (s, none)
      | some (a, b) => (a, some b) := by
  rw [splitAtFirst_eq]
  rcases splitFirst_cases s sep with ⟨_, e⟩ | ⟨a, b, _, _, e⟩ <;> rw [e] <;> rfl

theorem pyHostinfoHost_eq (n : Str) : pyHostinfoHost n = (hostinfo n).1 := by
  unfold pyHostinfoHost hostinfo hostPortStr hostinfoStr
  simp only [afterLast_eq, beforeFirst_eq]
  rw [splitFirst_eq_splitAtFirst ((splitLast n '@').2) '[']
  cases splitAtFirst '[' (splitLast n '@').2 with
  | none => rfl
  | some ab => rfl

theorem pyHostname_eq (n : Str) : pyHostname n = lowerHost (hostinfo n).1 := by
  unfold pyHostname lowerHost
  rw [pyHostinfoHost_eq]
  rw [splitFirst_eq_splitAtFirst (hostinfo n).1 '%']
  simp only
  cases splitAtFirst '%' (hostinfo n).1 with
  | none => simp
  | some ab => obtain ⟨a, z⟩ := ab; simp

theorem lowerOf_pyHostname (n : Str) : LowerOf (pyHostname n) n := by
  rw [pyHostname_eq]
  exact lowerOf_lowerHost _ n fun x hx => hostinfoStr_subset n (hostPortStr_fst_subset _ hx)

theorem pyHostinfoHost_infix (n : Str) : ∃ a b, n = a ++ pyHostinfoHost n ++ b := by
  obtain ⟨a0, h0⟩ := afterLast_suffix '@' n
  unfold pyHostinfoHost
  simp only
  cases hs : splitAtFirst '[' (afterLast '@' n) with
  | none =>
    obtain ⟨b, hb⟩ := beforeFirst_prefix ':' (afterLast '@' n)
    exact ⟨a0, b, by rw [List.append_assoc, ← hb, ← h0]⟩
  | some xy =>
    obtain ⟨x, y⟩ := xy
    have e := (splitAtFirst_eq_some.mp hs).1
    obtain ⟨b, hb⟩ := beforeFirst_prefix ']' y
    refine ⟨a0 ++ x ++ ['['], b, ?_⟩
    simp only
    calc n = a0 ++ afterLast '@' n := h0
      _ = a0 ++ (x ++ '[' :: y) := by rw [e]
      _ = a0 ++ (x ++ '[' :: (beforeFirst ']' y ++ b)) := by rw [← hb]
      _ = _ := by simp

theorem mem_pyHostinfoHost {n : Str} {c : Char} (h : c ∈ pyHostinfoHost n) : c ∈ n := by
  obtain ⟨a, b, e⟩ := pyHostinfoHost_infix n
  rw [e]; simp [h]

section
variable {n : Str} {ui : Option Str} {b : Bool} {H : Str} {po : Option Str} (h : Reads n ui b H po)
include h

theorem Reads.pyHostinfoHost : Py.pyHostinfoHost n = H := by
  rw [pyHostinfoHost_eq, h.hostinfo]

theorem Reads.pyHostname : Py.pyHostname n = lowerHost H := by
  rw [pyHostname_eq, h.hostinfo]

theorem Reads.pyHostname_lower (hp : '%' ∉ H) : Py.pyHostname n = lower H := by
  rw [h.pyHostname, lowerHost_of_no_pct hp]

end

theorem pyHostname_bare {H : Str} (h1 : '@' ∉ H) (h2 : '[' ∉ H) (h3 : ':' ∉ H) (h4 : '%' ∉ H) :
    pyHostname H = lower H :=
  (Reads.bare h1 h3 h2).pyHostname_lower h4

/-- lower-casing `.hostname` is lower-casing the host (CPython leaves only the zone id as
written) -/
theorem lower_pyHostname (n : Str) : lower (pyHostname n) = lower (pyHostinfoHost n) := by
  rw [pyHostname_eq, lower_lowerHost, pyHostinfoHost_eq]

end Ural.Netloc
