import UralModel.Lemmas.FacebookRouter
/-!
What holds of every record `parse_facebook_url` returns (C19), each fact proved on the rules of
`Routed`: the documented shape and the module's own id test, no empty field, clean path-borne fields,
enough segments, a total `.url`; and, from "no earlier route took the url" read on the segments of the
routed path, the hypothesis of the round trip as soon as `charsOk` holds.
-/
namespace Ural.Facebook
open Ural.Py Ural

/-! ## what a returned record looks like

C19, "a well-formed record of the documented type": which fields are set, and that the fields
documented as ids / handles are told apart by the module's own validator `is_facebook_id`. -/

/-- the id / handle fields of the record agree with the module's validator: `group_id`,
`FacebookGroup.id` and the `parent_id` of a photo satisfy `is_facebook_id`; `group_handle`,
`parent_handle`, `FacebookGroup.handle` do not.  (The `parent_id` of a *post* is excluded: the
`permalink.php?story_fbid=…&id=…` route copies it from the query without validating it.) -/
def IdsValid : Parsed → Prop
  | .post _ _ ph gid gh =>
    (∀ g, gid = some g → is_facebook_id g = true) ∧ (∀ h, gh = some h → is_facebook_id h = false) ∧
    (∀ h, ph = some h → is_facebook_id h = false)
  | .group id h =>
    (∀ g, id = some g → is_facebook_id g = true) ∧ (∀ x, h = some x → is_facebook_id x = false)
  | .photo _ _ pid ph _ =>
    (∀ p, pid = some p → is_facebook_id p = true) ∧ (∀ h, ph = some h → is_facebook_id h = false)
  | _ => True

def Shaped : Parsed → Prop
  | .user _ h => h = none
  | .handle _ => True
  | .group id h => (id.isSome ∧ h = none) ∨ (id = none ∧ h.isSome)
  | .post _ pid ph gid gh =>
    (pid.isSome ∧ ph = none ∧ gid = none ∧ gh = none) ∨ (pid = none ∧ ph.isSome ∧ gid = none ∧ gh = none) ∨
    (pid = none ∧ ph = none ∧ gid.isSome ∧ gh = none) ∨ (pid = none ∧ ph = none ∧ gid = none ∧ gh.isSome)
  | .video _ _ => True
  | .photo _ gid pid ph aid =>
    (pid = none ∧ ph = none) ∨
    (gid = none ∧ aid.isSome ∧ ((pid.isSome ∧ ph = none) ∨ (pid = none ∧ ph.isSome)))

def Good (r : Parsed) : Prop := IdsValid r ∧ Shaped r

theorem Routed.good {path query : Str} {r : Parsed} (h : Routed path query r) : Good r := by
  cases h
  case photos | pagePost | groupPost | group => split <;> simp_all [Good, IdsValid, Shaped]
  all_goals simp [Good, IdsValid, Shaped]

theorem parse_facebook_url_good (url : Str) (rel : Bool) (r : Parsed)
    (h : parse_facebook_url url rel = .ok (some r)) : Good r := by
  obtain ⟨_, _, _, _, h⟩ := parse_facebook_url_routed url rel r h
  exact h.good

/-! ## no empty field -/

/-- a set id is `None` or a non-empty string -/
theorem setId_ne_nil (sets : List Str) (p : Str) (hp : p ≠ []) (y : Str) (h : setId sets p = .ok (some y)) :
    y ≠ [] := by
  unfold setId at h
  cases hf : firstWithPrefix sets p with
  | none => rw [hf] at h; cases h
  | some x =>
    rw [hf] at h
    simp only at h
    have hs : startsWith x p = true := by
      unfold firstWithPrefix at hf
      exact List.find?_some (p := fun y => startsWith y p) hf
    by_cases hx : x.isEmpty = true
    · exfalso
      have : x = [] := List.isEmpty_iff.mp hx
      rw [this] at hs
      have := List.isPrefixOf_iff_prefix.mp hs
      exact hp (List.prefix_nil.mp this)
    · rw [if_neg hx] at h
      have hl := splitStr1_length_of_startsWith x p hs
      rw [getIdx_of_lt _ 1 (by omega)] at h
      simp only [Except.map, orNone, Except.ok.injEq] at h
      split at h
      · cases h
      · rename_i hz
        injection h with h
        rw [← h]
        simpa using hz

/-- `None`, or a non-empty string -/
def optNe (o : Option Str) : Bool :=
  match o with
  | some x => !x.isEmpty
  | none => true

/-- no field of the record is the empty string -/
def noEmpty : Parsed → Bool
  | .user id h => !id.isEmpty && optNe h
  | .handle h => !h.isEmpty
  | .group id h => optNe id && optNe h
  | .post id a b c d => !id.isEmpty && optNe a && optNe b && optNe c && optNe d
  | .video id p => !id.isEmpty && optNe p
  | .photo id a b c d => !id.isEmpty && optNe a && optNe b && optNe c && optNe d

theorem photoSets_noEmpty (query : Str) (ga : Option Str × Option Str)
    (h : photoSets (safe_parse_qs query) = .ok ga) : optNe ga.1 = true ∧ optNe ga.2 = true := by
  unfold photoSets at h
  by_cases hs : qsHas (safe_parse_qs query) (lit "set") = true
  · obtain ⟨g, hg⟩ := setId_total (qsValues (safe_parse_qs query) (lit "set")) (lit "g.")
    obtain ⟨a, ha⟩ := setId_total (qsValues (safe_parse_qs query) (lit "set")) (lit "a.")
    simp only [hs, if_true, qsItem_of_has, hg, ha, bind, Except.bind, pure, Except.pure, Except.ok.injEq] at h
    rw [← h]
    constructor
    · cases g with
      | none => rfl
      | some y => simpa [optNe] using setId_ne_nil _ _ (by decide) y hg
    · cases a with
      | none => rfl
      | some y => simpa [optNe] using setId_ne_nil _ _ (by decide) y ha
  · simp only [hs, Bool.false_eq_true, if_false, pure, Except.pure, Except.ok.injEq] at h
    rw [← h]; exact ⟨rfl, rfl⟩

theorem noEmpty_of_routed {path query : Str} {r : Parsed} (h : Routed path query r)
    (hseg : ∀ x ∈ pathsplit path, x ≠ []) : noEmpty r = true := by
  have hq := qsValues_ne_nil query
  cases h
  case watch hv => simpa [noEmpty, optNe] using hq _ _ hv
  case profile hv => simpa [noEmpty, optNe] using hq _ _ hv
  case permalink h1 h2 => simp [noEmpty, optNe, hq _ _ h1, hq _ _ h2]
  case photoQuery hv hga =>
    obtain ⟨hg, ha⟩ := photoSets_noEmpty query _ hga
    simp [noEmpty, hg, ha, hq _ _ hv, show optNe none = true from rfl]
  all_goals
    rw [‹pathsplit path = _›] at hseg
    simp only [List.forall_mem_cons] at hseg
    try split
  all_goals simp [noEmpty, optNe, *]

/-! ## clean fields, and the hypothesis of the round trip -/

theorem segChar_eq_cleanChar : segChar = cleanChar := by funext c; rfl

theorem all_segChar_of {s : Str} (h1 : s.all cleanChar = true) : s.all segChar = true := by
  rw [segChar_eq_cleanChar]; exact h1

/-- not empty (`parsed_fields_nonempty`) + a clean segment (`parsed_path_fields_clean`) + not a dot
segment (`charsOk`) = a good segment -/
theorem segOk_of {s : Str} (h1 : s ≠ []) (h3 : segClean s = true) (h2 : segChars s = true) :
    segOk s = true := by
  unfold segChars at h2
  unfold segClean at h3
  unfold segOk
  simp only [Bool.and_eq_true, Bool.not_eq_true'] at h2 h3
  simp [h1, all_segChar_of h3.1.1, h2, h3.1.2, h3.2]

theorem isDotSeg_of_lastSemiOk {s : Str} (h : lastSemiOk s = true) : isDotSeg s = false := by
  cases hd : isDotSeg s with
  | false => rfl
  | true =>
    unfold isDotSeg at hd
    simp only [Bool.or_eq_true, decide_eq_true_eq] at hd
    rcases hd with hd | hd <;> (rw [hd] at h; exact absurd h (by decide))

/-- the same for the field that ends the canonical path -/
theorem lastOk_of {s : Str} (h1 : s ≠ []) (h3 : segClean s = true) (h2 : lastChars s = true) :
    lastOk s = true := by
  unfold lastChars at h2
  unfold lastOk
  have hd : segChars s = true := by unfold segChars; simp [isDotSeg_of_lastSemiOk h2]
  simp [segOk_of h1 h3 hd, h2]

theorem albumOk_of {a : Str} (h3 : albumClean a = true) :
    a.all segChar = true ∧ blankLast a = false := by
  unfold albumClean at h3
  simp only [Bool.and_eq_true, Bool.not_eq_true'] at h3
  exact ⟨all_segChar_of h3.1, h3.2⟩

theorem qvalOk_of {s : Str} (h1 : s ≠ []) (h2 : qvalChars s = true) : qvalOk s = true := by
  unfold qvalChars at h2
  unfold qvalOk
  simp only [Bool.and_eq_true, Bool.not_eq_true'] at h2
  simp [h1, h2.1, h2.2]

theorem optQvalOk_of {o : Option Str} (h1 : optNe o = true) (h2 : optQvalChars o = true) : optQvalOk o = true := by
  cases o with
  | none => rfl
  | some x => exact qvalOk_of (by simpa [optNe] using h1) h2

/-- the album id is the end of the segment `a.<album>` (or that segment): clean when not empty -/
theorem albumClean_albumOf (p2 : Str) (h : segClean p2 = true) : albumClean (albumOf p2) = true := by
  unfold segClean at h
  simp only [Bool.and_eq_true, Bool.not_eq_true', List.all_eq_true] at h
  obtain ⟨⟨hall, _⟩, hl⟩ := h
  unfold albumOf albumClean
  split
  · have h1 : (p2.drop 2).all cleanChar = true :=
      List.all_eq_true.mpr (fun c hc => hall c (List.mem_of_mem_drop hc))
    have h2 : blankLast (p2.drop 2) = false := by
      unfold blankLast at hl ⊢
      rw [List.getLast?_drop]
      split
      · rfl
      · exact hl
    simp [h1, h2]
  · have h1 : p2.all cleanChar = true := List.all_eq_true.mpr hall
    simp [h1, hl]

theorem pathFieldsClean_of_routed {path query : Str} {r : Parsed} (h : Routed path query r)
    (hseg : ∀ x ∈ pathsplit path, segClean x = true) : pathFieldsClean r = true := by
  cases h
  case watch | photoQuery | permalink | profile | people => rfl
  all_goals
    rw [‹pathsplit path = _›] at hseg
    simp only [List.forall_mem_cons] at hseg
    try split
  all_goals simp [pathFieldsClean, hseg, albumClean_albumOf]

/-- the segments of the path the parser routes — the path `urlsplit` returned, the blanks around
each segment dropped, repeated slashes collapsed — are clean -/
theorem squeezePath_segClean (sp : SplitResult) (habs : PathAbs sp.path)
    (hchars : ∀ c ∈ sp.path, pathChar c = true) :
    ∀ x ∈ pathsplit (squeezePath sp).path, segClean x = true := by
  intro x hx
  have ht := routed_segment_trimmed sp habs x hx
  have hc := routed_segment_chars sp habs (fun c => pathChar c = true) hchars x hx
  have hs := pathsplit_no_slash _ x hx
  unfold segClean
  have hall : x.all cleanChar = true := by
    apply List.all_eq_true.mpr
    intro c hcx
    obtain ⟨h1, h2, h3⟩ := pathChar_spec (hc c hcx)
    have h0 : c ≠ '/' := fun e => hs (e ▸ hcx)
    simp [cleanChar, h0, h1, h2, h3]
  simp [hall, ht.1, ht.2]

theorem noWatch_of_routed (sp : SplitResult) (habs : PathAbs sp.path)
    (hw : contains (squeezePath sp).path (lit "/watch") = false) :
    ∀ x ∈ pathsplit (squeezePath sp).path, noWatch x = true := by
  rw [lit_watch, contains_eq_hasInfix, squeezePath_slashed sp habs,
    hasInfix_slashed_prefix _ watchL (by decide) (routedSegs_no_slash sp.path)] at hw
  intro x hx
  have : watchL.isPrefixOf x = false := Bool.eq_false_iff.mpr (List.any_eq_false.mp hw x (routed_mem sp habs x hx))
  unfold noWatch
  rw [lit_watch_word]
  simp only [startsWith, this, Bool.not_false]

theorem seg_ne_videos (sp : SplitResult) (habs : PathAbs sp.path)
    (h : contains (squeezePath sp).path (lit "/videos/") = false) :
    ∀ x ∈ (pathsplit (squeezePath sp).path).dropLast, x ≠ lit "videos" := by
  rw [lit_videos, contains_eq_hasInfix] at h
  rw [lit_videos_word]
  exact seg_ne_word_routed sp habs videosL (by decide) h

theorem seg_ne_photos (sp : SplitResult) (habs : PathAbs sp.path)
    (h : contains (squeezePath sp).path (lit "/photos/") = false) :
    ∀ x ∈ (pathsplit (squeezePath sp).path).dropLast, x ≠ lit "photos" := by
  rw [lit_photos, contains_eq_hasInfix] at h
  rw [lit_photos_word]
  exact seg_ne_word_routed sp habs photosL (by decide) h

/-- The fields are not empty and clean because the segments and the values `parse_qs` holds are; that no
earlier route takes the canonical url follows from the tests that fell through before the rule applied,
read on the segments (`Lemmas/FacebookPathsplit.lean`). -/
theorem reparsable_of_routed (sp : SplitResult) (habs : PathAbs sp.path) (hchars : ∀ c ∈ sp.path, pathChar c = true)
    {query : Str} {r : Parsed} (h : Routed (squeezePath sp).path query r) (hc : charsOk r = true) :
    reparsable r = true := by
  have hne := routed_seg_ne_nil sp habs
  have hseg := squeezePath_segClean sp habs hchars
  have noWatch_of_seg := noWatch_of_routed sp habs
  have seg_ne_videos := seg_ne_videos sp habs
  have seg_ne_photos := seg_ne_photos sp habs
  have first_seg := first_seg_no_prefix_routed sp habs peopleL
  generalize (squeezePath sp).path = path at h hne hseg noWatch_of_seg seg_ne_videos seg_ne_photos first_seg
  have seg : ∀ x ∈ pathsplit path, segChars x = true → segOk x = true :=
    fun x hx => segOk_of (hne x hx) (hseg x hx)
  have last : ∀ x ∈ pathsplit path, lastChars x = true → lastOk x = true :=
    fun x hx => lastOk_of (hne x hx) (hseg x hx)
  have qv : ∀ k v, v ∈ qsValues (safe_parse_qs query) k → qvalChars v = true → qvalOk v = true :=
    fun k v hv => qvalOk_of (qsValues_ne_nil query k v hv)
  cases h
  case watch hv => exact qv _ _ hv hc
  case profile hv => exact qv _ _ hv hc
  case permalink h1 h2 =>
    simp only [charsOk, Bool.and_eq_true] at hc
    simp [reparsable, qv _ _ h1 hc.1, qv _ _ h2 hc.2]
  case photoQuery hv hga =>
    obtain ⟨hg, ha⟩ := photoSets_noEmpty query _ hga
    simp only [charsOk, Bool.and_eq_true] at hc
    simp [reparsable, photoQueryOk, qv _ _ hv hc.1.1, optQvalOk_of hg hc.1.2, optQvalOk_of ha hc.2]
  case people a b id rest hps =>
    exact qvalOk_of (hne id (by rw [hps]; simp)) hc
  case videos p0 x id rest hw hps =>
    have w := noWatch_of_seg hw
    rw [hps] at w seg last
    simp only [List.forall_mem_cons] at w seg last
    simp only [charsOk, Bool.and_eq_true] at hc
    simp [reparsable, videoParentOk, seg.1 hc.1, last.2.2.1 hc.2, w]
  case photos p0 x p2 id rest hw hv ha hps =>
    have w := noWatch_of_seg hw
    have nv := seg_ne_videos hv p0 (by rw [hps]; simp)
    have al := albumOk_of (albumClean_albumOf p2 (hseg p2 (by rw [hps]; simp)))
    rw [hps] at w seg last
    simp only [List.forall_mem_cons] at w seg last
    by_cases hid : is_facebook_id p0 = true
    · rw [if_pos hid] at hc ⊢
      simp only [charsOk, Bool.and_eq_true] at hc
      simp [reparsable, photoPathOk, seg.1 hc.1, last.2.2.2.1 hc.2, ha, al, w, nv, hid]
    · rw [if_neg hid] at hc ⊢
      simp only [charsOk, Bool.and_eq_true] at hc
      simp [reparsable, photoPathOk, seg.1 hc.1, last.2.2.2.1 hc.2, ha, al, w, nv, hid]
  case pagePost p0 x id rest hw hv hp hg hps =>
    have w := noWatch_of_seg hw
    have nv := seg_ne_videos hv p0 (by rw [hps]; simp)
    have np := seg_ne_photos hp p0 (by rw [hps]; simp)
    rw [hps] at w seg last hne
    simp only [List.forall_mem_cons] at w seg last hne
    by_cases hid : is_facebook_id p0 = true
    · rw [if_pos hid] at hc ⊢
      simp only [charsOk, Bool.and_eq_true] at hc
      simp [reparsable, qvalOk_of hne.1 hc.1, qvalOk_of hne.2.2.1 hc.2]
    · rw [if_neg hid] at hc ⊢
      simp only [charsOk, Bool.and_eq_true] at hc
      simp [reparsable, postHandleOk, seg.1 hc.1, last.2.2.1 hc.2, w, nv, np, hg, hid]
  case groupPost x g y id rest hw hv hp hps =>
    have w := noWatch_of_seg hw
    have nv := seg_ne_videos hv g (by rw [hps]; simp)
    have np := seg_ne_photos hp g (by rw [hps]; simp)
    rw [hps] at w seg last
    simp only [List.forall_mem_cons] at w seg last
    by_cases hid : is_facebook_id g = true
    · rw [if_pos hid] at hc ⊢
      simp only [charsOk, Bool.and_eq_true] at hc
      simp [reparsable, postGroupOk, seg.2.1 hc.1, last.2.2.2.1 hc.2, w, nv, np, hid]
    · rw [if_neg hid] at hc ⊢
      simp only [charsOk, Bool.and_eq_true] at hc
      simp [reparsable, postGroupOk, seg.2.1 hc.1, last.2.2.2.1 hc.2, w, nv, np, hid]
  case group x g rest hw hps =>
    have hg : g ∈ pathsplit path := by rw [hps]; simp
    have w := noWatch_of_seg hw g hg
    by_cases hid : is_facebook_id g = true
    · rw [if_pos hid] at hc ⊢
      simp [reparsable, groupOk, last g hg hc, w, hid]
    · rw [if_neg hid] at hc ⊢
      simp [reparsable, groupOk, last g hg hc, w, hid]
  case handle s rest hw hpe hphp hps =>
    have hs : s ∈ pathsplit path := by rw [hps]; simp
    have p0 : startsWith s (lit "people") = false := by
      rw [lit_people] at hpe
      rw [lit_people_word]
      exact first_seg s rest (by decide) hpe hps
    simp only [reparsable, handleOk, last s hs hc, noWatch_of_seg hw s hs, p0, hphp, Bool.not_false,
      Bool.and_self]

/-- **no record returned by `parse_facebook_url` carries an empty string** -/
theorem parse_facebook_url_noEmpty (url : Str) (rel : Bool) (r : Parsed)
    (h : parse_facebook_url url rel = .ok (some r)) : noEmpty r = true := by
  obtain ⟨u, sp, _, hsp, h⟩ := parse_facebook_url_routed url rel r h
  have hne := routed_seg_ne_nil sp (safe_urlsplit_path_abs _ sp hsp)
  exact noEmpty_of_routed h hne

/-! ## `.url` of a returned record -/

theorem isEmpty_false_of_not {s : Str} (h : (!s.isEmpty) = true) : s.isEmpty = false := by simpa using h

/-- **`.url` is total on well-formed records**: documented field combination (`Shaped`), no empty
field, clean path-borne fields — all three hold of every record the parser returns -/
theorem url_total_of_shaped (r : Parsed) (hs : Shaped r) (hne : noEmpty r = true) (hcl : pathFieldsClean r = true) :
    ∃ u, r.url = .ok (some u) := by
  -- the cases are the arms of `Parsed.url` (`Model/Facebook.lean`), in its order
  unfold Parsed.url
  split
  case h_1 => -- a user by id: `/profile.php?id=<id>`
    simp only [lit_profile_q, profilePhpL, List.cons_append]
    exact joinBase_abs_ok _ _ (by decide) (by decide)
  case h_2 => simp [Shaped] at hs -- a user with a handle: no documented shape
  case h_3 h => -- a handle: `/<h>`
    have := joinBase_field_ok h [] (isEmpty_false_of_not hne) hcl
    simpa using this
  case h_4 | h_5 => -- a group, by handle or id: the relative reference `groups/<g>`
    simp only [lit_groups_rel, List.append_assoc, List.cons_append, List.nil_append]
    exact joinBase_groups_ok _
  case h_6 id pid ph gid gh => -- a post of a page known by its handle: `/<ph>/posts/<id>`
    cases pid <;> cases gid <;> cases gh <;> simp [Shaped] at hs
    simp only [noEmpty, optNe, Bool.and_eq_true, Bool.and_true] at hne
    simp only [pathFieldsClean, Bool.and_eq_true] at hcl
    rw [List.append_assoc]
    exact joinBase_field_ok ph _ (isEmpty_false_of_not hne.2) hcl.1
  case h_7 => -- a post of a page known by its id: `/permalink.php?story_fbid=<id>&id=<pid>`
    simp only [lit_permalink_q, permalinkPhpL, List.cons_append]
    exact joinBase_abs_ok _ _ (by decide) (by decide)
  case h_8 | h_9 => -- a post of a group, by id or handle: `/groups/<g>/permalink/<id>`
    simp only [lit_groups, groupsL, List.cons_append]
    exact joinBase_abs_ok _ _ (by decide) (by decide)
  case h_10 => simp [Shaped] at hs -- a post without parent (`.url` is `None`): no documented shape
  case h_11 => -- a video without parent: `/watch/?v=<id>`
    simp only [lit_watch_q, watchL, List.cons_append]
    exact joinBase_abs_ok _ _ (by decide) (by decide)
  case h_12 id pid => -- a video of a page: `/<pid>/videos/<id>`
    simp only [noEmpty, optNe, Bool.and_eq_true] at hne
    simp only [pathFieldsClean, Bool.and_eq_true] at hcl
    rw [List.append_assoc]
    exact joinBase_field_ok pid _ (isEmpty_false_of_not hne.2) hcl.1
  case h_13 id gid pid ph aid => -- a photo: of a page's album, or `photo.php` with its sets
    have hq : ∃ u, joinBase (photoQueryPath id gid aid) = .ok (some u) := by
      simp only [photoQueryPath, lit_photo_q, photoPhpL, List.cons_append, List.append_assoc]
      exact joinBase_abs_ok _ _ (by decide) (by decide)
    -- a parent comes with an album and no group (`Shaped`): the reference starts with the parent
    have hpar : ∀ p a, (pid = some p ∧ ph = none ∨ pid = none ∧ ph = some p) → gid = none → aid = some a →
        p.isEmpty = false ∧ ∃ u, joinBase ('/' :: p ++ lit "/photos/a." ++ a ++ '/' :: id) = .ok (some u) := by
      intro p a hp hg ha
      subst hg ha
      rcases hp with ⟨rfl, rfl⟩ | ⟨rfl, rfl⟩
      all_goals
        simp only [noEmpty, optNe, Bool.and_eq_true, Bool.and_true] at hne
        simp only [pathFieldsClean, Bool.and_eq_true] at hcl
        rw [List.append_assoc, List.append_assoc]
        exact ⟨isEmpty_false_of_not hne.1.2, joinBase_field_ok p _ (isEmpty_false_of_not hne.1.2) hcl.1.1⟩
    cases pid with
    | none =>
      cases ph with
      | none => simpa [truthy] using hq
      | some p =>
        cases gid <;> cases aid <;> simp [Shaped] at hs
        rename_i a
        obtain ⟨hp, this⟩ := hpar p a (Or.inr ⟨rfl, rfl⟩) rfl rfl
        simpa [truthy, hp, fmtOpt] using this
    | some p =>
      cases ph with
      | some _ => simp [Shaped] at hs
      | none =>
        cases gid <;> cases aid <;> simp [Shaped] at hs
        rename_i a
        obtain ⟨hp, this⟩ := hpar p a (Or.inl ⟨rfl, rfl⟩) rfl rfl
        simpa [truthy, hp, fmtOpt] using this

/-! ## a record is returned only when the path has the segments it is read from -/

/-- how many path segments the route that returns such a record reads (the records read from the
query — `profile.php`, `permalink.php`, `photo.php`, `watch` — need none) -/
def minSegs : Parsed → Nat
  | .handle _ => 1
  | .group _ _ => 2
  | .post _ _ (some _) _ _ => 3
  | .post _ _ none (some _) _ => 4
  | .post _ _ none none (some _) => 4
  | .video _ (some _) => 3
  | .photo _ _ (some _) _ _ => 4
  | .photo _ _ none (some _) _ => 4
  | _ => 0

theorem minSegs_of_routed {path query : Str} {r : Parsed} (h : Routed path query r) :
    minSegs r ≤ (pathsplit path).length := by
  cases h
  case watch | photoQuery | permalink | profile | people => exact Nat.zero_le _
  all_goals
    rw [‹pathsplit path = _›]
    try split
  all_goals exact Nat.le_add_left _ _

end Ural.Facebook
