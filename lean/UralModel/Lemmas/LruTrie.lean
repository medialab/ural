import UralModel.Model.LruTrie
/-!
Helper lemmas for `Props/C11.lean`: the well-formed stem lists of `ural/lru/serialization.py`
(the round trip itself is in `Lemmas/LruTrieSerial.lean`), and "latest value per key" of an
assignment history.
-/
set_option linter.unusedSectionVars false
set_option linter.unusedSimpArgs false

namespace Ural
namespace LruTrie
open Ural.Py

/-! ### well-formed stem lists -/

/-- no `|` in the stem -/
def BarFree (l : Str) : Prop := ∀ c ∈ l, c ≠ '|'

/-- what `lru_stems` produces: at least one stem, no `|` inside a stem, every stem but the
first starts with a tag letter and a colon -/
def WellTagged (stems : List Str) : Prop :=
  stems ≠ [] ∧ (∀ l ∈ stems, BarFree l) ∧ (∀ l ∈ stems.tail, startsTag l = true)

theorem startsTag_append (l s : Str) (h : startsTag l = true) : startsTag (l ++ s) = true := by
  cases l with
  | nil => simp [startsTag] at h
  | cons c l1 =>
    cases l1 with
    | nil => simp [startsTag] at h
    | cons d rest => simpa [startsTag] using h

end LruTrie

/-! ### the latest value stored under a key by an assignment history -/

section Latest
variable {κ β : Type} [DecidableEq κ]

/-- the value of the last entry of the history whose key is `k` -/
def latest : List (κ × β) → κ → Option β
  | [], _ => none
  | e :: rest, k => (latest rest k).or (if e.1 = k then some e.2 else none)

/-- `latest` is C10's reading of a history (`C10.specRun_latest`): the first hit from the end -/
theorem latest_eq_find (es : List (κ × β)) (k : κ) :
    latest es k = (es.reverse.find? (fun e => e.1 = k)).map Prod.snd := by
  induction es with
  | nil => rfl
  | cons e rest ih =>
    simp only [latest, ih, List.reverse_cons, List.find?_append]
    cases rest.reverse.find? (fun e => e.1 = k) with
    | some x => simp
    | none => by_cases h : e.1 = k <;> simp [h]

theorem latest_eq_none_iff (es : List (κ × β)) (k : κ) :
    latest es k = none ↔ ∀ e ∈ es, e.1 ≠ k := by
  simp [latest_eq_find]

/-- `latest es k = some v`: the history stores `v` under `k` at some point and never stores
anything under `k` afterwards -/
theorem latest_eq_some_iff (es : List (κ × β)) (k : κ) (v : β) :
    latest es k = some v ↔
      ∃ es1 es2, es = es1 ++ (k, v) :: es2 ∧ ∀ e ∈ es2, e.1 ≠ k := by
  rw [latest_eq_find]
  constructor
  · intro h
    obtain ⟨⟨k', v'⟩, hf, rfl⟩ := Option.map_eq_some_iff.1 h
    obtain ⟨hk, as, bs, he, hn⟩ := List.find?_eq_some_iff_append.1 hf
    simp only [decide_eq_true_eq] at hk
    subst hk
    refine ⟨bs.reverse, as.reverse, ?_, fun e he' => by simpa using hn e (List.mem_reverse.1 he')⟩
    simpa using congrArg List.reverse he
  · rintro ⟨es1, es2, rfl, hn⟩
    exact Option.map_eq_some_iff.2 ⟨(k, v), List.find?_eq_some_iff_append.2 ⟨by simp, es2.reverse,
      es1.reverse, by simp, fun a ha => by simpa using hn a (List.mem_reverse.1 ha)⟩, rfl⟩

/-- the entries of the history that are the last ones for their key -/
def lastEntries : List (κ × β) → List (κ × β)
  | [] => []
  | e :: rest =>
    if rest.any (fun e' => decide (e'.1 = e.1)) then lastEntries rest else e :: lastEntries rest

theorem lastEntries_cons (e : κ × β) (rest : List (κ × β)) :
    lastEntries (e :: rest) =
      if (latest rest e.1).isSome then lastEntries rest else e :: lastEntries rest := by
  have : rest.any (fun e' => decide (e'.1 = e.1)) = (latest rest e.1).isSome := by
    rw [Bool.eq_iff_iff, Option.isSome_iff_ne_none, Ne, latest_eq_none_iff]
    simp
  simp only [lastEntries, this]

theorem mem_lastEntries (es : List (κ × β)) (k : κ) (v : β) :
    (k, v) ∈ lastEntries es ↔ latest es k = some v := by
  induction es with
  | nil => simp [lastEntries, latest]
  | cons e rest ih =>
    obtain ⟨ek, ev⟩ := e
    rw [lastEntries_cons, latest]
    cases hl : latest rest ek with
    | some w =>
      simp only [Option.isSome_some, if_true, ih]
      by_cases hk : ek = k
      · subst hk; simp [hl]
      · simp [hk]
    | none =>
      simp only [Option.isSome_none, Bool.false_eq_true, if_false, List.mem_cons, Prod.mk.injEq, ih]
      by_cases hk : ek = k
      · subst hk; simp [hl, eq_comm]
      · have hk' : ¬ k = ek := fun h => hk h.symm
        simp [hk, hk']

theorem nodup_lastEntries_keys (es : List (κ × β)) : ((lastEntries es).map Prod.fst).Nodup := by
  induction es with
  | nil => simp [lastEntries]
  | cons e rest ih =>
    rw [lastEntries_cons]
    cases hl : latest rest e.1 with
    | some w => simpa using ih
    | none =>
      simp only [Option.isSome_none, Bool.false_eq_true, if_false, List.map_cons, List.nodup_cons]
      refine ⟨fun hm => ?_, ih⟩
      obtain ⟨⟨k', w⟩, hmem, rfl⟩ := List.mem_map.1 hm
      rw [(mem_lastEntries rest _ w).1 hmem] at hl
      cases hl

end Latest
end Ural
