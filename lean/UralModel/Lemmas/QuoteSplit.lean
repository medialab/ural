import UralModel.Lemmas.Quote
import UralModel.Lemmas.Str
/-!
The safe unquoters and `safely_quote` act independently on the pieces between raw
delimiters: the lemmas that let component-level statements (path segments, query items) be
derived from the string-level theorems of C14.  `upper_quoted` does the same (`upperQuoted_append_sep`).
`Keeps R f` — `f` brings in no character of the class `R` — is the form in which
`Lemmas/CanonRoundTrip.lean` asks it of a component's function, for the reserved characters of
the component; `keeps_safelyUnquote` gives it for control characters and the delimiters of the table.
-/

namespace Ural.Quote
open Ural.Py

theorem tokens_append_sep {c : Char} (hc : Sep c) : ∀ (a b : Str),
    tokens (a ++ c :: b) = tokens a ++ .raw c :: tokens b := by
  intro a b
  rw [tokens_append_of_not_hex hc.2, tokens_cons_of_ne hc.1]

/-- the safe unquoters treat what precedes and what follows a raw delimiter independently -/
theorem safelyUnquote_append_sep (U : List UInt8) {c : Char} (hc : Sep c) (hsp : c ≠ ' ')
    (hst : staysEscaped c = false) (a b : Str) :
    safelyUnquote U (a ++ c :: b) = safelyUnquote U a ++ c :: safelyUnquote U b := by
  unfold safelyUnquote
  rw [tokens_append_sep hc, escapeRaw_append, escapeRaw_cons, escTok_raw hst]
  simp only [List.singleton_append]
  rw [unquoteToks_append_raw U hsp, render_append]
  simp [renderTok]

/-- an unsafe ASCII delimiter that does not occur raw in the input does not occur in the
output of the unquoter -/
theorem not_mem_safelyUnquote (U : List UInt8) {c : Char} (hc : Sep c) (hlt : c.toNat < 0x80)
    (hU : UInt8.ofNat c.toNat ∈ U) (s : Str) (hs : c ∉ s) : c ∉ safelyUnquote U s := by
  intro hmem
  rcases mem_safelyUnquote U hmem with ⟨hin, _⟩ | hpct | hhex | ⟨_, _, hk⟩ | hhigh
  · exact hs hin
  · exact hc.1 hpct
  · rw [hc.2] at hhex; cases hhex
  · rw [keepEsc_of_mem hU] at hk; cases hk
  · omega

def Keeps (R : Char → Prop) (f : Str → Str) : Prop := ∀ s c, R c → c ∈ f s → c ∈ s

theorem Keeps.comp {R : Char → Prop} {f g : Str → Str} (hf : Keeps R f) (hg : Keeps R g) :
    Keeps R (f ∘ g) :=
  fun s c hR hc => hg s c hR (hf (g s) c hR hc)

theorem keeps_safelyUnquote (U : List UInt8) {R : Char → Prop}
    (hR : ∀ c, R c → (c.toNat < 0x20 ∨ (0x7f ≤ c.toNat ∧ c.toNat ≤ 0x9f)) ∨
      (Sep c ∧ c.toNat < 0x80 ∧ UInt8.ofNat c.toNat ∈ U)) : Keeps R (safelyUnquote U) := by
  intro s c hRc hc
  rcases hR c hRc with hctl | ⟨hsep, hlt, hU⟩
  · exact mem_of_control_mem_safelyUnquote hc hctl
  · exact Classical.byContradiction fun hs => not_mem_safelyUnquote U hsep hlt hU s hs hc

/-- splitting on an unsafe raw delimiter commutes with unquoting -/
theorem splitOn_safelyUnquote (U : List UInt8) {c : Char} (hc : Sep c) (hsp : c ≠ ' ')
    (hlt : c.toNat < 0x80) (hU : UInt8.ofNat c.toNat ∈ U) (s : Str) :
    splitOn (safelyUnquote U s) c = (splitOn s c).map (safelyUnquote U) :=
  splitOn_map_of_append_sep (safelyUnquote_append_sep U hc hsp (staysEscaped_of_lt hlt))
    (not_mem_safelyUnquote U hc hlt hU) s

/-! ### safely_quote and raw `/` -/

theorem safelyQuoteBy_append_sep {f : Char → Bool} {c : Char} (hc : Sep c) (hq : f c = true) (a b : Str) :
    safelyQuoteBy f (a ++ c :: b) = safelyQuoteBy f a ++ c :: safelyQuoteBy f b := by
  unfold safelyQuoteBy
  rw [tokens_append_sep hc]
  simp only [quoteToksBy, List.flatMap_append, List.flatMap_cons, quoteTokBy, hq, if_true,
    render_append]
  simp [render, renderTok]

theorem not_mem_safelyQuoteBy_of_not_mem (f : Char → Bool) {c : Char} (hc : Sep c) (s : Str) (hs : c ∉ s) :
    c ∉ safelyQuoteBy f s := by
  intro hmem
  rcases mem_safelyQuoteBy hmem with h | h | h
  · exact hs h.1
  · exact hc.1 h
  · rw [hc.2] at h; cases h

theorem splitOn_safelyQuoteBy {f : Char → Bool} {c : Char} (hc : Sep c) (hq : f c = true) (s : Str) :
    splitOn (safelyQuoteBy f s) c = (splitOn s c).map (safelyQuoteBy f) :=
  splitOn_map_of_append_sep (safelyQuoteBy_append_sep hc hq) (not_mem_safelyQuoteBy_of_not_mem f hc) s

/-! ### the default `safe="/"` -/

theorem safelyQuote_append_sep {c : Char} (hc : Sep c) (hq : quoteSafe c = true) (a b : Str) :
    safelyQuote (a ++ c :: b) = safelyQuote a ++ c :: safelyQuote b := by
  rw [safelyQuote_fun]; exact safelyQuoteBy_append_sep hc hq a b

theorem not_mem_safelyQuote_of_not_mem {c : Char} (hc : Sep c) (s : Str) (hs : c ∉ s) :
    c ∉ safelyQuote s := by
  rw [safelyQuote_fun]; exact not_mem_safelyQuoteBy_of_not_mem _ hc s hs

theorem splitOn_safelyQuote {c : Char} (hc : Sep c) (hq : quoteSafe c = true) (s : Str) :
    splitOn (safelyQuote s) c = (splitOn s c).map safelyQuote := by
  rw [safelyQuote_fun]; exact splitOn_safelyQuoteBy hc hq s

theorem upperQuoted_append_sep {c : Char} (hc : Sep c) (a b : Str) :
    upperQuoted (a ++ c :: b) = upperQuoted a ++ c :: upperQuoted b := by
  unfold upperQuoted
  rw [tokens_append_sep hc]
  simp [render, upperTok, renderTok]

/-- `upper_quoted` only touches percent-escapes -/
theorem upperQuoted_of_no_pct {s : Str} (h : '%' ∉ s) : upperQuoted s = s := by
  unfold upperQuoted
  rw [map_eq_self, render_tokens]
  intro t ht
  cases t with
  | raw c => rfl
  | stray => rfl
  | esc h1 h2 => exact absurd (mem_of_mem_renderTok ht (by simp [renderTok])) h

end Ural.Quote
