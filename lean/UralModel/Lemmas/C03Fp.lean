import UralModel.Lemmas.C03
import UralModel.Lemmas.C04Query
/-!
# C03, second half: `fingerprint_url` from `normalize_url`

`fingerprint_url(u)` is a second pass (`fpParts`) over `normalize_url(u.lower(), lowercase=True,
query_item_filter=lang)`.  The second pass is a function of its argument; what has to be shown
for (b) is that the inner call is determined by `normalize_url(u)` (default options):

* netloc: neither `lowercase` nor the item filter touch host and port;
* query: the items `fingerprint_url` keeps are the kept items of `normalize_url` with the `gl`/`hl`
  items removed (`strip_lang_eq`: the fingerprint filter is the default filter or the `gl`/`hl`
  test), sorted again — a function of `normalize_url`'s query once the sort depends only on the
  multiset of items (C04's `sortQsl_eq_of_perm`);
* path, fragment: here `lowercase` acts before the case-sensitive steps (index file test), and
  the theorem of this file is about inputs on which it has nothing to do (`LowerInput`: the URL
  and what its escapes decode to are lower-case already).  Beyond that class (b) is FALSE for the
  model and for the implementation (`/Index.html` vs `/Index.html/index.html`: witness in
  `Props/C03.lean`, KF-C03-3) and otherwise explored by the oracle, not proved.
-/
namespace Ural.C03
open Ural.Py Ural.UrlParts Ural.Quote Ural.Normalize Ural.Fingerprint
open Ural.Canonicalize hiding Opts

/-! ## the second pass -/

theorem fpParts_congr (E : Env) (ss : Bool) (r₁ r₂ : Split) (h1 : r₁.netloc = r₂.netloc)
    (h2 : lower r₁.path = lower r₂.path) (h3 : lower r₁.query = lower r₂.query)
    (h4 : r₁.fragment.map lower = r₂.fragment.map lower) : fpParts E ss r₁ = fpParts E ss r₂ := by
  unfold fpParts
  rw [h1, h2, h3, h4]

/-! ## the item filter -/

/-- the verdict when it is reached before the per-domain filter and the caller's filter -/
def stripEarly (amp : Bool) (it : QItem) : Option Bool :=
  let key := lower it.1
  let pattern := if amp then Gen.Normalize.IRRELEVANT_QUERY_AMP_RE else Gen.Normalize.IRRELEVANT_QUERY_RE
  if Re.pyMatch pattern key then some true
  else if Gen.Normalize.queryCombosCallable.any (fun k => k.toList == key) then some (sLambda it.2)
  else
    match comboLookup Gen.Normalize.queryCombos key with
    | some vs => some (valueIn vs it.2)
    | none =>
      match (if amp then comboLookup Gen.Normalize.ampQueryCombos key else none) with
      | some vs => some (valueIn vs it.2)
      | none => none

/-- the last two tests: the per-domain filter, then the caller's filter -/
def stripTail (qf : QueryItemFilter) (df : Option (List String)) (key : Str) : Bool :=
  if (match df with
      | some keys => keys.any (fun k => k.toList == key)
      | none => false) then true
  else
    match qf with
    | .lang => Gen.Normalize.langQueryKeys.any (fun k => k.toList == key)
    | .none => false

theorem strip_eq (amp : Bool) (qf : QueryItemFilter) (df : Option (List String)) (it : QItem) :
    shouldStripQueryItem amp qf df it = (stripEarly amp it).getD (stripTail qf df (lower it.1)) := by
  unfold shouldStripQueryItem stripEarly stripTail
  simp only
  by_cases h1 : Re.pyMatch (if amp = true then Gen.Normalize.IRRELEVANT_QUERY_AMP_RE
      else Gen.Normalize.IRRELEVANT_QUERY_RE) (lower it.1) = true
  · simp only [h1, if_true, Option.getD_some]
  · simp only [h1, Bool.false_eq_true, if_false]
    by_cases h2 : (Gen.Normalize.queryCombosCallable.any fun k => k.toList == lower it.1) = true
    · simp only [h2, if_true, Option.getD_some]
    · simp only [h2, Bool.false_eq_true, if_false]
      cases comboLookup Gen.Normalize.queryCombos (lower it.1) with
      | some vs => simp only [Option.getD_some]
      | none =>
        simp only
        cases (if amp = true then comboLookup Gen.Normalize.ampQueryCombos (lower it.1) else none) with
        | some vs => simp only [Option.getD_some]
        | none => rfl

/-- an early verdict is the same for every caller's filter and per-domain filter; after it, the
per-domain filter and the caller's filter are a disjunction -/
theorem strip_lang_eq (amp : Bool) (df : Option (List String)) (it : QItem) :
    shouldStripQueryItem amp .lang df it =
      (shouldStripQueryItem amp .none df it || shouldStripQueryItem amp .lang none it) := by
  rw [strip_eq, strip_eq, strip_eq]
  cases stripEarly amp it with
  | some b => simp only [Option.getD_some, Bool.or_self]
  | none =>
    simp only [Option.getD_none, stripTail]
    generalize (match df with
      | some keys => keys.any (fun k => k.toList == lower it.1)
      | none => false) = d
    cases d <;> simp

theorem filter_lang (amp : Bool) (df : Option (List String)) (l : List QItem) :
    l.filter (fun it => !shouldStripQueryItem amp .lang df it) =
      (l.filter (fun it => !shouldStripQueryItem amp .none df it)).filter
        (fun it => !shouldStripQueryItem amp .lang none it) := by
  rw [List.filter_filter]
  apply List.filter_congr
  intro it _
  rw [strip_lang_eq, Bool.not_or, Bool.and_comm]

/-! ## the sort -/

/-- the sort of the query items depends only on the multiset of items (`qsl_sort_key` is a
total order whose ties are equal items) -/
def SortHyp : Prop := ∀ xs ys : List QItem, xs.Perm ys → sortQsl xs = sortQsl ys

/-- it does: `qsl_sort_key` is a total order on items (`Lemmas/C04Order.lean`) -/
theorem sortHyp : SortHyp := fun _ _ h => sortQsl_eq_of_perm h

/-- filtering then sorting = filtering the sorted list then sorting -/
theorem sort_filter_sort (f : QItem → Bool) (l : List QItem) :
    sortQsl (l.filter f) = sortQsl ((sortQsl l).filter f) :=
  sortQsl_eq_of_perm ((sortQsl_perm l).filter f).symm

/-! ## the query of `fingerprint_url`'s inner call, from `normalize_url`'s -/

/-- the options of `fingerprint_url`'s inner call, from the caller's: `lowercase` and the
`gl` / `hl` filter -/
def fpOf (o : Opts) : Opts := { o with lowercase := true, queryItemFilter := .lang }

theorem fpOf_default : fpOf {} = fpOpts := rfl

/-- the `gl` / `hl` filter and the second sort -/
def fpItems (amp : Bool) (l : List QItem) : List QItem :=
  sortQsl (l.filter (fun it => !shouldStripQueryItem amp .lang none it))

/-- the kept, sorted, unquoted items (`normComps.qsl`) for options that sort -/
theorem filterQuery_lang (o : Opts) (hlc : o.lowercase = false)
    (hqf : o.queryItemFilter = .none) (hsq : o.sortQuery = true) (h : Option Str) (q : Str)
    (hI : (unquoteQsl (safeQslIter q)).map (fun it => (lower it.1, it.2.map lower)) = unquoteQsl (safeQslIter q)) :
    unquoteQsl (filterQuery (fpOf o) h q) = fpItems o.normalizeAmp (unquoteQsl (filterQuery o h q)) := by
  unfold filterQuery
  by_cases he : q.isEmpty = true
  · simp only [he, if_true]
    cases o.normalizeAmp <;> decide
  · simp only [he, Bool.false_eq_true, if_false, fpOf, hlc, hqf, hsq, if_true, hI]
    generalize hIdef : unquoteQsl (safeQslIter q) = I
    generalize o.normalizeAmp = amp
    have hfix : ∀ it ∈ I, it ∈ unquoteQsl (safeQslIter q) := fun it hit => hIdef ▸ hit
    -- normalize_url's items are fixed by the second unquoting
    have hN : unquoteQsl (sortQsl (I.filter (fun it => !shouldStripQueryItem amp .none (domainFilter h) it)))
        = sortQsl (I.filter (fun it => !shouldStripQueryItem amp .none (domainFilter h) it)) := by
      apply unquoteQsl_fixed (q := safeQslIter q)
      intro it hit
      exact hfix it (List.mem_filter.mp ((sortQsl_perm _).mem_iff.mp hit)).1
    rw [hN]
    unfold fpItems
    rw [filter_lang amp (domainFilter h) I, sort_filter_sort]
    apply unquoteQsl_fixed (q := safeQslIter q)
    intro it hit
    have h1 := (sortQsl_perm _).mem_iff.mp hit
    have h2 := (List.mem_filter.mp h1).1
    have h3 := (sortQsl_perm _).mem_iff.mp h2
    exact hfix it (List.mem_filter.mp h3).1

/-! ## serialisation is injective on well-formed items (up to the empty query) -/

theorem serializeItem_eq_nil {kv : QItem} (h : serializeItem kv = []) : kv = ([], none) := by
  obtain ⟨k, v⟩ := kv
  cases v with
  | none => simp [serializeItem] at h; simp [h]
  | some v => simp [serializeItem] at h

theorem serialize_eq_nil {l : List QItem} (h : safeSerializeQsl l = []) : l = [] ∨ l = [([], none)] := by
  rw [safeSerializeQsl_eq] at h
  rcases join_amp_eq_nil h with h0 | h0
  · left; simpa using h0
  · right
    cases l with
    | nil => simp at h0
    | cons a r =>
      cases r with
      | cons b r' => simp at h0
      | nil =>
        simp only [List.map_cons, List.map_nil, List.cons.injEq, and_true] at h0
        rw [serializeItem_eq_nil h0]

theorem serialize_inj {l₁ l₂ : List QItem} (h1 : ∀ kv ∈ l₁, ItemWf kv) (h2 : ∀ kv ∈ l₂, ItemWf kv)
    (h : safeSerializeQsl l₁ = safeSerializeQsl l₂) :
    l₁ = l₂ ∨ ((l₁ = [] ∨ l₁ = [([], none)]) ∧ (l₂ = [] ∨ l₂ = [([], none)])) := by
  by_cases e1 : l₁ = []
  · right
    refine ⟨Or.inl e1, ?_⟩
    apply serialize_eq_nil
    rw [← h, e1]; rfl
  · by_cases e2 : l₂ = []
    · right
      refine ⟨?_, Or.inl e2⟩
      apply serialize_eq_nil
      rw [h, e2]; rfl
    · left
      rw [← safeQslIter_serialize l₁ e1 h1, ← safeQslIter_serialize l₂ e2 h2, h]

theorem fpItems_trivial (amp : Bool) :
    safeSerializeQsl (fpItems amp []) = [] ∧ safeSerializeQsl (fpItems amp [([], none)]) = [] := by
  constructor
  · rfl
  · unfold fpItems
    simp only [List.filter_cons, List.filter_nil]
    split <;> rfl

/-! ## (b) on lower-case inputs -/

/-- the class on which `lowercase` (and the lower-casing of the input string) has nothing to do:
the URL is lower-case as parsed, and so is what its escapes decode to -/
def LowerInput (p : Parsed) : Prop :=
  lowerParsed p = p ∧
  lower (unquotePath p.path) = unquotePath p.path ∧
  lower (unquoteFragment p.fragment) = unquoteFragment p.fragment ∧
  (unquoteQsl (safeQslIter (fixQ {} p.query))).map (fun it => (lower it.1, it.2.map lower))
    = unquoteQsl (safeQslIter (fixQ {} p.query))

instance (p : Parsed) : Decidable (LowerInput p) := by unfold LowerInput; infer_instance

theorem wf_filterQuery (o : Opts) (ho : o.lowercase = false) (h : Option Str) (q : Str) :
    ∀ kv ∈ unquoteQsl (filterQuery o h q), ItemWf kv := by
  apply wf_unquoteQsl
  intro kv hkv
  obtain ⟨it0, h0, rfl⟩ := mem_filterQuery hkv
  rw [ho]
  exact wf_unquoteQsl _ (wf_safeQslIter q) it0 h0

theorem normHost_fpOf (puny : Str → Str) (o : Opts) : normHost puny (fpOf o) = normHost puny o := rfl
theorem fixQ_fpOf (o : Opts) (q : Str) : fixQ (fpOf o) q = fixQ o q := rfl

/-- on a lower-case input, the inner call of `fingerprint_url` is `normalize_url`'s result with
the query passed through the `gl` / `hl` filter -/
theorem normParts_fp_of_lower (puny : Str → Str) (o : Opts)
    (hsp : o.stripProtocol = true) (hsa : o.stripAuthentication = true)
    (hsts : o.stripTrailingSlash = true) (hq : o.quoted = false) (hlc : o.lowercase = false)
    (hqf : o.queryItemFilter = .none) (hsq : o.sortQuery = true) (hfx : fixQ o = fixQ {})
    (p : Parsed) (hL : LowerInput p) (b b' : Bool) :
    (normParts puny (fpOf o) b' (lowerParsed p)).netloc = (normParts puny o b p).netloc ∧
    (normParts puny (fpOf o) b' (lowerParsed p)).path = (normParts puny o b p).path ∧
    (normParts puny (fpOf o) b' (lowerParsed p)).fragment = (normParts puny o b p).fragment ∧
    ∃ Q, (normParts puny o b p).query = safeSerializeQsl Q ∧ (∀ kv ∈ Q, ItemWf kv) ∧
      (normParts puny (fpOf o) b' (lowerParsed p)).query = safeSerializeQsl (fpItems o.normalizeAmp Q) := by
  obtain ⟨h0, hP, hF, hI⟩ := hL
  rw [h0, normParts_eq puny (fpOf o) hsp hsa, normParts_eq puny o hsp hsa]
  have hq' : (fpOf o).quoted = false := hq
  simp only [hq, hq', Bool.false_eq_true, if_false, requote]
  simp only [normHost_fpOf, fixQ_fpOf]
  have hlc' : (fpOf o).lowercase = true := rfl
  have e1 : ∀ y, lc (fpOf o) y = lower y := fun y => by simp [lc, hlc']
  have e2 : ∀ y, lc o y = y := fun y => by simp [lc, hlc]
  have e3 : (fpOf o).stripFragment = o.stripFragment := rfl
  refine ⟨trivial, ?_, ?_, ?_⟩
  · rw [normPath_eq (fpOf o) hsts, normPath_eq o hsts, e1, e2, hP]
    rfl
  · rw [e1, e2, hF, e3]
  · refine ⟨_, rfl, wf_filterQuery o hlc _ _, ?_⟩
    rw [filterQuery_lang o hlc hqf hsq]
    rw [hfx]
    exact hI

/-- **(b) on lower-case inputs**: two parsed URLs with the same `normalize_url` result have the
same `fingerprint_url` result -/
theorem fp_of_norm_eq_lower (E : Env) (ss : Bool) (p q : Parsed)
    (hLp : LowerInput p) (hLq : LowerInput q) (b₁ b₂ b₃ b₄ : Bool)
    (h : normParts E.puny {} b₁ p = normParts E.puny {} b₂ q) :
    fpParts E ss (normParts E.puny fpOpts b₃ (lowerParsed p)) =
      fpParts E ss (normParts E.puny fpOpts b₄ (lowerParsed q)) := by
  rw [← fpOf_default]
  obtain ⟨hn1, hp1, hf1, Q1, hq1, hw1, hq1'⟩ :=
    normParts_fp_of_lower E.puny {} rfl rfl rfl rfl rfl rfl rfl rfl p hLp b₁ b₃
  obtain ⟨hn2, hp2, hf2, Q2, hq2, hw2, hq2'⟩ :=
    normParts_fp_of_lower E.puny {} rfl rfl rfl rfl rfl rfl rfl rfl q hLq b₂ b₄
  have hQ : safeSerializeQsl Q1 = safeSerializeQsl Q2 := by rw [← hq1, ← hq2, h]
  apply fpParts_congr
  · rw [hn1, hn2, h]
  · rw [hp1, hp2, h]
  · rw [hq1', hq2']
    rcases serialize_inj hw1 hw2 hQ with e | ⟨e1, e2⟩
    · rw [e]
    · have t := fpItems_trivial ({} : Opts).normalizeAmp
      rcases e1 with e1 | e1 <;> rcases e2 with e2 | e2 <;> rw [e1, e2] <;> simp [t.1, t.2]
  · rw [hf1, hf2, h]

end Ural.C03
