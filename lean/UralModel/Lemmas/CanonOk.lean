import UralModel.Lemmas.CanonTexts
/-!
# The invariant of printed texts

`Texts.Ok t`: per component, the reserved characters that cannot occur — what the parser / printer
round trip (`Texts.Ok.parse`) needs of the texts it prints.  `Ok₀` is the part that needs no
condition on brackets, enough for `UrlRoundTrip.WF`; `Ok` adds the five bracket fields.
-/
namespace Ural.CanonTexts
open Ural.Py Ural.UrlParts Ural.Quote Ural.Canonicalize Ural.UrlRoundTrip Ural.CanonRoundTrip Ural.Netloc

def Texts.parsed (t : Texts) : Parsed :=
  { scheme := t.scheme, netloc := t.netloc, path := t.path, query := t.query, fragment := t.fragment,
    username := if t.pass ≠ [] ∨ t.user ≠ [] then some t.user else none,
    password := if t.pass ≠ [] then some t.pass else none,
    hostname := if t.host = [] then none else some t.host,
    port := t.port }

structure Texts.Ok₀ (t : Texts) : Prop where
  scheme : SchemeShaped t.scheme ∧ lower t.scheme = t.scheme
  user : ∀ d ∈ [':', '/', '?', '#'], d ∉ t.user
  pass : ∀ d ∈ ['/', '?', '#'], d ∉ t.pass
  host : ∀ d ∈ ['@', '/', '?', '#'], d ∉ t.host
  host_lower : lower t.host = t.host
  port : ∀ n ∈ t.port, n ≤ 65535
  path_abs : AbsPath t.path
  path_no2 : startsWith t.path ['/', '/'] = false
  path : '?' ∉ t.path ∧ '#' ∉ t.path
  query : '#' ∉ t.query
  noCtl_user : NoCtl t.user
  noCtl_pass : NoCtl t.pass
  noCtl_host : NoCtl t.host
  noCtl_path : NoCtl t.path
  noCtl_query : NoCtl t.query
  noCtl_fragment : NoCtl t.fragment

structure Texts.Ok (t : Texts) : Prop extends Texts.Ok₀ t where
  user_br : '[' ∉ t.user ∧ ']' ∉ t.user
  pass_br : '[' ∉ t.pass ∧ ']' ∉ t.pass
  host_close : ']' ∉ t.host
  bare : t.br = false → '[' ∉ t.host ∧ ':' ∉ t.host
  lit : t.br = true → bracketedHostOk t.host = true

namespace Texts.Ok₀
variable {t : Texts} (h : t.Ok₀)
include h

theorem scheme_ne : t.scheme ≠ [] := by
  obtain ⟨⟨c, r, e, _⟩, _⟩ := h.scheme.1; rw [e]; simp

theorem print_eq : t.print = t.scheme ++ ':' :: '/' :: '/' :: (t.netloc ++ (t.path ++
    (queryPart t.query ++ fragPart t.fragment))) :=
  printSplit_normal _ h.scheme_ne h.path_abs h.path_no2

theorem netloc_chars : ∀ c ∈ t.netloc, isNetlocDelim c = false ∧ isControlChar c = false :=
  printed_netloc_chars (fun d hd => h.user d (List.mem_cons_of_mem _ hd)) h.pass
    (fun d hd => h.host d (List.mem_cons_of_mem _ hd)) h.noCtl_user h.noCtl_pass h.noCtl_host

theorem clean : ∀ c ∈ t.scheme ++ t.netloc ++ t.path ++ t.query ++ t.fragment,
    isUnsafeUrlChar c = false := by
  intro c hc
  apply unsafe_of_ctl
  simp only [List.mem_append] at hc
  rcases hc with (((hc | hc) | hc) | hc) | hc
  · exact h.scheme.1.noCtl c hc
  · exact (h.netloc_chars c hc).2
  · exact h.noCtl_path c hc
  · exact h.noCtl_query c hc
  · exact h.noCtl_fragment c hc

theorem mem_print {c : Char} (hc : c ∈ t.print) :
    c ∈ t.scheme ∨ c ∈ t.user ∨ c ∈ t.pass ∨ c ∈ t.host ∨ c ∈ t.path ∨ c ∈ t.query ∨ c ∈ t.fragment ∨
      c ∈ [':', '/', '@', '[', ']', '?', '#'] ∨ isAsciiDigit c = true := by
  have hD : ∀ {L : Str}, (∀ d ∈ L, d ∈ [':', '/', '@', '[', ']', '?', '#']) → c ∈ L →
      (c ∈ t.scheme ∨ c ∈ t.user ∨ c ∈ t.pass ∨ c ∈ t.host ∨ c ∈ t.path ∨ c ∈ t.query ∨
        c ∈ t.fragment ∨ c ∈ [':', '/', '@', '[', ']', '?', '#'] ∨ isAsciiDigit c = true) :=
    fun hL h => .inr (.inr (.inr (.inr (.inr (.inr (.inr (.inl (hL c h))))))))
  rw [h.print_eq] at hc
  rcases List.mem_append.1 hc with hc | hc
  · exact .inl hc
  rcases List.mem_append.1 (show c ∈ [':', '/', '/'] ++ _ from hc) with hc | hc
  · exact hD (by decide) hc
  rcases List.mem_append.1 hc with hc | hc
  · rcases mem_printed_netloc hc with h1 | h1 | h1 | h1 | h1
    · exact .inr (.inl h1)
    · exact .inr (.inr (.inl h1))
    · exact .inr (.inr (.inr (.inl h1)))
    · exact hD (by decide) h1
    · exact .inr (.inr (.inr (.inr (.inr (.inr (.inr (.inr h1)))))))
  rcases List.mem_append.1 hc with hc | hc
  · exact .inr (.inr (.inr (.inr (.inl hc))))
  rcases List.mem_append.1 hc with hc | hc
  · rcases mem_queryPart hc with h1 | h1
    · exact .inr (.inr (.inr (.inr (.inr (.inl h1)))))
    · exact hD (L := ['?']) (by decide) (List.mem_singleton.2 h1)
  · rcases mem_fragPart hc with h1 | h1
    · exact .inr (.inr (.inr (.inr (.inr (.inr (.inl h1))))))
    · exact hD (L := ['#']) (by decide) (List.mem_singleton.2 h1)

theorem noCtl_print : NoCtl t.print := by
  intro c hc
  rcases h.mem_print hc with h1 | h1 | h1 | h1 | h1 | h1 | h1 | h1 | h1
  · exact h.scheme.1.noCtl c h1
  · exact h.noCtl_user c h1
  · exact h.noCtl_pass c h1
  · exact h.noCtl_host c h1
  · exact h.noCtl_path c h1
  · exact h.noCtl_query c h1
  · exact h.noCtl_fragment c h1
  · exact (by decide : ∀ d ∈ [':', '/', '@', '[', ']', '?', '#'], isControlChar d = false) c h1
  · exact digit_not_ctl h1

theorem wf (hok : netlocOk t.netloc = true) : WF t.scheme t.netloc t.path t.query t.fragment where
  scheme_ok := .inr h.scheme
  netloc_nodelim := fun c hc => (h.netloc_chars c hc).1
  netloc_ok := hok
  path_noq := h.path.1
  path_noh := h.path.2
  query_noh := h.query
  path_abs := fun _ => h.path_abs
  path_no2 := fun _ => h.path_no2
  rel_nocolon := fun hs => absurd hs h.scheme_ne
  rel_nolead := fun hs => absurd hs h.scheme_ne
  clean := h.clean

end Texts.Ok₀

namespace Texts.Ok
variable {t : Texts} (h : t.Ok)
include h

theorem hostFacts : HostFacts t.br t.host := ⟨h.host _ (by simp), h.host_close, h.bare, h.lit⟩

theorem reads : Netloc.Reads t.netloc (authUi t.user t.pass) t.br t.host (t.port.map natToStr) :=
  h.hostFacts.reads t.user t.pass t.port

theorem netlocOk : netlocOk t.netloc = true := h.hostFacts.netlocOk _ _ _ h.user_br h.pass_br

theorem parse : parseUrl t.print = some t.parsed := by
  have acc : username t.netloc = (if t.pass ≠ [] ∨ t.user ≠ [] then some t.user else none) ∧
      password t.netloc = (if t.pass ≠ [] then some t.pass else none) ∧
      hostname t.netloc = (if t.host = [] then none else some (lowerHost t.host)) ∧
      Py.port t.netloc = some t.port ∧ _ :=
    accessors_printed t.user t.pass t.host t.br t.port (h.user _ (by simp))
      (h.host _ (by simp)) (fun _ => h.host_close) (fun hb => ⟨(h.bare hb).1, h.host_close⟩) h.port
  obtain ⟨a1, a2, a3, a4, _⟩ := acc
  rw [h.print_eq]
  unfold parseUrl
  rw [urlsplit_normal t.scheme _ _ _ _ h.scheme.1 h.scheme.2 (fun c hc => (h.netloc_chars c hc).1)
    h.netlocOk h.path.1 h.path.2 h.query h.path_abs h.clean]
  simp only
  rw [a4]
  simp only [parsedOf, Texts.parsed, a1, a2, a3, lowerHost_of_lower_fixed _ h.host_lower]

/-- a second call accepts the printed netloc -/
theorem userinfoBrackets : userinfoBrackets t.netloc = false := by
  unfold Canonicalize.userinfoBrackets
  rw [h.reads.splitLast]
  cases hu : authUi t.user t.pass with
  | none => rfl
  | some u =>
    exact Bool.or_eq_false_iff.2
      ⟨contains_false_of_not_mem (authUi_not_mem (by decide) h.user_br.1 h.pass_br.1 hu),
        contains_false_of_not_mem (authUi_not_mem (by decide) h.user_br.2 h.pass_br.2 hu)⟩

theorem bracketedHost : bracketedHost t.netloc = t.br := by
  unfold Canonicalize.bracketedHost
  rw [h.reads.contains_lbr]

end Texts.Ok

end Ural.CanonTexts
