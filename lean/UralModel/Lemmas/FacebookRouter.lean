import UralModel.Lemmas.FacebookPathsplit
import UralModel.Lemmas.FacebookParseQs
import UralModel.Lemmas.RouteOutcome
/-!
The routes of `parse_facebook_url` (C19).  Every positional access (`getIdx`) and every `dict`
subscription (`qsItem`) of the model is dominated by a guard, so each route is a plain case
distinction and total; `Routed` lists the ways `parseSplit` reads a record off the path and the query,
and the router does not raise and returns only what one of these rules reads (`parseSplit_yields`; the
same for the parser behind its `try … except` wrappers, on the routed path of the split url).  Then the
router on a path given by its segments and on the four fixed paths that carry a query.
-/
namespace Ural.Facebook
open Ural.Py Ural

theorem getIdx_of_lt {α : Type} (xs : List α) (i : Nat) (h : i < xs.length) :
    getIdx xs i = .ok xs[i] := by
  unfold getIdx
  rw [List.getElem?_eq_getElem h]

theorem getIdx_ok_iff {α : Type} (xs : List α) (i : Nat) (x : α) :
    getIdx xs i = .ok x ↔ xs[i]? = some x := by
  unfold getIdx
  cases h : xs[i]? with
  | none => simp
  | some y => simp

theorem getLastIdx_of_ne_nil {α : Type} (xs : List α) (h : xs ≠ []) :
    getLastIdx xs = .ok (xs.getLast h) := by
  unfold getLastIdx
  rw [List.getLast?_eq_some_getLast h]

theorem qsItem_of_has (q : List (Str × Str)) (k : Str) (h : qsHas q k = true) :
    qsItem q k = .ok (qsValues q k) := by
  simp [qsItem, h]

theorem qsValues_pos_of_has (q : List (Str × Str)) (k : Str) (h : qsHas q k = true) :
    0 < (qsValues q k).length := by
  unfold qsHas at h
  cases hv : qsValues q k with
  | nil => simp [hv] at h
  | cons x xs => simp

theorem qsGet_some_pos (q : List (Str × Str)) (k : Str) (vs : List Str) (h : qsGet q k = some vs) :
    0 < vs.length := by
  unfold qsGet at h
  by_cases hh : qsHas q k = true
  · simp only [hh, if_true, Option.some.injEq] at h
    rw [← h]; exact qsValues_pos_of_has q k hh
  · simp [hh] at h

/-- the `split(p, 1)[1]` of the photo route never fails: the string it is applied to starts
with `p` -/
theorem setId_total (sets : List Str) (p : Str) : ∃ r, setId sets p = .ok r := by
  unfold setId
  cases hf : firstWithPrefix sets p with
  | none => exact ⟨none, rfl⟩
  | some x =>
    simp only
    by_cases hx : x.isEmpty = true
    · exact ⟨some x, by simp [hx]⟩
    · have hs : startsWith x p = true := by
        unfold firstWithPrefix at hf
        exact List.find?_some (p := fun y => startsWith y p) hf
      have hl := splitStr1_length_of_startsWith x p hs
      rw [if_neg hx, getIdx_of_lt _ 1 (by omega)]
      exact ⟨_, rfl⟩

theorem photoSets_total (q : List (Str × Str)) : ∃ r, photoSets q = .ok r := by
  unfold photoSets
  by_cases h : qsHas q (lit "set") = true
  · obtain ⟨g, hg⟩ := setId_total (qsValues q (lit "set")) (lit "g.")
    obtain ⟨a, ha⟩ := setId_total (qsValues q (lit "set")) (lit "a.")
    refine ⟨(g, a), ?_⟩
    simp [h, qsItem_of_has, hg, ha, bind, Except.bind, pure, Except.pure]
  · exact ⟨(none, none), by simp [h, pure, Except.pure]⟩

theorem push_ok (c : Prop) [Decidable c] (a b : Option Parsed) :
    (Except.ok (if c then a else b) : Result) = if c then .ok a else .ok b :=
  apply_ite _ _ _ _

theorem push_some (c : Prop) [Decidable c] (a b : Parsed) :
    some (if c then a else b) = if c then some a else some b :=
  apply_ite _ _ _ _

theorem routeWatch_eq (query : Str) :
    routeWatch query = .ok (match qsValues (safe_parse_qs query) (lit "v") with
      | v :: _ => some (.video v none)
      | [] => none) := by
  unfold routeWatch qsItem qsHas
  dsimp only
  rcases qsValues (safe_parse_qs query) (lit "v") with _ | ⟨v, vs⟩ <;> rfl

theorem routeVideos_eq (path : Str) :
    routeVideos path = .ok (match pathsplit path with
      | p0 :: _ :: id :: _ => some (.video id (some p0))
      | _ => none) := by
  unfold routeVideos
  dsimp only
  rcases pathsplit path with _ | ⟨p0, _ | ⟨p1, _ | ⟨p2, rest⟩⟩⟩ <;> rfl

theorem routePhotoQuery_eq (query : Str) (ga : Option Str × Option Str)
    (hga : photoSets (safe_parse_qs query) = .ok ga) :
    routePhotoQuery query = .ok (match qsValues (safe_parse_qs query) (lit "fbid") with
      | id :: _ => some (.photo id ga.1 none none ga.2)
      | [] => none) := by
  unfold routePhotoQuery qsItem qsHas
  simp only [hga]
  rcases qsValues (safe_parse_qs query) (lit "fbid") with _ | ⟨v, vs⟩ <;> rfl

theorem routePhotos_eq (path : Str) :
    routePhotos path = .ok (match pathsplit path with
      | p0 :: _ :: p2 :: id :: _ =>
        if (albumOf p2).isEmpty then none
        else some (if is_facebook_id p0 then .photo id none (some p0) none (some (albumOf p2))
          else .photo id none none (some p0) (some (albumOf p2)))
      | _ => none) := by
  unfold routePhotos
  dsimp only
  rcases pathsplit path with _ | ⟨p0, _ | ⟨p1, _ | ⟨p2, _ | ⟨p3, rest⟩⟩⟩⟩
  case cons.cons.cons.cons => simp only [push_ok, push_some]; rfl
  all_goals rfl

theorem routePosts_eq (path : Str) :
    routePosts path = .ok (match pathsplit path with
      | p0 :: g :: p2 :: rest =>
        if p0 = lit "groups" then
          match rest with
          | id :: _ => some (if is_facebook_id g then .post id none none (some g) none
              else .post id none none none (some g))
          | [] => none
        else some (if is_facebook_id p0 then .post p2 (some p0) none none none
          else .post p2 none (some p0) none none)
      | _ => none) := by
  unfold routePosts
  dsimp only
  rcases pathsplit path with _ | ⟨p0, _ | ⟨p1, _ | ⟨p2, rest⟩⟩⟩
  case cons.cons.cons =>
    rcases rest with _ | ⟨p3, rest⟩ <;> simp only [push_ok, push_some] <;> rfl
  all_goals rfl

theorem routePermalink_eq (query : Str) :
    routePermalink query = .ok (match qsValues (safe_parse_qs query) (lit "id"),
        qsValues (safe_parse_qs query) (lit "story_fbid") with
      | pid :: _, id :: _ => some (.post id (some pid) none none none)
      | _, _ => none) := by
  unfold routePermalink qsGet qsHas
  dsimp only
  rcases qsValues (safe_parse_qs query) (lit "id") with _ | ⟨p, ps⟩ <;>
    rcases qsValues (safe_parse_qs query) (lit "story_fbid") with _ | ⟨v, vs⟩ <;> rfl

theorem routeGroups_eq (path : Str) :
    routeGroups path = .ok (match pathsplit path with
      | _ :: g :: rest =>
        if contains path (lit "/permalink/") then
          match rest with
          | _ :: id :: _ => some (if is_facebook_id g then .post id none none (some g) none
              else .post id none none none (some g))
          | _ => none
        else some (if is_facebook_id g then .group (some g) none else .group none (some g))
      | _ => none) := by
  unfold routeGroups
  dsimp only
  rcases pathsplit path with _ | ⟨p0, _ | ⟨g, rest⟩⟩
  case cons.cons =>
    rcases rest with _ | ⟨p2, _ | ⟨p3, rest⟩⟩ <;> simp only [push_ok, push_some] <;> rfl
  all_goals rfl

theorem routeProfile_eq (query : Str) :
    routeProfile query = .ok (match qsValues (safe_parse_qs query) (lit "id") with
      | id :: _ => some (.user id none)
      | [] => none) := by
  unfold routeProfile qsGet qsHas
  dsimp only
  rcases qsValues (safe_parse_qs query) (lit "id") with _ | ⟨v, vs⟩ <;> rfl

theorem routePeople_eq (path : Str) :
    routePeople path = .ok (match pathsplit path with
      | _ :: _ :: id :: _ => some (.user id none)
      | _ => none) := by
  unfold routePeople
  dsimp only
  rcases pathsplit path with _ | ⟨p0, _ | ⟨p1, _ | ⟨p2, rest⟩⟩⟩ <;> rfl

theorem routeHandle_eq (path : Str) :
    routeHandle path = .ok (match pathsplit path with
      | h :: _ => if !endsWith h (lit ".php") then some (.handle h) else none
      | [] => none) := by
  unfold routeHandle
  dsimp only
  rcases pathsplit path with _ | ⟨p0, rest⟩
  · rfl
  · simp only [push_ok]; rfl

theorem ite_elim {α : Type} {P : α → Prop} (c : Prop) [Decidable c] (a b : α)
    (ha : c → P a) (hb : ¬c → P b) : P (if c then a else b) := by
  split
  · exact ha ‹_›
  · exact hb ‹_›

theorem parseSplit_cases (sp : SplitResult) (P : Result → Prop) (none_ : P (.ok none))
    (watch : P (routeWatch sp.query))
    (videos : contains sp.path (lit "/watch") = false → P (routeVideos sp.path))
    (photoQuery : P (routePhotoQuery sp.query))
    (photos : contains sp.path (lit "/watch") = false → contains sp.path (lit "/videos/") = false →
      P (routePhotos sp.path))
    (posts : contains sp.path (lit "/watch") = false → contains sp.path (lit "/videos/") = false →
      contains sp.path (lit "/photos/") = false → P (routePosts sp.path))
    (permalink : P (routePermalink sp.query))
    (groups : contains sp.path (lit "/watch") = false → contains sp.path (lit "/videos/") = false →
      contains sp.path (lit "/photos/") = false → P (routeGroups sp.path))
    (profile : P (routeProfile sp.query))
    (people : P (routePeople sp.path))
    (handle : contains sp.path (lit "/watch") = false → startsWith sp.path (lit "/people") = false →
      P (routeHandle sp.path)) :
    P (parseSplit sp) := by
  unfold parseSplit
  -- one `ite_elim` for each test, applied as a term: `split` on the eleven-fold cascade is slow
  refine ite_elim _ _ _ (fun _ => none_) fun _ => ?_
  refine ite_elim _ _ _ (fun _ => watch) fun hw => ?_
  have hw := eq_false_of_ne_true hw
  refine ite_elim _ _ _ (fun _ => videos hw) fun hv => ?_
  have hv := eq_false_of_ne_true hv
  refine ite_elim _ _ _ (fun _ => photoQuery) fun _ => ?_
  refine ite_elim _ _ _ (fun _ => photos hw hv) fun hp => ?_
  have hp := eq_false_of_ne_true hp
  refine ite_elim _ _ _ (fun _ => posts hw hv hp) fun _ => ?_
  refine ite_elim _ _ _ (fun _ => permalink) fun _ => ?_
  refine ite_elim _ _ _ (fun _ => groups hw hv hp) fun _ => ?_
  refine ite_elim _ _ _ (fun _ => profile) fun _ => ?_
  exact ite_elim _ _ _ (fun _ => people) fun hpe => handle hw (eq_false_of_ne_true hpe)

/-- One rule for each place where a route returns a record, with the tests that hold there and that
a later proof needs (`routePosts` on `/groups/<g>/posts/<id>` and `routeGroups` on
`/groups/<g>/permalink/<id>` read the same record off the same positions: rule `groupPost`).
The segment equation is the last hypothesis of a rule, so that `‹pathsplit path = _›` meets it first:
tried against one of the tests, it makes `isDefEq` unfold `pathsplit`. -/
inductive Routed (path query : Str) : Parsed → Prop
  | watch {v : Str} : v ∈ qsValues (safe_parse_qs query) (lit "v") → Routed path query (.video v none)
  | videos {p0 x id : Str} {rest : List Str} : contains path (lit "/watch") = false →
      pathsplit path = p0 :: x :: id :: rest → Routed path query (.video id (some p0))
  | photoQuery {id : Str} {ga : Option Str × Option Str} :
      id ∈ qsValues (safe_parse_qs query) (lit "fbid") → photoSets (safe_parse_qs query) = .ok ga →
      Routed path query (.photo id ga.1 none none ga.2)
  | photos {p0 x p2 id : Str} {rest : List Str} : contains path (lit "/watch") = false →
      contains path (lit "/videos/") = false → (albumOf p2).isEmpty = false →
      pathsplit path = p0 :: x :: p2 :: id :: rest →
      Routed path query (if is_facebook_id p0 then .photo id none (some p0) none (some (albumOf p2))
        else .photo id none none (some p0) (some (albumOf p2)))
  | pagePost {p0 x id : Str} {rest : List Str} : contains path (lit "/watch") = false →
      contains path (lit "/videos/") = false → contains path (lit "/photos/") = false →
      p0 ≠ lit "groups" → pathsplit path = p0 :: x :: id :: rest →
      Routed path query (if is_facebook_id p0 then .post id (some p0) none none none
        else .post id none (some p0) none none)
  | groupPost {x g y id : Str} {rest : List Str} : contains path (lit "/watch") = false →
      contains path (lit "/videos/") = false → contains path (lit "/photos/") = false →
      pathsplit path = x :: g :: y :: id :: rest →
      Routed path query (if is_facebook_id g then .post id none none (some g) none
        else .post id none none none (some g))
  | permalink {pid id : Str} : pid ∈ qsValues (safe_parse_qs query) (lit "id") →
      id ∈ qsValues (safe_parse_qs query) (lit "story_fbid") →
      Routed path query (.post id (some pid) none none none)
  | group {x g : Str} {rest : List Str} : contains path (lit "/watch") = false →
      pathsplit path = x :: g :: rest →
      Routed path query (if is_facebook_id g then .group (some g) none else .group none (some g))
  | profile {id : Str} : id ∈ qsValues (safe_parse_qs query) (lit "id") → Routed path query (.user id none)
  | people {a b id : Str} {rest : List Str} : pathsplit path = a :: b :: id :: rest →
      Routed path query (.user id none)
  | handle {h : Str} {rest : List Str} : contains path (lit "/watch") = false →
      startsWith path (lit "/people") = false → endsWith h (lit ".php") = false →
      pathsplit path = h :: rest → Routed path query (.handle h)

open Ural.C19 (Yields) in
theorem parseSplit_yields (sp : SplitResult) : Yields (Routed sp.path sp.query) (parseSplit sp) := by
  refine parseSplit_cases sp (Yields (Routed sp.path sp.query)) .none ?_ ?_ ?_ ?_ ?_ ?_ ?_ ?_ ?_ ?_
  · rw [routeWatch_eq]
    split
    · exact .some (.watch (by simp only [*, List.mem_cons, true_or]))
    · exact .none
  · intro hw
    rw [routeVideos_eq]
    split
    · exact .some (.videos hw ‹_›)
    · exact .none
  · obtain ⟨ga, hga⟩ := photoSets_total (safe_parse_qs sp.query)
    rw [routePhotoQuery_eq _ ga hga]
    split
    · exact .some (.photoQuery (by simp only [*, List.mem_cons, true_or]) hga)
    · exact .none
  · intro hw hv
    rw [routePhotos_eq]
    split
    · split
      · exact .none
      · exact .some (.photos hw hv (eq_false_of_ne_true ‹_›) ‹_›)
    · exact .none
  · intro hw hv hp
    rw [routePosts_eq]
    split
    · split
      · split
        · exact .some (.groupPost hw hv hp ‹_›)
        · exact .none
      · exact .some (.pagePost hw hv hp ‹_› ‹_›)
    · exact .none
  · rw [routePermalink_eq]
    split
    · exact .some (.permalink (by simp only [*, List.mem_cons, true_or]) (by simp only [*, List.mem_cons, true_or]))
    · exact .none
  · intro hw hv hp
    rw [routeGroups_eq]
    split
    · split
      · split
        · exact .some (.groupPost hw hv hp ‹_›)
        · exact .none
      · exact .some (.group hw ‹_›)
    · exact .none
  · rw [routeProfile_eq]
    split
    · exact .some (.profile (by simp only [*, List.mem_cons, true_or]))
    · exact .none
  · rw [routePeople_eq]
    split
    · exact .some (.people ‹_›)
    · exact .none
  · intro hw hpe
    rw [routeHandle_eq]
    split
    · split
      · exact .some (.handle hw hpe (by simpa using ‹(!endsWith _ _) = true›) ‹_›)
      · exact .none
    · exact .none

/-! ## the `try … except ValueError` wrappers -/

theorem catchValueError_safeUrlsplit {α : Type} (url : Str) (f : SplitResult → α) (h : α) :
    catchValueError ((safeUrlsplitE url).map f) h =
      .ok (match safe_urlsplit url with | some r => f r | none => h) := by
  unfold safeUrlsplitE catchValueError
  cases safe_urlsplit url <;> rfl

-- `pyHostname r.netloc` is made a variable first: `split` and `exact` would unfold it
theorem hostnameOf_eq_some {r : SplitResult} {h : Str} (hh : hostnameOf r = some h) :
    h = pyHostname r.netloc := by
  generalize hp : pyHostname r.netloc = x
  unfold hostnameOf at hh
  rw [hp] at hh
  dsimp only at hh
  split at hh
  · cases hh
  · exact (Option.some.inj hh).symm

/-- `get_hostname` never raises, and what it returns -/
theorem get_hostname_eq (url : Str) :
    get_hostname url = .ok (match safe_urlsplit url with | some r => hostnameOf r | none => none) :=
  catchValueError_safeUrlsplit url hostnameOf none

/-- `is_facebook_url` as a plain boolean -/
def isFacebookUrlB (url : Str) : Bool :=
  match safe_urlsplit url with
  | some r =>
    (match hostnameOf r with
     | some h => reSearch Gen.C19Facebook.FACEBOOK_DOMAIN_RE h
     | none => false)
  | none => false

theorem isFacebookUrlB_true {url : Str} (h : isFacebookUrlB url = true) :
    ∃ sp hn, safe_urlsplit url = some sp ∧ hostnameOf sp = some hn ∧
      reSearch Gen.C19Facebook.FACEBOOK_DOMAIN_RE hn = true := by
  unfold isFacebookUrlB at h
  cases hs : safe_urlsplit url with
  | none => simp [hs] at h
  | some sp =>
    cases hh : hostnameOf sp with
    | none => simp [hs, hh] at h
    | some hn => exact ⟨sp, hn, rfl, hh, by simpa [hs, hh] using h⟩

theorem is_facebook_url_eq (url : Str) : is_facebook_url url = .ok (isFacebookUrlB url) := by
  unfold is_facebook_url isFacebookUrlB
  rw [get_hostname_eq]
  cases safe_urlsplit url with
  | none => rfl
  | some r => cases h : hostnameOf r <;> simp [Except.map, h]

/-- the url `parse_facebook_url` goes on with (`none`: it returns `None` at once) -/
def resolved (url : Str) (rel : Bool) : Option Str :=
  if rel && !startsWith url (lit "http://") && !startsWith url (lit "https://") &&
      !contains url (lit "facebook.") then urljoin BASE url
  else if isFacebookUrlB url then some url else none

theorem resolveUrl_eq (url : Str) (rel : Bool) : resolveUrl url rel = .ok (resolved url rel) := by
  unfold resolveUrl resolved
  by_cases hc : (rel && !startsWith url (lit "http://") && !startsWith url (lit "https://") &&
      !contains url (lit "facebook.")) = true
  · simp only [hc, if_true]
  · simp only [hc, Bool.false_eq_true, if_false]
    rw [is_facebook_url_eq]
    rfl

theorem parse_facebook_url_eq (url : Str) (rel : Bool) :
    parse_facebook_url url rel =
      match resolved url rel with
      | none => .ok none
      | some u =>
        match safe_urlsplit u with
        | none => .ok none
        | some sp => parseSplit (squeezePath sp) := by
  unfold parse_facebook_url
  rw [resolveUrl_eq]
  cases resolved url rel with
  | none => rfl
  | some u =>
    simp only
    rw [catchValueError_safeUrlsplit]
    cases safe_urlsplit u <;> rfl

open Ural.C19 (Yields) in
theorem parse_facebook_url_yields (url : Str) (rel : Bool) :
    Yields (fun r => ∃ u sp, resolved url rel = some u ∧ safe_urlsplit u = some sp ∧
      Routed (squeezePath sp).path (squeezePath sp).query r) (parse_facebook_url url rel) := by
  rw [parse_facebook_url_eq]
  cases hu : resolved url rel with
  | none => exact .none
  | some u =>
    dsimp only
    cases hsp : safe_urlsplit u with
    | none => exact .none
    | some sp => exact (parseSplit_yields (squeezePath sp)).mono fun r h => ⟨u, sp, rfl, hsp, h⟩

theorem parse_facebook_url_routed (url : Str) (rel : Bool) (r : Parsed)
    (h : parse_facebook_url url rel = .ok (some r)) :
    ∃ u sp, resolved url rel = some u ∧ safe_urlsplit u = some sp ∧
      Routed (squeezePath sp).path (squeezePath sp).query r :=
  (parse_facebook_url_yields url rel).of_some h

/-! ## the route vocabulary as explicit characters

The words the router tests, as named lists of characters: the statements below are about these, and
every `lit "…"` of the model is rewritten into them (`rw`, by instances of `String.toList_ofList`)
before `simp` or `decide` sees it — unfolding `String.toList` of a literal runs the UTF-8 decoder. -/

def watchL : Str := ['w', 'a', 't', 'c', 'h']
def videosL : Str := ['v', 'i', 'd', 'e', 'o', 's']
def photosL : Str := ['p', 'h', 'o', 't', 'o', 's']
def photoL : Str := ['p', 'h', 'o', 't', 'o']
def photoPhpL : Str := ['p', 'h', 'o', 't', 'o', '.', 'p', 'h', 'p']
def postsL : Str := ['p', 'o', 's', 't', 's']
def permalinkL : Str := ['p', 'e', 'r', 'm', 'a', 'l', 'i', 'n', 'k']
def permalinkPhpL : Str := ['p', 'e', 'r', 'm', 'a', 'l', 'i', 'n', 'k', '.', 'p', 'h', 'p']
def storyPhpL : Str := ['s', 't', 'o', 'r', 'y', '.', 'p', 'h', 'p']
def peopleL : Str := ['p', 'e', 'o', 'p', 'l', 'e']
def profilePhpL : Str := ['p', 'r', 'o', 'f', 'i', 'l', 'e', '.', 'p', 'h', 'p']
def dotPhpL : Str := ['.', 'p', 'h', 'p']
theorem lit_watch : lit "/watch" = '/' :: watchL := String.toList_ofList
theorem lit_videos : lit "/videos/" = '/' :: (videosL ++ ['/']) := String.toList_ofList
theorem lit_photo_php : lit "/photo.php" = '/' :: photoPhpL := String.toList_ofList
theorem lit_photo : lit "/photo" = '/' :: photoL := String.toList_ofList
theorem lit_photos : lit "/photos/" = '/' :: (photosL ++ ['/']) := String.toList_ofList
theorem lit_posts : lit "/posts/" = '/' :: (postsL ++ ['/']) := String.toList_ofList
theorem lit_permalink_php : lit "/permalink.php" = '/' :: permalinkPhpL := String.toList_ofList
theorem lit_story_php : lit "/story.php" = '/' :: storyPhpL := String.toList_ofList
theorem lit_groups : lit "/groups/" = '/' :: (groupsL ++ ['/']) := String.toList_ofList
theorem lit_permalink : lit "/permalink/" = '/' :: (permalinkL ++ ['/']) := String.toList_ofList
theorem lit_people : lit "/people" = '/' :: peopleL := String.toList_ofList
theorem lit_profile : lit "/profile.php" = '/' :: profilePhpL := String.toList_ofList
theorem lit_groups_word : lit "groups" = groupsL := String.toList_ofList
theorem lit_dotphp : lit ".php" = dotPhpL := String.toList_ofList
theorem lit_watch_word : lit "watch" = watchL := String.toList_ofList
theorem lit_people_word : lit "people" = peopleL := String.toList_ofList
theorem lit_videos_word : lit "videos" = videosL := String.toList_ofList
theorem lit_photos_word : lit "photos" = photosL := String.toList_ofList
theorem lit_posts_word : lit "posts" = postsL := String.toList_ofList

/-- `parseSplit` without string literals -/
theorem parseSplit_eq (sp : SplitResult) :
    parseSplit sp =
      if sp.path.isEmpty || sp.path = ['/'] then .ok none
      else if hasInfix sp.path ('/' :: watchL) then routeWatch sp.query
      else if hasInfix sp.path ('/' :: (videosL ++ ['/'])) then routeVideos sp.path
      else if !sp.query.isEmpty &&
          (endsWith sp.path ('/' :: photoPhpL) || endsWith (rstripChars sp.path ['/']) ('/' :: photoL)) then
        routePhotoQuery sp.query
      else if hasInfix sp.path ('/' :: (photosL ++ ['/'])) then routePhotos sp.path
      else if hasInfix sp.path ('/' :: (postsL ++ ['/'])) then routePosts sp.path
      else if !sp.query.isEmpty &&
          (hasInfix sp.path ('/' :: permalinkPhpL) || hasInfix sp.path ('/' :: storyPhpL)) then
        routePermalink sp.query
      else if hasInfix sp.path ('/' :: (groupsL ++ ['/'])) then routeGroups sp.path
      else if sp.path = '/' :: profilePhpL then routeProfile sp.query
      else if startsWith sp.path ('/' :: peopleL) then routePeople sp.path
      else routeHandle sp.path := by
  unfold parseSplit
  rw [lit_watch, lit_videos, lit_photo_php, lit_photo, lit_photos, lit_posts, lit_permalink_php, lit_story_php,
    lit_groups, lit_profile, lit_people]
  simp only [contains_eq_hasInfix]

/-! ## a path made of good segments, no query -/

/-- the routing of a query-less url whose path is made of good segments -/
theorem parseSplit_slashed (sc nl fr : Str) (s : Str) (ss : List Str)
    (hok : ∀ x ∈ s :: ss, segOk x = true) :
    parseSplit ⟨sc, nl, slashed (s :: ss), [], fr⟩ =
      if (s :: ss).any (fun x => watchL.isPrefixOf x) then routeWatch []
      else if (s :: ss).dropLast.any (fun x => decide (x = videosL)) then routeVideos (slashed (s :: ss))
      else if (s :: ss).dropLast.any (fun x => decide (x = photosL)) then routePhotos (slashed (s :: ss))
      else if (s :: ss).dropLast.any (fun x => decide (x = postsL)) then routePosts (slashed (s :: ss))
      else if (s :: ss).dropLast.any (fun x => decide (x = groupsL)) then routeGroups (slashed (s :: ss))
      else if slashed (s :: ss) = '/' :: profilePhpL then routeProfile []
      else if peopleL.isPrefixOf s then routePeople (slashed (s :: ss))
      else routeHandle (slashed (s :: ss)) := by
  have hsl : ∀ x ∈ s :: ss, '/' ∉ x := fun x hx => segOk_not_mem_slash (hok x hx)
  rw [parseSplit_eq]
  simp only []
  rw [hasInfix_slashed_prefix _ watchL (by decide) hsl, hasInfix_slashed_exact _ videosL (by decide) hsl,
    hasInfix_slashed_exact _ photosL (by decide) hsl, hasInfix_slashed_exact _ postsL (by decide) hsl,
    hasInfix_slashed_exact _ groupsL (by decide) hsl, startsWith_slashed s ss peopleL (by decide)]
  have h1 : (slashed (s :: ss)).isEmpty = false := rfl
  have h2 : slashed (s :: ss) ≠ ['/'] := by
    intro e
    simp only [slashed, List.cons.injEq, true_and, List.append_eq_nil_iff] at e
    exact (segOk_spec (hok s (by simp))).1 e.1
  simp only [h1, h2, decide_false, Bool.or_self, Bool.false_eq_true, if_false, List.isEmpty_nil,
    Bool.not_true, Bool.false_and]

/-- `pathsplit` of such a path -/
theorem pathsplit_slashed_cons (s : Str) (ss : List Str) (hok : ∀ x ∈ s :: ss, segOk x = true) :
    pathsplit (slashed (s :: ss)) = s :: ss :=
  pathsplit_slashed (s :: ss) (by simp) (fun x hx => (segOk_spec (hok x hx)).1)
    (fun x hx => segOk_not_mem_slash (hok x hx)) fun x hx => (segOk_spec (hok x hx)).2.2.2.2

/-! ## the four fixed paths that carry a query

On a fixed path the tests of `parseSplit` are closed terms, which `simp +decide` evaluates. -/

theorem parseSplit_watch (sc nl fr q : Str) :
    parseSplit ⟨sc, nl, '/' :: (watchL ++ ['/']), q, fr⟩ = routeWatch q := by
  rw [parseSplit_eq]
  simp +decide only [if_false, if_true]

theorem parseSplit_photo_php (sc nl fr q : Str) (hq : q ≠ []) :
    parseSplit ⟨sc, nl, '/' :: photoPhpL, q, fr⟩ = routePhotoQuery q := by
  rw [parseSplit_eq]
  simp +decide only [Bool.and_eq_true, Bool.not_eq_true', List.isEmpty_eq_false_iff, hq, ne_eq, not_false_eq_true,
    and_self, if_false, if_true]

theorem parseSplit_permalink_php (sc nl fr q : Str) (hq : q ≠ []) :
    parseSplit ⟨sc, nl, '/' :: permalinkPhpL, q, fr⟩ = routePermalink q := by
  rw [parseSplit_eq]
  simp +decide only [Bool.and_eq_true, Bool.not_eq_true', List.isEmpty_eq_false_iff, hq, ne_eq, not_false_eq_true,
    and_self, and_false, if_false, if_true]

theorem parseSplit_profile_php (sc nl fr q : Str) :
    parseSplit ⟨sc, nl, '/' :: profilePhpL, q, fr⟩ = routeProfile q := by
  rw [parseSplit_eq]
  simp +decide only [Bool.and_eq_true, and_false, if_false, if_true]

def vK : Str := ['v']
def idK : Str := ['i', 'd']
def storyK : Str := ['s', 't', 'o', 'r', 'y', '_', 'f', 'b', 'i', 'd']
def fbidK : Str := ['f', 'b', 'i', 'd']
def setK : Str := ['s', 'e', 't']
def gDot : Str := ['g', '.']
def aDot : Str := ['a', '.']
theorem lit_v : lit "v" = vK := String.toList_ofList
theorem lit_id : lit "id" = idK := String.toList_ofList
theorem lit_story : lit "story_fbid" = storyK := String.toList_ofList
theorem lit_fbid : lit "fbid" = fbidK := String.toList_ofList
theorem lit_set : lit "set" = setK := String.toList_ofList
theorem lit_gdot : lit "g." = gDot := String.toList_ofList
theorem lit_adot : lit "a." = aDot := String.toList_ofList
theorem lit_profile_q : lit "/profile.php?id=" = '/' :: profilePhpL ++ '?' :: idK ++ ['='] := String.toList_ofList
theorem lit_groups_rel : lit "groups/" = groupsL ++ ['/'] := String.toList_ofList

theorem lit_permalink_q :
    lit "/permalink.php?story_fbid=" = '/' :: permalinkPhpL ++ '?' :: storyK ++ ['='] := String.toList_ofList

theorem lit_and_id : lit "&id=" = '&' :: idK ++ ['='] := String.toList_ofList
theorem lit_watch_q : lit "/watch/?v=" = '/' :: (watchL ++ ['/']) ++ '?' :: vK ++ ['='] := String.toList_ofList
theorem lit_photos_a : lit "/photos/a." = '/' :: photosL ++ '/' :: aDot := String.toList_ofList
theorem lit_photo_q : lit "/photo.php?fbid=" = '/' :: photoPhpL ++ '?' :: fbidK ++ ['='] := String.toList_ofList
theorem lit_set_g : lit "&set=g." = '&' :: setK ++ '=' :: gDot := String.toList_ofList
theorem lit_set_a : lit "&set=a." = '&' :: setK ++ '=' :: aDot := String.toList_ofList

end Ural.Facebook
