import UralModel.Lemmas.IsUrlShape
import UralModel.Lemmas.QuoteSplit
/-!
# The cleaning pass of `canonicalize_url` keeps the shape

`canonicalize_url` first removes control characters, strips, upper-cases the escapes and
ensures a protocol (`Canonicalize.cleanUrl`).  On a string whose `strip` has the shape
`http(s)://[userinfo@]host[:port][tail]` the result has the same shape with the same scheme,
host and port: `clean_shape`.
-/
namespace Ural.UrlPattern
open Ural.Py Ural.Py.Re Ural.Py.Re.Extra Ural.Gen.Patterns Ural.UrlParts Ural.UrlRoundTrip Ural.CanonRoundTrip
open Ural.Quote

/-! ## characters -/

theorem uiChar_upperChar {c : Char} (h : UiChar c) : UiChar (upperChar c) := by
  have hn := upperChar_toNat c
  by_cases hl : 97 ≤ c.toNat ∧ c.toNat ≤ 122
  · rw [if_pos hl] at hn
    have hne : ∀ d : Char, ¬ (65 ≤ d.toNat ∧ d.toNat ≤ 90) → upperChar c ≠ d := by
      intro d hd e
      rw [e] at hn
      omega
    have h1 := hne '/' (by decide)
    have h2 := hne '?' (by decide)
    have h3 := hne '#' (by decide)
    have h4 := hne '\t' (by decide)
    have h5 := hne '\r' (by decide)
    have h6 := hne '\n' (by decide)
    exact ⟨by simp [isNetlocDelim, h1, h2, h3], by simp [isUnsafeUrlChar, h4, h5, h6]⟩
  · rw [if_neg hl] at hn
    have : upperChar c = c := Char.toNat_inj.1 hn
    rw [this]; exact h

/-! ## passes that rewrite a string segment by segment -/

structure Segmentwise (f : Str → Str) : Prop where
  cut : ∀ (a : Str) (c : Char) (b : Str), c = ':' ∨ c = '@' ∨ isDelim c → f (a ++ c :: b) = f a ++ c :: f b
  keep : ∀ w : Str, '%' ∉ w → (∀ c ∈ w, isControlChar c = false) → f w = w
  ui : ∀ w : Str, (∀ c ∈ w, UiChar c) → ∀ c ∈ f w, UiChar c

theorem Shape.map {y sch ui H po tl : Str} (h : Shape y sch ui H po tl) {f : Str → Str}
    (hf : Segmentwise f) : ∃ ui' tl', Shape (f y) sch ui' H po tl' := by
  have hnil : f [] = [] := hf.keep [] (by simp) (by simp)
  have hsch : f sch = sch := hf.keep sch
    (fun hm => by have := h.sch.alpha _ hm; revert this; decide)
    fun c hc => alpha_not_ctl (h.sch.alpha c hc)
  have hHpo : f (H ++ po) = H ++ po := hf.keep _
    (fun hm => (h.hostport_chars _ hm).elim (by decide) fun g => g.nopct rfl)
    fun c hc => (h.hostport_chars c hc).elim (fun e => e ▸ by decide) fun g => g.noctl
  obtain ⟨T', hT', hT'e⟩ : ∃ T', f ((H ++ po) ++ tl) = (H ++ po) ++ T' ∧
      (T' = [] ∨ ∃ d r, T' = d :: r ∧ isDelim d) := by
    rcases h.tail with e | ⟨d, r, e, hd⟩
    · exact ⟨[], by rw [e, List.append_nil, hHpo], Or.inl rfl⟩
    · exact ⟨d :: f r, by rw [e, hf.cut _ _ _ (Or.inr (Or.inr hd)), hHpo], Or.inr ⟨d, _, rfl, hd⟩⟩
  -- userinfo
  obtain ⟨ui2, hui2, hui2e⟩ : ∃ ui2, f (ui ++ ((H ++ po) ++ tl)) = ui2 ++ ((H ++ po) ++ T') ∧
      (ui2 = [] ∨ ∃ w, ui2 = w ++ ['@'] ∧ ∀ c ∈ w, UiChar c) := by
    rcases h.ui with e | ⟨w, e, hw⟩
    · exact ⟨[], by rw [e, List.nil_append, hT']; rfl, Or.inl rfl⟩
    · refine ⟨f w ++ ['@'], ?_, Or.inr ⟨_, rfl, hf.ui w hw⟩⟩
      rw [e, List.append_assoc, List.singleton_append, hf.cut _ _ _ (Or.inr (Or.inl rfl)), hT']
      simp
  refine ⟨ui2, T', ?_, h.sch, hui2e, h.host, h.port, hT'e⟩
  have e : y = sch ++ ':' :: ([] ++ '/' :: ([] ++ '/' :: (ui ++ ((H ++ po) ++ tl)))) := by
    rw [h.eq]; simp
  rw [e, hf.cut _ _ _ (Or.inl rfl), hf.cut _ _ _ (Or.inr (Or.inr (Or.inl rfl))),
    hf.cut _ _ _ (Or.inr (Or.inr (Or.inl rfl))), hsch, hnil, hui2]
  simp

theorem segmentwise_stripControl : Segmentwise stripControl where
  cut a c b hc := by
    have : isControlChar c = false := by
      rcases hc with rfl | rfl | rfl | rfl | rfl <;> decide
    simp [stripControl, List.filter_append, this]
  keep w _ hw := stripControl_eq_self_iff.2 hw
  ui w hw c hc := hw c (List.mem_filter.mp hc).1

theorem segmentwise_upperQuoted : Segmentwise upperQuoted where
  cut a c b hc := upperQuoted_append_sep (by
    rcases hc with rfl | rfl | rfl | rfl | rfl <;> exact ⟨by decide, by decide⟩) a b
  keep w hw _ := upperQuoted_of_no_pct hw
  ui w hw c hc := by
    obtain ⟨d0, hd0, rfl | rfl⟩ := mem_upperQuoted hc
    · exact hw _ hd0
    · exact uiChar_upperChar (hw _ hd0)

/-! ## the cleaning pass -/

theorem https_shaped : SchemeShaped (rstripChars "https".toList [':', '/']) :=
  ⟨⟨'h', "ttps".toList, by decide +kernel, by decide +kernel⟩, by decide +kernel⟩

section
variable {y sch ui H po tl : Str} (h : Shape y sch ui H po tl)
include h

theorem Shape.of_stripControl : ∃ ui' tl', Shape (stripControl y) sch ui' H po tl' :=
  h.map segmentwise_stripControl

/-- what precedes the tail starts with a letter and ends with a host or port character: `strip`
can only shorten the tail -/
theorem Shape.of_strip : ∃ tl', Shape (strip y) sch ui H po tl' := by
  have hHpo : H ++ po ≠ [] := by simp [lang_host_ne_nil h.host]
  have hy : y = (sch ++ ':' :: '/' :: '/' :: ui) ++ (H ++ po) ++ tl := by rw [h.eq]; simp
  have hP : strip y = (sch ++ ':' :: '/' :: '/' :: ui) ++ (H ++ po) ++ rstrip tl := by
    rw [hy]
    refine stripBy_append isSpace ?_ ?_ (by simp)
    · intro c hc
      obtain ⟨a, b, c', d, e, rfl, _⟩ := h.sch
      simp only [List.cons_append, List.head?_cons, Option.some.injEq] at hc
      subst hc
      exact alpha_not_space (h.sch.alpha _ List.mem_cons_self)
    · intro c hc
      rw [List.getLast?_append, List.getLast?_eq_some_getLast hHpo] at hc
      simp at hc
      rcases h.hostport_chars c (hc ▸ List.getLast_mem hHpo) with rfl | g
      · decide
      · exact g.nospace
  refine ⟨rstrip tl, by rw [hP]; simp, h.sch, h.ui, h.host, h.port, ?_⟩
  rcases h.tail with e | ⟨d, r, e, hd⟩
  · left; rw [e]; rfl
  · have hds : isSpace d = false := by
      rcases hd with rfl | rfl | rfl <;> decide
    exact Or.inr ⟨d, rstrip r, by rw [e]; exact rstrip_append (A := [d]) r (by simp [hds]), hd⟩

theorem Shape.of_upperQuoted : ∃ ui' tl', Shape (upperQuoted y) sch ui' H po tl' :=
  h.map segmentwise_upperQuoted

theorem Shape.ensureProtocol_eq : ensureProtocol y "https".toList = y := by
  rw [h.eq]
  obtain ⟨a', b', c', d', e', rfl, _⟩ := h.sch
  exact ensureProtocol_letters ⟨by simp, h.sch.alpha, by have := h.sch.length_le; omega⟩ _ _

end

theorem clean_shape {u sch ui H po tl : Str} (h : Shape (strip u) sch ui H po tl) :
    ∃ ui' tl', Shape (Canonicalize.cleanUrl u "https".toList) sch ui' H po tl' := by
  -- u = blanks ++ strip u ++ blanks, and blanks stay blanks
  obtain ⟨a, b, hu, haw, hbw⟩ := strip_decomp u
  have hfilter_ws : ∀ l : Str, (∀ c ∈ l, isSpace c = true) → ∀ c ∈ stripControl l, isSpace c = true :=
    fun l hl c hc => hl c (List.mem_filter.mp hc).1
  have e1 : strip (stripControl u) = strip (stripControl (strip u)) := by
    conv => lhs; rw [hu]
    unfold stripControl
    rw [List.filter_append, List.filter_append]
    exact strip_wrap _ (hfilter_ws a haw) (hfilter_ws b hbw)
  obtain ⟨ui1, tl1, h1⟩ := h.of_stripControl
  obtain ⟨tl2, h2⟩ := h1.of_strip
  obtain ⟨ui3, tl3, h3⟩ := h2.of_upperQuoted
  refine ⟨ui3, tl3, ?_⟩
  unfold Canonicalize.cleanUrl
  rw [e1, h3.ensureProtocol_eq]
  exact h3

end Ural.UrlPattern
