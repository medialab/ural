import UralModel.Lemmas.UrlPattern
import UralModel.Lemmas.ReLang
import UralModel.Lemmas.StrLit
/-!
# What `RELAXED_URL_WITH_PROTOCOL_RE` and `HTTP_PROTOCOL_RE` accept, in terms of strings

`accepts_R_iff`: the accepted strings are exactly `protocol // userinfo host port tail`, up to a
final line feed; the third host alternative is `(label .)+ tld .?`, labels being the words of
`labelRe` (`lang_names_iff`); `http_accepts_iff` for `HTTP_PROTOCOL_RE`.  All by the `Lang`
equations and the frames of `Lemmas/ReLang.lean`.
-/
namespace Ural.UrlPattern
open Ural.Py Ural.Py.Re Ural.Py.Re.Extra Ural.Gen.Patterns

/-! ## single characters -/

theorem cDot_mem {c : Char} : cDot.mem c = true ↔ c = '.' := by
  rw [CharClass.mem_points (ds := ['.']) cDot_eq]; exact List.mem_singleton

theorem cColon_mem {c : Char} : cColon.mem c = true ↔ c = ':' := by
  rw [CharClass.mem_points (ds := [':']) cColon_eq]; exact List.mem_singleton

theorem cSlash_mem {c : Char} : cSlash.mem c = true ↔ c = '/' := by
  rw [CharClass.mem_points (ds := ['/']) cSlash_eq]; exact List.mem_singleton

theorem cAt_mem {c : Char} : cAt.mem c = true ↔ c = '@' := by
  rw [CharClass.mem_points (ds := ['@']) cAt_eq]; exact List.mem_singleton

/-- `[/?#]` -/
def isDelim (c : Char) : Prop := c = '/' ∨ c = '?' ∨ c = '#'

theorem cDelim_mem {c : Char} : cDelim.mem c = true ↔ isDelim c := by
  rw [CharClass.mem_points (ds := ['#', '/', '?']) cDelim_eq]
  simp only [List.mem_cons, List.not_mem_nil, or_false, isDelim]
  constructor
  · rintro (h | h | h)
    · exact Or.inr (Or.inr h)
    · exact Or.inl h
    · exact Or.inr (Or.inl h)
  · rintro (h | h | h)
    · exact Or.inr (Or.inl h)
    · exact Or.inr (Or.inr h)
    · exact Or.inl h

theorem cAny_mem {c : Char} (h : c ≠ '\n') : cAny.mem c = true := by
  apply coWithin_sound cAny_co
  intro hm
  simp only [List.mem_singleton] at hm
  exact h (Char.toNat_inj.1 hm)

theorem cNonSpace_mem {c : Char} (h : isSpace c = false) : cNonSpace.mem c = true := by
  apply coWithin_sound cNonSpace_co
  intro hm
  simp [isSpace, hm] at h

/-- a character read by a host alternative is none of the delimiters, no whitespace, no control -/
theorem host_char {H : Str} (h : Lang hostRe H) : ∀ c ∈ H, c.toNat ∉ hostBad := by
  refine lang_all_of_allCls (P := fun C => C.avoids hostBad) (Q := fun c => c.toNat ∉ hostBad)
    ?_ hostRe_avoids h
  intro C c hC hc
  exact CharClass.avoids_sound hC hc

theorem lang_host_ne_nil {H : Str} (h : Lang hostRe H) : H ≠ [] := by
  intro e
  subst e
  have := Match.progress h hostRe_not_nullable
  simp at this

/-! ## labels and the third host alternative -/

/-- a host label: a word of `(?:[F][M]{0,62})?[F]` -/
def Label (l : Str) : Prop := Lang labelRe l
/-- a top-level domain: at least two characters of the TLD class -/
def Tld (t : Str) : Prop := 2 ≤ t.length ∧ ∀ c ∈ t, cT.mem c = true

/-- the labels, each followed by its dot -/
def dotted (ls : List Str) : Str := ls.flatMap (· ++ ['.'])

theorem lang_ld_iff {x : Str} : Lang ldRe x ↔ ∃ l, Label l ∧ x = l ++ ['.'] := by
  unfold ldRe Label
  rw [lang_seq_assoc]
  show Lang (.seq labelRe (.cls cDot)) x ↔ _
  rw [lang_seq_iff labelRe_anchorFree rfl]
  simp only [lang_cls_iff, cDot_mem]
  constructor
  · rintro ⟨l, _, rfl, hl, c, rfl, rfl⟩; exact ⟨l, hl, rfl⟩
  · rintro ⟨l, hl, rfl⟩; exact ⟨l, ['.'], rfl, hl, '.', rfl, rfl⟩

/-- the string of the third host alternative -/
def namesStr (ls : List Str) (t : Str) (d : Bool) : Str :=
  dotted ls ++ t ++ (if d then ['.'] else [])

theorem lang_names_iff {H : Str} : Lang namesShape H ↔
    ∃ ls t d, ls ≠ [] ∧ (∀ l ∈ ls, Label l) ∧ Tld t ∧ H = namesStr ls t d := by
  unfold namesShape
  rw [lang_seq_iff rfl rfl]
  simp only [lang_rep_iff (p := ldRe) rfl,
    lang_seq_iff (p := .rep (.cls cT) 2 none true) (q := opt (.cls cDot)) rfl rfl, lang_rep_cls_iff,
    lang_opt_iff, lang_cls_iff, cDot_mem, lang_ld_iff, reduceCtorEq, false_imp_iff, implies_true,
    and_true]
  constructor
  · rintro ⟨_, _, rfl, ⟨ws, rfl, hws, hlo⟩, t, e, rfl, ⟨ht, htl⟩, he⟩
    obtain ⟨ls, rfl, hls⟩ := List.exists_map_of_forall_exists hws
    have hne : ls ≠ [] := by rintro rfl; simp at hlo
    rcases he with rfl | ⟨_, rfl, rfl⟩
    · exact ⟨ls, t, false, hne, hls, ⟨htl, ht⟩, by simp [namesStr, dotted, List.flatMap_def]⟩
    · exact ⟨ls, t, true, hne, hls, ⟨htl, ht⟩, by simp [namesStr, dotted, List.flatMap_def]⟩
  · rintro ⟨ls, t, d, hne, hls, ⟨htl, ht⟩, rfl⟩
    refine ⟨dotted ls, _, by simp [namesStr], ⟨ls.map (· ++ ['.']), by simp [dotted, List.flatMap_def],
      fun x hx => ?_, ?_⟩, t, if d then ['.'] else [], rfl, ⟨ht, htl⟩, ?_⟩
    · obtain ⟨l, hl, rfl⟩ := List.mem_map.mp hx
      exact ⟨l, hls l hl, rfl⟩
    · cases ls with
      | nil => exact absurd rfl hne
      | cons _ _ => simp
    · cases d
      · exact Or.inl rfl
      · exact Or.inr ⟨'.', rfl, rfl⟩

/-- the three host alternatives -/
theorem lang_host_iff {H : Str} :
    Lang hostRe H ↔ Lang ipRe H ∨ Lang lhRe H ∨ Lang namesShape H := by
  rw [hostRe_eq, lang_alt_iff, lang_alt_iff]

theorem lang_ui_iff {u : Str} :
    Lang uiRe u ↔ ∃ w, u = w ++ ['@'] ∧ w ≠ [] ∧ ∀ c ∈ w, cNonSpace.mem c = true := by
  unfold uiRe
  rw [lang_seq_iff rfl rfl]
  simp only [lang_seq_iff (p := opt (.seq (.cls cColon) (.rep (.cls cNonSpace) 0 none true)))
    (q := .cls cAt) rfl rfl, lang_opt_iff, lang_cls_run_iff, lang_rep_cls_iff, lang_cls_iff, cAt_mem,
    cColon_mem, reduceCtorEq, false_imp_iff, implies_true, and_true]
  constructor
  · rintro ⟨a, _, rfl, ⟨ha, hlo⟩, x, _, rfl, hx, _, rfl, rfl⟩
    have hne : a ≠ [] := by rintro rfl; simp at hlo
    rcases hx with rfl | ⟨_, r, rfl, rfl, hr, _⟩
    · exact ⟨a, rfl, hne, ha⟩
    · exact ⟨a ++ ':' :: r, by simp, by simp,
        List.forall_mem_append.mpr ⟨ha, List.forall_mem_cons.mpr ⟨cNonSpace_mem (by decide), hr⟩⟩⟩
  · rintro ⟨w, rfl, hne, hw⟩
    exact ⟨w, ['@'], rfl, ⟨hw, List.length_pos_iff.mpr hne⟩, [], ['@'], rfl, Or.inl rfl, '@', rfl, rfl⟩

/-! ## the whole pattern -/

theorem accepts_R_iff {s : Str} : Accepts R s ↔
    ∃ pr ui H po tl nl, s = pr ++ '/' :: '/' :: (ui ++ (H ++ (po ++ tl))) ++ nl ∧
      (pr = [] ∨ ∃ ls, pr = ls ++ [':'] ∧ (∀ c ∈ ls, cLetters.mem c = true) ∧ 1 ≤ ls.length ∧
        ls.length ≤ 64) ∧
      (ui = [] ∨ ∃ w, ui = w ++ ['@'] ∧ w ≠ [] ∧ ∀ c ∈ w, cNonSpace.mem c = true) ∧
      Lang hostRe H ∧
      (po = [] ∨ ∃ ds, po = ':' :: ds ∧ (∀ c ∈ ds, cDigit.mem c = true) ∧ 1 ≤ ds.length ∧
        ds.length ≤ 5) ∧
      (tl = [] ∨ ∃ d r, tl = d :: r ∧ isDelim d ∧ ∀ c ∈ r, cAny.mem c = true) ∧
      Tail nl := by
  rw [accepts_bos_eos_iff (rs := midR) url_shape midR_anchorFree]
  simp only [midR, langL_opt_cons, langL_cls_cons, langL_cons (r := hostRe), langL_nil,
    lang_run_cls_iff, lang_cls_run_iff, lang_ui_iff, cColon_mem, cSlash_mem, cDelim_mem,
    Option.some.injEq, forall_eq', reduceCtorEq, false_imp_iff, implies_true, and_true]
  constructor
  · rintro ⟨_, nl, rfl, ⟨pr, _, rfl, hpr, _, _, rfl, rfl, _, _, rfl, rfl, ui, _, rfl, hui,
      H, _, rfl, hH, po, _, rfl, hpo, tl, _, rfl, htl, rfl⟩, hnl⟩
    refine ⟨pr, ui, H, po, tl, nl, by simp, ?_, hui, hH, ?_, ?_, hnl⟩
    · exact hpr.imp_right fun ⟨r, k, e, ⟨h1, h2, h3⟩, hk⟩ => ⟨r, hk ▸ e, h1, h2, h3⟩
    · exact hpo.imp_right fun ⟨k, r, e, hk, h1, h2, h3⟩ => ⟨r, hk ▸ e, h1, h2, h3⟩
    · exact htl.imp_right fun ⟨k, r, e, hk, h1, _⟩ => ⟨k, r, e, hk, h1⟩
  · rintro ⟨pr, ui, H, po, tl, nl, rfl, hpr, hui, hH, hpo, htl, hnl⟩
    refine ⟨_, nl, rfl, ⟨pr, _, rfl, ?_, _, _, rfl, rfl, _, _, rfl, rfl, ui, _, rfl, hui,
      H, _, rfl, hH, po, _, rfl, ?_, tl, _, (List.append_nil _).symm, ?_, rfl⟩, hnl⟩
    · exact hpr.imp_right fun ⟨ls, e, h1, h2, h3⟩ => ⟨ls, ':', e, ⟨h1, h2, h3⟩, rfl⟩
    · exact hpo.imp_right fun ⟨ds, e, h1, h2, h3⟩ => ⟨':', ds, e, rfl, h1, h2, h3⟩
    · exact htl.imp_right fun ⟨d, r, e, hd, h1⟩ => ⟨d, r, e, hd, h1, Nat.zero_le _⟩

/-- what the pattern accepts (the string must not end with a line feed: `$` would match
before it) -/
theorem accepts_decomp {s : Str} (h : Accepts R s) (hnl : s.getLast? ≠ some '\n') :
    ∃ pr ui H po tl, s = pr ++ '/' :: '/' :: (ui ++ (H ++ (po ++ tl))) ∧
      (pr = [] ∨ ∃ ls, pr = ls ++ [':'] ∧ ∀ c ∈ ls, cLetters.mem c = true) ∧
      (ui = [] ∨ ∃ w, ui = w ++ ['@'] ∧ ∀ c ∈ w, cNonSpace.mem c = true) ∧
      Lang hostRe H ∧
      (po = [] ∨ ∃ ds, po = ':' :: ds ∧ ds ≠ [] ∧ ∀ c ∈ ds, cDigit.mem c = true) ∧
      (tl = [] ∨ ∃ d r, tl = d :: r ∧ isDelim d) := by
  obtain ⟨pr, ui, H, po, tl, nl, rfl, hpr, hui, hH, hpo, htl, hnl'⟩ := accepts_R_iff.mp h
  obtain rfl : nl = [] := Or.resolve_right hnl' fun e => hnl (by rw [e, List.getLast?_append]; rfl)
  exact ⟨pr, ui, H, po, tl, by simp, hpr.imp_right fun ⟨ls, e, h1, _⟩ => ⟨ls, e, h1⟩,
    hui.imp_right fun ⟨w, e, _, h1⟩ => ⟨w, e, h1⟩, hH,
    hpo.imp_right fun ⟨ds, e, h1, h2, _⟩ => ⟨ds, e, List.length_pos_iff.mp h2, h1⟩,
    htl.imp_right fun ⟨d, r, e, hd, _⟩ => ⟨d, r, e, hd⟩⟩

/-- conversely: protocol letters, `://`, an optional userinfo without whitespace, a host, an
optional port of 1–5 digits, an optional tail starting with a delimiter and holding no line
feed, is accepted -/
theorem accepts_of_parts (ls ui H po tl : Str)
    (hls : ls ≠ [] ∧ ls.length ≤ 64 ∧ ∀ c ∈ ls, cLetters.mem c = true)
    (hui : ui = [] ∨ ∃ w, ui = w ++ ['@'] ∧ w ≠ [] ∧ ∀ c ∈ w, isSpace c = false)
    (hH : Lang hostRe H)
    (hpo : po = [] ∨ ∃ ds, po = ':' :: ds ∧ ds ≠ [] ∧ ds.length ≤ 5 ∧ ∀ c ∈ ds, cDigit.mem c = true)
    (htl : tl = [] ∨ ∃ d r, tl = d :: r ∧ isDelim d ∧ '\n' ∉ r) :
    Accepts R (ls ++ ':' :: '/' :: '/' :: (ui ++ (H ++ (po ++ tl)))) :=
  accepts_R_iff.mpr ⟨ls ++ [':'], ui, H, po, tl, [], by simp,
    Or.inr ⟨ls, rfl, hls.2.2, List.length_pos_iff.mpr hls.1, hls.2.1⟩,
    hui.imp_right fun ⟨w, e, hne, hw⟩ => ⟨w, e, hne, fun c hc => cNonSpace_mem (hw c hc)⟩, hH,
    hpo.imp_right fun ⟨ds, e, hne, hlen, hds⟩ => ⟨ds, e, hds, List.length_pos_iff.mpr hne, hlen⟩,
    htl.imp_right fun ⟨d, r, e, hd, hr⟩ => ⟨d, r, e, hd, fun c hc => cAny_mem fun e => hr (e ▸ hc)⟩,
    Or.inl rfl⟩

/-! ## `HTTP_PROTOCOL_RE` -/

theorem cH_mem {c : Char} : cH.mem c = true ↔ c = 'h' ∨ c = 'H' := by
  rw [CharClass.mem_points (ds := ['H', 'h']) cH_eq]
  simp only [List.mem_cons, List.not_mem_nil, or_false]
  exact or_comm

theorem cTt_mem {c : Char} : cTt.mem c = true ↔ c = 't' ∨ c = 'T' := by
  rw [CharClass.mem_points (ds := ['T', 't']) cTt_eq]
  simp only [List.mem_cons, List.not_mem_nil, or_false]
  exact or_comm

theorem cP_mem {c : Char} : cP.mem c = true ↔ c = 'p' ∨ c = 'P' := by
  rw [CharClass.mem_points (ds := ['P', 'p']) cP_eq]
  simp only [List.mem_cons, List.not_mem_nil, or_false]
  exact or_comm

/-- U+017F, the long s, which `re.IGNORECASE` folds onto `s` -/
def longS : Char := Char.ofNat 383

theorem cS_mem {c : Char} : cS.mem c = true ↔ c = 's' ∨ c = 'S' ∨ c = longS := by
  rw [CharClass.mem_points (ds := ['S', 's', longS]) cS_eq]
  simp only [List.mem_cons, List.not_mem_nil, or_false]
  exact or_left_comm

theorem http_accepts_iff {s : Str} : Accepts HTTP_PROTOCOL_RE s ↔
    ∃ a b c d e rest, s = a :: b :: c :: d :: (e ++ ':' :: '/' :: '/' :: rest) ∧
      (a = 'h' ∨ a = 'H') ∧ (b = 't' ∨ b = 'T') ∧ (c = 't' ∨ c = 'T') ∧ (d = 'p' ∨ d = 'P') ∧
      (e = [] ∨ ∃ x, e = [x] ∧ (x = 's' ∨ x = 'S' ∨ x = longS)) := by
  rw [accepts_bos_iff http_spine rfl]
  simp only [langL_cls_cons, langL_opt_cons, langL_nil, lang_cls_iff, cH_mem, cTt_mem, cP_mem, cS_mem,
    cColon_mem, cSlash_mem]
  constructor
  · rintro ⟨_, rest, rfl, a, _, rfl, ha, b, _, rfl, hb, c, _, rfl, hc, d, _, rfl, hd, e, _, rfl, he,
      _, _, rfl, rfl, _, _, rfl, rfl, _, _, rfl, rfl, rfl⟩
    exact ⟨a, b, c, d, e, rest, by simp, ha, hb, hc, hd, he⟩
  · rintro ⟨a, b, c, d, e, rest, rfl, ha, hb, hc, hd, he⟩
    exact ⟨_, rest, by simp, a, _, rfl, ha, b, _, rfl, hb, c, _, rfl, hc, d, _, rfl, hd, e, _, rfl, he,
      _, _, rfl, rfl, _, _, rfl, rfl, _, _, rfl, rfl, rfl⟩

theorem http_accepts_opt (e rest : Str) (he : e = [] ∨ e = ['s']) :
    Accepts HTTP_PROTOCOL_RE ('h' :: 't' :: 't' :: 'p' :: (e ++ ':' :: '/' :: '/' :: rest)) :=
  http_accepts_iff.mpr ⟨_, _, _, _, e, rest, rfl, Or.inl rfl, Or.inl rfl, Or.inl rfl, Or.inl rfl,
    he.imp_right fun h => ⟨'s', h, Or.inl rfl⟩⟩

/-- `http://…` and `https://…` are accepted -/
theorem http_accepts (rest : Str) :
    Accepts HTTP_PROTOCOL_RE ("http".toList ++ ':' :: '/' :: '/' :: rest) ∧
    Accepts HTTP_PROTOCOL_RE ("https".toList ++ ':' :: '/' :: '/' :: rest) := by
  simp only [toList_lit]
  exact ⟨http_accepts_opt [] rest (Or.inl rfl), http_accepts_opt ['s'] rest (Or.inr rfl)⟩

end Ural.UrlPattern
