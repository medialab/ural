import UralModel.Model.Builders
/-!
The parsers of C19 and their routing functions are programs in `Except ε (Option ρ)`.  `Yields B x` says
of such a program all that the properties ask: it does not raise, and a record it returns satisfies `B`.
Totality, validity, non-emptiness and "the fields are segments" of a parser are projections of one
`Yields` statement about it (telegram, instagram, google, youtube, facebook; twitter, a loop, has
`twitterRoute_spec` and `runSteps_result` in its place), obtained from the same statement about its
routing function.  Three parsers (telegram, instagram, google) have exactly the shape `ReadsSplit`:
refuse the url (`None`: foreign host, `ValueError` of `urlsplit`) or split it and hand the split url to
the routing function; for them the step is `ReadsSplit.yields`.  Youtube and facebook do more before they
split (redirections, continuation patterns, `urljoin`) and have a wrapper lemma of their own.
-/
namespace Ural.C19
open Ural Ural.Py

variable {ε ρ : Type}

def Yields (B : ρ → Prop) (x : Except ε (Option ρ)) : Prop :=
  ∃ r, x = .ok r ∧ ∀ rec, r = some rec → B rec

namespace Yields
variable {B B' : ρ → Prop} {x : Except ε (Option ρ)}

theorem none : Yields B (.ok Option.none : Except ε (Option ρ)) := ⟨_, rfl, fun _ h => nomatch h⟩

theorem some {rec : ρ} (h : B rec) : Yields B (.ok (Option.some rec) : Except ε (Option ρ)) :=
  ⟨_, rfl, fun _ h' => Option.some.inj h' ▸ h⟩

theorem ite {c : Prop} [Decidable c] {a b : Except ε (Option ρ)} (ha : c → Yields B a)
    (hb : ¬ c → Yields B b) : Yields B (if c then a else b) := by
  split
  · exact ha ‹_›
  · exact hb ‹_›

theorem mono (h : Yields B x) (hB : ∀ rec, B rec → B' rec) : Yields B' x :=
  let ⟨r, hr, hb⟩ := h
  ⟨r, hr, fun rec e => hB rec (hb rec e)⟩

theorem total (h : Yields B x) : ∃ r, x = .ok r :=
  let ⟨r, hr, _⟩ := h
  ⟨r, hr⟩

theorem ne_error (h : Yields B x) (e : ε) : x ≠ .error e := by
  obtain ⟨r, hr, _⟩ := h
  rw [hr]
  exact fun h => nomatch h

theorem of_some (h : Yields B x) {rec : ρ} (hx : x = .ok (Option.some rec)) : B rec := by
  obtain ⟨r, hr, hb⟩ := h
  exact hb rec (Except.ok.inj (hr.symm.trans hx))

end Yields

def ReadsSplit (parse : Str → Except ε (Option ρ)) (route : SplitResult → Except ε (Option ρ)) : Prop :=
  ∀ url, parse url = .ok none ∨ ∃ sr, safe_urlsplit url = some sr ∧ parse url = route sr

theorem ReadsSplit.yields {parse : Str → Except ε (Option ρ)} {route : SplitResult → Except ε (Option ρ)}
    (h : ReadsSplit parse route) {B : ρ → Prop}
    (hr : ∀ url sr, safe_urlsplit url = some sr → Yields B (route sr)) (url : Str) :
    Yields B (parse url) := by
  rcases h url with e | ⟨sr, hs, e⟩
  · rw [e]; exact .none
  · rw [e]; exact hr url sr hs

end Ural.C19
