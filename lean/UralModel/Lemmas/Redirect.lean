import UralModel.Model.Redirect
import UralModel.Lemmas.UrlSplit
/-!
Helper lemmas for C15 (`infer_redirection`): the theory of the literal matcher `matchLit` (shared with the
value searches of `ural/youtube.py`); what the hand-written matchers return is a piece of the input
(`KeyValueAt`); the function reads its argument through `cleanedUrl` only; the counter-model `inferCleanOnce`
cleans at the entry only.
-/
namespace Ural
open Ural.Py

theorem matchLit_split (pat : List Char) (s r : Str) (h : matchLit pat s = some r) :
    ∃ pre, s = pre ++ r ∧ pre.length = pat.length ∧ matchLit pat pre = some [] ∧
      (∀ c ∈ pre, ∃ p ∈ pat, ciMatch p c = true) := by
  induction pat generalizing s with
  | nil => simp [matchLit] at h; exact ⟨[], by simp [h, matchLit]⟩
  | cons p ps ih =>
    cases s with
    | nil => simp [matchLit] at h
    | cons c cs =>
      simp only [matchLit] at h
      by_cases hc : ciMatch p c = true
      · simp only [hc, if_true] at h
        obtain ⟨pre, h1, h2, h3, h4⟩ := ih cs h
        refine ⟨c :: pre, by simp [h1], by simp [h2], by simp [matchLit, hc, h3], ?_⟩
        intro x hx
        rcases List.mem_cons.mp hx with rfl | hx
        · exact ⟨p, List.mem_cons_self .., hc⟩
        · obtain ⟨q, hq, hm⟩ := h4 x hx
          exact ⟨q, List.mem_cons_of_mem _ hq, hm⟩
      · simp [hc] at h

theorem matchLit_suffix (pat : List Char) (s r : Str) (h : matchLit pat s = some r) : r <:+ s := by
  obtain ⟨pre, h1, _⟩ := matchLit_split pat s r h
  exact ⟨pre, h1.symm⟩

theorem matchLit_length (pat : List Char) (s r : Str) (h : matchLit pat s = some r) :
    s.length = pat.length + r.length := by
  obtain ⟨pre, h1, h2, _⟩ := matchLit_split pat s r h
  rw [h1, List.length_append, h2]

theorem not_mem_of_matchLit {pat : List Char} {s r : Str} {c : Char} (h : matchLit pat s = some r)
    (hc : c ∉ s) : c ∉ r := by
  obtain ⟨pre, hpre⟩ := matchLit_suffix pat s r h
  intro hm
  exact hc (by rw [← hpre]; simp [hm])

theorem matchLit_cons {p : Char} {ps : List Char} {s r : Str} (h : matchLit (p :: ps) s = some r) :
    ∃ c cs, s = c :: cs ∧ ciMatch p c = true ∧ matchLit ps cs = some r := by
  cases s with
  | nil => simp [matchLit] at h
  | cons c cs =>
    simp only [matchLit] at h
    by_cases hc : ciMatch p c = true
    · simp only [hc, if_true] at h; exact ⟨c, cs, rfl, hc, h⟩
    · simp [hc] at h

theorem matchLit_before_sep (pat : List Char) (sep : Char) (hpat : ∀ c ∈ pat, ciMatch c sep = false)
    (a rest : Str) :
    matchLit pat (a ++ sep :: rest) = (matchLit pat a).map (· ++ sep :: rest) := by
  induction pat generalizing a with
  | nil => simp [matchLit]
  | cons p ps ih =>
    have hps : ∀ c ∈ ps, ciMatch c sep = false := fun c hc => hpat c (List.mem_cons_of_mem _ hc)
    cases a with
    | nil => simp [matchLit, hpat p (by simp)]
    | cons c cs =>
      simp only [List.cons_append, matchLit]
      split
      · exact ih hps cs
      · rfl

/-! ## literal matching under `re.I`: characters that only match themselves, extension of the subject -/

/-- a pattern character below `'a'` (digits, punctuation) matches only itself under `re.I` -/
theorem ciMatch_small (p c : Char) (hp : p.toNat < 97) (h : ciMatch p c = true) : c = p := by
  unfold ciMatch at h
  simp only [Bool.or_eq_true, Bool.and_eq_true, decide_eq_true_eq] at h
  rcases h with ((h | ⟨h, _⟩) | ⟨h, _⟩) | ⟨h, _⟩
  · exact lowerChar_eq_of_not_lower (by omega) h
  · rw [h] at hp; exact absurd hp (by decide)
  · rw [h] at hp; exact absurd hp (by decide)
  · rw [h] at hp; exact absurd hp (by decide)

theorem matchLit_getElem (L : List Char) (u r : Str) (h : matchLit L u = some r) (k : Nat) (p : Char)
    (hk : L[k]? = some p) (hp : p.toNat < 97) : u[k]? = some p := by
  induction L generalizing u k with
  | nil => simp at hk
  | cons q qs ih =>
    cases u with
    | nil => simp [matchLit] at h
    | cons c cs =>
      simp only [matchLit] at h
      split at h
      · rename_i hc
        cases k with
        | zero =>
          simp only [List.getElem?_cons_zero, Option.some.injEq] at hk ⊢
          subst hk
          exact ciMatch_small _ _ hp hc
        | succ k =>
          simp only [List.getElem?_cons_succ] at hk ⊢
          exact ih cs h k hk
      · simp at h

theorem matchLit_mem (L : List Char) (u r : Str) (h : matchLit L u = some r) (p : Char)
    (hm : p ∈ L) (hp : p.toNat < 97) : p ∈ u := by
  obtain ⟨k, hk⟩ := List.getElem?_of_mem hm
  exact List.mem_of_getElem? (matchLit_getElem L u r h k p hk hp)

theorem matchLit_none_of_not_mem (L : List Char) (p : Char) (hm : p ∈ L) (hp : p.toNat < 97) (u : Str)
    (hu : p ∉ u) : matchLit L u = none := by
  cases h : matchLit L u with
  | none => rfl
  | some r => exact absurd (matchLit_mem L u r h p hm hp) hu

/-- a literal that ends with a self-matching character `q` cannot match across the border of
`x ++ y` when `y` holds no `q`: the match lies within `x` -/
theorem matchLit_within (L : List Char) (q : Char) (hq : q.toNat < 97) (hl : L.getLast? = some q)
    (x y r : Str) (hy : q ∉ y) (h : matchLit L (x ++ y) = some r) :
    ∃ r', matchLit L x = some r' := by
  induction L generalizing x with
  | nil => simp at hl
  | cons p ps ih =>
    cases x with
    | nil =>
      exfalso
      simp only [List.nil_append] at h
      have : q ∈ p :: ps := List.mem_of_getLast? hl
      exact hy (matchLit_mem _ _ _ h q this hq)
    | cons c cs =>
      simp only [matchLit, List.cons_append] at h ⊢
      split at h
      · rename_i hc
        rw [if_pos hc]
        cases ps with
        | nil => exact ⟨cs, by simp [matchLit]⟩
        | cons p' ps' =>
          exact ih (by simpa using hl) cs h
      · simp at h

/-- a successful match of the literal against a prefix survives an extension of the subject -/
theorem matchLit_append (L : List Char) (x y r : Str) (h : matchLit L x = some r) :
    matchLit L (x ++ y) = some (r ++ y) := by
  induction L generalizing x with
  | nil => simp [matchLit] at h ⊢; rw [h]
  | cons q qs ih =>
    cases x with
    | nil => simp [matchLit] at h
    | cons c cs =>
      simp only [matchLit, List.cons_append] at h ⊢
      split at h
      · rename_i hc; rw [if_pos hc]; exact ih cs h
      · simp at h

theorem matchLit_append_pat (a b : List Char) (s : Str) :
    matchLit (a ++ b) s = (matchLit a s).bind (matchLit b) := by
  induction a generalizing s with
  | nil => simp [matchLit]
  | cons p ps ih =>
    cases s with
    | nil => cases b <;> simp [matchLit]
    | cons c cs =>
      simp only [List.cons_append, matchLit]
      split
      · exact ih cs
      · rfl

theorem domainHere_suffix (s r : Str) (h : domainHere s = some r) : r <:+ s := by
  unfold domainHere at h
  obtain ⟨host, _, hm⟩ := List.exists_of_findSome?_eq_some h
  exact matchLit_suffix _ _ _ hm

/-- no redirection domain in text that lacks a self-matching character every domain literal holds
(`/`, for the regenerated `Gen.cacheHosts`) -/
theorem domainSplit_none_of_not_mem (q : Char) (hq : q.toNat < 97) (hh : ∀ h ∈ Gen.cacheHosts, q ∈ h.toList) :
    ∀ s : Str, q ∉ s → domainSplit s = none
  | [], _ => rfl
  | c :: cs, hs => by
    have hd : domainHere (c :: cs) = none :=
      List.findSome?_eq_none_iff.mpr fun h hm => matchLit_none_of_not_mem _ q (hh h hm) hq _ hs
    simp only [domainSplit, hd]
    exact domainSplit_none_of_not_mem q hq hh cs fun hm => hs (List.mem_cons_of_mem _ hm)

/-- `k` is one of the redirect keys, up to case (`re.I`) -/
def IsRedirectKey (k : Str) : Prop := ∃ key ∈ redirectKeys, matchLit key.toList k = some []

/-- the shape of a hint inside a string: `pre ++ key ++ "=" ++ value ++ post` with a
redirect key, a non-empty `&`-free value that extends to the next `&` or to the end, the key
sitting at the very start or right after a `?` or `&` -/
def HintAt (u pre k v post : Str) : Prop :=
  u = pre ++ k ++ '=' :: v ++ post ∧ IsRedirectKey k ∧ v ≠ [] ∧ '&' ∉ v ∧
  (post = [] ∨ ∃ p', post = '&' :: p') ∧
  (pre = [] ∨ ∃ p0, pre = p0 ++ ['?'] ∨ pre = p0 ++ ['&'])

def KeyValueAt (s pre k v post : Str) : Prop :=
  s = pre ++ k ++ '=' :: v ++ post ∧ IsRedirectKey k ∧ v ≠ [] ∧ '&' ∉ v ∧
  (post = [] ∨ ∃ p', post = '&' :: p')

theorem KeyValueAt.cons {s pre k v post : Str} (h : KeyValueAt s pre k v post) (c : Char) :
    KeyValueAt (c :: s) (c :: pre) k v post :=
  ⟨by rw [h.1]; rfl, h.2⟩

theorem KeyValueAt.value_sub {s pre k v post : Str} (h : KeyValueAt s pre k v post) : v ⊆ s := by
  rw [h.1]
  intro x hx
  simp [hx]

theorem keyValueFor_spec (key : String) (hkey : key ∈ redirectKeys) (s k v : Str)
    (h : keyValueFor key.toList s = some (k, v)) : ∃ post, KeyValueAt s [] k v post := by
  unfold keyValueFor at h
  -- the one branch that answers: the key matched (`hm`), `=` follows (`he`), the value up to `&` is not empty (`hv`)
  split at h
  · rename_i e r hm
    split at h
    · rename_i he
      simp only [] at h
      split at h
      · rename_i hv
        injection h with h
        injection h with hk hv'
        obtain ⟨pre, h1, h2, h3, _⟩ := matchLit_split key.toList s _ hm
        have hpre : s.take key.toList.length = pre := by rw [h1, ← h2]; simp
        refine ⟨r.dropWhile (· ≠ '&'), ?_, ⟨key, hkey, ?_⟩, ?_, ?_, ?_⟩
        · rw [← hk, ← hv', hpre, he] at *
          rw [h1]
          simp
        · rw [← hk, hpre]; exact h3
        · rw [← hv']; exact hv
        · rw [← hv']
          intro hm'
          have := mem_takeWhile_pos _ _ _ hm'
          simp at this
        · cases hd : r.dropWhile (· ≠ '&') with
          | nil => exact Or.inl rfl
          | cons x xs =>
            right
            have := List.head?_dropWhile_not (fun c => decide (c ≠ '&')) r
            rw [hd] at this
            simp at this
            exact ⟨xs, by rw [this]⟩
      · exact absurd h (by simp)
    · exact absurd h (by simp)
  · exact absurd h (by simp)

theorem keyValue_spec (s k v : Str) (h : keyValue s = some (k, v)) :
    ∃ post, KeyValueAt s [] k v post := by
  unfold keyValue at h
  obtain ⟨key, hkey, hkv⟩ := List.exists_of_findSome?_eq_some h
  exact keyValueFor_spec key hkey s k v hkv

theorem redirectHere_spec (s k v : Str) (b : Bool) (h : redirectHere s b = some (k, v)) :
    ∃ pre post, KeyValueAt s pre k v post ∧ ((pre = [] ∧ b = true) ∨ pre = ['?'] ∨ pre = ['&']) := by
  unfold redirectHere at h
  cases h1 : (if b = true then keyValue s else none) with
  | some m =>
    rw [h1] at h; simp at h
    cases b with
    | false => simp at h1
    | true =>
      simp at h1
      rw [h] at h1
      obtain ⟨post, e⟩ := keyValue_spec _ _ _ h1
      exact ⟨[], post, e, Or.inl ⟨rfl, rfl⟩⟩
  | none =>
    rw [h1] at h
    simp only [Option.none_or] at h
    cases s with
    | nil => simp at h
    | cons c cs =>
      simp only [] at h
      split at h
      · rename_i hc
        obtain ⟨post, e⟩ := keyValue_spec _ _ _ h
        refine ⟨[c], post, e.cons c, ?_⟩
        simp at hc
        rcases hc with hc | hc
        · exact Or.inr (Or.inl (by rw [hc]))
        · exact Or.inr (Or.inr (by rw [hc]))
      · exact absurd h (by simp)

theorem redirectSearchFrom_spec (u k v : Str) (b : Bool)
    (h : redirectSearchFrom u b = some (k, v)) :
    ∃ pre post, KeyValueAt u pre k v post ∧
      ((pre = [] ∧ b = true) ∨ ∃ p0, pre = p0 ++ ['?'] ∨ pre = p0 ++ ['&']) := by
  induction u generalizing b with
  | nil => simp [redirectSearchFrom] at h
  | cons c cs ih =>
    simp only [redirectSearchFrom] at h
    cases hh : redirectHere (c :: cs) b with
    | some m =>
      rw [hh] at h; simp at h; rw [h] at hh
      obtain ⟨pre, post, e, e6⟩ := redirectHere_spec _ _ _ _ hh
      refine ⟨pre, post, e, ?_⟩
      rcases e6 with e | e | e
      · exact Or.inl e
      · exact Or.inr ⟨[], Or.inl (by simp [e])⟩
      · exact Or.inr ⟨[], Or.inr (by simp [e])⟩
    | none =>
      rw [hh] at h
      obtain ⟨pre, post, e, e6⟩ := ih false h
      refine ⟨c :: pre, post, e.cons c, ?_⟩
      rcases e6 with ⟨_, e⟩ | ⟨p0, e | e⟩
      · exact absurd e (by simp)
      · exact Or.inr ⟨c :: p0, Or.inl (by simp [e])⟩
      · exact Or.inr ⟨c :: p0, Or.inr (by simp [e])⟩

/-! ## generic helpers for the recursion -/

/-- `n`-fold application -/
def iterStep (f : Str → Str) : Nat → Str → Str
  | 0, u => u
  | n + 1, u => iterStep f n (f u)

/-- induction on the length of a string -/
theorem length_induction {P : Str → Prop}
    (h : ∀ u, (∀ v, v.length < u.length → P v) → P u) : ∀ u, P u :=
  fun u => (measure List.length).wf.induction u h

theorem iterStep_succ_apply (f : Str → Str) (n : Nat) (u : Str) :
    iterStep f (n + 1) u = f (iterStep f n u) := by
  induction n generalizing u with
  | zero => rfl
  | succ n ih => exact ih (f u)

/-- iterating a function on one of its fixed points -/
theorem iterStep_fixed (f : Str → Str) (n : Nat) (u : Str) (h : f u = u) : iterStep f n u = u := by
  induction n with
  | zero => rfl
  | succ n ih => show iterStep f n (f u) = u; rw [h]; exact ih

/-! ## the function reads its argument through the cleaned url only -/

/-- two strings with the same cleaned form are resolved alike: both follow the same target, or
each is returned as it is (for ANY target function) -/
theorem inferOf_clean_congr (target : Str → Option Str) (a b : Str) (h : cleanedUrl a = cleanedUrl b) :
    inferOf target a = inferOf target b ∨ (inferOf target a = a ∧ inferOf target b = b) := by
  rw [inferOf, inferOf.eq_def target b, h]
  cases target (cleanedUrl b) with
  | none => exact Or.inr ⟨rfl, rfl⟩
  | some t =>
    by_cases ht : t.length < (cleanedUrl b).length
    · left
      show (if t.length < (cleanedUrl b).length then inferOf target t else a) =
        (if t.length < (cleanedUrl b).length then inferOf target t else b)
      rw [if_pos ht, if_pos ht]
    · right
      show (if t.length < (cleanedUrl b).length then inferOf target t else a) = a ∧
        (if t.length < (cleanedUrl b).length then inferOf target t else b) = b
      rw [if_neg ht, if_neg ht]; exact ⟨rfl, rfl⟩

/-- `infer_redirection(a)` and `infer_redirection(b)` for `a`, `b` with the same cleaned form -/
theorem infer_clean_congr (a b : Str) (h : cleanedUrl a = cleanedUrl b) :
    infer a = infer b ∨ (infer a = a ∧ infer b = b) :=
  inferOf_clean_congr inferTarget a b h

theorem infer_eq_self_of_target {u : Str} (h : inferTarget (cleanedUrl u) = none) : infer u = u := by
  unfold infer
  rw [inferOf]
  simp [h]

theorem infer_eq_self_of_clean (u : Str) (h1 : domainSplit (cleanedUrl u) = none)
    (h2 : redirectSearch (cleanedUrl u) = none) : infer u = u :=
  infer_eq_self_of_target (by simp [inferTarget, h1, h2])

/-! ## the cleaned form of a url with a clean literal prefix -/

/-- a prefix the cleaning leaves alone: non-empty, no control character, neither starting nor
ending with whitespace (decidable: `by decide` for a literal) -/
def cleanEnds (P : Str) : Bool :=
  !P.isEmpty && P.all (fun c => !UrlParts.isControlChar c) && !(P.head?.any isSpace) &&
    !(P.getLast?.any isSpace)

theorem stripControl_append (a b : Str) :
    UrlParts.stripControl (a ++ b) = UrlParts.stripControl a ++ UrlParts.stripControl b := by
  simp [UrlParts.stripControl, List.filter_append]

theorem mem_of_mem_stripControl {c : Char} {s : Str} (h : c ∈ UrlParts.stripControl s) : c ∈ s :=
  (List.mem_filter.mp h).1

/-- behind a clean prefix only the tail is cleaned: its control characters go, and its trailing
whitespace -/
theorem cleanedUrl_prefix (P s : Str) (hP : cleanEnds P = true) :
    cleanedUrl (P ++ s) = P ++ rstrip (UrlParts.stripControl s) := by
  unfold cleanEnds at hP
  simp only [Bool.and_eq_true, Bool.not_eq_true', List.all_eq_true] at hP
  obtain ⟨⟨⟨hne, hctl⟩, hhead⟩, hlast⟩ := hP
  have hne' : P ≠ [] := by intro e; rw [e] at hne; simp at hne
  unfold cleanedUrl
  rw [stripControl_append, stripControl_eq_self_iff.2 fun c hc => by simpa using hctl c hc]
  exact stripBy_append isSpace (fun c hc => by rw [hc] at hhead; simpa using hhead)
    (fun c hc => by rw [hc] at hlast; simpa using hlast) hne'

theorem cleanedUrl_infix (P a F b : Str) (hP : cleanEnds P = true) (hF : cleanEnds F = true) :
    cleanedUrl (P ++ (a ++ (F ++ b))) =
      P ++ (UrlParts.stripControl a ++ (F ++ rstrip (UrlParts.stripControl b))) := by
  unfold cleanEnds at hF
  simp only [Bool.and_eq_true, Bool.not_eq_true', List.all_eq_true] at hF
  obtain ⟨⟨⟨hne, hctl⟩, _⟩, hlast⟩ := hF
  have hne' : F ≠ [] := by intro e; rw [e] at hne; simp at hne
  have hF' : UrlParts.stripControl F = F := stripControl_eq_self_iff.2 fun c hc => by simpa using hctl c hc
  rw [cleanedUrl_prefix P _ hP, stripControl_append, stripControl_append, hF', ← List.append_assoc,
    rstrip_append _ (fun c hc => by
      rw [List.getLast?_append, List.getLast?_eq_some_getLast hne'] at hc
      rw [List.getLast?_eq_some_getLast hne'] at hlast
      simp only [Option.some_or, Option.some.injEq] at hc
      simpa [hc] using hlast), List.append_assoc]

/-! ## hops: every level of the recursion reads the CLEANED form of what it is given

A hop's target is a percent-decoded value: it can hold control characters or padding that were
escaped — invisible — one level up.  `followed target c` is what a hop does with the cleaned url
`c`; the theorems of `Props/C15.lean` (`stepOf_eq_hop`, `inferOf_eq_hop`, `inferFuel_eq_iterStep`,
`inferOf_hops_clean`) say that the non-recursive form AND every level of the recursion are
`followed target ∘ cleanedUrl`.  `inferCleanOnce` is the other recursion one could write — clean the
argument at the entry, let the hops look at their decoded targets as they are —: it is there
only to show (`Props.C15.clean_once_is_not_a_fixed_point`) that the fixed-point clause fails for
it, i.e. that the clause is about per-hop cleaning. -/

theorem followed_eq_some {target : Str → Option Str} {c t : Str} (h : followed target c = some t) :
    target c = some t ∧ t.length < c.length := by
  unfold followed at h
  cases ht : target c with
  | none => rw [ht] at h; exact absurd h (by simp)
  | some t' =>
    rw [ht] at h
    simp only [] at h
    split at h
    · rename_i hlt
      cases h
      exact ⟨rfl, hlt⟩
    · exact absurd h (by simp)

theorem followed_length_lt (target : Str → Option Str) (c t : Str) (h : followed target c = some t) :
    t.length < c.length :=
  (followed_eq_some h).2

/-- a recursion that takes its argument AS IT IS (no cleaning), on fuel; `none` = nothing followed -/
def rawHops (target : Str → Option Str) : Nat → Str → Option Str
  | 0, _ => none
  | fuel + 1, c =>
    match followed target c with
    | some t => some ((rawHops target fuel t).getD t)
    | none => none

/-- "clean once": the argument is cleaned at the entry only; the hops look at their (decoded)
targets uncleaned.  NOT the model of the code — the counter-model of
`Props.C15.clean_once_is_not_a_fixed_point`. -/
def inferCleanOnce (target : Str → Option Str) (u : Str) : Str :=
  (rawHops target (u.length + 1) (cleanedUrl u)).getD u

/-! ### cleaning is idempotent -/

theorem isControlChar_false_of_mem_cleanedUrl {c : Char} {u : Str} (h : c ∈ cleanedUrl u) :
    UrlParts.isControlChar c = false := by
  unfold cleanedUrl strip at h
  have h1 := mem_of_mem_rstrip h
  unfold lstrip at h1
  have h2 := (List.dropWhile_sublist isSpace).subset h1
  unfold UrlParts.stripControl at h2
  have := (List.mem_filter.mp h2).2
  simpa using this

theorem cleanedUrl_of_clean (u : Str) (hc : ∀ c ∈ u, UrlParts.isControlChar c = false)
    (h1 : ∀ c, u.head? = some c → isSpace c = false)
    (h2 : ∀ c, u.getLast? = some c → isSpace c = false) : cleanedUrl u = u := by
  unfold cleanedUrl
  rw [stripControl_eq_self_iff.2 hc]
  simpa using strip_unique (a := []) (b := []) (by simp) (by simp) h1 h2

theorem cleanedUrl_idempotent (u : Str) : cleanedUrl (cleanedUrl u) = cleanedUrl u :=
  cleanedUrl_of_clean _ (fun c h => isControlChar_false_of_mem_cleanedUrl h) (strip_ends _).1 (strip_ends _).2

end Ural
