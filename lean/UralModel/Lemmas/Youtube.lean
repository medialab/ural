import UralModel.Model.Youtube
import UralModel.Lemmas.YoutubeUrl
import UralModel.Lemmas.Redirect
import UralModel.Lemmas.RouteOutcome
import UralModel.Lemmas.StrLit
/-!
Helper lemmas for the model of `ural/youtube.py`: totality of every route, what a returned
record looks like (property theorems: `Props/C19/Youtube.lean`; the round trip through the
canonical url is in `Lemmas/YoutubeReparse.lean`).
-/
namespace Ural.Youtube
open Ural Ural.Py Ural.C19 Ural.HostnameTrieSet

instance {ε α : Type} [DecidableEq ε] [DecidableEq α] : DecidableEq (Except ε α) := fun a b =>
  match a, b with
  | .ok x, .ok y => if h : x = y then isTrue (by rw [h]) else isFalse (by intro e; cases e; exact h rfl)
  | .error x, .error y => if h : x = y then isTrue (by rw [h]) else isFalse (by intro e; cases e; exact h rfl)
  | .ok _, .error _ => isFalse (by intro e; cases e)
  | .error _, .ok _ => isFalse (by intro e; cases e)

/-! ## totality of the routes -/

theorem second_cases (path : Str) :
    second path = .ok none ∨ ∃ x, second path = .ok (some x) ∧ x ∈ pathsplit path := by
  unfold second
  rcases hps : pathsplit path with _ | ⟨a, _ | ⟨b, r⟩⟩
  · left; simp
  · left; simp
  · right; exact ⟨b, by simp, by simp⟩

/-! ### the four routes that read the second segment are one route with a parameter -/

def viaSecond (f : Str → Option Record) (path : Str) : Except Err (Option Record) :=
  match second path with
  | .error e => .error e
  | .ok none => .ok none
  | .ok (some seg) => .ok (f seg)

/-! what each of the four routes makes of the segment: the last steps of `routeUser`, `routeC`,
`routeChannel`, `routeShorts` (`Model/Youtube.lean`) -/

def userOf (seg : Str) : Option Record :=
  if strip (cutAmp seg) = [] then none else some (.user (strip (cutAmp seg)))
def cOf (seg : Str) : Option Record :=
  if cutAmp (lstripChars seg ['@']) = [] || blacklist.contains (cutAmp (lstripChars seg ['@'])) then none
  else some (.channel none (some (cutAmp (lstripChars seg ['@']))))
def channelOf (seg : Str) : Option Record :=
  if strip (cutAmp seg) = [] then none else some (.channel (some (strip (cutAmp seg))) none)
def shortOf (fix : Bool) (seg : Str) : Option Record :=
  if is_youtube_video_id (truncate fix seg) then some (.short (truncate fix seg)) else none

/-- the routes `/<word>/<segment>…` of `routePath`: the word, and what is made of the segment -/
def secondRoutes (fix : Bool) : List (Str × (Str → Option Record)) :=
  [("user".toList, userOf), ("c".toList, cOf), ("channel".toList, channelOf), ("shorts".toList, shortOf fix)]

-- (`cases` first: `rfl` on the stuck `match` would compare the two matchers by unfolding `second path`)
theorem routeUser_eq (path : Str) : routeUser path = viaSecond userOf path := by
  unfold routeUser viaSecond
  cases second path with
  | error e => rfl
  | ok o => cases o <;> rfl
theorem routeC_eq (path : Str) : routeC path = viaSecond cOf path := by
  unfold routeC viaSecond
  cases second path with
  | error e => rfl
  | ok o => cases o <;> rfl
theorem routeChannel_eq (path : Str) : routeChannel path = viaSecond channelOf path := by
  unfold routeChannel viaSecond
  cases second path with
  | error e => rfl
  | ok o => cases o <;> rfl
theorem routeShorts_eq (fix : Bool) (path : Str) : routeShorts fix path = viaSecond (shortOf fix) path := by
  unfold routeShorts viaSecond
  cases second path with
  | error e => rfl
  | ok o => cases o <;> rfl

theorem viaSecond_yields (f : Str → Option Record) (path : Str) :
    Yields (fun r => ∃ x, second path = .ok (some x) ∧ x ∈ pathsplit path ∧ f x = some r) (viaSecond f path) := by
  unfold viaSecond
  rcases second_cases path with h | ⟨x, h, hx⟩ <;> rw [h]
  · exact .none
  · exact ⟨_, rfl, fun r hr => ⟨x, rfl, hx, hr⟩⟩

/-- `pathsplit(path)[-1]` is safe behind the three prefixes `/v/`, `/video/`, `/embed/`: the path holds a
character that is neither white space nor `/` -/
theorem videoFile_ne_nil (path : Str) (h : (startsWith path "/v/".toList || startsWith path "/video/".toList ||
    startsWith path "/embed/".toList) = true) : pathsplit path ≠ [] := by
  simp only [Bool.or_eq_true] at h
  rcases h with (h | h) | h
  · exact pathsplit_ne_nil path 'v' (startsWith_subset h (by decide)) (by decide) (by decide)
  · exact pathsplit_ne_nil path 'v' (startsWith_subset h (by decide)) (by decide) (by decide)
  · exact pathsplit_ne_nil path 'e' (startsWith_subset h (by decide)) (by decide) (by decide)

/-! ## what a returned record looks like -/

/-- the module's own well-formedness of a record: a video / short id satisfies
`is_youtube_video_id` **and is exactly 11 characters long, whatever `fix_common_mistakes`** (the
validator's `$` would let one final `"\n"` through, but TAB / CR / LF are removed from the url
before anything is cut out of it); a user name is non-empty; a channel has a non-empty id, or a
name that is non-empty, does not start with `@` and is not a reserved word.  (Channel ids are
*not* checked against `is_youtube_channel_id`: the code does not validate them either.) -/
def Valid : Record → Prop
  | .video id _ => is_youtube_video_id id = true ∧ id.length = 11
  | .short id => is_youtube_video_id id = true ∧ id.length = 11
  | .user name => name ≠ []
  | .channel (some cid) none => cid ≠ []
  | .channel none (some name) => name ≠ [] ∧ (∀ r, name ≠ '@' :: r) ∧ name ∉ blacklist
  | .channel _ _ => False

/-- no TAB, CR, LF: what `UNSAFE_URL_CHARS_RE.sub("", url)` and `urlsplit` leave -/
def Safe (s : Str) : Prop := ∀ c ∈ s, isUnsafeUrlChar c = false

theorem safe_of_subset (s u : Str) (h : ∀ c ∈ s, c ∈ u) (hu : Safe u) : Safe s :=
  fun c hc => hu c (h c hc)

theorem safe_of_infix (s u : Str) (h : s <:+: u) (hu : Safe u) : Safe s :=
  safe_of_subset s u (fun _ hc => h.subset hc) hu

theorem idClassN_length (n : Nat) (s : Str) (h : idClassN n s = true) : n ≤ s.length := by
  unfold idClassN at h
  simp only [Bool.and_eq_true, decide_eq_true_eq] at h
  have := h.1.1
  rw [List.length_take] at this
  omega

/-- without a `"\n"` in it, a string the validator accepts has exactly the length of the class
repetition (`$` matches only at the very end) -/
theorem idClassN_length_eq (n : Nat) (s : Str) (h : idClassN n s = true) (hs : Safe s) :
    s.length = n := by
  have h1 := idClassN_length n s h
  unfold idClassN at h
  simp only [Bool.and_eq_true, Bool.or_eq_true, decide_eq_true_eq] at h
  rcases h.2 with e | e
  · have := List.drop_eq_nil_iff.mp e
    omega
  · exfalso
    have hm : '\n' ∈ s := List.mem_of_mem_drop (by rw [e]; simp)
    have := hs _ hm
    revert this; decide

theorem truncate_safe (fix : Bool) (v : Str) (hs : Safe v) : Safe (truncate fix v) := by
  unfold truncate
  split
  · exact safe_of_subset _ _ (fun _ hc => List.mem_of_mem_take hc) hs
  · exact hs

theorem truncate_valid_length (fix : Bool) (v : Str) (hs : Safe v)
    (h : is_youtube_video_id (truncate fix v) = true) : (truncate fix v).length = 11 :=
  idClassN_length_eq 11 _ h (truncate_safe fix v hs)

theorem truncate_eq_self (fix : Bool) (id : Str) (hl : id.length = 11) : truncate fix id = id := by
  unfold truncate
  split
  · exact List.take_of_length_le (by omega)
  · rfl

theorem videoOf_shape (fix : Bool) (v : Str) (pl : Option Str) (r : Record)
    (h : videoOf fix v pl = some r) : ∃ id, r = .video id pl := by
  unfold videoOf at h
  split at h
  · simp at h; subst h; exact ⟨_, rfl⟩
  · simp at h

theorem videoOf_valid (fix : Bool) (v : Str) (pl : Option Str) (r : Record) (hs : Safe v)
    (h : videoOf fix v pl = some r) : Valid r := by
  unfold videoOf at h
  split at h
  · rename_i hv
    simp at h; subst h
    exact ⟨hv, truncate_valid_length fix v hs hv⟩
  · simp at h

/-! ### what a value search returns -/

theorem litValueHere_some (lit stops : List Char) (t v : Str) (h : litValueHere lit stops t = some v) :
    v ≠ [] ∧ (∀ c ∈ v, c ∉ stops) ∧ v <:+: t := by
  unfold litValueHere at h
  cases hm : matchLit lit t with
  | none => rw [hm] at h; cases h
  | some r =>
    rw [hm] at h
    simp only [] at h
    split at h
    · rename_i hne
      cases h
      obtain ⟨pre, hpre, _⟩ := matchLit_split lit _ r hm
      exact ⟨hne, fun d hd => by simpa using mem_takeWhile_pos _ _ d hd,
        (List.takeWhile_prefix _).isInfix.trans (List.IsSuffix.isInfix ⟨pre, hpre.symm⟩)⟩
    · cases h

theorem litValueSearch_some (lit stops : List Char) (s v : Str) (h : litValueSearch lit stops s = some v) :
    v ≠ [] ∧ (∀ c ∈ v, c ∉ stops) ∧ v <:+: s := by
  induction s with
  | nil => cases h
  | cons c cs ih =>
    simp only [litValueSearch] at h
    cases hh : litValueHere lit stops (c :: cs) with
    | none =>
      rw [hh] at h
      obtain ⟨h1, h2, h3⟩ := ih h
      exact ⟨h1, h2, h3.trans (List.suffix_cons _ _).isInfix⟩
    | some w =>
      rw [hh] at h
      exact Option.some.inj h ▸ litValueHere_some lit stops _ w hh

theorem litValueSearch_infix (lit stops : List Char) (s v : Str) (h : litValueSearch lit stops s = some v) :
    v <:+: s := (litValueSearch_some lit stops s v h).2.2

/-- the id a continuation pattern (`NEXT_V_RE`, `NESTED_NEXT_V_RE`) hands out is a piece of the url -/
theorem continuation_infix (u v : Str) (h : (nextV u).or (nestedNextV u) = some v) : v <:+: u := by
  cases h1 : nextV u with
  | some w =>
    rw [h1] at h
    have e : w = v := by simpa using h
    exact e ▸ litValueSearch_infix _ _ _ _ h1
  | none =>
    rw [h1] at h
    have e : nestedNextV u = some v := by simpa using h
    exact litValueSearch_infix _ _ _ _ e

theorem safe_of_pathsplit (path x : Str) (hp : Safe path) (hx : x ∈ pathsplit path) : Safe x :=
  safe_of_subset x path (pathsplit_mem path x hx).2 hp

theorem lstripChars_not_head (s : Str) (c : Char) (r : Str) : lstripChars s [c] ≠ c :: r := by
  intro h
  have := lstripChars_head s [c] c r h
  simp at this

theorem cutAmp_not_head (x : Str) (c : Char) (hx : ∀ r, x ≠ c :: r) : ∀ r, cutAmp x ≠ c :: r := by
  intro r h
  unfold cutAmp at h
  cases x with
  | nil => simp at h
  | cons a as =>
    by_cases ha : a ≠ '&'
    · rw [List.takeWhile_cons_of_pos (by simpa using ha)] at h
      injection h with h1 _
      exact hx as (by rw [h1])
    · rw [List.takeWhile_cons_of_neg (by simpa using ha)] at h
      simp at h

theorem name_valid (x : Str) (h : ¬ ((cutAmp (lstripChars x ['@']) = [] || blacklist.contains (cutAmp (lstripChars x ['@']))) = true)) :
    cutAmp (lstripChars x ['@']) ≠ [] ∧ (∀ r, cutAmp (lstripChars x ['@']) ≠ '@' :: r) ∧
      cutAmp (lstripChars x ['@']) ∉ blacklist := by
  simp only [Bool.or_eq_true, decide_eq_true_eq, List.contains_eq_mem, not_or] at h
  exact ⟨h.1, cutAmp_not_head _ _ (fun r => lstripChars_not_head _ _ r), by simpa using h.2⟩

theorem routeName_valid (path : Str) (r : Record) (h : routeName path = some r) :
    Valid r := by
  unfold routeName at h
  simp only [] at h
  split at h
  · split at h
    · simp at h
    · rename_i hn
      simp at h; subst h
      exact name_valid _ hn
  · simp at h

/-- the records `routePath` returns, route by route: a video from the `v=` value or a segment; what a
route of the table `secondRoutes` makes of the second segment `x`; a channel name -/
def PathRec (fix : Bool) (path query : Str) (pl : Option Str) (r : Record) : Prop :=
  (∃ v, (queryV query = some v ∨ v ∈ pathsplit path) ∧ videoOf fix v pl = some r) ∨
  (∃ w f x, (w, f) ∈ secondRoutes fix ∧ second path = .ok (some x) ∧ x ∈ pathsplit path ∧ f x = some r) ∨
  routeName path = some r

theorem viaSecond_pathRec (fix : Bool) (w : Str) (f : Str → Option Record) (h : (w, f) ∈ secondRoutes fix)
    (path query : Str) (pl : Option Str) : Yields (PathRec fix path query pl) (viaSecond f path) :=
  (viaSecond_yields f path).mono fun _ ⟨x, h2, hx, hr⟩ => .inr (.inl ⟨w, f, x, h, h2, hx, hr⟩)

theorem ite_eq_some {α : Type} {c : Prop} [Decidable c] {a x : α} (h : (if c then none else some a) = some x) :
    ¬ c ∧ x = a := by
  split at h
  · cases h
  · exact ⟨‹_›, (Option.some.inj h).symm⟩

theorem routePath_yields (fix : Bool) (path query : Str) (pl : Option Str) :
    Yields (PathRec fix path query pl) (routePath fix path query pl) := by
  unfold routePath
  refine .ite (fun _ => ?_) fun _ => .ite (fun h => ?_) fun _ => .ite (fun _ => ?_) fun _ => .ite (fun _ => ?_) fun _ =>
    .ite (fun _ => ?_) fun _ => .ite (fun _ => ?_) fun _ => ⟨_, rfl, fun r hr => .inr (.inr hr)⟩
  · split
    · rename_i v hv
      exact ⟨_, rfl, fun r hr => .inl ⟨v, .inl hv, hr⟩⟩
    · exact .none
  · unfold routeVideoFile
    split
    · rename_i hn
      exact absurd (List.getLast?_eq_none_iff.mp hn) (videoFile_ne_nil path h)
    · rename_i v hv
      exact ⟨_, rfl, fun r hr => .inl ⟨v, .inr (List.mem_of_getLast? hv), hr⟩⟩
  · exact routeUser_eq path ▸ viaSecond_pathRec fix "user".toList _ (by simp [secondRoutes]) path query pl
  · exact routeC_eq path ▸ viaSecond_pathRec fix "c".toList _ (by simp [secondRoutes]) path query pl
  · exact routeChannel_eq path ▸ viaSecond_pathRec fix "channel".toList _ (by simp [secondRoutes]) path query pl
  · exact routeShorts_eq fix path ▸ viaSecond_pathRec fix "shorts".toList _ (by simp [secondRoutes]) path query pl

theorem routePath_valid (fix : Bool) (path query : Str) (pl : Option Str) (r : Record)
    (hp : Safe path) (hq : Safe query) (h : PathRec fix path query pl r) : Valid r := by
  rcases h with ⟨v, hv, hr⟩ | ⟨w, f, x, hwf, _, hx, hr⟩ | hr
  · refine videoOf_valid fix v pl r ?_ hr
    rcases hv with hv | hv
    · exact safe_of_infix _ _ (litValueSearch_infix _ _ _ _ hv) hq
    · exact safe_of_pathsplit path v hp hv
  · simp only [secondRoutes, List.mem_cons, Prod.mk.injEq, List.not_mem_nil, or_false] at hwf
    rcases hwf with ⟨rfl, rfl⟩ | ⟨rfl, rfl⟩ | ⟨rfl, rfl⟩ | ⟨rfl, rfl⟩
    · obtain ⟨hne, rfl⟩ := ite_eq_some hr
      exact hne
    · obtain ⟨hn, rfl⟩ := ite_eq_some hr
      exact name_valid _ hn
    · obtain ⟨hne, rfl⟩ := ite_eq_some hr
      exact hne
    · unfold shortOf at hr
      split at hr
      · cases hr
        exact ⟨‹_›, truncate_valid_length fix x (safe_of_pathsplit path x hp hx) ‹_›⟩
      · cases hr
  · exact routeName_valid path r hr

theorem fragmentV_length (f v : Str) (h : fragmentV f = some v) : v.length = 11 := by
  unfold fragmentV at h
  simp only [Option.bind_eq_some_iff] at h
  obtain ⟨_, _, _, _, _, _, _, _, _, _, h⟩ := h
  split at h
  · rename_i hc
    simp at h; subst h
    simp only [Bool.and_eq_true, decide_eq_true_eq] at hc
    exact hc.1
  · simp at h

/-- where a record returned behind the host test comes from: the first segment (`youtu.be`), the
fragment (`#/watch?v=`), or the routes on the path -/
def SplitRec (fix : Bool) (parsed : SplitResult) (pl : Option Str) (r : Record) : Prop :=
  (∃ v ∈ pathsplit parsed.path, videoOf fix v pl = some r) ∨
  (∃ v, fragmentV parsed.fragment = some v ∧ is_youtube_video_id v = true ∧ r = .video v pl) ∨
  PathRec fix parsed.path parsed.query pl r

theorem parseSplit_yields (fix : Bool) (parsed : SplitResult) (pl : Option Str) :
    Yields (SplitRec fix parsed pl) (parseSplit fix parsed pl) := by
  unfold parseSplit
  split
  · unfold routeShortHost
    refine .ite (fun _ => .ite (fun _ => .none) fun _ => ?_) fun _ => .none
    split
    · rename_i h1 h2; exact absurd (List.getElem?_eq_none_iff.mp h2) (by omega)
    · rename_i v hv
      exact ⟨_, rfl, fun r hr => .inl ⟨v, List.mem_of_getElem? hv, hr⟩⟩
  · split
    · rename_i v hv
      have hf : fragmentV parsed.fragment = some v := by
        split at hv
        · exact hv
        · cases hv
      exact ⟨_, rfl, fun r hr => by
        split at hr
        · exact .inr (.inl ⟨v, hf, ‹_›, (Option.some.inj hr).symm⟩)
        · cases hr⟩
    · exact (routePath_yields fix _ _ pl).mono fun r hr => .inr (.inr hr)

theorem splitRec_valid (fix : Bool) (parsed : SplitResult) (pl : Option Str) (r : Record)
    (hp : Safe parsed.path) (hq : Safe parsed.query) (h : SplitRec fix parsed pl r) : Valid r := by
  rcases h with ⟨v, hv, hr⟩ | ⟨v, hv, hid, rfl⟩ | hr
  · exact videoOf_valid fix v pl r (safe_of_pathsplit _ v hp hv) hr
  · exact ⟨hid, fragmentV_length _ _ hv⟩
  · exact routePath_valid fix _ _ pl r hp hq hr

/-- where a record the parser returns comes from: a continuation pattern in the url it reads
(`stripUnsafe (infer url)`), or — no such pattern found — the split of that url, on an accepted host -/
def ParseRec (puny : Str → Str) (t : T) (url : Str) (fix : Bool) (r : Record) : Prop :=
  (∃ v, (nextV (stripUnsafe (infer url))).or (nestedNextV (stripUnsafe (infer url))) = some v ∧
    videoOf fix v (queryList (stripUnsafe (infer url))) = some r) ∨
  ((nextV (stripUnsafe (infer url))).or (nestedNextV (stripUnsafe (infer url))) = none ∧
    ∃ parsed, safe_urlsplit (stripUnsafe (infer url)) = some parsed ∧ isYoutubeParsed puny t parsed = true ∧
      SplitRec fix parsed (queryList (stripUnsafe (infer url))) r)

theorem parse_youtube_url_yields (puny : Str → Str) (t : T) (url : Str) (fix : Bool) :
    Yields (ParseRec puny t url fix) (parse_youtube_url puny t url fix) := by
  unfold parse_youtube_url
  simp only []
  split
  · rename_i v hv
    exact ⟨_, rfl, fun r hr => .inl ⟨v, hv, hr⟩⟩
  · rename_i hn
    split
    · exact .none
    · rename_i parsed hs
      refine .ite (fun _ => .none) fun hy => ?_
      exact (parseSplit_yields fix parsed _).mono fun r hr => .inr ⟨hn, parsed, hs, by simpa using hy, hr⟩

/-! ## truncated routes parse to `None` -/

theorem second_truncated (path : Str) (h : (pathsplit path).length < 2) : second path = .ok none := by
  unfold second
  rw [if_pos h]

theorem viaSecond_truncated (f : Str → Option Record) (path : Str) (h : (pathsplit path).length < 2) :
    viaSecond f path = .ok none := by
  unfold viaSecond
  rw [second_truncated path h]

/-- `/shorts/` with fewer than two segments: `None` -/
theorem routeShorts_truncated (fix : Bool) (path : Str) (h : (pathsplit path).length < 2) :
    routeShorts fix path = .ok none := routeShorts_eq fix path ▸ viaSecond_truncated (shortOf fix) path h

/-- `youtu.be/`, `youtu.be//`, `youtu.be` … : a path without any segment gives `None` -/
theorem routeShortHost_truncated (fix : Bool) (path : Str) (pl : Option Str) (h : pathsplit path = []) :
    routeShortHost fix path pl = .ok none := by
  unfold routeShortHost
  split
  · rw [h]; simp
  · rfl

/-- a path is not `/watch` (up to trailing slashes) when its second character is not `w` -/
theorem not_watch_of_second (path : Str) (c : Char) (h : path[1]? = some c) (hc : c ≠ 'w') :
    rstripChars path ['/'] ≠ "/watch".toList := by
  intro e
  have hpre := rstripChars_isPrefix path ['/']
  rw [e] at hpre
  have := prefix_getElem? _ path hpre 1 (by decide)
  rw [h] at this
  have h2 : ("/watch".toList)[1]? = some 'w' := by decide
  rw [h2] at this
  exact hc (by simpa using this)

/-- the dispatch of `routePath`, evaluated once on the four words of `secondRoutes` -/
theorem routePath_second (fix : Bool) (w : Str) (f : Str → Option Record) (h : (w, f) ∈ secondRoutes fix)
    (rest query : Str) (pl : Option Str) :
    routePath fix ('/' :: (w ++ '/' :: rest)) query pl = viaSecond f ('/' :: (w ++ '/' :: rest)) := by
  have h0 : ∀ c, w.head? = some c → c ≠ 'w' →
      ¬ rstripChars ('/' :: (w ++ '/' :: rest)) ['/'] = "/watch".toList := fun c hc hcw =>
    not_watch_of_second _ c (by cases w with | nil => cases hc | cons a as => simpa using hc) hcw
  simp only [secondRoutes, List.mem_cons, Prod.mk.injEq, List.not_mem_nil, or_false] at h
  unfold routePath
  rcases h with ⟨rfl, rfl⟩ | ⟨rfl, rfl⟩ | ⟨rfl, rfl⟩ | ⟨rfl, rfl⟩
  all_goals
    rw [if_neg (h0 _ (by simp only [toList_lit]; rfl) (by decide))]
    simp only [startsWith, toList_lit, List.cons_append, List.nil_append, List.isPrefixOf, Char.reduceBEq,
      Bool.false_and, Bool.true_and, Bool.or_self, Bool.false_eq_true, if_false, if_true, routeUser_eq, routeC_eq,
      routeChannel_eq, routeShorts_eq]

/-- the same, from the test the code makes -/
theorem routePath_second_of_startsWith (fix : Bool) (w : Str) (f : Str → Option Record)
    (h : (w, f) ∈ secondRoutes fix) (path query : Str) (pl : Option Str)
    (hs : startsWith path ('/' :: (w ++ ['/'])) = true) :
    routePath fix path query pl = viaSecond f path := by
  unfold startsWith at hs
  obtain ⟨rest, rfl⟩ := List.isPrefixOf_iff_prefix.mp hs
  simpa using routePath_second fix w f h rest query pl

end Ural.Youtube
