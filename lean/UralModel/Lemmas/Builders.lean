import UralModel.Model.Builders
import UralModel.Lemmas.PctCodec
import UralModel.Lemmas.StrSplit
import UralModel.Lemmas.Protocol
import UralModel.Lemmas.UrlSplit
import UralModel.Lemmas.StrLit
/-! Helper lemmas for the builder theorems of C20: what characters `quote` can produce, and how the query and
fragment of `urlsplit` / `safe_urlsplit` relate to the plain "first `#`, then first `?`" split.  For the second,
`safe_urlsplit` is given on each of the three kinds of url `PROTOCOL_RE` distinguishes (`safe_urlsplit_of_none`,
`_of_slashes`, `_of_scheme`): the lemma files on assembled urls (`TldUrl`, `SitesUrl`, `YoutubeUrl`, …) start from
these three equations. -/
namespace Ural
open Ural.Py

/-! ## characters produced by `quote` -/

/-- the delimiters of a query string and of a url -/
def isDelim (c : Char) : Bool := c = '&' || c = '=' || c = '#' || c = '?'

/-- **what `quote` can write**: `%`, `/`, or a byte `urllib` never escapes (the upper-case hex digits are
among these).  An elimination rule: "no character of `quote s` is …" is one check of 128 codes. -/
theorem quote_all {P : Char → Prop}
    (h : ∀ n, n < 128 → (n = 37 ∨ n = 47 ∨ alwaysSafe n.toUInt8 = true) → P (Char.ofNat n)) (s : Str) :
    ∀ c ∈ quote s, P c := by
  intro c hc
  simp only [quote, List.mem_flatMap] at hc
  obtain ⟨b, _, hc⟩ := hc
  have hsafe : ∀ n, n < 256 → (alwaysSafe n.toUInt8 || [(0x2F : UInt8)].contains n.toUInt8) = true →
      n < 128 ∧ (n = 37 ∨ n = 47 ∨ alwaysSafe n.toUInt8 = true) := by decide +kernel
  have hhex : ∀ n, n < 16 → ∃ m, m < 128 ∧ alwaysSafe m.toUInt8 = true ∧ hexDigitUpper n = Char.ofNat m := by
    decide +kernel
  unfold quoteByte at hc
  split at hc
  · rename_i hb
    have := hsafe b.toNat b.toNat_lt (by simpa using hb)
    rw [List.mem_singleton.1 hc]
    exact h _ this.1 this.2
  · have hd : ∀ n, n < 16 → P (hexDigitUpper n) := fun n hn => by
      obtain ⟨m, hm, hs, e⟩ := hhex n hn
      exact e ▸ h m hm (Or.inr (Or.inr hs))
    have hb : b.toNat < 256 := b.toNat_lt
    simp only [List.mem_cons, List.not_mem_nil, or_false] at hc
    rcases hc with rfl | rfl | rfl
    · exact h 37 (by decide) (Or.inl rfl)
    · exact hd _ (by omega)
    · exact hd _ (by omega)

theorem quote_no_delim (s : Str) : ∀ c ∈ quote s, isDelim c = false :=
  quote_all (by decide +kernel) s

/-- `quote(s)` contains no TAB, CR, LF -/
theorem quote_no_unsafe (s : Str) : ∀ c ∈ quote s, isUnsafeUrlChar c = false :=
  quote_all (by decide +kernel) s

theorem quote_not_mem (s : Str) (c : Char) (h : isDelim c = true) : c ∉ quote s := by
  intro hc
  rw [quote_no_delim s c hc] at h
  exact Bool.noConfusion h

theorem quoteByte_ne_nil (safe : Bytes) (b : UInt8) : quoteByte safe b ≠ [] := by
  unfold quoteByte; split <;> simp

theorem quote_ne_nil (s : Str) (h : s ≠ []) : quote s ≠ [] := by
  cases s with
  | nil => exact absurd rfl h
  | cons c s =>
    unfold quote utf8Encode
    simp only [List.flatMap_cons]
    cases he : String.utf8EncodeChar c with
    | nil => exact absurd he (utf8EncodeChar_ne_nil c)
    | cons b tl =>
      simp only [List.cons_append, List.flatMap_cons]
      intro h0
      have := List.append_eq_nil_iff.mp h0
      exact quoteByte_ne_nil _ _ this.1

/-! ## `urlsplit` versus the plain split -/

/-- the plain view of a url: everything after the first `#` … -/
def plainFragment (url : Str) : Str := ((splitFragment url).2).getD []
/-- … and, before it, everything after the first `?` -/
def plainQuery (url : Str) : Str := ((splitQuery url).2).getD []

theorem plain_split_append (p t : Str) (h1 : '#' ∉ p) (h2 : '?' ∉ p) :
    plainQuery (p ++ t) = ((splitFirst (splitFirst t '#').1 '?').2).getD [] ∧
    plainFragment (p ++ t) = ((splitFirst t '#').2).getD [] := by
  unfold plainQuery plainFragment splitQuery splitFragment
  rw [splitFirst_append_left _ _ _ h1]
  simp only []
  rw [splitFirst_append_left _ _ _ h2]
  exact ⟨rfl, trivial⟩

/-- **`urlsplit` reads the same query and fragment as the plain split** (first `#`, then
first `?`) of the cleaned url: scheme and netloc never contain `#` or `?`. -/
theorem urlsplit_query_fragment (url dflt : Str) (r : SplitResult)
    (h : urlsplit url dflt = some r) :
    r.query = plainQuery (cleanUrl url) ∧ r.fragment = plainFragment (cleanUrl url) := by
  obtain ⟨pre, tl, hs⟩ := urlsplit_some h
  obtain ⟨e1, e2⟩ := plain_split_append pre tl hs.pre_noh hs.pre_noq
  rw [hs.eq, e1, e2]
  exact ⟨congrArg SplitResult.query hs.read, congrArg SplitResult.fragment hs.read⟩

theorem cleanUrl_eq_self (x : Str) (hhead : ∀ c rest, x = c :: rest → isC0OrSpace c = false)
    (hun : ∀ c ∈ x, isUnsafeUrlChar c = false) : cleanUrl x = x :=
  (cleanUrl_eq_dropUnsafe fun c hc => by
    cases x with
    | nil => cases hc
    | cons d r => cases hc; exact hhead _ _ rfl).trans (dropUnsafe_eq_self hun)

/-! ## `safe_urlsplit` on the three kinds of url `PROTOCOL_RE` distinguishes -/

theorem safe_urlsplit_of_none {u : Str} (h : protoLen u = none) :
    safe_urlsplit u = splitRest ['h', 't', 't', 'p'] ('/' :: '/' :: Sites.dropUnsafe u) := by
  unfold safe_urlsplit
  rw [h]
  exact urlsplit_scheme_slashes (S := ['h', 't', 't', 'p']) ⟨⟨_, _, rfl, by decide⟩, by decide⟩ u []

theorem safe_urlsplit_of_slashes (r : Str) :
    safe_urlsplit ('/' :: '/' :: r) = splitRest [] ('/' :: '/' :: Sites.dropUnsafe r) := by
  unfold safe_urlsplit
  rw [protoLen_slashes]
  exact urlsplit_slashes r []

theorem safe_urlsplit_of_scheme {l : Str} (h : AlphaProto l) (r : Str) :
    safe_urlsplit (l ++ ':' :: '/' :: '/' :: r) = splitRest (lower l) ('/' :: '/' :: Sites.dropUnsafe r) := by
  have e : l ++ ':' :: '/' :: '/' :: r = l ++ sepFull ++ r := by simp [sepFull]
  unfold safe_urlsplit
  rw [e, protoLen_proto_sep l r h, ← e]
  exact urlsplit_scheme_slashes h.shaped r []

theorem safe_urlsplit_auth (u : Str) :
    ∃ sch p y, u = p ++ y ∧ '?' ∉ p ∧ '#' ∉ p ∧
      safe_urlsplit u = splitRest sch ('/' :: '/' :: Sites.dropUnsafe y) := by
  cases hp : protoLen u with
  | none => exact ⟨_, [], u, rfl, by simp, by simp, safe_urlsplit_of_none hp⟩
  | some n =>
    rcases protoLen_some_shape hp with ⟨r, rfl⟩ | ⟨l, r, hl, rfl⟩
    · exact ⟨[], ['/', '/'], r, rfl, by decide, by decide, safe_urlsplit_of_slashes r⟩
    · refine ⟨_, l ++ [':', '/', '/'], r, by simp, ?_, ?_, safe_urlsplit_of_scheme hl r⟩ <;>
      · intro hm
        rcases List.mem_append.1 hm with hm | hm
        · exact absurd (hl.2.1 _ hm) (by decide)
        · revert hm; decide

theorem urlsplit_ensure_protocol (u p : Str) (hp : UrlRoundTrip.SchemeShaped (normProto p)) :
    ∃ sch, urlsplit (ensure_protocol u p) [] = (safe_urlsplit u).map fun r => { r with scheme := sch } := by
  obtain ⟨sch, h⟩ := UrlParts.urlsplit_ensureProtocol u p hp
  refine ⟨sch, ?_⟩
  rw [← ensureProtocol_urlParts, h, protoLen_urlParts]
  unfold safe_urlsplit
  cases protoLen u <;> simp only [toList_lit] <;> rfl

theorem splitRest_query_fragment {sch x : Str} {r : SplitResult} (h : splitRest sch x = some r) :
    r.query = plainQuery x ∧ r.fragment = plainFragment x := by
  obtain ⟨pre, e, hq, hf, _⟩ := splitNetloc_spec x
  unfold splitRest at h
  split at h
  · injection h with h
    obtain ⟨e1, e2⟩ := plain_split_append pre _ hf hq
    rw [e, e1, e2, ← h]
    exact ⟨rfl, rfl⟩
  · cases h

theorem safe_urlsplit_query (x : Str) (r : SplitResult) (hun : ∀ c ∈ x, isUnsafeUrlChar c = false)
    (h : safe_urlsplit x = some r) : r.query = plainQuery x := by
  obtain ⟨sch, p, y, rfl, hq, hf, hy⟩ := safe_urlsplit_auth x
  rw [hy, dropUnsafe_eq_self fun c hc => hun c (List.mem_append_right _ hc)] at h
  rw [(splitRest_query_fragment h).1, (plain_split_append p y hf hq).1]
  exact (plain_split_append ['/', '/'] y (by decide) (by decide)).1

end Ural
