import UralModel.Lemmas.FacebookRe
import UralModel.Lemmas.FacebookRouter
/-!
`convert_facebook_url_to_mobile` (C19, `ural/facebook.py:100-131`) and the urls the module itself
calls facebook urls: the function tests `"facebook" in splitted.netloc.lower()` on
`urlsplit(ensure_protocol(url))`, `is_facebook_url` tests `FACEBOOK_DOMAIN_RE` on
`safe_urlsplit(url).hostname`.  The two splits give the same netloc (they differ only on a url
that starts with `//`, where `ensure_protocol` puts `http:` in front and `safe_urlsplit` nothing),
the hostname is a piece of the netloc, and a host accepted by the pattern contains `facebook` or
`fb.me`.
-/
namespace Ural.Facebook
open Ural.Py Ural

/-! ## the hostname is a piece of the netloc -/

theorem pyHostinfoHost_infix (n : Str) : ∃ a b, n = a ++ pyHostinfoHost n ++ b :=
  Netloc.pyHostinfoHost_infix n

/-- a word found in the lower-cased `.hostname` is found in the lower-cased netloc -/
theorem hasInfix_lower_netloc (n w : Str) (h : hasInfix (lower (pyHostname n)) w = true) :
    hasInfix (lower n) w = true := by
  rw [Netloc.lower_pyHostname] at h
  obtain ⟨a, b, e⟩ := (hasInfix_iff _ _).mp h
  obtain ⟨x, y, hn⟩ := pyHostinfoHost_infix n
  apply (hasInfix_iff _ _).mpr
  refine ⟨lower x ++ a, b ++ lower y, ?_⟩
  have := congrArg lower hn
  rw [Py.lower_append, Py.lower_append, e] at this
  rw [this]; simp

/-! ## the two splits give the same netloc -/

theorem urlsplit_ensure_protocol (url : Str) :
    (urlsplit (ensure_protocol url (lit "http")) []).map (fun sp => sp.netloc) =
      (safe_urlsplit url).map (fun sp => sp.netloc) := by
  obtain ⟨sch, h⟩ := Ural.urlsplit_ensure_protocol url (lit "http")
    (show UrlRoundTrip.SchemeShaped (normProto (lit "http")) from
      (show normProto (lit "http") = ['h', 't', 't', 'p'] by decide) ▸ ⟨⟨_, _, rfl, by decide⟩, by decide⟩)
  rw [h]
  cases safe_urlsplit url <;> rfl

theorem urlsplit_ensure_protocol_some {url : Str} {sp1 : SplitResult} (hs : safe_urlsplit url = some sp1) :
    ∃ sp2, urlsplit (ensure_protocol url (lit "http")) [] = some sp2 ∧ sp2.netloc = sp1.netloc := by
  have hnl := urlsplit_ensure_protocol url
  rw [hs] at hnl
  cases hs2 : urlsplit (ensure_protocol url (lit "http")) [] with
  | none => rw [hs2] at hnl; cases hnl
  | some sp2 =>
    rw [hs2] at hnl
    exact ⟨sp2, rfl, by simpa using hnl⟩

/-! ## when `convert_facebook_url_to_mobile` returns -/

/-- `result.split("://", 1)[-1]` cannot fail: `split` returns at least one piece -/
theorem convert_cases (url : Str) :
    (∃ sp s, urlsplit (ensure_protocol url (lit "http")) = some sp ∧
      contains (lower sp.netloc) (lit "facebook") = true ∧ convert_facebook_url_to_mobile url = .ok s) ∨
    ((∀ sp, urlsplit (ensure_protocol url (lit "http")) = some sp →
        contains (lower sp.netloc) (lit "facebook") = false) ∧
      convert_facebook_url_to_mobile url = .error .typeError) := by
  unfold convert_facebook_url_to_mobile
  simp only
  cases urlsplit (ensure_protocol url (lit "http")) with
  | none => exact .inr ⟨fun _ h => (nomatch h), rfl⟩
  | some sp =>
    cases hc : contains (lower sp.netloc) (lit "facebook") with
    | false => exact .inr ⟨fun _ h => (Option.some.inj h ▸ hc), by simp only [hc]; rfl⟩
    | true =>
      have hne : ∀ s : Str, splitStr1 s (lit "://") ≠ [] := by
        intro s; unfold splitStr1; cases find s (lit "://") <;> simp
      refine .inl ⟨sp, ?_⟩
      simp only [hc, Bool.not_true, Bool.false_eq_true, if_false, true_and]
      split
      · rw [getLastIdx_of_ne_nil _ (hne _)]; exact ⟨_, rfl⟩
      · exact ⟨_, rfl⟩

theorem convert_ok_iff (url : Str) :
    (∃ s, convert_facebook_url_to_mobile url = .ok s) ↔
      ∃ sp, urlsplit (ensure_protocol url (lit "http")) = some sp ∧
        contains (lower sp.netloc) (lit "facebook") = true := by
  rcases convert_cases url with ⟨sp, s, hs, hc, h⟩ | ⟨hn, h⟩
  · exact ⟨fun _ => ⟨sp, hs, hc⟩, fun _ => ⟨s, h⟩⟩
  · exact ⟨fun ⟨s, hs⟩ => (nomatch h.symm.trans hs), fun ⟨sp, hs, hc⟩ => (nomatch (hn sp hs).symm.trans hc)⟩

theorem convert_ok_of_hostname (url : Str) (sp : SplitResult)
    (hsp : urlsplit (ensure_protocol url (lit "http")) = some sp)
    (h : hasInfix (lower (pyHostname sp.netloc)) (lit "facebook") = true) :
    ∃ s, convert_facebook_url_to_mobile url = .ok s :=
  (convert_ok_iff url).mpr ⟨sp, hsp, by rw [contains_eq_hasInfix]; exact hasInfix_lower_netloc _ _ h⟩

end Ural.Facebook
