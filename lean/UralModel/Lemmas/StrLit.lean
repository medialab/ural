/-!
# String literals under kernel evaluation

To the kernel `"abc"` is `String.ofList ['a', 'b', 'c']`, and `String.toList` of it is computed by
running the UTF-8 encoder and then the decoder, step by step, for every occurrence: on a url of a
hundred characters that is most of the work of evaluating a model function on it.
`simp only [toList_lit]` replaces each `"…".toList` of a goal by the list of its characters through
`String.toList_ofList`, so that an evaluation (`decide +kernel`) starts from the characters.
-/
namespace Ural

/-- `no_index`: a literal is not an application of `String.ofList` to `simp`'s index, only up to
unfolding -/
theorem toList_lit (l : List Char) : String.toList (no_index (String.ofList l)) = l :=
  String.toList_ofList

/-! ## a literal read by its bytes

A table of a thousand literals is too long for `simp only [List.map, toList_lit]` (recursion
depth).  `codes s` are the bytes of `s`; when they are all ASCII the characters are the bytes
(`toList_of_ascii`). -/

def codes (s : String) : List Nat := s.toByteArray.data.toList.map UInt8.toNat

theorem decode_ascii_char (c : Char) (h : ∀ b ∈ String.utf8EncodeChar c, b.toNat < 128) :
    (String.utf8EncodeChar c).map (fun b => Char.ofNat b.toNat) = [c] := by
  unfold String.utf8EncodeChar at h ⊢
  simp only [] at h ⊢
  split at h
  · rename_i h1
    rw [if_pos h1]
    simp only [List.map_cons, List.map_nil, UInt8.toNat_ofNat']
    rw [Nat.mod_eq_of_lt (by omega)]
    exact congrArg (· :: []) (Char.ofNat_toNat c)
  -- the first byte of a longer encoding is at least `0xc0`
  all_goals
    exfalso
    repeat' split at h
    all_goals
      have := h _ (List.mem_cons_self ..)
      simp only [UInt8.toNat_ofNat'] at this
      omega

theorem decode_ascii : ∀ l : List Char, (∀ b ∈ l.flatMap String.utf8EncodeChar, b.toNat < 128) →
    (l.flatMap String.utf8EncodeChar).map (fun b => Char.ofNat b.toNat) = l
  | [], _ => rfl
  | c :: l, h => by
    rw [List.flatMap_cons] at h ⊢
    rw [List.map_append, decode_ascii_char c fun b hb => h b (List.mem_append_left _ hb),
      decode_ascii l fun b hb => h b (List.mem_append_right _ hb)]
    rfl

theorem toList_of_ascii (s : String) (h : ∀ n ∈ codes s, n < 128) :
    s.toList = (codes s).map Char.ofNat := by
  obtain ⟨l, rfl⟩ : ∃ l, s = String.ofList l := ⟨s.toList, String.ofList_toList.symm⟩
  have hc : codes (String.ofList l) = (l.flatMap String.utf8EncodeChar).map UInt8.toNat := by
    simp only [codes, String.toByteArray_ofList, List.utf8Encode, List.data_toByteArray]
  rw [hc] at h
  rw [String.toList_ofList, hc, List.map_map]
  exact (decode_ascii l fun b hb => h _ (List.mem_map_of_mem hb)).symm

end Ural
