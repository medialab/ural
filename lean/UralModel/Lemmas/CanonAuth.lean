import UralModel.Lemmas.Canonicalize
import UralModel.Lemmas.QuoteAuth
/-!
# The userinfo rule of `canonicalize_url` / `normalize_url` (FX-C01-194b1c7)

`unquoteAuthItem` is `safely_unquote_auth_item` = the partial followed by `requoteNfkc`
(`Model/QuoteAuth.lean`).  In quoted mode `requoteNfkc` makes no difference (`safely_quote`
escapes every non-ASCII character anyway: `requote_true_auth`); in unquoted mode the facts the
theorems use: same decoded bytes, idempotent, no delimiter created, no raw NFKC look-alike left.
-/
namespace Ural.Canonicalize
open Ural.Py Ural.Quote

theorem unquoteAuthItem_eq (s : Str) : unquoteAuthItem s = safelyUnquoteAuthItem s := rfl

/-- quoted mode: the rule is the one of the bare partial -/
theorem requote_true_auth (s : Str) :
    requote true unquoteAuthItem s = requote true (safelyUnquote Gen.Quote.unsafeForAuthItem) s := by
  simp only [requote, if_true]
  exact safelyQuote_authItem s

theorem canonOpt_true_auth (o : Option Str) :
    canonOpt true unquoteAuthItem o = canonOpt true (safelyUnquote Gen.Quote.unsafeForAuthItem) o := by
  cases o with
  | none => rfl
  | some u => simp only [canonOpt, requote_true_auth]

/-- same decoded bytes, in both modes -/
theorem pct_requote_auth (quoted : Bool) (s : Str) :
    pctStr (requote quoted unquoteAuthItem s) = pctStr s := by
  unfold requote
  split
  · rw [pctStr_safelyQuote]; exact pctStr_authItem s
  · exact pctStr_authItem s

theorem unquoteAuthItem_idem (s : Str) : unquoteAuthItem (unquoteAuthItem s) = unquoteAuthItem s :=
  authItem_idem s

theorem unquoteAuthItem_nil : unquoteAuthItem [] = [] := authItem_nil

/-- **no raw NFKC look-alike of a delimiter** in an unquoted item, in either mode -/
theorem requote_auth_no_nfkc (quoted : Bool) (s : Str) :
    ∀ d ∈ requote quoted unquoteAuthItem s, nfkcDelimChar d = false := by
  intro d hd
  unfold requote at hd
  split at hd
  · -- quoted: every character of the result is ASCII
    rw [safelyQuote_fun] at hd
    exact nfkcDelimChar_of_lt (ascii_safelyQuoteBy safeSet_quoteSafe _ d hd)
  · exact authItem_no_nfkc s d hd

end Ural.Canonicalize
