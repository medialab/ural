import UralModel.Model.Google
import UralModel.Lemmas.YoutubeUrl
import UralModel.Lemmas.StrLit
import UralModel.Lemmas.RouteOutcome
/-!
Helper lemmas for the model of `ural/google.py` (property theorems: `Props/C19/Google.lean`).
-/
namespace Ural.Google
open Ural Ural.Py Ural.C19

instance {ε α : Type} [DecidableEq ε] [DecidableEq α] : DecidableEq (Except ε α) := fun a b =>
  match a, b with
  | .ok x, .ok y => if h : x = y then isTrue (by rw [h]) else isFalse (by intro e; cases e; exact h rfl)
  | .error x, .error y => if h : x = y then isTrue (by rw [h]) else isFalse (by intro e; cases e; exact h rfl)
  | .ok _, .error _ => isFalse (by intro e; cases e)
  | .error _, .ok _ => isFalse (by intro e; cases e)

/-- `record.type` -/
def Record.ty : Record → Str
  | .file t _ => t
  | .publicLink t _ => t

/-- `record.id` -/
def Record.ident : Record → Str
  | .file _ i => i
  | .publicLink _ i => i

/-- what a path segment handed out by `pathsplit(urlsplit(url).path)` is made of -/
def Seg (s : Str) : Prop := ∀ c ∈ s, c ≠ '/' ∧ c ≠ '?' ∧ c ≠ '#' ∧ isUnsafeUrlChar c = false

instance (s : Str) : Decidable (Seg s) := by unfold Seg; infer_instance

/-! ## `parsePath` on the two list shapes that get past the length guard -/

theorem parsePath3 (a b c : Str) :
    parsePath [a, b, c] =
      if a ∈ driveTypes ∧ b = ['d'] ∧ strip c ≠ [] then .ok (some (.file a (strip c))) else .ok none := by
  simp only [parsePath, idx, isPub, fileBranch, List.length_cons, List.length_nil]
  by_cases h1 : a ∈ driveTypes <;> by_cases h2 : b = ['d'] <;> by_cases h3 : strip c = [] <;>
    simp [h1, h2, h3]

theorem isPub4 (a b c d : Str) (rest : List Str) :
    isPub (a :: b :: c :: d :: rest) = .ok (decide ((d :: rest).getLast? = some "pub".toList)) := by
  have hl : lastOf (a :: b :: c :: d :: rest) = .ok ((d :: rest).getLast (by simp)) := by
    simp [lastOf, List.getLast?_eq_some_getLast]
  simp only [isPub, hl, List.length_cons]
  simp [List.getLast?_eq_some_getLast]

theorem parsePath4 (a b c d : Str) (rest : List Str) :
    parsePath (a :: b :: c :: d :: rest) =
      if a ∈ driveTypes ∧ b = ['d'] then
        (if (d :: rest).getLast? = some "pub".toList then
          (if c = ['e'] ∧ d ≠ [] then .ok (some (.publicLink a d)) else .ok none)
         else (if strip c ≠ [] then .ok (some (.file a (strip c))) else .ok none))
      else .ok none := by
  have hlen : ¬ (rest.length + 1 + 1 + 1 + 1 < 3) := by omega
  simp only [parsePath, idx, isPub4, fileBranch, pubBranch, List.length_cons]
  by_cases h6 : (d :: rest).getLast? = some "pub".toList
  · simp only [h6, decide_true]
    by_cases h1 : a ∈ driveTypes <;> by_cases h2 : b = ['d'] <;>
      by_cases h4 : c = ['e'] <;> by_cases h5 : d = [] <;> simp [h1, h2, h4, h5, hlen]
  · simp only [h6, decide_false]
    by_cases h1 : a ∈ driveTypes <;> by_cases h2 : b = ['d'] <;> by_cases h3 : strip c = [] <;>
      simp [h1, h2, h3, hlen]

def FromPath (path : List Str) (r : Record) : Prop :=
  r.ty ∈ driveTypes ∧ r.ident ≠ [] ∧
    ((∃ ty id, r = .publicLink ty id ∧ id ∈ path) ∨ (∃ ty seg, r = .file ty (strip seg) ∧ seg ∈ path))

/-- every positional access of `parsePath` is dominated by a length guard -/
theorem parsePath_yields (path : List Str) : Yields (FromPath path) (parsePath path) := by
  match path with
  | [] | [_] | [_, _] => unfold parsePath; rw [if_pos (by simp)]; exact .none
  | [a, b, c] =>
    rw [parsePath3]
    exact .ite (fun hc => .some ⟨hc.1, hc.2.2, .inr ⟨a, c, rfl, by simp⟩⟩) fun _ => .none
  | a :: b :: c :: d :: rest =>
    rw [parsePath4]
    exact .ite (fun hc => .ite
      (fun _ => .ite (fun hd => .some ⟨hc.1, hd.2, .inl ⟨a, d, rfl, by simp⟩⟩) fun _ => .none)
      fun _ => .ite (fun hd => .some ⟨hc.1, hd, .inr ⟨a, c, rfl, by simp⟩⟩) fun _ => .none) fun _ => .none

theorem readsSplit : ReadsSplit parse_google_drive_url fun sr => parsePath (pathsplit sr.path) := by
  intro url
  unfold parse_google_drive_url
  split
  · exact .inl rfl
  · split
    · exact .inl rfl
    · exact .inr ⟨_, ‹_›, rfl⟩

theorem seg_of_pathsplit (url : Str) (sr : SplitResult) (hs : safe_urlsplit url = some sr) (x : Str)
    (hx : x ∈ pathsplit sr.path) : Seg x :=
  pathsplit_chars sr.path x hx (safe_urlsplit_path_chars url sr hs)

/-- all that C19 says of a record `parse_google_drive_url` returns -/
structure WellFormed (r : Record) : Prop where
  ty : r.ty ∈ driveTypes
  ne : r.ident ≠ []
  seg : Seg r.ident
  stripped : ∀ ty id, r = .file ty id → Stripped id

theorem parse_google_drive_url_sound (url : Str) : Yields WellFormed (parse_google_drive_url url) :=
  readsSplit.yields (fun url sr hs => (parsePath_yields _).mono fun r hr => by
    obtain ⟨h1, h2, ⟨ty, id, rfl, hm⟩ | ⟨ty, seg, rfl, hm⟩⟩ := hr
    · exact ⟨h1, h2, seg_of_pathsplit url sr hs id hm, fun _ _ e => nomatch e⟩
    · exact ⟨h1, h2, fun c hc => seg_of_pathsplit url sr hs seg hm c (strip_subset _ hc),
        fun _ _ e => (Record.file.inj e).2 ▸ strip_stripped seg⟩) url

/-! ## re-parsing `record.url` -/

theorem docsHostOk : HostOk "docs.google.com".toList := by
  simp only [toList_lit]
  decide +kernel

theorem docsContains : contains "docs.google.com".toList "docs.google.com".toList = true := by
  simp only [toList_lit]
  decide +kernel

theorem join_chars (l : List Str) (hl : ∀ x ∈ l, Seg x) :
    ∀ c ∈ join ['/'] l, c ≠ '?' ∧ c ≠ '#' ∧ isUnsafeUrlChar c = false := by
  intro c hc
  rcases mem_join _ _ hc with h | ⟨x, hx, hcx⟩
  · rw [List.mem_singleton.mp h]; decide
  · exact (hl x hx c hcx).2

/-- the parse of `https://docs.google.com/<seg₁>/…/<segₙ>` reduces to `parsePath` on the
segments -/
theorem parse_docs_url (segs : List Str) (hne : segs ≠ [])
    (hseg : ∀ x ∈ segs, x ≠ [] ∧ Seg x)
    (hlast : ∀ x, segs.getLast? = some x → NoTrailingBlank x) :
    parse_google_drive_url ("https://docs.google.com".toList ++ '/' :: join ['/'] segs) =
      parsePath segs := by
  have hpath : ∀ c ∈ '/' :: join ['/'] segs, c ≠ '?' ∧ c ≠ '#' ∧ isUnsafeUrlChar c = false := by
    intro c hc
    rcases List.mem_cons.mp hc with e | e
    · rw [e]; decide
    · exact join_chars segs (fun x hx => (hseg x hx).2) c e
  have hsplit := safe_urlsplit_https "docs.google.com".toList ('/' :: join ['/'] segs) [] docsHostOk
    ⟨_, rfl⟩ hpath (by simp)
  simp only [if_true, List.append_nil] at hsplit
  unfold parse_google_drive_url
  have heq : "https://docs.google.com".toList ++ '/' :: join ['/'] segs =
      "https://".toList ++ "docs.google.com".toList ++ '/' :: join ['/'] segs := by
    simp only [toList_lit, List.cons_append, List.nil_append]
  rw [heq, hsplit]
  simp only [docsContains, Bool.not_true]
  rw [pathsplit_join segs hne (fun x hx => ⟨(hseg x hx).1, fun h => ((hseg x hx).2 _ h).1 rfl⟩)
    (fun x c hx hc => hlast x hx c hc)]
  simp

theorem url_publicLink_eq (ty id : Str) : Record.url (.publicLink ty id) =
    "https://docs.google.com".toList ++ '/' :: join ['/'] [ty, ['d'], ['e'], id, "pub".toList] := by
  show "https://docs.google.com/".toList ++ ty ++ "/d/e/".toList ++ id ++ "/pub".toList =
    "https://docs.google.com".toList ++
      '/' :: (ty ++ ['/'] ++ (['d'] ++ ['/'] ++ (['e'] ++ ['/'] ++ (id ++ ['/'] ++ "pub".toList))))
  simp only [toList_lit, List.cons_append, List.nil_append, List.append_assoc]

theorem url_file_eq (ty id : Str) : Record.url (.file ty id) =
    "https://docs.google.com".toList ++ '/' :: join ['/'] [ty, ['d'], id] := by
  show "https://docs.google.com/".toList ++ ty ++ "/d/".toList ++ id =
    "https://docs.google.com".toList ++ '/' :: (ty ++ ['/'] ++ (['d'] ++ ['/'] ++ id))
  simp only [toList_lit, List.cons_append, List.nil_append, List.append_assoc]

end Ural.Google
