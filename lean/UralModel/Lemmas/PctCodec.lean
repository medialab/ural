import UralModel.Py.PctCodec
import UralModel.Lemmas.Str
/-!
# Round trip of the percent codec: `unquote (quote s safe) = s`

The UTF-8 part rests on Lean core's
`ByteArray.utf8DecodeChar?_utf8EncodeChar_append`; the percent part is proved here.
After the round trip, `unquote_ne_nil`: `unquote` keeps a non-empty string non-empty (facebook, C19);
`safeOk_slash`, `safeOk_nil`: `safe="/"` and `safe=""` meet the hypothesis of the round trip.
-/
namespace Ural.Py

/-! ## UTF-8 -/

theorem decodeHead_encode (c : Char) (rest : Bytes) :
    decodeHead (String.utf8EncodeChar c ++ rest) = some c := by
  unfold decodeHead
  have hlen : (String.utf8EncodeChar c).length ≤ 4 := by
    rw [String.length_utf8EncodeChar]; exact c.utf8Size_le_four
  rw [List.take_append, List.take_of_length_le hlen, List.toByteArray_append,
    ByteArray.utf8DecodeChar?_utf8EncodeChar_append]

theorem utf8DecodeReplaceGo_encode (s : Str) :
    ∀ fuel, (utf8Encode s).length ≤ fuel → utf8DecodeReplaceGo fuel (utf8Encode s) = s := by
  induction s with
  | nil => intro fuel _; cases fuel <;> simp [utf8Encode, utf8DecodeReplaceGo]
  | cons c s ih =>
    intro fuel hf
    have henc : utf8Encode (c :: s) = String.utf8EncodeChar c ++ utf8Encode s := by
      simp [utf8Encode]
    rw [henc] at hf ⊢
    cases hE : String.utf8EncodeChar c with
    | nil => exact absurd hE (utf8EncodeChar_ne_nil c)
    | cons b tl =>
      have hl : tl.length = c.utf8Size - 1 := by
        have := String.length_utf8EncodeChar c
        rw [hE] at this
        simp at this
        omega
      rw [hE] at hf
      cases fuel with
      | zero => simp at hf
      | succ fuel =>
        have hd : decodeHead (b :: (tl ++ utf8Encode s)) = some c := by
          have := decodeHead_encode c (utf8Encode s)
          rw [hE] at this
          simpa using this
        simp only [List.cons_append, utf8DecodeReplaceGo, hd]
        rw [← hl, List.drop_left]
        congr 1
        apply ih
        simp at hf
        omega

/-- `s.encode('utf-8').decode('utf-8', 'replace') == s` -/
theorem utf8DecodeReplace_encode (s : Str) : utf8DecodeReplace (utf8Encode s) = s :=
  utf8DecodeReplaceGo_encode s _ (Nat.le_refl _)

/-! ## percent escapes -/

theorem hexDigit_facts : ∀ n, n < 16 →
    isHexDigit (hexDigitUpper n) = true ∧ hexVal (hexDigitUpper n) = n ∧
    (hexDigitUpper n).toNat < 128 := by
  decide

theorem alwaysSafe_facts {b : UInt8} (h : alwaysSafe b = true) : b.toNat < 128 ∧ b ≠ 0x25 := by
  have e : ∀ k : UInt8, b = k ↔ b.toNat = k.toNat := fun k => UInt8.toNat_inj.symm
  simp only [alwaysSafe, Bool.or_eq_true, Bool.and_eq_true, decide_eq_true_eq,
    UInt8.le_iff_toNat_le, e] at h
  rw [Ne, e]
  simp only [UInt8.reduceToNat] at h ⊢
  omega

theorem charOfByte_toNat (b : UInt8) : (Char.ofNat b.toNat).toNat = b.toNat :=
  toNat_ofNat_small _ (by have := b.toNat_lt; omega)

/-- the conditions under which `safe` is a legal `safe=` argument: ASCII, and not `%` -/
def SafeOk (safe : Bytes) : Prop := ∀ b ∈ safe, b.toNat < 128 ∧ b ≠ 0x25

theorem quoteByte_safe_char (safe : Bytes) (hs : SafeOk safe) (b : UInt8)
    (h : (alwaysSafe b || safe.contains b) = true) :
    b.toNat < 128 ∧ Char.ofNat b.toNat ≠ '%' := by
  have hb : b.toNat < 128 ∧ b ≠ 0x25 := by
    rcases Bool.or_eq_true _ _ |>.mp h with h | h
    · exact alwaysSafe_facts h
    · exact hs b (by simpa using h)
  refine ⟨hb.1, fun hc => hb.2 ?_⟩
  have : (Char.ofNat b.toNat).toNat = ('%' : Char).toNat := by rw [hc]
  rw [charOfByte_toNat] at this
  exact UInt8.toNat_inj.mp this

theorem unquoteToBytesGo_plain (c : Char) (rest : Str) (h : c ≠ '%') :
    unquoteToBytesGo (c :: rest) 0 = c.toNat.toUInt8 :: unquoteToBytesGo rest 0 := by
  simp [unquoteToBytesGo, h]

theorem unquoteToBytesGo_escape (a b : Char) (rest : Str) (v : UInt8)
    (h : pctHead (a :: b :: rest) = some v) :
    unquoteToBytesGo ('%' :: a :: b :: rest) 0 = v :: unquoteToBytesGo rest 0 := by
  simp [unquoteToBytesGo, h]

theorem unquoteToBytesGo_quote (safe : Bytes) (hs : SafeOk safe) (bs : Bytes) :
    unquoteToBytesGo (bs.flatMap (quoteByte safe)) 0 = bs := by
  induction bs with
  | nil => simp [unquoteToBytesGo]
  | cons b bs ih =>
    simp only [List.flatMap_cons]
    by_cases h : (alwaysSafe b || safe.contains b) = true
    · have hq : quoteByte safe b = [Char.ofNat b.toNat] := by unfold quoteByte; rw [if_pos h]
      obtain ⟨_, h2⟩ := quoteByte_safe_char safe hs b h
      rw [hq, List.singleton_append, unquoteToBytesGo_plain _ _ h2, ih, charOfByte_toNat]
      simp
    · have hq : quoteByte safe b =
          ['%', hexDigitUpper (b.toNat / 16), hexDigitUpper (b.toNat % 16)] := by
        unfold quoteByte; rw [if_neg h]
      have hb : b.toNat < 256 := b.toNat_lt
      obtain ⟨h1, h2, _⟩ := hexDigit_facts (b.toNat / 16) (by omega)
      obtain ⟨l1, l2, _⟩ := hexDigit_facts (b.toNat % 16) (by omega)
      have hp : pctHead (hexDigitUpper (b.toNat / 16) :: hexDigitUpper (b.toNat % 16) ::
          List.flatMap (quoteByte safe) bs) = some b := by
        simp only [pctHead, h1, l1, h2, l2, Bool.and_self, if_true]
        congr 1
        apply UInt8.toNat_inj.mp
        simp
        omega
      rw [hq]
      simp only [List.cons_append, List.nil_append]
      rw [unquoteToBytesGo_escape _ _ _ _ hp, ih]

theorem quote_ascii (safe : Bytes) (hs : SafeOk safe) (bs : Bytes) :
    ∀ c ∈ bs.flatMap (quoteByte safe), c.toNat < 128 := by
  intro c hc
  simp only [List.mem_flatMap] at hc
  obtain ⟨b, _, hc⟩ := hc
  unfold quoteByte at hc
  split at hc
  · rename_i h
    obtain ⟨h1, _⟩ := quoteByte_safe_char safe hs b h
    simp at hc
    rw [hc, charOfByte_toNat]; exact h1
  · have hb : b.toNat < 256 := b.toNat_lt
    obtain ⟨_, _, h4⟩ := hexDigit_facts (b.toNat / 16) (by omega)
    obtain ⟨_, _, l4⟩ := hexDigit_facts (b.toNat % 16) (by omega)
    simp at hc
    rcases hc with hc | hc | hc <;> rw [hc]
    · decide
    · exact h4
    · exact l4

theorem unquoteRuns_ascii (t : Str) (h : ∀ c ∈ t, c.toNat < 128) :
    ∀ acc, unquoteRuns t acc = unquoteFlush (t.reverse ++ acc) := by
  induction t with
  | nil => intro acc; simp [unquoteRuns]
  | cons c t ih =>
    intro acc
    have hc : c.toNat < 128 := h c (by simp)
    simp only [unquoteRuns, hc, if_true]
    rw [ih (fun x hx => h x (by simp [hx]))]
    simp

/-- the run-wise decoder inverts `quote` (no matter whether the `%` shortcut applies) -/
theorem unquoteRuns_quote (s : Str) (safe : Bytes) (hs : SafeOk safe) :
    unquoteRuns (quote s safe) [] = s := by
  unfold quote
  rw [unquoteRuns_ascii _ (quote_ascii safe hs _)]
  simp only [List.append_nil, unquoteFlush, List.reverse_reverse, unquoteToBytes]
  rw [unquoteToBytesGo_quote safe hs, utf8DecodeReplace_encode]

/-! ## ASCII strings without `%` are left alone by the run-wise decoder -/

theorem unquoteToBytesGo_nopct (t : Str) (h : ∀ c ∈ t, c.toNat < 128 ∧ c ≠ '%') :
    unquoteToBytesGo t 0 = utf8Encode t := by
  induction t with
  | nil => simp [unquoteToBytesGo, utf8Encode]
  | cons c t ih =>
    obtain ⟨h1, h2⟩ := h c (by simp)
    have henc : utf8Encode (c :: t) = String.utf8EncodeChar c ++ utf8Encode t := by
      simp [utf8Encode]
    rw [henc, utf8EncodeChar_ascii c h1]
    simp only [unquoteToBytesGo, h2, if_false, List.cons_append, List.nil_append]
    rw [ih (fun x hx => h x (by simp [hx]))]

theorem unquoteRuns_nopct (t : Str) (h : ∀ c ∈ t, c.toNat < 128 ∧ c ≠ '%') :
    unquoteRuns t [] = t := by
  rw [unquoteRuns_ascii t (fun c hc => (h c hc).1)]
  simp only [List.append_nil, unquoteFlush, List.reverse_reverse, unquoteToBytes]
  rw [unquoteToBytesGo_nopct t h, utf8DecodeReplace_encode]

/-- **`unquote(quote(s, safe)) == s`** for every string `s` (of scalar values) and every
ASCII `safe` set not containing `%`. -/
theorem unquote_quote (s : Str) (safe : Bytes) (hs : SafeOk safe) :
    unquote (quote s safe) = s := by
  unfold unquote
  split
  · exact unquoteRuns_quote s safe hs
  · rename_i hno
    have hq : unquoteRuns (quote s safe) [] = quote s safe := by
      apply unquoteRuns_nopct
      intro c hc
      refine ⟨quote_ascii safe hs _ c hc, ?_⟩
      intro he
      apply hno
      simp [he ▸ hc]
    rw [← hq]
    exact unquoteRuns_quote s safe hs

theorem unquoteToBytes_ne_nil (t : Str) (h : t ≠ []) : unquoteToBytes t ≠ [] := by
  cases t with
  | nil => exact absurd rfl h
  | cons c rest =>
    unfold unquoteToBytes unquoteToBytesGo
    split
    · split <;> simp
    · simp

theorem utf8DecodeReplace_ne_nil (bs : Bytes) (h : bs ≠ []) : utf8DecodeReplace bs ≠ [] := by
  cases bs with
  | nil => exact absurd rfl h
  | cons b rest =>
    unfold utf8DecodeReplace
    simp only [List.length_cons]
    unfold utf8DecodeReplaceGo
    split <;> simp

theorem unquoteFlush_ne_nil (acc : Str) (h : acc ≠ []) : unquoteFlush acc ≠ [] := by
  unfold unquoteFlush
  exact utf8DecodeReplace_ne_nil _ (unquoteToBytes_ne_nil _ (by simpa using h))

theorem unquoteRuns_ne_nil (s acc : Str) (h : s ≠ [] ∨ acc ≠ []) : unquoteRuns s acc ≠ [] := by
  induction s generalizing acc with
  | nil =>
    unfold unquoteRuns
    rcases h with h | h
    · exact absurd rfl h
    · exact unquoteFlush_ne_nil acc h
  | cons c cs ih =>
    unfold unquoteRuns
    split
    · exact ih _ (Or.inr (by simp))
    · simp

/-- `unquote(s) != ""` for `s != ""` -/
theorem unquote_ne_nil (s : Str) (h : s ≠ []) : unquote s ≠ [] := by
  unfold unquote
  split
  · exact unquoteRuns_ne_nil s [] (Or.inl h)
  · exact h

theorem safeOk_slash : SafeOk [0x2F] := by
  intro b hb
  simp at hb
  subst hb
  decide

theorem safeOk_nil : SafeOk [] := by
  intro b hb; simp at hb

end Ural.Py
