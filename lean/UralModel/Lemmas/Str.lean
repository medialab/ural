import UralModel.Py.Str
/-!
Lemmas about the Python `str` prelude (`Py/Str.lean`).  `split` / `join` are inverse of each other (each fact
first stated for `splitOn.go` with an arbitrary accumulator); `strip` is characterised by the core it leaves
(`stripBy`); `in` (`contains`) is restated as a structural function, `hasInfix`.  The general facts on characters
(`lowerChar`, `upperChar`, the ASCII classes, bytes), on lists (`takeWhile` / `dropWhile`, prefixes) and on `lower`
that the development shares stand here too, before the section that first needs them.
-/
namespace Ural.Py

/-- below the first surrogate (`0xD800`) every number is a code point -/
theorem toNat_ofNat_small (n : Nat) (h : n < 55296) : (Char.ofNat n).toNat = n := by
  have hv : n.isValidChar := Or.inl h
  simp only [Char.ofNat, hv, dite_true, Char.toNat, Char.ofNatAux]
  simp [UInt32.toNat_ofNatLT]

theorem char_le_iff (a b : Char) : a ≤ b ↔ a.toNat ≤ b.toNat := by
  rw [Char.le_def, UInt32.le_iff_toNat_le]; rfl

theorem utf8EncodeChar_ne_nil (c : Char) : String.utf8EncodeChar c ≠ [] := by
  intro h
  have h1 := String.length_utf8EncodeChar c
  have h2 := c.utf8Size_pos
  rw [h] at h1
  simp at h1
  omega

theorem utf8EncodeChar_ascii (c : Char) (h : c.toNat < 128) :
    String.utf8EncodeChar c = [c.toNat.toUInt8] := by
  have : c.utf8Size = 1 := Char.utf8Size_eq_one_iff.mpr (by
    show c.val ≤ 127
    have : c.val.toNat < 128 := h
    exact UInt32.le_iff_toNat_le.mpr (by simpa using Nat.le_of_lt_succ this))
  rw [String.utf8EncodeChar_eq_singleton this]
  rfl

theorem char_ofNat_byte {c : Char} (h : c.toNat < 0x80) :
    Char.ofNat (UInt8.ofNat c.toNat).toNat = c := by
  have : (UInt8.ofNat c.toNat).toNat = c.toNat := by simp; omega
  rw [this, Char.ofNat_toNat]

theorem byte_of_ofNat_eq {b : UInt8} {d : Char} (h : Char.ofNat b.toNat = d) :
    b = UInt8.ofNat d.toNat := by
  rw [← h, toNat_ofNat_small _ (by have := b.toNat_lt; omega), UInt8.ofNat_toNat]

theorem byte_ne_of_char_ne {c : Char} (hlt : c.toNat < 0x80) {d : Char} (hd : d.toNat < 0x80)
    (h : c ≠ d) : UInt8.ofNat c.toNat ≠ UInt8.ofNat d.toNat :=
  fun e => h (by rw [← char_ofNat_byte hlt, e, char_ofNat_byte hd])

theorem lowerChar_toNat (c : Char) :
    (lowerChar c).toNat = if 65 ≤ c.toNat ∧ c.toNat ≤ 90 then c.toNat + 32 else c.toNat := by
  unfold lowerChar
  simp only [char_le_iff]
  have e1 : 'A'.toNat = 65 := rfl
  have e2 : 'Z'.toNat = 90 := rfl
  rw [e1, e2]
  split
  · rename_i h; rw [toNat_ofNat_small _ (by omega)]
  · rfl

theorem upperChar_toNat (c : Char) :
    (upperChar c).toNat = if 97 ≤ c.toNat ∧ c.toNat ≤ 122 then c.toNat - 32 else c.toNat := by
  unfold upperChar
  simp only [char_le_iff]
  have e1 : 'a'.toNat = 97 := rfl
  have e2 : 'z'.toNat = 122 := rfl
  rw [e1, e2]
  split
  · rename_i h; rw [toNat_ofNat_small _ (by omega)]
  · rfl

theorem lowerChar_idem (c : Char) : lowerChar (lowerChar c) = lowerChar c := by
  apply Char.toNat_inj.1
  rw [lowerChar_toNat (lowerChar c), lowerChar_toNat c]
  (repeat' split) <;> omega

theorem upperChar_idem (c : Char) : upperChar (upperChar c) = upperChar c := by
  apply Char.toNat_inj.1
  rw [upperChar_toNat (upperChar c), if_neg]
  rw [upperChar_toNat]
  split <;> omega

theorem lowerChar_upperChar (c : Char) : lowerChar (upperChar c) = lowerChar c := by
  apply Char.toNat_inj.1
  rw [lowerChar_toNat (upperChar c), upperChar_toNat c, lowerChar_toNat c]
  by_cases h : 97 ≤ c.toNat ∧ c.toNat ≤ 122
  · rw [if_pos h, if_pos (by omega), if_neg (by omega)]
    omega
  · rw [if_neg h]

theorem lowerChar_of_not_upper {d : Char} (hn : ¬ (65 ≤ d.toNat ∧ d.toNat ≤ 90)) :
    lowerChar d = d := by
  apply Char.toNat_inj.1
  rw [lowerChar_toNat, if_neg hn]

theorem upperChar_eq_self_iff (c : Char) : upperChar c = c ↔ ¬ (97 ≤ c.toNat ∧ c.toNat ≤ 122) := by
  rw [← Char.toNat_inj, upperChar_toNat]
  split <;> omega

theorem lowerChar_eq_of_not_lower {c d : Char} (hd : ¬ (97 ≤ d.toNat ∧ d.toNat ≤ 122))
    (h : lowerChar c = d) : c = d := by
  have ht := lowerChar_toNat c
  rw [h] at ht
  apply Char.toNat_inj.1
  split at ht <;> omega

theorem lowerChar_eq_iff_of_not_letter {c d : Char} (hd : ¬ (97 ≤ d.toNat ∧ d.toNat ≤ 122))
    (hd' : ¬ (65 ≤ d.toNat ∧ d.toNat ≤ 90)) : lowerChar c = d ↔ c = d :=
  ⟨lowerChar_eq_of_not_lower hd, by rintro rfl; exact lowerChar_of_not_upper hd'⟩

theorem upperChar_eq_iff_of_not_letter {c d : Char} (hd : ¬ (65 ≤ d.toNat ∧ d.toNat ≤ 90))
    (hd' : ¬ (97 ≤ d.toNat ∧ d.toNat ≤ 122)) : upperChar c = d ↔ c = d := by
  rw [← Char.toNat_inj, ← Char.toNat_inj, upperChar_toNat]
  constructor
  · intro h; split at h <;> omega
  · intro h; rw [h, if_neg hd']

theorem lowerChar_eq_dot (c : Char) : lowerChar c = '.' ↔ c = '.' :=
  lowerChar_eq_iff_of_not_letter (by decide) (by decide)

theorem lowerChar_slash_iff (c : Char) : lowerChar c = '/' ↔ c = '/' :=
  lowerChar_eq_iff_of_not_letter (by decide) (by decide)

theorem lowerChar_bang_iff (c : Char) : lowerChar c = '!' ↔ c = '!' :=
  lowerChar_eq_iff_of_not_letter (by decide) (by decide)

theorem lowerChar_cases (c : Char) :
    (lowerChar c = c) ∨ (65 ≤ c.toNat ∧ c.toNat ≤ 90 ∧ (lowerChar c).toNat = c.toNat + 32) :=
  if h : 65 ≤ c.toNat ∧ c.toNat ≤ 90 then .inr ⟨h.1, h.2, by rw [lowerChar_toNat, if_pos h]⟩
  else .inl (lowerChar_of_not_upper h)

theorem lowerChar_eq_x {c : Char} (h : lowerChar c = 'x') : c = 'x' ∨ c = 'X' := by
  rcases lowerChar_cases c with e | ⟨_, _, e⟩
  · left; rw [← e]; exact h
  · right
    rw [h] at e
    apply Char.toNat_inj.1
    have : ('x' : Char).toNat = 120 := rfl
    have : ('X' : Char).toNat = 88 := rfl
    omega

theorem mem_of_mem_lower {x : Char} (hx : ¬ (97 ≤ x.toNat ∧ x.toNat ≤ 122)) {s : Str} (h : x ∈ lower s) :
    x ∈ s := by
  obtain ⟨c, hc, e⟩ := List.mem_map.1 h
  exact lowerChar_eq_of_not_lower hx e ▸ hc

theorem mem_lower_of_mem {x : Char} (hx : ¬ (65 ≤ x.toNat ∧ x.toNat ≤ 90)) {s : Str} (h : x ∈ s) :
    x ∈ lower s :=
  List.mem_map.2 ⟨x, h, lowerChar_of_not_upper hx⟩

theorem contains_false_of_not_mem {s : Str} {c : Char} (h : c ∉ s) : s.contains c = false :=
  Bool.eq_false_iff.2 fun hc => h (List.contains_iff_mem.1 hc)

theorem contains_true_of_mem {s : Str} {c : Char} (h : c ∈ s) : s.contains c = true :=
  List.contains_iff_mem.2 h

theorem mem_lower_of_not_letter {d : Char} (h1 : ¬ (65 ≤ d.toNat ∧ d.toNat ≤ 90))
    (h2 : ¬ (97 ≤ d.toNat ∧ d.toNat ≤ 122)) {x : Str} : d ∈ lower x ↔ d ∈ x :=
  ⟨mem_of_mem_lower h2, mem_lower_of_mem h1⟩

theorem dot_mem_lower {x : Str} : '.' ∈ lower x ↔ '.' ∈ x :=
  mem_lower_of_not_letter (by decide) (by decide)

theorem no_x_lower {s : Str} (h : 'x' ∉ s ∧ 'X' ∉ s) : 'x' ∉ lower s ∧ 'X' ∉ lower s := by
  refine ⟨fun hm => ?_, fun hm => h.2 (mem_of_mem_lower (by decide) hm)⟩
  obtain ⟨d, hd, e⟩ := List.mem_map.1 hm
  exact (lowerChar_eq_x e).elim (fun e => h.1 (e ▸ hd)) (fun e => h.2 (e ▸ hd))

theorem isAsciiAlpha_iff (c : Char) :
    isAsciiAlpha c = true ↔ (97 ≤ c.toNat ∧ c.toNat ≤ 122) ∨ (65 ≤ c.toNat ∧ c.toNat ≤ 90) := by
  simp only [isAsciiAlpha, Bool.or_eq_true, decide_eq_true_eq, char_le_iff]
  have e1 : 'a'.toNat = 97 := rfl
  have e2 : 'z'.toNat = 122 := rfl
  have e3 : 'A'.toNat = 65 := rfl
  have e4 : 'Z'.toNat = 90 := rfl
  rw [e1, e2, e3, e4]

theorem isHexDigit_toNat_iff (c : Char) : isHexDigit c = true ↔
    (48 ≤ c.toNat ∧ c.toNat ≤ 57) ∨ (97 ≤ c.toNat ∧ c.toNat ≤ 102) ∨ (65 ≤ c.toNat ∧ c.toNat ≤ 70) := by
  simp only [isHexDigit, isAsciiDigit, Bool.or_eq_true, decide_eq_true_eq, char_le_iff]
  exact or_assoc

theorem isAsciiAlpha_lowerChar {c : Char} (h : isAsciiAlpha c = true) :
    isAsciiAlpha (lowerChar c) = true := by
  rw [isAsciiAlpha_iff] at h ⊢
  rw [lowerChar_toNat]
  split <;> omega

theorem isHexDigit_lowerChar (c : Char) : isHexDigit (lowerChar c) = isHexDigit c := by
  rw [Bool.eq_iff_iff, isHexDigit_toNat_iff, isHexDigit_toNat_iff, lowerChar_toNat]
  split <;> omega

theorem isHexDigit_upperChar (c : Char) : isHexDigit (upperChar c) = isHexDigit c := by
  rw [Bool.eq_iff_iff, isHexDigit_toNat_iff, isHexDigit_toNat_iff, upperChar_toNat]
  split <;> omega

theorem not_space_of_between {c : Char} {lo hi : Nat} (h1 : lo ≤ c.toNat) (h2 : c.toNat ≤ hi)
    (hfree : spaceCodes.all (fun n => n < lo || hi < n) = true) : isSpace c = false := by
  cases hs : isSpace c with
  | false => rfl
  | true =>
    have := List.all_eq_true.mp hfree c.toNat (List.contains_iff_mem.mp hs)
    simp only [Bool.or_eq_true, decide_eq_true_eq] at this
    omega

theorem alpha_not_space {c : Char} (h : isAsciiAlpha c = true) : isSpace c = false := by
  rcases (isAsciiAlpha_iff c).1 h with h | h
  · exact not_space_of_between h.1 h.2 (by decide)
  · exact not_space_of_between h.1 h.2 (by decide)

theorem digit_not_space {c : Char} (h : isAsciiDigit c = true) : isSpace c = false := by
  simp only [isAsciiDigit, decide_eq_true_eq, char_le_iff] at h
  exact not_space_of_between h.1 h.2 (by decide)

theorem digit_not_alpha {b : Char} (h : isAsciiDigit b = true) : isAsciiAlpha b = false := by
  cases ha : isAsciiAlpha b with
  | false => rfl
  | true =>
    rw [isAsciiAlpha_iff] at ha
    simp only [isAsciiDigit, decide_eq_true_eq, char_le_iff] at h
    have e1 : '0'.toNat = 48 := rfl
    have e2 : '9'.toNat = 57 := rfl
    rw [e1, e2] at h
    omega

theorem isSpace_toNat {c : Char} (h : isSpace c = true) : c.toNat ≤ 32 ∨ 127 ≤ c.toNat :=
  (by decide : ∀ n ∈ spaceCodes, n ≤ 32 ∨ 127 ≤ n) _ (List.contains_iff_mem.1 h)

theorem hex_not_space {c : Char} (h : isHexDigit c = true) : isSpace c = false := by
  rw [isHexDigit_toNat_iff] at h
  cases hs : isSpace c with
  | false => rfl
  | true => have := isSpace_toNat hs; omega

theorem lower_cons (c : Char) (s : Str) : lower (c :: s) = lowerChar c :: lower s := rfl

theorem lower_append (a b : Str) : lower (a ++ b) = lower a ++ lower b := by simp [lower]

theorem lower_take (s : Str) (n : Nat) : lower (s.take n) = (lower s).take n := by
  simp [lower, List.map_take]

theorem lower_drop (s : Str) (n : Nat) : lower (s.drop n) = (lower s).drop n := by
  simp [lower, List.map_drop]

theorem lower_idem (s : Str) : lower (lower s) = lower s := by
  simp [lower, lowerChar_idem]

theorem length_lower (s : Str) : (lower s).length = s.length := by simp [lower]

theorem lower_eq_nil {s : Str} : lower s = [] ↔ s = [] := by simp [lower]

theorem map_eq_self {α : Type} {f : α → α} {l : List α} (h : ∀ x ∈ l, f x = x) : l.map f = l := by
  conv => rhs; rw [← List.map_id l]
  exact List.map_congr_left h

theorem find?_congr {α : Type} (l : List α) (p q : α → Bool) (h : ∀ x ∈ l, p x = q x) :
    l.find? p = l.find? q := by
  induction l with
  | nil => rfl
  | cons a as ih =>
    simp only [List.find?_cons, h a (by simp)]
    rw [ih (fun x hx => h x (List.mem_cons_of_mem _ hx))]

theorem forall_mem_snoc {α : Type} {P : α → Prop} {l : List α} {a : α} (hl : ∀ x ∈ l, P x) (ha : P a) :
    ∀ x ∈ l ++ [a], P x := by
  intro x hx
  rcases List.mem_append.1 hx with h | h
  · exact hl x h
  · rw [List.mem_singleton.1 h]; exact ha

theorem not_mem_of_all {p : Str} {f : Char → Bool} {d : Char} (h : ∀ c ∈ p, f c = true) (hd : f d = false) :
    d ∉ p := fun hm => by rw [h d hm] at hd; exact absurd hd (by simp)


theorem span_loop_eq {α : Type} (p : α → Bool) (l acc : List α) :
    List.span.loop p l acc = (acc.reverse ++ l.takeWhile p, l.dropWhile p) := by
  induction l generalizing acc with
  | nil => simp [List.span.loop]
  | cons a as ih =>
    simp only [List.span.loop, List.takeWhile_cons, List.dropWhile_cons]
    cases h : p a <;> simp [ih]

theorem span_eq {α : Type} (p : α → Bool) (l : List α) :
    l.span p = (l.takeWhile p, l.dropWhile p) := by
  simp [List.span, span_loop_eq]

theorem drop_length_takeWhile {α : Type} (p : α → Bool) (l : List α) :
    l.drop (l.takeWhile p).length = l.dropWhile p := by
  induction l with
  | nil => rfl
  | cons a l ih =>
    by_cases h : p a = true
    · simp [h, ih]
    · simp [h]

theorem takeWhile_of_all {α : Type} {p : α → Bool} {l : List α} (h : ∀ x ∈ l, p x = true) :
    l.takeWhile p = l := by
  induction l with
  | nil => rfl
  | cons a l ih =>
    rw [List.takeWhile_cons_of_pos (h a (by simp)), ih (fun c hc => h c (by simp [hc]))]

theorem dropWhile_of_all {α : Type} {p : α → Bool} {l : List α} (h : ∀ x ∈ l, p x = true) :
    l.dropWhile p = [] := by
  induction l with
  | nil => rfl
  | cons a l ih =>
    rw [List.dropWhile_cons_of_pos (h a (by simp)), ih (fun c hc => h c (by simp [hc]))]

theorem dropWhile_ne_nil_of_mem {α : Type} (q : α → Bool) (l : List α) (x : α) (hx : x ∈ l)
    (hq : q x = false) : l.dropWhile q ≠ [] := by
  induction l with
  | nil => simp at hx
  | cons c l ih =>
    by_cases hc : q c = true
    · simp only [List.dropWhile_cons, hc, if_true]
      simp only [List.mem_cons] at hx
      rcases hx with rfl | hx
      · rw [hq] at hc; cases hc
      · exact ih hx
    · simp [hc]

theorem takeWhile_append_of_stop {α : Type} (p : α → Bool) (a b : List α)
    (ha : ∀ c ∈ a, p c = true) (hb : ∀ c, b.head? = some c → p c = false) :
    (a ++ b).takeWhile p = a := by
  rw [List.takeWhile_append_of_pos ha]
  cases b with
  | nil => simp
  | cons d r => rw [List.takeWhile_cons_of_neg (by simp [hb d rfl]), List.append_nil]

theorem dropWhile_append_of_stop {α : Type} (p : α → Bool) (a b : List α)
    (ha : ∀ c ∈ a, p c = true) (hb : ∀ c, b.head? = some c → p c = false) :
    (a ++ b).dropWhile p = b := by
  rw [List.dropWhile_append_of_pos ha]
  cases b with
  | nil => rfl
  | cons d r => rw [List.dropWhile_cons_of_neg (by simp [hb d rfl])]

theorem takeWhile_append_cons_stop {α : Type} (p : α → Bool) (a : List α) (c : α) (b : List α)
    (ha : ∀ x ∈ a, p x = true) (hc : p c = false) : (a ++ c :: b).takeWhile p = a :=
  takeWhile_append_of_stop p a (c :: b) ha (fun _ hd => Option.some.inj hd ▸ hc)

theorem dropWhile_append_cons_stop {α : Type} (p : α → Bool) (a : List α) (c : α) (b : List α)
    (ha : ∀ x ∈ a, p x = true) (hc : p c = false) : (a ++ c :: b).dropWhile p = c :: b :=
  dropWhile_append_of_stop p a (c :: b) ha (fun _ hd => Option.some.inj hd ▸ hc)

theorem dropWhile_append_stop_cons (p : Char → Bool) (s w : Str) (c : Char) (hc : p c = false) :
    (s ++ c :: w).dropWhile p = s.dropWhile p ++ c :: w := by
  induction s with
  | nil => simp [hc]
  | cons a r ih =>
    simp only [List.cons_append, List.dropWhile_cons]
    split
    · exact ih
    · rfl

theorem mem_takeWhile_pos {α : Type} (p : α → Bool) (l : List α) (x : α)
    (h : x ∈ l.takeWhile p) : p x = true :=
  List.all_eq_true.1 List.all_takeWhile x h

theorem getElem?_mid1 {α : Type} (a : List α) (x y z : α) (b : List α) :
    (a ++ x :: y :: z :: b)[a.length + 1]? = some y := by
  simp

theorem getElem?_mid2 {α : Type} (a : List α) (x y z : α) (b : List α) :
    (a ++ x :: y :: z :: b)[a.length + 2]? = some z := by
  simp

theorem prefix_getElem? (w path : Str) (h : w <+: path) (k : Nat) (hk : k < w.length) :
    path[k]? = w[k]? := by
  obtain ⟨t, rfl⟩ := h
  exact List.getElem?_append_left hk

theorem map_prefix_of_injective {α β : Type} (f : α → β) (hf : ∀ a b, f a = f b → a = b)
    {l₁ l₂ : List α} : l₁.map f <+: l₂.map f ↔ l₁ <+: l₂ := by
  constructor
  · induction l₁ generalizing l₂ with
    | nil => intro _; exact List.nil_prefix
    | cons a as ih =>
      intro h
      cases l₂ with
      | nil => simp at h
      | cons b bs =>
        simp only [List.map_cons, List.cons_prefix_cons] at h ⊢
        exact ⟨hf _ _ h.1, ih h.2⟩
  · exact fun h => h.map f

theorem prefix_sep {sep : Char} {a b X Y : Str} (ha : sep ∉ a) (hb : sep ∉ b) :
    a ++ sep :: X <+: b ++ sep :: Y ↔ a = b ∧ X <+: Y := by
  induction a generalizing b with
  | nil =>
    cases b with
    | nil => simp [List.cons_prefix_cons]
    | cons c cs =>
      simp only [List.nil_append, List.cons_append, List.cons_prefix_cons]
      constructor
      · rintro ⟨e, _⟩; subst e; simp at hb
      · rintro ⟨e, _⟩; simp at e
  | cons c cs ih =>
    simp only [List.mem_cons, not_or] at ha
    cases b with
    | nil =>
      simp only [List.nil_append, List.cons_append, List.cons_prefix_cons]
      constructor
      · rintro ⟨e, _⟩; exact absurd e.symm ha.1
      · rintro ⟨e, _⟩; simp at e
    | cons d ds =>
      simp only [List.mem_cons, not_or] at hb
      simp only [List.cons_append, List.cons_prefix_cons, ih ha.2 hb.2, List.cons.injEq]
      constructor
      · rintro ⟨rfl, rfl, h⟩; exact ⟨⟨rfl, rfl⟩, h⟩
      · rintro ⟨⟨rfl, rfl⟩, h⟩; exact ⟨rfl, rfl, h⟩

theorem replicate_snoc_prefix {α : Type} (x : α) (m n : Nat) (rest : List α) (h : m ≤ n) :
    List.replicate m x ++ [x] <+: List.replicate n x ++ x :: rest := by
  obtain ⟨j, rfl⟩ := Nat.exists_eq_add_of_le h
  rw [← List.replicate_append_replicate, List.append_assoc]
  apply (List.prefix_append_right_inj _).2
  cases j with
  | zero => simp
  | succ j => simp [List.replicate_succ]

theorem join_cons_cons (sep p q : Str) (rest : List Str) :
    join sep (p :: q :: rest) = p ++ sep ++ join sep (q :: rest) := rfl

theorem join_cons_of_ne_nil (sep p : Str) (ps : List Str) (h : ps ≠ []) :
    join sep (p :: ps) = p ++ sep ++ join sep ps := by
  cases ps with
  | nil => contradiction
  | cons q qs => rfl

theorem join_append (sep : Str) (A B : List Str) (hA : A ≠ []) (hB : B ≠ []) :
    join sep (A ++ B) = join sep A ++ sep ++ join sep B := by
  induction A with
  | nil => contradiction
  | cons a as ih =>
    cases as with
    | nil => simp [join_cons_of_ne_nil _ _ _ hB, join]
    | cons a2 as2 =>
      have h1 : (a2 :: as2) ++ B ≠ [] := by simp
      rw [List.cons_append, join_cons_of_ne_nil _ _ _ h1, ih (by simp),
        join_cons_of_ne_nil _ _ _ (by simp : a2 :: as2 ≠ [])]
      simp [List.append_assoc]

theorem join_concat (sep : Str) (init : List Str) (x : Str) :
    join sep (init ++ [x]) = (if init = [] then [] else join sep init ++ sep) ++ x := by
  by_cases h : init = []
  · subst h; simp [join]
  · rw [if_neg h, join_append sep init [x] h (by simp)]; rfl

theorem join_eq_flatMap (sep : Str) (xs : List Str) (l : Str) :
    join sep (xs ++ [l]) = xs.flatMap (· ++ sep) ++ l := by
  induction xs with
  | nil => simp [join]
  | cons a r ih =>
    rw [List.cons_append, join_cons_of_ne_nil _ _ _ (by simp), ih]
    simp

theorem head?_join (sep x : Str) (rest : List Str) :
    (join sep (x :: rest)).head? = x.head?.or (if rest = [] then none else (sep ++ join sep rest).head?) := by
  by_cases h : rest = []
  · subst h; simp [join]
  · rw [if_neg h, join_cons_of_ne_nil _ _ _ h, List.append_assoc, List.head?_append]

theorem getLast?_join (sep : Str) (init : List Str) (x : Str) :
    (join sep (init ++ [x])).getLast? =
      x.getLast?.or (if init = [] then none else (join sep init ++ sep).getLast?) := by
  rw [join_concat, List.getLast?_append]
  by_cases h : init = [] <;> simp [h]

theorem join_append_head (sep a b : Str) (r : List Str) :
    join sep ((a ++ b) :: r) = a ++ join sep (b :: r) := by
  cases r with
  | nil => simp [join]
  | cons x r => simp [join]

theorem lower_join (sep : Str) (ls : List Str) : lower (join sep ls) = join (lower sep) (ls.map lower) := by
  induction ls with
  | nil => rfl
  | cons l rest ih =>
    cases rest with
    | nil => simp [join]
    | cons l2 rest2 => rw [join_cons_cons, lower_append, lower_append, ih]; rfl

theorem mem_join_infix (sep : Str) (parts : List Str) (x : Str) (hx : x ∈ parts) :
    x <:+: join sep parts := by
  induction parts with
  | nil => simp at hx
  | cons p ps ih =>
    cases ps with
    | nil =>
      have : x = p := by simpa using hx
      rw [this]
      exact List.infix_refl _
    | cons q qs =>
      rw [join_cons_cons]
      rcases List.mem_cons.mp hx with h | h
      · rw [h, List.append_assoc]
        exact (List.prefix_append _ _).isInfix
      · exact (ih h).trans (List.suffix_append _ _).isInfix

theorem mem_join_of_mem (sep : Str) {ps : List Str} {p : Str} (hp : p ∈ ps) {c : Char}
    (hc : c ∈ p) : c ∈ join sep ps := (mem_join_infix sep ps p hp).subset hc

theorem join_ne_nil (sep : Str) {ps : List Str} {p : Str} (hp : p ∈ ps) (hne : p ≠ []) : join sep ps ≠ [] := by
  obtain ⟨c, r, rfl⟩ := List.exists_cons_of_ne_nil hne
  exact List.ne_nil_of_mem (mem_join_of_mem sep hp List.mem_cons_self)

theorem mem_join (sep : Str) (L : List Str) {x : Char} (h : x ∈ join sep L) :
    x ∈ sep ∨ ∃ p ∈ L, x ∈ p := by
  induction L with
  | nil => simp [join] at h
  | cons a rest ih =>
    cases rest with
    | nil => simp only [join] at h; exact Or.inr ⟨a, by simp, h⟩
    | cons b r =>
      simp only [join, List.mem_append] at h
      rcases h with (h | h) | h
      · exact Or.inr ⟨a, by simp, h⟩
      · exact Or.inl h
      · rcases ih h with h' | ⟨p, hp, hx⟩
        · exact Or.inl h'
        · exact Or.inr ⟨p, List.mem_cons_of_mem _ hp, hx⟩

theorem splitOn_go_acc (s : Str) (sep : Char) (acc : Str) :
    splitOn.go sep s acc =
      match splitOn.go sep s [] with
      | [] => [acc.reverse]
      | p :: ps => (acc.reverse ++ p) :: ps := by
  induction s generalizing acc with
  | nil => simp [splitOn.go]
  | cons c cs ih =>
    simp only [splitOn.go]
    by_cases h : c = sep
    · simp [h]
    · simp only [h, if_false]
      rw [ih (c :: acc), ih [c]]
      cases splitOn.go sep cs [] <;> simp

theorem splitOn_go_ne_nil (sep : Char) (s acc : Str) : splitOn.go sep s acc ≠ [] := by
  induction s generalizing acc with
  | nil => simp [splitOn.go]
  | cons c cs ih => simp only [splitOn.go]; split <;> simp [ih]

theorem splitOn_go_of_not_mem (sep : Char) (s acc : Str) (h : sep ∉ s) :
    splitOn.go sep s acc = [acc.reverse ++ s] := by
  induction s generalizing acc with
  | nil => simp [splitOn.go]
  | cons c s ih =>
    have hc : c ≠ sep := fun e => h (by simp [e])
    have hs : sep ∉ s := fun e => h (by simp [e])
    simp [splitOn.go, hc, ih _ hs]

theorem splitOn_go_append (sep : Char) (a b acc : Str) :
    splitOn.go sep (a ++ sep :: b) acc = splitOn.go sep a acc ++ splitOn.go sep b [] := by
  induction a generalizing acc with
  | nil => simp [splitOn.go]
  | cons c a ih => by_cases hc : c = sep <;> simp [splitOn.go, hc, ih]

theorem not_mem_of_mem_splitOn_go (sep : Char) (s acc : Str) (hacc : sep ∉ acc) :
    ∀ p ∈ splitOn.go sep s acc, sep ∉ p := by
  induction s generalizing acc with
  | nil => simp [splitOn.go, hacc]
  | cons c s ih =>
    by_cases hc : c = sep
    · simp only [splitOn.go, hc, if_true]
      intro p hp
      rcases List.mem_cons.mp hp with h | h
      · rw [h]; simpa using hacc
      · exact ih [] (by simp) p h
    · simp only [splitOn.go, hc, if_false]
      exact ih (c :: acc) (by simp [hacc, Ne.symm hc])

theorem join_splitOn_go (sep : Char) (s acc : Str) :
    join [sep] (splitOn.go sep s acc) = acc.reverse ++ s := by
  induction s generalizing acc with
  | nil => simp [splitOn.go, join]
  | cons c cs ih =>
    simp only [splitOn.go]
    split
    · rename_i h; subst h
      rw [join_cons_of_ne_nil _ _ _ (splitOn_go_ne_nil c cs []), ih]; simp
    · rw [ih]; simp

theorem splitOn_nil (sep : Char) : splitOn [] sep = [[]] := by simp [splitOn, splitOn.go]

theorem splitOn_cons_sep (sep : Char) (cs : Str) : splitOn (sep :: cs) sep = [] :: splitOn cs sep := by
  simp [splitOn, splitOn.go]

theorem splitOn_cons_ne (sep c : Char) (cs : Str) (h : c ≠ sep) :
    splitOn (c :: cs) sep =
      match splitOn cs sep with
      | [] => [[c]]
      | p :: ps => (c :: p) :: ps := by
  simp only [splitOn, splitOn.go, h, if_false]
  rw [splitOn_go_acc]
  cases splitOn.go sep cs [] <;> simp

theorem splitOn_ne_nil (s : Str) (sep : Char) : splitOn s sep ≠ [] := splitOn_go_ne_nil sep s []

theorem splitOn_of_not_mem (sep : Char) (a : Str) (ha : sep ∉ a) : splitOn a sep = [a] := by
  simp [splitOn, splitOn_go_of_not_mem sep a [] ha]

/-- `(a + sep + b).split(sep) == a.split(sep) + b.split(sep)` -/
theorem splitOn_append (a b : Str) (sep : Char) :
    splitOn (a ++ sep :: b) sep = splitOn a sep ++ splitOn b sep := by
  simp [splitOn, splitOn_go_append]

/-- a piece without separator followed by the separator splits off -/
theorem splitOn_append_sep (sep : Char) (a b : Str) (ha : sep ∉ a) :
    splitOn (a ++ sep :: b) sep = a :: splitOn b sep := by
  rw [splitOn_append, splitOn_of_not_mem sep a ha]; rfl

theorem splitOn_append_left (sep : Char) (a b : Str) (ha : sep ∉ a) :
    splitOn (a ++ b) sep =
      match splitOn b sep with
      | [] => [a]
      | z1 :: zs => (a ++ z1) :: zs := by
  induction a with
  | nil =>
    cases h : splitOn b sep with
    | nil => exact absurd h (splitOn_ne_nil b sep)
    | cons z1 zs => simp [h]
  | cons c cs ih =>
    have hc : c ≠ sep := fun e => ha (by simp [e])
    have hcs : sep ∉ cs := fun e => ha (by simp [e])
    rw [List.cons_append, splitOn_cons_ne _ _ _ hc, ih hcs]
    cases h : splitOn b sep with
    | nil => exact absurd h (splitOn_ne_nil b sep)
    | cons z1 zs => simp

/-- `sep.join(parts).split(sep) == parts` when no part contains the separator -/
theorem splitOn_join (sep : Char) (parts : List Str) (hne : parts ≠ [])
    (h : ∀ p ∈ parts, sep ∉ p) : splitOn (join [sep] parts) sep = parts := by
  induction parts with
  | nil => exact absurd rfl hne
  | cons p ps ih =>
    cases ps with
    | nil => exact splitOn_of_not_mem sep p (h p (by simp))
    | cons q qs =>
      rw [join_cons_cons, List.append_assoc, List.singleton_append,
        splitOn_append_sep sep p _ (h p (by simp)), ih (by simp) (fun x hx => h x (by simp [hx]))]

/-- `sep.join(s.split(sep)) == s` -/
theorem join_splitOn (sep : Char) (s : Str) : join [sep] (splitOn s sep) = s := by
  simp [splitOn, join_splitOn_go]

theorem mem_splitOn_infix (s : Str) (sep : Char) (x : Str) (hx : x ∈ splitOn s sep) : x <:+: s := by
  have := mem_join_infix [sep] _ x hx
  rwa [join_splitOn] at this

theorem mem_of_mem_splitOn {s p : Str} {sep : Char} (hp : p ∈ splitOn s sep) {c : Char}
    (hc : c ∈ p) : c ∈ s := (mem_splitOn_infix s sep p hp).subset hc

/-- no piece of a split contains the separator -/
theorem not_mem_of_mem_splitOn (sep : Char) (s : Str) : ∀ p ∈ splitOn s sep, sep ∉ p :=
  not_mem_of_mem_splitOn_go sep s [] (by simp)

theorem map_join_of_append_sep {g : Str → Str} {c : Char}
    (hg : ∀ a b, g (a ++ c :: b) = g a ++ c :: g b) (parts : List Str) (hne : parts ≠ []) :
    g (join [c] parts) = join [c] (parts.map g) := by
  induction parts with
  | nil => exact absurd rfl hne
  | cons p ps ih =>
    cases ps with
    | nil => rfl
    | cons q qs =>
      rw [join_cons_cons, List.append_assoc, List.singleton_append, hg, ih (by simp)]
      simp [join]

theorem splitOn_map_of_append_sep {g : Str → Str} {c : Char}
    (hg : ∀ a b, g (a ++ c :: b) = g a ++ c :: g b) (hnot : ∀ s, c ∉ s → c ∉ g s) (s : Str) :
    splitOn (g s) c = (splitOn s c).map g := by
  have hne := splitOn_ne_nil s c
  conv => lhs; rw [← join_splitOn c s]
  rw [map_join_of_append_sep hg _ hne]
  apply splitOn_join
  · simpa using hne
  · intro p hp
    obtain ⟨p0, hp0, rfl⟩ := List.mem_map.1 hp
    exact hnot p0 (not_mem_of_mem_splitOn c s p0 hp0)

theorem splitOn_lower {c : Char} (hc : ∀ d, lowerChar d = c ↔ d = c) (s : Str) :
    splitOn (lower s) c = (splitOn s c).map lower :=
  splitOn_map_of_append_sep (g := lower)
    (fun a b => by rw [lower_append, lower_cons, (hc c).2 rfl])
    (fun s h hm => by obtain ⟨d, hd, e⟩ := List.mem_map.1 hm; exact h ((hc d).1 e ▸ hd)) s

/-! ## `strip`: the stripped core between blank margins

`str.strip()` and `str.strip(chars)` are one function, `stripBy p`, at the predicates `isSpace` and `(chars.contains ·)`
(by `rfl`).  `stripBy p s` is the one list `m` whose two ends are outside `p` with `s = a ++ m ++ b`, `a` and `b` in `p`;
the facts about `strip`, `rstrip`, `stripChars`, `rstripChars` are instances. -/

theorem dropWhile_split {α : Type} (p : α → Bool) (l : List α) :
    ∃ a, l = a ++ l.dropWhile p ∧ ∀ c ∈ a, p c = true :=
  ⟨l.takeWhile p, List.takeWhile_append_dropWhile.symm, fun c hc => mem_takeWhile_pos p l c hc⟩

theorem mem_dropWhile_of {α : Type} (p : α → Bool) {x : α} {a b : List α}
    (h : ∃ d ∈ a, p d = false) : x ∈ (a ++ x :: b).dropWhile p := by
  obtain ⟨d, hd, hp⟩ := h
  have hne : a.dropWhile p ≠ [] := fun e => by
    obtain ⟨a', ha, hall⟩ := dropWhile_split p a
    rw [e, List.append_nil] at ha
    rw [hall d (ha ▸ hd)] at hp; cases hp
  rw [List.dropWhile_append, if_neg (by simpa using hne)]
  simp

theorem getLast?_append_of_ne_nil {α : Type} {a b : List α} (hb : b ≠ []) :
    (a ++ b).getLast? = b.getLast? := by
  rw [List.getLast?_append]
  cases hl : b.getLast? with
  | none => exact absurd (List.getLast?_eq_none_iff.1 hl) hb
  | some c => rfl

section stripBy
variable {α : Type} (p : α → Bool)

def rstripBy (s : List α) : List α := (s.reverse.dropWhile p).reverse

def stripBy (s : List α) : List α := rstripBy p (s.dropWhile p)

theorem rstripBy_decomp (s : List α) : ∃ b, s = rstripBy p s ++ b ∧ ∀ c ∈ b, p c = true := by
  obtain ⟨a, ha, hws⟩ := dropWhile_split p s.reverse
  refine ⟨a.reverse, ?_, fun c hc => hws c (List.mem_reverse.mp hc)⟩
  have := congrArg List.reverse ha
  simpa [rstripBy] using this

theorem rstripBy_last (s : List α) : ∀ c, (rstripBy p s).getLast? = some c → p c = false := by
  intro c hc
  unfold rstripBy at hc
  rw [List.getLast?_reverse] at hc
  have := List.head?_dropWhile_not p s.reverse
  rw [hc] at this
  simpa using this

theorem stripBy_decomp (s : List α) :
    ∃ a b, s = a ++ stripBy p s ++ b ∧ (∀ c ∈ a, p c = true) ∧ ∀ c ∈ b, p c = true := by
  obtain ⟨a, ha, haw⟩ := dropWhile_split p s
  obtain ⟨b, hb, hbw⟩ := rstripBy_decomp p (s.dropWhile p)
  exact ⟨a, b, by rw [List.append_assoc]; exact ha.trans (congrArg (a ++ ·) hb), haw, hbw⟩

theorem stripBy_ends (s : List α) : (∀ c, (stripBy p s).head? = some c → p c = false) ∧
    ∀ c, (stripBy p s).getLast? = some c → p c = false := by
  refine ⟨fun c hc => ?_, rstripBy_last p _⟩
  obtain ⟨b, hb, _⟩ := rstripBy_decomp p (s.dropWhile p)
  have := List.head?_dropWhile_not p s
  cases hr : stripBy p s with
  | nil => rw [hr] at hc; cases hc
  | cons d r =>
    rw [hr] at hc
    unfold stripBy at hr
    rw [show s.dropWhile p = d :: r ++ b from hr ▸ hb] at this
    simpa [← Option.some.inj hc] using this

theorem rstripBy_unique {m b : List α} (hb : ∀ c ∈ b, p c = true)
    (hl : ∀ c, m.getLast? = some c → p c = false) : rstripBy p (m ++ b) = m := by
  unfold rstripBy
  rw [List.reverse_append, List.dropWhile_append_of_pos fun c hc => hb c (List.mem_reverse.mp hc)]
  cases hr : m.reverse with
  | nil => rw [List.reverse_eq_nil_iff.mp hr]; rfl
  | cons c r =>
    have : m.getLast? = some c := by rw [← List.head?_reverse, hr]; rfl
    rw [List.dropWhile_cons_of_neg (by simp [hl c this]), ← hr, List.reverse_reverse]

theorem rstripBy_append {A x : List α} (hl : ∀ c, A.getLast? = some c → p c = false) :
    rstripBy p (A ++ x) = A ++ rstripBy p x := by
  obtain ⟨b, hb, hbw⟩ := rstripBy_decomp p x
  conv => lhs; rw [hb, ← List.append_assoc]
  refine rstripBy_unique p hbw fun c hc => ?_
  rw [List.getLast?_append] at hc
  cases hz : (rstripBy p x).getLast? with
  | none => rw [hz] at hc; exact hl c (by simpa using hc)
  | some d => rw [hz] at hc; exact (by simpa using hc : d = c) ▸ rstripBy_last p x d hz

theorem rstripBy_append_of_ne {a b : List α} (h : rstripBy p b ≠ []) : rstripBy p (a ++ b) = a ++ rstripBy p b := by
  obtain ⟨t, ht, htp⟩ := rstripBy_decomp p b
  conv => lhs; rw [ht, ← List.append_assoc]
  refine rstripBy_unique p htp fun c hc => ?_
  rw [getLast?_append_of_ne_nil h] at hc
  exact rstripBy_last p b c hc

theorem stripBy_unique {a m b : List α} (ha : ∀ c ∈ a, p c = true) (hb : ∀ c ∈ b, p c = true)
    (hh : ∀ c, m.head? = some c → p c = false)
    (hl : ∀ c, m.getLast? = some c → p c = false) : stripBy p (a ++ m ++ b) = m := by
  unfold stripBy
  rw [List.append_assoc, List.dropWhile_append_of_pos ha]
  cases m with
  | nil => rw [List.nil_append, dropWhile_of_all hb]; rfl
  | cons c m' =>
    rw [List.cons_append, List.dropWhile_cons_of_neg (by simp [hh c rfl])]
    exact rstripBy_unique p hb hl

theorem rstripBy_prefix (s : List α) : rstripBy p s <+: s :=
  let ⟨b, e, _⟩ := rstripBy_decomp p s
  ⟨b, e.symm⟩

theorem stripBy_append {P Z : List α} (hh : ∀ c, P.head? = some c → p c = false)
    (hl : ∀ c, P.getLast? = some c → p c = false) (hne : P ≠ []) : stripBy p (P ++ Z) = P ++ rstripBy p Z := by
  obtain ⟨c, r, rfl⟩ := List.exists_cons_of_ne_nil hne
  unfold stripBy
  rw [List.cons_append, List.dropWhile_cons_of_neg (by simp [hh c rfl])]
  exact rstripBy_append p hl

theorem stripBy_infix (s : List α) : stripBy p s <:+: s :=
  let ⟨a, b, e, _⟩ := stripBy_decomp p s
  ⟨a, b, e.symm⟩

theorem mem_stripBy {s : List α} {c : α} (hc : c ∈ s) (hp : p c = false) : c ∈ stripBy p s := by
  obtain ⟨a, b, e, ha, hb⟩ := stripBy_decomp p s
  rw [e] at hc
  simp only [List.mem_append] at hc
  rcases hc with (h | h) | h
  · rw [ha c h] at hp; cases hp
  · exact h
  · rw [hb c h] at hp; cases hp

end stripBy

theorem strip_eq_stripBy (s : Str) : strip s = stripBy isSpace s := rfl
theorem rstripChars_eq_rstripBy (s : Str) (cs : List Char) : rstripChars s cs = rstripBy (cs.contains ·) s := rfl

theorem rstripChars_decomp (s : Str) (cs : List Char) : ∃ b, s = rstripChars s cs ++ b ∧ ∀ c ∈ b, c ∈ cs :=
  (rstripBy_decomp (cs.contains ·) s).imp fun _ h => ⟨h.1, fun c hc => by simpa using h.2 c hc⟩

theorem rstripChars_unique {m b : Str} {cs : List Char} (hb : ∀ c ∈ b, c ∈ cs)
    (hl : ∀ c, m.getLast? = some c → c ∉ cs) : rstripChars (m ++ b) cs = m :=
  rstripBy_unique (cs.contains ·) (fun c hc => by simpa using hb c hc) fun c hc => by simpa using hl c hc

theorem rstripChars_isPrefix (s : Str) (cs : List Char) : rstripChars s cs <+: s := rstripBy_prefix _ s

/-- `x = x.rstrip() + (trailing whitespace)` -/
theorem rstrip_prefix (x : Str) : ∃ b, x = rstrip x ++ b ∧ ∀ c ∈ b, isSpace c = true := rstripBy_decomp isSpace x

theorem mem_of_mem_rstrip {c : Char} {s : Str} (h : c ∈ rstrip s) : c ∈ s := (rstripBy_prefix isSpace s).subset h

theorem strip_subset (s : Str) : strip s ⊆ s := (stripBy_infix isSpace s).subset

theorem rstrip_append {A : Str} (x : Str) (hl : ∀ c, A.getLast? = some c → isSpace c = false) :
    rstrip (A ++ x) = A ++ rstrip x := rstripBy_append isSpace hl

theorem strip_decomp (s : Str) :
    ∃ a b, s = a ++ strip s ++ b ∧ (∀ c ∈ a, isSpace c = true) ∧ ∀ c ∈ b, isSpace c = true :=
  stripBy_decomp isSpace s

theorem rstrip_last (z : Str) : ∀ c, (rstrip z).getLast? = some c → isSpace c = false := rstripBy_last isSpace z

theorem strip_ends (s : Str) : (∀ c, (strip s).head? = some c → isSpace c = false) ∧
    ∀ c, (strip s).getLast? = some c → isSpace c = false := stripBy_ends isSpace s

theorem rstrip_unique {m b : Str} (hb : ∀ c ∈ b, isSpace c = true)
    (hl : ∀ c, m.getLast? = some c → isSpace c = false) : rstrip (m ++ b) = m := rstripBy_unique isSpace hb hl

theorem strip_unique {a m b : Str} (ha : ∀ c ∈ a, isSpace c = true) (hb : ∀ c ∈ b, isSpace c = true)
    (hh : ∀ c, m.head? = some c → isSpace c = false)
    (hl : ∀ c, m.getLast? = some c → isSpace c = false) : strip (a ++ m ++ b) = m :=
  stripBy_unique isSpace ha hb hh hl

/-- `s.strip() == s` when `s` neither starts nor ends with white space -/
theorem strip_of_ends {s : Str} (hh : ∀ c, s.head? = some c → isSpace c = false)
    (hl : ∀ c, s.getLast? = some c → isSpace c = false) : strip s = s := by
  simpa using strip_unique (a := []) (b := []) (by simp) (by simp) hh hl

/-- `s.strip().strip() == s.strip()` -/
theorem strip_strip (s : Str) : strip (strip s) = strip s :=
  strip_of_ends (strip_ends s).1 (strip_ends s).2

/-- the answer of `strip` ignores surrounding whitespace -/
theorem strip_wrap {l r : Str} (s : Str) (hl : ∀ c ∈ l, isSpace c = true)
    (hr : ∀ c ∈ r, isSpace c = true) : strip (l ++ s ++ r) = strip s := by
  obtain ⟨a, b, e, ha, hb⟩ := strip_decomp s
  have : l ++ s ++ r = (l ++ a) ++ strip s ++ (b ++ r) := by
    conv => lhs; rw [e]
    simp
  rw [this]
  exact strip_unique (List.forall_mem_append.mpr ⟨hl, ha⟩) (List.forall_mem_append.mpr ⟨hb, hr⟩)
    (strip_ends s).1 (strip_ends s).2

/-- a string without any whitespace is its own `strip` -/
theorem strip_eq_self {s : Str} (h : ∀ c ∈ s, isSpace c = false) : strip s = s :=
  strip_of_ends (fun c hc => h c (List.mem_of_mem_head? hc)) fun c hc => h c (List.mem_of_mem_getLast? hc)

theorem isSpace_lowerChar (c : Char) : isSpace (lowerChar c) = isSpace c := by
  unfold isSpace
  rw [lowerChar_toNat]
  split
  · rename_i h
    -- a capital (65–90) and its image (97–122) both lie in 65–122, where there is no white-space code
    have hs : ∀ n ∈ spaceCodes, ¬ (65 ≤ n ∧ n ≤ 122) := by decide
    have : ∀ n : Nat, 65 ≤ n ∧ n ≤ 122 → spaceCodes.contains n = false :=
      fun n hn => Bool.eq_false_iff.2 fun hc => hs n (List.contains_iff_mem.1 hc) hn
    rw [this _ (by omega), this _ (by omega)]
  · rfl

theorem lower_upper (s : Str) : lower (upper s) = lower s := by
  simp [lower, upper, List.map_map, Function.comp_def, lowerChar_upperChar]

theorem upperChar_lowerChar (x : Char) : upperChar (lowerChar x) = upperChar x := by
  apply Char.toNat_inj.1
  have h := lowerChar_toNat x
  rw [upperChar_toNat, upperChar_toNat]
  split at h <;> split <;> split <;> omega

theorem upper_lower (s : Str) : upper (lower s) = upper s := by
  simp [upper, lower, List.map_map, Function.comp_def, upperChar_lowerChar]

theorem isSpace_comp_lowerChar : (isSpace ∘ lowerChar) = isSpace := by
  funext c; exact isSpace_lowerChar c

theorem lstrip_lower (s : Str) : lstrip (lower s) = lower (lstrip s) := by
  simp only [lstrip, lower, List.dropWhile_map, isSpace_comp_lowerChar]

theorem rstrip_lower (s : Str) : rstrip (lower s) = lower (rstrip s) := by
  simp only [rstrip, lower, ← List.map_reverse, List.dropWhile_map, isSpace_comp_lowerChar]

/-- `s.lower().strip() == s.strip().lower()` (ASCII case mapping never creates or removes
white space) -/
theorem strip_lower (s : Str) : strip (lower s) = lower (strip s) := by
  simp only [strip, lstrip_lower, rstrip_lower]

/-- `s.strip()` is a substring of `s` -/
theorem strip_substring (s : Str) : ∃ a b, s = a ++ strip s ++ b := by
  obtain ⟨a, b, e, _⟩ := strip_decomp s
  exact ⟨a, b, e⟩

theorem strip_nil : strip ([] : Str) = [] := rfl

/-! ## `startswith`, `endswith` -/

theorem startsWith_iff_prefix {s p : Str} : startsWith s p = true ↔ p <+: s := List.isPrefixOf_iff_prefix

theorem isPrefixOf_lower (L : Str) (hL : ∀ c ∈ L, ∀ d, lowerChar d = c ↔ d = c) (s : Str) :
    L.isPrefixOf (lower s) = L.isPrefixOf s := by
  induction L generalizing s with
  | nil => simp
  | cons c cs ih =>
    cases s with
    | nil => rfl
    | cons a r =>
      rw [lower_cons, List.isPrefixOf_cons_cons, List.isPrefixOf_cons_cons,
        ih (fun x hx => hL x (List.mem_cons_of_mem _ hx))]
      congr 1
      rw [Bool.eq_iff_iff, beq_iff_eq, beq_iff_eq, eq_comm, hL c (by simp) a, eq_comm]

theorem startsWith_one_lower (c : Char) (hc : ∀ d, lowerChar d = c ↔ d = c) (s : Str) :
    startsWith (lower s) [c] = startsWith s [c] :=
  isPrefixOf_lower [c] (by simpa using hc) s

theorem lower_eq_lit_iff (L : Str) (hL : ∀ c ∈ L, ∀ d, lowerChar d = c ↔ d = c) (f : Str) :
    lower f = L ↔ f = L := by
  induction L generalizing f with
  | nil => cases f <;> simp [lower]
  | cons c cs ih =>
    cases f with
    | nil => simp [lower]
    | cons a r =>
      rw [lower_cons]
      simp only [List.cons.injEq]
      rw [hL c (by simp) a, ih (fun x hx => hL x (List.mem_cons_of_mem _ hx)) r]

theorem startsWith_subset {s p : Str} (h : startsWith s p = true) : p ⊆ s := (startsWith_iff_prefix.1 h).subset

theorem startsWith_false {s p : Str} {c : Char} (hp : c ∈ p) (hs : c ∉ s) : startsWith s p = false :=
  Bool.eq_false_iff.2 fun h => hs (startsWith_subset h hp)

/-- `w ++ [sep]` is a prefix of `seg ++ sep :: t` (no `sep` in `seg`, `w`) iff `seg = w` -/
theorem isPrefixOf_sep_append_sep : ∀ (w seg t : Str) (sep : Char), sep ∉ w → sep ∉ seg →
    (w ++ [sep]).isPrefixOf (seg ++ sep :: t) = decide (seg = w)
  | [], [], t, sep, _, _ => by simp [List.isPrefixOf]
  | [], c :: r, t, sep, _, h => by
    have : c ≠ sep := fun e => h (by simp [e])
    simp [List.isPrefixOf, Ne.symm this]
  | a :: p, [], t, sep, hp, _ => by
    have : a ≠ sep := fun e => hp (by simp [e])
    simp [List.isPrefixOf, this]
  | a :: p, c :: r, t, sep, hp, h => by
    have ih := isPrefixOf_sep_append_sep p r t sep (fun e => hp (by simp [e])) (fun e => h (by simp [e]))
    simp only [List.cons_append, List.isPrefixOf, ih]
    by_cases e : a = c
    · simp [e]
    · simp [e, Ne.symm e]

/-- a pattern without `sep` is a prefix of `seg ++ sep :: t` iff it is a prefix of `seg` -/
theorem isPrefixOf_append_sep (w seg t : Str) (sep : Char) (hw : sep ∉ w) :
    w.isPrefixOf (seg ++ sep :: t) = w.isPrefixOf seg := by
  induction w generalizing seg with
  | nil => simp [List.isPrefixOf]
  | cons x xs ih =>
    have hx : x ≠ sep := fun e => hw (by simp [e])
    have hxs : sep ∉ xs := fun e => hw (by simp [e])
    cases seg with
    | nil =>
      have : (x == sep) = false := by simpa using hx
      simp [List.isPrefixOf, this]
    | cons y ys => simp [List.isPrefixOf, ih ys hxs]

/-- `w ++ [sep]` is not a prefix of a string without `sep` -/
theorem isPrefixOf_sep_not_mem (w seg : Str) (sep : Char) (hs : sep ∉ seg) :
    (w ++ [sep]).isPrefixOf seg = false := by
  cases h : (w ++ [sep]).isPrefixOf seg with
  | false => rfl
  | true =>
    obtain ⟨t, ht⟩ := List.isPrefixOf_iff_prefix.mp h
    exact absurd (by rw [← ht]; simp) hs

theorem endsWith_iff_suffix (s d : Str) : endsWith s d = true ↔ d <:+ s := by
  unfold endsWith
  rw [List.isPrefixOf_iff_prefix, List.reverse_prefix]

/-! ## `find` -/

theorem find_go_spec (p : Str) : ∀ (fuel : Nat) (s : Str) (k i : Nat),
    find.go p s k fuel = some i → ∃ j, i = k + j ∧ p.isPrefixOf (s.drop j) = true := by
  intro fuel
  induction fuel with
  | zero => intro s k i h; simp [find.go] at h
  | succ f ih =>
    intro s k i h
    unfold find.go at h
    by_cases hp : p.isPrefixOf s = true
    · rw [if_pos hp] at h
      cases h
      exact ⟨0, rfl, by simpa using hp⟩
    · rw [if_neg hp] at h
      cases s with
      | nil => cases h
      | cons c cs =>
        obtain ⟨j, hj, hpre⟩ := ih cs (k + 1) i h
        exact ⟨j + 1, by omega, by simpa using hpre⟩

theorem find_spec {s p : Str} {i : Nat} (h : find s p = some i) : p.isPrefixOf (s.drop i) = true := by
  unfold find at h
  obtain ⟨j, hj, hpre⟩ := find_go_spec p _ s 0 i h
  have : i = j := by omega
  rw [this]; exact hpre

theorem find_of_prefix (s p : Str) (h : p.isPrefixOf s = true) : find s p = some 0 := by
  unfold find find.go
  simp [h]

theorem find_go_congr (p : Str) (f : Str → Str) (hlen : ∀ c cs, ∃ d, f (c :: cs) = d :: f cs)
    (hnil : f [] = []) (hp : ∀ s, p.isPrefixOf (f s) = p.isPrefixOf s) :
    ∀ (fuel : Nat) (s : Str) (k : Nat), find.go p (f s) k fuel = find.go p s k fuel := by
  intro fuel
  induction fuel with
  | zero => intro s k; simp [find.go]
  | succ n ih =>
    intro s k
    unfold find.go
    rw [hp s]
    by_cases hh : p.isPrefixOf s = true
    · simp [hh]
    · simp only [hh, if_false]
      cases s with
      | nil => rw [hnil]
      | cons c cs =>
        obtain ⟨d, hd⟩ := hlen c cs
        rw [hd]
        exact ih cs (k + 1)

/-! ## `p in s` -/

/-- `p in s`, by structural recursion (the model's `contains` goes through `find`, which
counts fuel) -/
def hasInfix : Str → Str → Bool
  | [], p => p.isPrefixOf []
  | c :: cs, p => p.isPrefixOf (c :: cs) || hasInfix cs p

theorem find_go_isSome (p : Str) : ∀ (s : Str) (i fuel : Nat), s.length + 1 ≤ fuel →
    (find.go p s i fuel).isSome = hasInfix s p := by
  intro s
  induction s with
  | nil =>
    intro i fuel h
    cases fuel with
    | zero => omega
    | succ f =>
      unfold find.go
      by_cases hp : p.isPrefixOf [] = true
      · simp [hp, hasInfix]
      · simp [hp, hasInfix]
  | cons c cs ih =>
    intro i fuel h
    cases fuel with
    | zero => omega
    | succ f =>
      unfold find.go
      by_cases hp : p.isPrefixOf (c :: cs) = true
      · simp [hp, hasInfix]
      · have hf : cs.length + 1 ≤ f := by simp at h; omega
        simp [hp, hasInfix, ih (i + 1) f hf]

theorem contains_eq_hasInfix (s p : Str) : contains s p = hasInfix s p := by
  unfold contains find
  exact find_go_isSome p s 0 _ (Nat.le_refl _)

theorem hasInfix_nil (p : Str) : hasInfix [] p = p.isPrefixOf [] := rfl

theorem hasInfix_cons (c : Char) (cs p : Str) :
    hasInfix (c :: cs) p = (p.isPrefixOf (c :: cs) || hasInfix cs p) := rfl

/-- a character different from the first one of the pattern is skipped -/
theorem hasInfix_cons_ne (c d : Char) (cs w : Str) (h : c ≠ d) :
    hasInfix (c :: cs) (d :: w) = hasInfix cs (d :: w) := by
  have : (d == c) = false := by simp; exact fun e => h e.symm
  simp [hasInfix, List.isPrefixOf, this]

/-- at a character equal to the first one of the pattern -/
theorem hasInfix_cons_eq (d : Char) (cs w : Str) :
    hasInfix (d :: cs) (d :: w) = (w.isPrefixOf cs || hasInfix cs (d :: w)) := by
  simp [hasInfix, List.isPrefixOf]

theorem contains_mem {s p : Str} (h : contains s p = true) : p ⊆ s := by
  rw [contains_eq_hasInfix] at h
  induction s with
  | nil =>
    rw [hasInfix_nil] at h
    have : p = [] := by cases p <;> simp_all [List.isPrefixOf]
    subst this; simp
  | cons c cs ih =>
    rw [hasInfix_cons, Bool.or_eq_true] at h
    rcases h with h | h
    · rw [List.isPrefixOf_iff_prefix] at h; exact h.subset
    · exact fun x hx => List.mem_cons_of_mem _ (ih h hx)

theorem contains_false {s p : Str} {c : Char} (hp : c ∈ p) (hs : c ∉ s) : contains s p = false :=
  Bool.eq_false_iff.2 fun h => hs (contains_mem h hp)

/-- a prefix without the first character of the pattern is skipped -/
theorem hasInfix_append_not_mem (a t : Str) (d : Char) (w : Str) (h : d ∉ a) :
    hasInfix (a ++ t) (d :: w) = hasInfix t (d :: w) := by
  induction a with
  | nil => rfl
  | cons c cs ih =>
    have hc : c ≠ d := fun e => h (by simp [e])
    have hcs : d ∉ cs := fun e => h (by simp [e])
    rw [List.cons_append, hasInfix_cons_ne _ _ _ _ hc, ih hcs]

theorem hasInfix_not_mem (a : Str) (d : Char) (w : Str) (h : d ∉ a) : hasInfix a (d :: w) = false := by
  have := hasInfix_append_not_mem a [] d w h
  simp only [List.append_nil] at this
  rw [this]; simp [hasInfix, List.isPrefixOf]

/-- `hasInfix` as the existence of a decomposition -/
theorem hasInfix_iff (s p : Str) : hasInfix s p = true ↔ ∃ a b, s = a ++ p ++ b := by
  induction s with
  | nil =>
    simp only [hasInfix]
    constructor
    · intro h
      have := List.isPrefixOf_iff_prefix.mp h
      have hp : p = [] := List.prefix_nil.mp this
      exact ⟨[], [], by simp [hp]⟩
    · rintro ⟨a, b, h⟩
      have : p = [] := by
        have := congrArg List.length h
        simp at this
        exact List.eq_nil_of_length_eq_zero (by omega)
      simp [this]
  | cons c cs ih =>
    simp only [hasInfix, Bool.or_eq_true]
    constructor
    · rintro (h | h)
      · obtain ⟨t, ht⟩ := List.isPrefixOf_iff_prefix.mp h
        exact ⟨[], t, by simp [ht]⟩
      · obtain ⟨a, b, hab⟩ := ih.mp h
        exact ⟨c :: a, b, by simp [hab]⟩
    · rintro ⟨a, b, h⟩
      cases a with
      | nil =>
        left
        exact List.isPrefixOf_iff_prefix.mpr ⟨b, by simpa using h.symm⟩
      | cons x xs =>
        right
        simp only [List.cons_append, List.cons.injEq] at h
        exact ih.mpr ⟨xs, b, h.2⟩

theorem hasInfix_lower {s w : Str} (h : hasInfix s w = true) : hasInfix (lower s) (lower w) = true := by
  obtain ⟨a, b, e⟩ := (hasInfix_iff _ _).mp h
  exact (hasInfix_iff _ _).mpr ⟨lower a, lower b, by rw [e, lower_append, lower_append]⟩

/-! ## `replace` -/

theorem replace_go_of_not_infix (a b : Str) : ∀ (fuel : Nat) (s : Str), hasInfix s a = false →
    replace.go a b s fuel = s := by
  intro fuel
  induction fuel with
  | zero => intro s _; rfl
  | succ f ih =>
    intro s h
    unfold replace.go
    have hp : a.isPrefixOf s = false := by
      cases s with
      | nil => simpa [hasInfix] using h
      | cons c cs => simp only [hasInfix, Bool.or_eq_false_iff] at h; exact h.1
    simp only [hp, Bool.false_eq_true, and_false, if_false]
    cases s with
    | nil => rfl
    | cons c cs =>
      simp only [hasInfix, Bool.or_eq_false_iff] at h
      simp [ih cs h.2]

/-- `s.replace(a, b) == s` when `a not in s` -/
theorem replace_of_not_infix (s a b : Str) (h : hasInfix s a = false) : replace s a b = s := by
  unfold replace
  exact replace_go_of_not_infix a b _ s h

/-- `(a + s).replace(a, "") == s` when `a not in s` -/
theorem replace_prefix (a s : Str) (ha : a ≠ []) (h : hasInfix s a = false) :
    replace (a ++ s) a [] = s := by
  unfold replace
  unfold replace.go
  have hp : a.isPrefixOf (a ++ s) = true := List.isPrefixOf_iff_prefix.mpr ⟨s, rfl⟩
  simp only [ne_eq, ha, not_false_eq_true, hp, and_self, if_true, List.nil_append,
    List.drop_left]
  exact replace_go_of_not_infix a [] _ s h

end Ural.Py

namespace Ural.Lru
open Ural Ural.Py

theorem lower_dot (a b : Str) : lower (a ++ '.' :: b) = lower a ++ '.' :: lower b := by
  rw [lower_append, lower_cons]; rfl

theorem lower_length (s : Str) : (lower s).length = s.length := length_lower s

end Ural.Lru
