import UralModel.Lemmas.CanonOk
import UralModel.Lemmas.BracketHost
/-!
# What `canonicalize_url` computes from an accepted parse satisfies `Texts.Ok`

`Texts.In₀` / `Texts.In`: what the parser guarantees of the texts of a parse of a cleaned string
(`In` when the userinfo holds no bracket); `in₀_textsOf` and `in_textsOf` are the only places that
look at `FromParse`.  `canonT` turns `In` into `Ok` rule by rule, with no reference to the parser:
each rule creates no reserved character of its component, and none of a class the unquoters keep
escaped (control characters, white space).  The second half (namespace `CanonRoundTrip`) carries
this over to the `canonComps` / `canonParts` / `reparsedOf` in which the property files speak:
`canonParts_wf`, `parseUrl_printed`, `printed_last_noSpace`.
-/
namespace Ural.CanonTexts
open Ural.Py Ural.UrlParts Ural.Quote Ural.Canonicalize Ural.UrlRoundTrip Ural.CanonRoundTrip Ural.Netloc

structure Texts.In₀ (S : Str) (t : Texts) : Prop where
  scheme : t.scheme = lower S ∧ SchemeShaped S
  user : ∀ d ∈ [':', '/', '?', '#'], d ∉ t.user
  pass : ∀ d ∈ ['/', '?', '#'], d ∉ t.pass
  host : ∀ d ∈ ['@', '/', '?', '#'], d ∉ t.host
  port : ∀ n ∈ t.port, n ≤ 65535
  path_abs : AbsPath t.path
  path : '?' ∉ t.path ∧ '#' ∉ t.path
  query : '#' ∉ t.query
  noCtl_user : NoCtl t.user
  noCtl_pass : NoCtl t.pass
  noCtl_host : NoCtl t.host
  noCtl_path : NoCtl t.path
  noCtl_query : NoCtl t.query
  noCtl_fragment : NoCtl t.fragment

structure Texts.In (S : Str) (t : Texts) : Prop extends Texts.In₀ S t where
  user_br : '[' ∉ t.user ∧ ']' ∉ t.user
  pass_br : '[' ∉ t.pass ∧ ']' ∉ t.pass
  host_close : ']' ∉ t.host
  bare : t.br = false → '[' ∉ t.host ∧ ':' ∉ t.host
  lit : t.br = true → ∃ h0, t.host = lowerHost h0 ∧ bracketedHostOk h0 = true

theorem lowerOf_texts {S rest : Str} {p : Parsed} (h : FromParse S rest p) :
    LowerOf (strOf p.username) p.netloc ∧ LowerOf (strOf p.password) p.netloc ∧
      LowerOf (strOf p.hostname) p.netloc := by
  have key : ∀ o : Option Str, (∀ u, o = some u → LowerOf u p.netloc) → LowerOf (strOf o) p.netloc := by
    intro o ho
    cases o with
    | none => rw [strOf_none]; intro c hc; cases hc
    | some u => rw [strOf_some]; exact ho u rfl
  have hf := netlocFacts p.netloc
  refine ⟨key _ fun u e c hc => ⟨c, (hf.user_sub u (by rw [← h.user]; exact e)).1 hc, .inl rfl⟩,
    key _ fun u e c hc => ⟨c, hf.pass_sub u (by rw [← h.pass]; exact e) hc, .inl rfl⟩,
    key _ fun u e => (hf.host_lower u (by rw [← h.host]; exact e)).1⟩

theorem host_text {S rest : Str} {p : Parsed} (h : FromParse S rest p) :
    strOf p.hostname = [] ∨ hostname p.netloc = some (strOf p.hostname) := by
  cases e : p.hostname with
  | none => left; rw [strOf_none]
  | some h0 => right; rw [strOf_some, ← h.host, e]

theorem in₀_textsOf {S rest : Str} {p : Parsed} (h : FromParse S rest p) : (textsOf p).In₀ S := by
  have hn : NoCtl p.netloc := NoCtl.of_subset h.split.sub_netloc h.noCtl_rest
  have hsub : ∀ {x : Str}, x ⊆ rest → NoCtl x := fun hx => NoCtl.of_subset hx h.noCtl_rest
  obtain ⟨lu, lp, lh⟩ := lowerOf_texts h
  have hnd : ∀ d ∈ ['/', '?', '#'], d ∉ p.netloc ∧ ¬ (97 ≤ d.toNat ∧ d.toNat ≤ 122) := by
    intro d hd
    refine ⟨fun hmem => ?_, ?_⟩
    · have := h.split.nodelim d hmem
      simp only [List.mem_cons, List.not_mem_nil, or_false] at hd
      rcases hd with rfl | rfl | rfl <;> revert this <;> decide
    · simp only [List.mem_cons, List.not_mem_nil, or_false] at hd
      rcases hd with rfl | rfl | rfl <;> decide
  have hs : p.scheme = lower S := h.split.scheme
  have hpa : AbsPath p.path := h.split.path_abs
  have hpq : '?' ∉ p.path ∧ '#' ∉ p.path := ⟨h.split.path_noq, h.split.path_noh⟩
  have hqh : '#' ∉ p.query := h.split.query_noh
  have n1 : NoCtl p.path := hsub (x := p.path) h.split.sub_path
  have n2 : NoCtl p.query := hsub (x := p.query) h.split.sub_query
  have n3 : NoCtl p.fragment := hsub (x := p.fragment) h.split.sub_fragment
  unfold textsOf
  refine ⟨⟨hs, h.shaped⟩, ?_, fun d hd => lp.not_mem (hnd d hd).1 (hnd d hd).2, ?_, ?_, hpa, hpq, hqh,
    hn.of_lowerOf lu, hn.of_lowerOf lp, hn.of_lowerOf lh, n1, n2, n3⟩
  · intro d hd hm
    simp only [List.mem_cons, List.not_mem_nil, or_false] at hd
    rcases hd with rfl | hd
    · cases e : p.username with
      | none => rw [e, strOf_none] at hm; cases hm
      | some u =>
        rw [e, strOf_some] at hm
        exact ((netlocFacts p.netloc).user_sub u (by rw [← h.user]; exact e)).2 hm
    · exact lu.not_mem (hnd d (by simpa using hd)).1 (hnd d (by simpa using hd)).2 hm
  · intro d hd hm
    simp only [List.mem_cons, List.not_mem_nil, or_false] at hd
    rcases hd with rfl | hd
    · rcases host_text h with e | e
      · rw [e] at hm; cases hm
      · exact ((netlocFacts p.netloc).host_lower _ e).2.1 hm
    · exact lh.not_mem (hnd d (by simpa using hd)).1 (hnd d (by simpa using hd)).2 hm
  · intro n hn'
    exact (netlocFacts p.netloc).port_le n (by rw [h.port]; exact congrArg some hn')

theorem in_textsOf {S rest : Str} {p : Parsed} (h : FromParse S rest p)
    (hui : userinfoBrackets p.netloc = false) : (textsOf p).In S := by
  obtain ⟨hsub, hu, hp⟩ := userinfo_facts p.netloc
  obtain ⟨g1, g2⟩ := userinfoBrackets_false hui
  have key : ∀ o : Option Str, (∀ u, o = some u → u ⊆ (splitLast p.netloc '@').1.getD []) →
      '[' ∉ strOf o ∧ ']' ∉ strOf o := by
    intro o ho
    cases o with
    | none => rw [strOf_none]; simp
    | some u => rw [strOf_some]; exact ⟨fun hm => g1 (ho u rfl hm), fun hm => g2 (ho u rfl hm)⟩
  have e : (textsOf p).host = lowerHost (hostPortStr (hostinfoStr p.netloc)).1 := by
    show strOf p.hostname = _
    rw [h.host, strOf_hostname]
  obtain ⟨f1, f2, f3⟩ := hostText_facts h.split.ok hui
  refine ⟨in₀_textsOf h, key _ (fun u e => (hu u (by rw [← h.user]; exact e)).1),
    key _ (fun u e => hp u (by rw [← h.pass]; exact e)), ?_, fun hb => ?_, fun hb => ⟨_, e, f3 hb⟩⟩
  · rw [e]; exact not_mem_lowerHost (by decide) f1
  · rw [e]; exact ⟨not_mem_lowerHost (by decide) (f2 hb).1, not_mem_lowerHost (by decide) (f2 hb).2⟩

open Ural.C03Control in
/-- the host is absent: it is the one text `canonicalize_url` does not unquote -/
theorem noClass_canonT {puny : Str → Str} {K : Char → Bool} (hK : EscapedClass K) (quoted sf : Bool)
    {S : Str} {t : Texts} (h : t.In₀ S) :
    (∀ c ∈ (canonT puny quoted sf t).user, K c = false) ∧
    (∀ c ∈ (canonT puny quoted sf t).pass, K c = false) ∧
    (∀ c ∈ (canonT puny quoted sf t).path, K c = false) ∧
    (∀ c ∈ (canonT puny quoted sf t).query, K c = false) ∧
    (∀ c ∈ (canonT puny quoted sf t).fragment, K c = false) := by
  unfold canonT
  refine ⟨noClass_requote_auth hK quoted h.noCtl_user, noClass_requote_auth hK quoted h.noCtl_pass,
    ?_, ?_, ?_⟩
  · intro c hc
    cases quoted with
    | true =>
      simp only [Normpath.pathOut, if_true] at hc
      exact noClass_safelyQuote hK _ c hc
    | false =>
      simp only [Normpath.pathOut, Bool.false_eq_true, if_false] at hc
      refine noClass_safelyUnquote _ hK ?_ c hc
      intro d hd
      rcases mem_canonPath h.path_abs hd with h1 | rfl
      · exact noCtl_safelyUnquote _ h.noCtl_path d h1
      · decide
  · intro c hc
    rcases mem_canonQuery hc with rfl | rfl | ⟨y, hy, hcy⟩
    · exact hK.not_printable (by unfold Printable; decide)
    · exact hK.not_printable (by unfold Printable; decide)
    · exact noClass_requoteItem hK quoted (NoCtl.of_subset hy h.noCtl_query) c hcy
  · intro c hc
    cases sf
    · simp only [Bool.false_eq_true, if_false] at hc
      exact noClass_requote hK quoted _ h.noCtl_fragment c hc
    · simp only [if_true, List.not_mem_nil] at hc

theorem mem_portRule {s : Str} {po : Option Nat} {n : Nat} (h : n ∈ portRule s po) : n ∈ po := by
  cases po with
  | none => exact h
  | some m =>
    simp only [portRule] at h
    split at h
    · cases h
    · exact h

/-- of the host rule only the two facts used are asked, so that any decoder will do -/
theorem ok₀_of_in₀_host {puny : Str → Str} (q sf : Bool) {S : Str} {t : Texts}
    (hh : ∀ d ∈ ['@', '/', '?', '#'], d ∉ canonHost puny t.host) (hc : NoCtl (canonHost puny t.host))
    (h : t.In₀ S) : (canonT puny q sf t).Ok₀ := by
  have hpath := finishPath_ok q (t.more puny sf) h.path_abs h.path.1 h.path.2
  have hquery := hash_not_mem_canonQuery q h.query
  have k := keeps_requote_auth q
  -- no control character: they are a class the unquoters keep escaped
  obtain ⟨n1, n2, n3, n4, n5⟩ := noClass_canonT (puny := puny) C03Control.escapedClass_isControlChar q sf h
  unfold canonT at n1 n2 n3 n4 n5 ⊢
  exact
    { scheme := ⟨by rw [h.scheme.1]; exact schemeShaped_lower h.scheme.2, by rw [h.scheme.1]; exact lower_idem S⟩
      user := fun d hd hmem => h.user d hd (k _ d (.inr
        (List.mem_append_left ['[', ']'] (List.mem_cons_of_mem '@' hd))) hmem)
      pass := fun d hd hmem => h.pass d hd (k _ d (.inr
        (List.mem_append_left ['[', ']'] (List.mem_cons_of_mem '@' (List.mem_cons_of_mem ':' hd)))) hmem)
      host := hh
      host_lower := by show lower (canonHost puny t.host) = _; unfold canonHost; exact lower_idem _
      port := fun n hn => h.port n (mem_portRule hn)
      path_abs := hpath.1.1
      path_no2 := hpath.1.2
      path := hpath.2
      query := hquery
      noCtl_user := n1
      noCtl_pass := n2
      noCtl_host := hc
      noCtl_path := n3
      noCtl_query := n4
      noCtl_fragment := n5 }

theorem brackets_requote_auth (q : Bool) {u : Str} (h : '[' ∉ u ∧ ']' ∉ u) :
    '[' ∉ requote q unquoteAuthItem u ∧ ']' ∉ requote q unquoteAuthItem u :=
  ⟨requote_auth_not_mem (by simp) q u h.1, requote_auth_not_mem (by simp) q u h.2⟩

theorem ok₀_of_in₀ {puny : Str → Str} (hpc : PunyClean puny) (q sf : Bool) {S : Str} {t : Texts}
    (h : t.In₀ S) : (canonT puny q sf t).Ok₀ :=
  ok₀_of_in₀_host q sf (fun d hd hm => h.host d hd (canonHost_bad puny hpc t.host
    ((by decide : ∀ d ∈ ['@', '/', '?', '#'], isPunyBad d = true) d hd) hm))
    (noCtl_canonHost puny hpc h.noCtl_host) h

theorem ok_of_in {puny : Str → Str} (hpc : PunyClean puny) (q sf : Bool) {S : Str} {t : Texts}
    (h : t.In S) : (canonT puny q sf t).Ok := by
  have hbad : ∀ {d : Char}, isPunyBad d = true → d ∉ t.host → d ∉ canonHost puny t.host :=
    fun hb hn hm => hn (canonHost_bad puny hpc t.host hb hm)
  refine ⟨ok₀_of_in₀ hpc q sf h.toIn₀, ?_, ?_, ?_, ?_, ?_⟩
  · exact brackets_requote_auth q h.user_br
  · exact brackets_requote_auth q h.pass_br
  · exact hbad (by decide) h.host_close
  · intro hb
    have hb' : (decide (canonHost puny t.host ≠ []) && t.br) = false := hb
    rw [Bool.and_eq_false_iff] at hb'
    show '[' ∉ canonHost puny t.host ∧ ':' ∉ canonHost puny t.host
    rcases hb' with hb' | hb'
    · have : canonHost puny t.host = [] := by simpa using hb'
      rw [this]; simp
    · exact ⟨hbad (by decide) (h.bare hb').1, hbad (by decide) (h.bare hb').2⟩
  · intro hb
    have hb' : (decide (canonHost puny t.host ≠ []) && t.br) = true := hb
    rw [Bool.and_eq_true] at hb'
    obtain ⟨h0, e, hok⟩ := h.lit hb'.2
    show bracketedHostOk (canonHost puny t.host) = true
    rw [e]; exact BracketHost.bracketedHostOk_canon hpc h0 hok

theorem canonT_br_false (puny : Str → Str) (q sf : Bool) {t : Texts} (hb : t.br = false) :
    (canonT puny q sf t).br = false := by
  show (decide (canonHost puny t.host ≠ []) && t.br) = false
  rw [hb, Bool.and_false]

/-- `ok_of_in` without `PunyClean`, when the host is no ip literal -/
theorem ok_of_in_bare {puny : Str → Str} (q sf : Bool) {S : Str} {t : Texts} (h : t.In S)
    (hb : t.br = false)
    (hh : ∀ d ∈ ['@', '/', '?', '#', '[', ']', ':'], d ∉ canonHost puny t.host)
    (hc : NoCtl (canonHost puny t.host)) : (canonT puny q sf t).Ok := by
  have hbr := canonT_br_false puny q sf hb
  exact ⟨ok₀_of_in₀_host q sf (fun d hd => hh d (List.mem_append_left ['[', ']', ':'] hd)) hc h.toIn₀,
    brackets_requote_auth q h.user_br, brackets_requote_auth q h.pass_br,
    hh _ (by simp), fun _ => ⟨hh _ (by simp), hh _ (by simp)⟩, fun e => by rw [hbr] at e; cases e⟩

section
variable {puny : Str → Str} (hpc : PunyClean puny) (q sf : Bool) {S rest : Str} {p : Parsed}
  (h : FromParse S rest p)
include hpc h

theorem ok₀_canonT : (canonT puny q sf (textsOf p)).Ok₀ := ok₀_of_in₀ hpc q sf (in₀_textsOf h)

theorem ok_canonT (hui : userinfoBrackets p.netloc = false) : (canonT puny q sf (textsOf p)).Ok :=
  ok_of_in hpc q sf (in_textsOf h hui)

end

theorem reparsedOf_eq_parsed (puny : Str → Str) (q sf : Bool) (p : Parsed) :
    reparsedOf puny q sf p = (canonT puny q sf (textsOf p)).parsed := by
  rw [← compsTexts_canonComps]
  unfold reparsedOf reparsed Texts.parsed compsTexts Texts.netloc
  rw [canonParts_netloc_eq]

end Ural.CanonTexts

namespace Ural.CanonRoundTrip
open Ural.Py Ural.UrlParts Ural.Quote Ural.Canonicalize Ural.UrlRoundTrip Ural.Netloc Ural.CanonTexts

/-! ## the last character of the printed result -/

/-- the path rule only yields the empty path when nothing has to follow -/
theorem canonPath_eq_nil {path : Str} {m : Bool} (h : canonPath path m = []) : m = false := by
  unfold canonPath at h
  simp only at h
  split at h
  · cases m with
    | false => rfl
    | true => simp at h
  · rename_i hne
    simp only [not_or] at hne
    split at h
    · simp at h
    · exact absurd (by simpa using h) hne.1

theorem endsWithSpace_false {s : Str} (h : endsWithSpace s = false) :
    ∀ c, s.getLast? = some c → isSpace c = false := by
  intro c hc
  unfold endsWithSpace at h
  rw [hc] at h
  exact h

theorem last_printed (pre U P H T : Str) (b : Bool) (port : Option Nat)
    (hT : ∀ c ∈ T, isSpace c = false)
    (hH : T = [] → port = none → b = false → ∀ c, H.getLast? = some c → isSpace c = false) :
    ∀ c, (pre ++ ':' :: '/' :: '/' ::
      ((authPart U P ++ (hostPartB b H ++ portPart port)) ++ T)).getLast? = some c →
      isSpace c = false := by
  intro c hc
  have e : ∀ X : Str, pre ++ ':' :: '/' :: '/' :: X = (pre ++ [':', '/', '/']) ++ X := by simp
  have hQ : (pre ++ [':', '/', '/']).getLast? = some '/' := by
    rw [show pre ++ [':', '/', '/'] = (pre ++ [':', '/']) ++ ['/'] by simp, List.getLast?_concat]
  rw [e] at hc
  generalize pre ++ [':', '/', '/'] = Q at hc hQ
  by_cases hT0 : T = []
  · subst hT0
    rw [List.append_nil] at hc
    cases port with
    | some n =>
      rw [← List.append_assoc, ← List.append_assoc,
        getLast?_append_of_ne_nil (by simp [portPart])] at hc
      rcases mem_portPart (List.mem_of_getLast? hc) with rfl | hd
      · decide
      · cases hsp : isSpace c with
        | false => rfl
        | true =>
          simp only [isAsciiDigit, decide_eq_true_eq, char_le_iff] at hd
          have e5 : '0'.toNat = 48 := rfl
          have e6 : '9'.toNat = 57 := rfl
          rw [e5, e6] at hd
          have := isSpace_toNat hsp
          omega
    | none =>
      rw [portPart, List.append_nil] at hc
      by_cases hHP : hostPartB b H = []
      · rw [hHP, List.append_nil] at hc
        unfold authPart at hc
        split at hc
        · rw [← List.append_assoc, List.getLast?_concat] at hc; cases hc; decide
        · split at hc
          · rw [← List.append_assoc, List.getLast?_concat] at hc; cases hc; decide
          · rw [List.append_nil, hQ] at hc; cases hc; decide
      · rw [← List.append_assoc, getLast?_append_of_ne_nil hHP] at hc
        rcases getLast?_hostPartB hc with rfl | ⟨hb, hl⟩
        · decide
        · exact hH rfl rfl hb c hl
  · rw [← List.append_assoc, getLast?_append_of_ne_nil hT0] at hc
    exact hT c (List.mem_of_getLast? hc)

section
variable {puny : Str → Str} (hpc : PunyClean puny) (quoted sf : Bool) {S rest : Str} {p : Parsed}
  (h : FromParse S rest p)
include hpc h

/-- the hypotheses of `accessors_unsplitNetloc` hold for the new components, provided the
old host holds no bracket -/
theorem accessor_hyps (hbr : ∀ h0, p.hostname = some h0 → '[' ∉ h0 ∧ ']' ∉ h0) :
    ':' ∉ strOf (canonComps puny quoted sf p).user ∧
    ('@' ∉ strOf (canonComps puny quoted sf p).host ∧ '[' ∉ strOf (canonComps puny quoted sf p).host ∧
      ']' ∉ strOf (canonComps puny quoted sf p).host) ∧
    (∀ n ∈ (canonComps puny quoted sf p).port, n ≤ 65535) := by
  have hok := ok₀_canonT hpc quoted sf h
  rw [← compsTexts_canonComps] at hok
  have hbr' : ∀ d, d = '[' ∨ d = ']' → d ∉ strOf (canonComps puny quoted sf p).host := by
    intro d hd hm
    rw [canonComps_host, strOf_hostRule] at hm
    have := canonHost_bad puny hpc _ (by rcases hd with rfl | rfl <;> decide) hm
    cases e : p.hostname with
    | none => rw [e, strOf_none] at this; cases this
    | some h0 =>
      rw [e, strOf_some] at this
      rcases hd with rfl | rfl
      · exact (hbr h0 e).1 this
      · exact (hbr h0 e).2 this
  exact ⟨hok.user _ (by simp), ⟨hok.host _ (by simp), hbr' _ (.inl rfl), hbr' _ (.inr rfl)⟩, hok.port⟩

theorem noCtl_fragment : NoCtl ((canonComps puny quoted sf p).fragment.getD []) := by
  have hok := ok₀_canonT hpc quoted sf h
  rw [← compsTexts_canonComps] at hok
  exact hok.noCtl_fragment

/-- **`canonParts` prints unambiguously**: the 5-tuple `canonicalize_url` hands to
`urlunsplit` is well-formed — for every parse of a cleaned string, every option setting and
every decoder bringing in no delimiter — as soon as the bracket check passes on the new
netloc (`netlocOk_new`, from the userinfo and bracket conditions of an accepted parse) -/
theorem canonParts_wf (hbr : netlocOk (canonParts puny quoted sf p).netloc = true) :
    WF (canonParts puny quoted sf p).scheme (canonParts puny quoted sf p).netloc
      (canonParts puny quoted sf p).path (canonParts puny quoted sf p).query
      ((canonParts puny quoted sf p).fragment.getD []) := by
  have hok := ok₀_canonT hpc quoted sf h
  rw [← compsTexts_canonComps] at hok
  have := hok.wf (by rw [netloc_compsTexts]; exact hbr)
  rw [netloc_compsTexts] at this
  simp only [canonParts]
  exact this

/-- the printed result, spelled out -/
theorem printed_eq :
    printSplit (canonParts puny quoted sf p) =
      lower S ++ ':' :: '/' :: '/' :: ((canonParts puny quoted sf p).netloc ++
        ((canonParts puny quoted sf p).path ++
          (queryPart (canonParts puny quoted sf p).query ++
            fragPart ((canonParts puny quoted sf p).fragment.getD [])))) := by
  have hok := ok₀_canonT hpc quoted sf h
  rw [print_canonParts, hok.print_eq, ← compsTexts_canonComps, netloc_compsTexts]
  simp only [canonParts]
  exact congrArg (· ++ _) h.split.scheme

omit hpc in
/-- no white-space character in the printed path, query and fragment -/
theorem noSpace_tail :
    ∀ c ∈ (canonParts puny quoted sf p).path ++
        (queryPart (canonParts puny quoted sf p).query ++
          fragPart ((canonParts puny quoted sf p).fragment.getD [])), isSpace c = false := by
  obtain ⟨_, e1, e2, e3⟩ := canonParts_texts puny quoted sf p
  rw [e1, e2, e3]
  have hT := noClass_canonT (puny := puny) C03Control.escapedClass_isSpace quoted sf (in₀_textsOf h)
  intro c hc
  simp only [List.mem_append] at hc
  rcases hc with hc | hc | hc
  · exact hT.2.2.1 c hc
  · rcases mem_queryPart hc with h1 | rfl
    · exact hT.2.2.2.1 c h1
    · decide
  · rcases mem_fragPart hc with h1 | rfl
    · exact hT.2.2.2.2 c h1
    · decide

/-- **the printed result does not end with a white-space character**, in either mode: path, query
and fragment hold none, the port is digits, a bracketed host ends with `]`, and a bare host ending
with white space is followed by a slash (FX-C02-16f182c) -/
theorem printed_last_noSpace :
    ∀ c, (printSplit (canonParts puny quoted sf p)).getLast? = some c → isSpace c = false := by
  intro c hc
  rw [printed_eq hpc quoted sf h, canonParts_netloc_eq] at hc
  refine last_printed _ _ _ _ _ _ _ (noSpace_tail quoted sf h) (fun hT0 hport hb => ?_) c hc
  -- nothing after the netloc: the path rule saw that nothing has to follow
  have hp0 := (List.append_eq_nil_iff.1 hT0).1
  rw [canonParts_path] at hp0
  have hmore : hasMore puny sf p = false := canonPath_eq_nil (finishPath_eq_nil quoted hp0)
  have hends : hostEndsUrl puny p = false := by
    unfold hasMore at hmore
    exact (Bool.or_eq_false_iff.1 hmore).2
  rw [hostEndsUrl_eq puny quoted sf p, hport, hb] at hends
  exact endsWithSpace_false hends

variable (hui : userinfoBrackets p.netloc = false)
include hui

theorem netlocOk_new : netlocOk (canonParts puny quoted sf p).netloc = true := by
  have := (ok_canonT hpc quoted sf h hui).netlocOk
  rwa [← compsTexts_canonComps, netloc_compsTexts] at this

/-- **re-parsing the printed result gives the computed components back** -/
theorem parseUrl_printed :
    parseUrl (printSplit (canonParts puny quoted sf p)) = some (reparsedOf puny quoted sf p) := by
  rw [print_canonParts, reparsedOf_eq_parsed]
  exact (ok_canonT hpc quoted sf h hui).parse

/-- the userinfo of the printed netloc holds no bracket: the second call accepts it -/
theorem userinfoBrackets_printed : userinfoBrackets (canonParts puny quoted sf p).netloc = false := by
  have := (ok_canonT hpc quoted sf h hui).userinfoBrackets
  rwa [← compsTexts_canonComps, netloc_compsTexts] at this

/-- the host part of the printed netloc opens a bracket exactly when the host is printed
between brackets -/
theorem bracketedHost_printed :
    bracketedHost (canonParts puny quoted sf p).netloc = bflag puny quoted sf p := by
  have := (ok_canonT hpc quoted sf h hui).bracketedHost
  rwa [← compsTexts_canonComps, netloc_compsTexts] at this

end

end Ural.CanonRoundTrip
