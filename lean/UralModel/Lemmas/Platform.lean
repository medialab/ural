import UralModel.Model.Platform
import UralModel.Lemmas.YoutubeReparse
import UralModel.Lemmas.FacebookParsed
import UralModel.Lemmas.FacebookRouter
import UralModel.Lemmas.FacebookUrlJoin
import UralModel.Lemmas.SitesUrl
import UralModel.Lemmas.StrLit
/-!
# Lemmas about the concrete `platform_aware` branch (`Model/Platform.lean`)

The lemmas on `.url` (`url_total_of`, `joinBase_slash_total`, `joinBase_groups_total`,
`urlsplit_ne_none_of_no_netloc`) restate those of `Lemmas/FacebookUrlJoin.lean` and
`Lemmas/FacebookParsed.lean` under the names `DESIGN.md` cites; nothing else uses them.
Both predicates of the branch read the url through `get_hostname` only (C18's `Sites.get_hostname`),
which is the `.hostname` of the split `normalize_url` makes; hence the canonical youtube urls
`https://www.youtube.com/…` are youtube urls and no facebook urls, whatever follows the host — what
`platform_idempotent` needs beyond C19's `reparse_url`.
-/
namespace Ural.Platform
open Ural.Py Ural Ural.Facebook
/-- `urlsplit` accepts every reference without authority -/
theorem urlsplit_ne_none_of_no_netloc (url dflt : Str)
    (h : startsWith (splitScheme (cleanUrl url) dflt).2 ['/', '/'] = false) :
    urlsplit url dflt ≠ none :=
  Option.isSome_iff_ne_none.mp (urlsplit_isSome_of_no_netloc url dflt h)

/-- a reference `/c…` whose second character is neither `/` nor one `urlsplit` deletes -/
theorem joinBase_slash_total (c : Char) (rest : Str) (hc : c ≠ '/') (hu : isUnsafeUrlChar c = false) :
    ∃ v, joinBase ('/' :: c :: rest) = .ok (some v) :=
  joinBase_abs_ok c rest hc hu

/-- a relative reference `groups/…` (the builder of `FacebookGroup`) -/
theorem joinBase_groups_total (rest : Str) : ∃ v, joinBase (lit "groups/" ++ rest) = .ok (some v) := by
  rw [lit_groups_rel, List.append_assoc]
  exact joinBase_groups_ok rest

/-- **the `.url` property of a record the parser can return never raises and is never `None`**:
for a record of a documented shape (`Shaped`), without empty field (`noEmpty`), whose path-borne
fields are clean segments (`pathFieldsClean`) — the reference handed to `urljoin` starts with
`/x` (`x` not a slash, not TAB / CR / LF) or with `groups/`: it has no authority, and `urlsplit`
only raises on an authority -/
theorem url_total_of (r : Parsed) (hs : Shaped r) (hn : noEmpty r = true) (hc : pathFieldsClean r = true) :
    ∃ v, r.url = .ok (some v) :=
  url_total_of_shaped r hs hn hc

/-- `get_hostname` of `ural/facebook.py`'s import is the `get_hostname` of C18 -/
theorem facebook_get_hostname_eq (url : Str) :
    Facebook.get_hostname url = .ok (Sites.get_hostname url) := by
  rw [Facebook.get_hostname_eq]
  unfold Sites.get_hostname Sites.parts Sites.get_hostname_o
  cases safe_urlsplit url with
  | none => rfl
  | some r =>
    simp only [Option.map_some, Sites.partsOf, Sites.hostnameOf, Facebook.hostnameOf]
    cases pyHostname r.netloc <;> rfl

theorem is_facebook_url_eq_host (url : Str) :
    Facebook.is_facebook_url url =
      .ok (match Sites.get_hostname url with
        | none => false
        | some h => reSearch Gen.C19Facebook.FACEBOOK_DOMAIN_RE h) := by
  unfold Facebook.is_facebook_url
  rw [facebook_get_hostname_eq]
  cases Sites.get_hostname url <;> rfl

theorem is_youtube_url_eq_host (puny : Str → Str) (t : HostnameTrieSet.T) (url : Str) :
    Youtube.is_youtube_url puny t url =
      HostnameTrieSet.matchHost isSpecialHost puny t (Sites.get_hostname url) := by
  unfold Youtube.is_youtube_url Youtube.isYoutubeParsed Youtube.hostnameOf
  unfold Sites.get_hostname Sites.parts Sites.get_hostname_o
  cases safe_urlsplit url with
  | none => rfl
  | some r =>
    simp only [Option.map_some, Sites.partsOf, Sites.hostnameOf]
    cases pyHostname r.netloc <;> rfl

open Ural.Normalize in
theorem safe_urlsplit_eq_ensureHttp (u : Str) : safe_urlsplit u = urlsplit (ensureHttp u) [] := by
  unfold safe_urlsplit ensureHttp hasProtocol
  cases protoLen u <;> rfl

open Ural.Normalize in
/-- `get_hostname` and `normalize_url` hand the same string to `urlsplit` -/
theorem get_hostname_of_urlsplit (u : Str) (r : SplitResult) (h : urlsplit (ensureHttp u) [] = some r) :
    Sites.get_hostname u = Py.hostname r.netloc := by
  unfold Sites.get_hostname Sites.parts
  rw [safe_urlsplit_eq_ensureHttp, h]
  simp only [Option.map_some, Sites.get_hostname_o, Sites.partsOf, Sites.hostnameOf, hostname, Netloc.pyHostname_eq]
  by_cases hh : (hostinfo r.netloc).1 = []
  · simp [hh, Netloc.lowerHost_eq_nil.2]
  · have : lowerHost (hostinfo r.netloc).1 ≠ [] := fun e => hh (Netloc.lowerHost_eq_nil.1 e)
    simp [hh, this]

/-! ## the canonical youtube urls are youtube urls, and no facebook urls -/

/-- `https://www.youtube.com/`: every url template of `ural/youtube.py` starts with it -/
def wwwPrefix : Str :=
  ['h', 't', 't', 'p', 's', ':', '/', '/', 'w', 'w', 'w', '.', 'y', 'o', 'u', 't', 'u', 'b', 'e', '.', 'c', 'o', 'm', '/']

theorem wwwPrefix_eq : wwwPrefix = "https://www.youtube.com/".toList := by
  simp only [toList_lit, wwwPrefix]

/-- `www.youtube.com`, character by character -/
def wwwHost : Str := ['w', 'w', 'w', '.', 'y', 'o', 'u', 't', 'u', 'b', 'e', '.', 'c', 'o', 'm']

theorem wwwHost_eq : wwwHost = "www.youtube.com".toList := by
  simp only [toList_lit, wwwHost]

/-- whatever follows `https://www.youtube.com/`, `safe_urlsplit` accepts the url and its
authority is `www.youtube.com` (the authority ends at the first `/`) -/
theorem safe_urlsplit_www (tail : Str) :
    ∃ r, safe_urlsplit (wwwPrefix ++ tail) = some r ∧ r.netloc = wwwHost := by
  have e : wwwPrefix ++ tail = "https://".toList ++ (wwwHost ++ '/' :: tail) := by
    simp only [toList_lit]
    rfl
  rw [e, Sites.safe_urlsplit_https]
  exact ⟨_, Sites.authSplit_append _ wwwHost _ (by decide +kernel) (Or.inr ⟨'/', tail, rfl, rfl⟩), rfl⟩

theorem get_hostname_www (tail : Str) : Sites.get_hostname (wwwPrefix ++ tail) = some wwwHost := by
  obtain ⟨r, hr, hn⟩ := safe_urlsplit_www tail
  unfold Sites.get_hostname Sites.parts
  rw [hr]
  simp only [Option.map_some, Sites.partsOf, Sites.hostnameOf, hn, wwwHost_eq, Youtube.pyHostname_www]
  rfl

/-- a url that starts with `https://www.youtube.com/` is a youtube url for every trie that knows
`www.youtube.com` -/
theorem is_youtube_url_www (puny : Str → Str) (t : HostnameTrieSet.T) (hT : Youtube.KnowsWww puny t)
    (tail : Str) : Youtube.is_youtube_url puny t (wwwPrefix ++ tail) = true := by
  rw [is_youtube_url_eq_host, get_hostname_www, wwwHost_eq]
  exact hT

/-- … and no facebook url -/
theorem is_facebook_url_www (tail : Str) : Facebook.is_facebook_url (wwwPrefix ++ tail) = .ok false := by
  rw [is_facebook_url_eq_host, get_hostname_www]
  exact congrArg Except.ok (by decide +kernel)

/-- every canonical url `normalize_youtube_url` builds starts with `https://www.youtube.com/` -/
theorem recordUrl_www (r : Youtube.Record) : ∃ tail, Youtube.recordUrl r = wwwPrefix ++ tail := by
  obtain ⟨e1, e2, e3, e4, e5⟩ :
      Youtube.videoPrefix = wwwPrefix ++ "watch?v=".toList ∧
      Youtube.userPrefix = wwwPrefix ++ "user/".toList ∧
      Youtube.channelIdPrefix = wwwPrefix ++ "channel/".toList ∧
      Youtube.channelNamePrefix = wwwPrefix ∧
      Youtube.shortPrefix = wwwPrefix ++ "shorts/".toList := by
    unfold Youtube.videoPrefix Youtube.userPrefix Youtube.channelIdPrefix Youtube.channelNamePrefix
      Youtube.shortPrefix
    simp only [toList_lit]
    exact ⟨rfl, rfl, rfl, rfl, rfl⟩
  have key : ∀ p l rest : Str, p = wwwPrefix ++ l → ∃ tail, p ++ rest = wwwPrefix ++ tail :=
    fun p l rest h => ⟨l ++ rest, by rw [h, List.append_assoc]⟩
  cases r with
  | video id pl =>
    simp only [Youtube.recordUrl, List.append_assoc]
    exact key _ _ _ e1
  | user name => exact key _ _ _ e2
  | channel id name =>
    cases id with
    | some i => exact key _ _ _ e3
    | none => exact ⟨_, by rw [Youtube.recordUrl, e4]⟩
  | short id => exact key _ _ _ e5

end Ural.Platform
