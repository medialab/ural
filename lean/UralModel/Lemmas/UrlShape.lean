import UralModel.Lemmas.UrlPatternLang
import UralModel.Lemmas.CanonRoundTrip
import UralModel.Py.UrlAccessors
import UralModel.Lemmas.StrLit
/-!
# URLs of the shape `http(s)://[userinfo@]host[:port][tail]` and what `urlsplit` reads in them

`Shape y sch ui H po tl`: the string `y` is `sch :// ui H po tl` with `sch` one of the ASCII
spellings of `http` / `https`, `ui` empty or a userinfo without `/ ? #` and without tab /
CR / LF followed by `@`, `H` a word of the host language of the `is_url` patterns, `po` empty
or `:` and digits of the port class, `tl` empty or starting with `/`, `?` or `#`.

`Shape.urlsplit_ok`, `Shape.hostname_eq`: the parser model reads scheme `lower sch`, netloc
`ui H po` and hostname `lower H` in such a string.
-/
namespace Ural.UrlPattern
open Ural.Py Ural.Py.Re Ural.Py.Re.Extra Ural.Gen.Patterns Ural.UrlParts Ural.UrlRoundTrip Ural.CanonRoundTrip

/-- `http` / `https` in any ASCII case -/
def SchHttp (sch : Str) : Prop :=
  ∃ a b c d e, sch = a :: b :: c :: d :: e ∧ (a = 'h' ∨ a = 'H') ∧ (b = 't' ∨ b = 'T') ∧
    (c = 't' ∨ c = 'T') ∧ (d = 'p' ∨ d = 'P') ∧ (e = [] ∨ e = ['s'] ∨ e = ['S'])

theorem ci_letter {x l u : Char} (h : x = l ∨ x = u)
    (hl : lowerChar l = l ∧ isAsciiAlpha l = true ∧ isSchemeChar l = true)
    (hu : lowerChar u = l ∧ isAsciiAlpha u = true ∧ isSchemeChar u = true) :
    lowerChar x = l ∧ isAsciiAlpha x = true ∧ isSchemeChar x = true := by
  rcases h with rfl | rfl <;> assumption

theorem SchHttp.facts {sch : Str} (h : SchHttp sch) :
    SchemeShaped sch ∧ (lower sch = "http".toList ∨ lower sch = "https".toList) ∧
      (∀ c ∈ sch, isAsciiAlpha c = true) ∧ sch.length ≤ 5 ∧ 1 ≤ sch.length := by
  obtain ⟨a, b, c, d, e, rfl, ha, hb, hc, hd, he⟩ := h
  obtain ⟨a1, a2, a3⟩ := ci_letter ha (by decide) (by decide)
  obtain ⟨b1, b2, b3⟩ := ci_letter hb (by decide) (by decide)
  obtain ⟨c1, c2, c3⟩ := ci_letter hc (by decide) (by decide)
  obtain ⟨d1, d2, d3⟩ := ci_letter hd (by decide) (by decide)
  have hE : (lower e = [] ∨ lower e = ['s']) ∧ (∀ x ∈ e, isAsciiAlpha x = true) ∧
      e.all isSchemeChar = true ∧ e.length ≤ 1 := by
    rcases he with rfl | rfl | rfl <;> decide
  obtain ⟨e1, e2, e3, e4⟩ := hE
  simp only [toList_lit]
  refine ⟨⟨⟨a, _, rfl, a2⟩, ?_⟩, ?_, ?_, ?_, ?_⟩
  · simp only [List.all_cons, a3, b3, c3, d3, e3, Bool.and_self]
  · simp only [lower, List.map_cons, a1, b1, c1, d1]
    rcases e1 with h | h
    · left; rw [← h]; rfl
    · right; rw [← h]; rfl
  · intro x hx
    simp only [List.mem_cons] at hx
    rcases hx with rfl | rfl | rfl | rfl | hx
    · exact a2
    · exact b2
    · exact c2
    · exact d2
    · exact e2 x hx
  · simp only [List.length_cons]; omega
  · simp only [List.length_cons]; omega

theorem SchHttp.shaped {sch : Str} (h : SchHttp sch) : SchemeShaped sch := h.facts.1
theorem SchHttp.lower_eq {sch : Str} (h : SchHttp sch) :
    lower sch = "http".toList ∨ lower sch = "https".toList := h.facts.2.1
theorem SchHttp.alpha {sch : Str} (h : SchHttp sch) : ∀ c ∈ sch, isAsciiAlpha c = true := h.facts.2.2.1
theorem SchHttp.length_le {sch : Str} (h : SchHttp sch) : sch.length ≤ 5 := h.facts.2.2.2.1
theorem SchHttp.length_pos {sch : Str} (h : SchHttp sch) : 1 ≤ sch.length := h.facts.2.2.2.2

/-! ## what the bad code points exclude -/

theorem mem_hostBad_of_ctl {n : Nat} (h : n ≤ 31 ∨ (127 ≤ n ∧ n ≤ 159)) : n ∈ hostBad := by
  simp only [hostBad, List.mem_append, List.mem_range, List.mem_map]
  rcases h with h | h
  · exact Or.inl (Or.inl (Or.inr (by omega)))
  · exact Or.inl (Or.inr ⟨n - 127, by omega, by omega⟩)

theorem spaceCodes_sub_hostBad : ∀ n ∈ spaceCodes, n ∈ hostBad := by decide +kernel

structure GoodChar (c : Char) : Prop where
  nodelim : isNetlocDelim c = false
  nolb : c ≠ '['
  norb : c ≠ ']'
  noat : c ≠ '@'
  nocolon : c ≠ ':'
  nopct : c ≠ '%'
  safe : isUnsafeUrlChar c = false
  nospace : isSpace c = false
  noctl : isControlChar c = false

theorem goodChar_of_not_bad {c : Char} (h : c.toNat ∉ hostBad) : GoodChar c := by
  have hne : ∀ d : Char, d.toNat ∈ hostBad → c ≠ d := fun d hd e => h (e ▸ hd)
  have hsp : isSpace c = false := by
    cases hs : isSpace c with
    | false => rfl
    | true =>
      simp only [isSpace, List.contains_eq_mem, decide_eq_true_eq] at hs
      exact absurd (spaceCodes_sub_hostBad _ hs) h
  have hct : isControlChar c = false := by
    cases hs : isControlChar c with
    | false => rfl
    | true =>
      rw [isControlChar_iff] at hs
      exact absurd (mem_hostBad_of_ctl hs) h
  refine ⟨?_, hne '[' (by decide), hne ']' (by decide), hne '@' (by decide), hne ':' (by decide),
    hne '%' (by decide), ?_, hsp, hct⟩
  · have h1 := hne '/' (by decide)
    have h2 := hne '?' (by decide)
    have h3 := hne '#' (by decide)
    simp [isNetlocDelim, h1, h2, h3]
  · have h1 := hne '\t' (by decide)
    have h2 := hne '\r' (by decide)
    have h3 := hne '\n' (by decide)
    simp [isUnsafeUrlChar, h1, h2, h3]

theorem host_goodChar {H : Str} (h : Lang hostRe H) : ∀ c ∈ H, GoodChar c :=
  fun c hc => goodChar_of_not_bad (host_char h c hc)

theorem digit_goodChar {c : Char} (h : cDigit.mem c = true) : GoodChar c :=
  goodChar_of_not_bad (CharClass.avoids_sound cDigit_avoids h)

theorem isDelim_iff {c : Char} : isDelim c ↔ isNetlocDelim c = true := by
  simp [isDelim, isNetlocDelim, or_assoc]

/-! ## the shape -/

/-- what a userinfo character must avoid for the parser to read the authority as the patterns do -/
structure UiChar (c : Char) : Prop where
  nodelim : isNetlocDelim c = false
  safe : isUnsafeUrlChar c = false

structure Shape (y sch ui H po tl : Str) : Prop where
  eq : y = sch ++ ':' :: '/' :: '/' :: (ui ++ (H ++ (po ++ tl)))
  sch : SchHttp sch
  ui : ui = [] ∨ ∃ w, ui = w ++ ['@'] ∧ ∀ c ∈ w, UiChar c
  host : Lang hostRe H
  port : po = [] ∨ ∃ ds, po = ':' :: ds ∧ ds ≠ [] ∧ ∀ c ∈ ds, cDigit.mem c = true
  tail : tl = [] ∨ ∃ d r, tl = d :: r ∧ isDelim d

section
variable {y sch ui H po tl : Str} (h : Shape y sch ui H po tl)
include h

theorem Shape.hostport_chars : ∀ c ∈ H ++ po, c = ':' ∨ GoodChar c := by
  intro c hc
  rcases List.mem_append.mp hc with hc | hc
  · exact Or.inr (host_goodChar h.host c hc)
  · rcases h.port with e | ⟨ds, e, _, hds⟩
    · rw [e] at hc; cases hc
    · rw [e] at hc
      rcases List.mem_cons.mp hc with rfl | hc
      · exact Or.inl rfl
      · exact Or.inr (digit_goodChar (hds c hc))

theorem Shape.netloc_chars : ∀ c ∈ ui ++ (H ++ po), UiChar c := by
  intro c hc
  rcases List.mem_append.mp hc with hc | hc
  · rcases h.ui with e | ⟨w, e, hw⟩
    · rw [e] at hc; cases hc
    · rw [e] at hc
      rcases List.mem_append.mp hc with hc | hc
      · exact hw c hc
      · simp only [List.mem_singleton] at hc
        subst hc
        exact ⟨by decide, by decide⟩
  · rcases h.hostport_chars c hc with rfl | g
    · exact ⟨by decide, by decide⟩
    · exact ⟨g.nodelim, g.safe⟩

theorem Shape.tail_head : ∀ c, tl.head? = some c → isNetlocDelim c = true := by
  intro c hc
  rcases h.tail with e | ⟨d, r, e, hd⟩
  · rw [e] at hc; cases hc
  · rw [e] at hc
    simp only [List.head?_cons, Option.some.injEq] at hc
    subst hc
    exact isDelim_iff.mp hd

/-- **what `urlsplit` reads**: scheme `lower sch`, netloc `ui H po` — when the bracket check
of the parser passes on that netloc (it always does without brackets), else `ValueError` -/
theorem Shape.urlsplit_eq :
    urlsplit y [] = if netlocOk (ui ++ (H ++ po)) then
      some (withTail (lower sch) (ui ++ (H ++ po)) (Sites.dropUnsafe tl)) else none := by
  have e : ui ++ (H ++ (po ++ tl)) = (ui ++ (H ++ po)) ++ tl := by simp
  rw [h.eq, urlsplit_scheme_slashes h.sch.shaped, e]
  exact splitRest_auth_unsafe _ (fun c hc => ⟨(h.netloc_chars c hc).nodelim, (h.netloc_chars c hc).safe⟩) h.tail_head

theorem Shape.urlsplit_ok (hok : netlocOk (ui ++ (H ++ po)) = true) :
    ∃ path query frag, urlsplit y [] = some ⟨lower sch, ui ++ (H ++ po), path, query, frag⟩ :=
  ⟨_, _, _, by rw [h.urlsplit_eq, hok]; rfl⟩

theorem Shape.parseUrl_some {p : Parsed} (hp : parseUrl y = some p) :
    ∃ pa q f po1, p = parsedOf ⟨lower sch, ui ++ (H ++ po), pa, q, f⟩ po1 := by
  obtain ⟨r, po1, hr, _, rfl⟩ := Py.parseUrl_some hp
  rw [h.urlsplit_eq] at hr
  split at hr
  · exact ⟨_, _, _, po1, by rw [← Option.some.inj hr]; rfl⟩
  · cases hr

theorem Shape.reads :
    ∃ u p, ui = Netloc.pre u ∧ po = Netloc.colon p ∧ Netloc.Reads (ui ++ (H ++ po)) u false H p := by
  obtain ⟨u, eu⟩ : ∃ u, ui = Netloc.pre u :=
    h.ui.elim (fun e => ⟨none, e⟩) fun ⟨w, e, _⟩ => ⟨some w, e⟩
  obtain ⟨p, ep, hp⟩ : ∃ p, po = Netloc.colon p ∧ ∀ q, p = some q → ∀ c ∈ q, GoodChar c :=
    h.port.elim (fun e => ⟨none, e, fun _ e => by cases e⟩) fun ⟨ds, e, _, hds⟩ =>
      ⟨some ds, e, fun q eq c hc => digit_goodChar (hds c (Option.some.inj eq ▸ hc))⟩
  have hg := host_goodChar h.host
  have r := Netloc.Reads.of_plain u p
    ⟨fun hm => (hg _ hm).noat rfl, fun hm => (hg _ hm).nocolon rfl, fun hm => (hg _ hm).nolb rfl⟩
    fun q e => ⟨fun hm => (hp q e _ hm).noat rfl, fun hm => (hp q e _ hm).nolb rfl⟩
  rw [← eu, ← ep] at r
  exact ⟨u, p, eu, ep, r⟩

theorem Shape.userinfoBrackets_iff :
    Canonicalize.userinfoBrackets (ui ++ (H ++ po)) = false ↔ '[' ∉ ui ∧ ']' ∉ ui := by
  obtain ⟨u, p, eu, _, r⟩ := h.reads
  unfold Canonicalize.userinfoBrackets
  rw [r.splitLast, eu]
  cases u <;> simp [Netloc.pre]

/-- **the hostname accessor**: the host, lower-cased -/
theorem Shape.hostname_eq : hostname (ui ++ (H ++ po)) = some (lower H) := by
  obtain ⟨u, p, _, _, r⟩ := h.reads
  rw [r.hostname, if_neg (lang_host_ne_nil h.host),
    Netloc.lowerHost_of_no_pct fun hm => (host_goodChar h.host _ hm).nopct rfl]

end

end Ural.UrlPattern
