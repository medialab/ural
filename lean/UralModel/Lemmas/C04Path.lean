import UralModel.Model.Normalize
import UralModel.Lemmas.Normpath
import UralModel.Lemmas.Redirect
import UralModel.Lemmas.StrSplit
import UralModel.Lemmas.Normalize
/-!
# C04 — the path: a trailing slash, a trailing index file name, the AMP suffixes

On an absolute path (what `urlsplit` returns when the URL has an authority), what one more slash or
one more segment at the end does to each path step; `pathSteps_trailing_slash_lc` and
`pathSteps_index_lc` (`Lemmas/C04Lower.lean`) put them together.
-/
set_option linter.unusedSimpArgs false
namespace Ural.Normalize
open Ural Ural.Py Ural.UrlParts Ural.Quote Ural.Canonicalize Ural.Normpath

/-! ## `normpath` of an absolute path with one more slash / one more segment -/

theorem segs_abs (q : Str) : (segView ('/' :: q)).1 = (splitOn q '/').foldl segStep [] := by
  simp [segView, splitOn_abs, segStep]

theorem segStep_nil (acc : List Str) : segStep acc [] = acc := by simp [segStep]

theorem segStep_normal (acc : List Str) (n : Str) (h : Normal n) : segStep acc n = acc ++ [n] := by
  unfold segStep
  simp [h.1, h.2.1, h.2.2.1]

theorem normpath_append_slash (q : Str) : normpath ('/' :: (q ++ ['/'])) = normpath ('/' :: q) := by
  rw [normpath_abs, normpath_abs, segs_abs, segs_abs]
  have : splitOn (q ++ ['/']) '/' = splitOn q '/' ++ [[]] := by
    have := splitOn_append q [] '/'
    simpa [splitOn_nil] using this
  rw [this, List.foldl_append]
  simp [segStep_nil]

theorem normpath_append_segment (q n : Str) (hn : Normal n) :
    normpath ('/' :: (q ++ '/' :: n)) = normpath ('/' :: q) ++ '/' :: n := by
  rw [normpath_abs, normpath_abs, segs_abs, segs_abs]
  have : splitOn (q ++ '/' :: n) '/' = splitOn q '/' ++ [n] := by
    rw [splitOn_append, splitOn_of_not_mem '/' n hn.2.2.2]
  rw [this, List.foldl_append]
  simp only [List.foldl_cons, List.foldl_nil, segStep_normal _ n hn]
  by_cases hF : (splitOn q '/').foldl segStep [] = []
  · simp [hF, join]
  · simp only [hF, if_false]
    have hne : (splitOn q '/').foldl segStep [] ++ [n] ≠ [] := by simp
    simp only [hne, if_false]
    rw [join_concat, if_neg hF]
    simp

theorem normpath_root_segment (n : Str) (hn : Normal n) : normpath ('/' :: n) = '/' :: n := by
  rw [normpath_abs, segs_abs, splitOn_of_not_mem '/' n hn.2.2.2]
  simp [segStep_normal _ n hn, join]

theorem resolve_append_slash (u : Str) (habs : absPath u = true) :
    resolveUnquoted true (u ++ ['/']) = resolveUnquoted true u := by
  rw [resolveUnquoted_true, resolveUnquoted_true]
  cases u with
  | nil => decide +kernel
  | cons c q =>
    have hc : '/' = c := by simpa [absPath, startsWith] using habs
    subst hc
    exact normpath_append_slash q

theorem resolve_append_segment (u n : Str) (habs : absPath u = true) (hn : Normal n) :
    resolveUnquoted true (u ++ '/' :: n) = resolveUnquoted true u ++ '/' :: n := by
  rw [resolveUnquoted_true, resolveUnquoted_true]
  cases u with
  | nil =>
    have e : normpath [] = [] := by decide +kernel
    simpa [e] using normpath_root_segment n hn
  | cons c q =>
    have hc : '/' = c := by simpa [absPath, startsWith] using habs
    subst hc
    exact normpath_append_segment q n hn

/-! ## `AMP_SUFFIXES_RE` in front of a last segment -/

/-- the last segment, seen from a string that ends with it -/
theorem last_segment_unique {a a' b b' : Str} (hb : '/' ∉ b) (hb' : '/' ∉ b')
    (h : a ++ '/' :: b = a' ++ '/' :: b') : b = b' := by
  simpa [splitLast_append_cons _ _ _ hb, splitLast_append_cons _ _ _ hb'] using
    congrArg (fun s => (splitLast s '/').2) h

/-- a segment that is neither empty nor a lone newline (`$` also matches before a final
newline) -/
def SegOk (n : Str) : Prop := '/' ∉ n ∧ n ≠ [] ∧ n ≠ ['\n']

/-- no alternative of `AMP_SUFFIXES_RE` matches at a position in front of the last slash -/
theorem ampSuffixHere_before_segment (b : Bool) (x n : Str) (hn : SegOk n) :
    ampSuffixHere b (x ++ '/' :: n) = none := by
  cases h : ampSuffixHere b (x ++ '/' :: n) with
  | none => rfl
  | some e =>
    exfalso
    -- a match is a marker `w` without slash, an optional slash, and a slash-free end `e`
    obtain ⟨m, hs, _, w, sl, rfl, hsl, hcut⟩ := ampSuffixHere_spec h
    have he : '/' ∉ e := ampCut_rest_no_slash ⟨w, sl, rfl, hsl, hcut⟩
    have hw : '/' ∉ w := by
      rcases hcut with ⟨hc, _⟩ | ⟨_, hc, _⟩
      · exact ciEq_no_slash (by decide +kernel) hc
      · exact ciEq_no_slash (by decide +kernel) hc
    rcases hsl with rfl | rfl
    · have hm : '/' ∈ w ++ [] ++ e := by rw [← hs]; simp
      simp only [List.append_nil, List.mem_append] at hm
      exact hm.elim hw he
    · -- the optional slash is the last one: `e` is the last segment, and only `$` can follow
      have hne : n = e := last_segment_unique hn.1 he (by simpa using hs)
      have hd : atDollar e = true := by
        rcases hcut with ⟨_, hd | ⟨hnil, _⟩⟩ | ⟨_, _, hd⟩
        · exact hd
        · cases hnil
        · exact hd
      rcases atDollar_cases hd with rfl | rfl
      · exact hn.2.1 hne
      · exact hn.2.2 hne

/-- **`AMP_SUFFIXES_RE.sub` in front of a last segment**: nothing is removed before the last
slash; the last segment is scanned on its own (its first character is preceded by a slash) -/
theorem ampSub_append_segment (r n : Str) (hn : SegOk n) (b : Bool) :
    ampSuffixSubFrom (r ++ '/' :: n) b 0 = r ++ '/' :: ampSuffixSubFrom n true 0 := by
  induction r generalizing b with
  | nil =>
    have h := ampSuffixHere_before_segment b [] n hn
    simp only [List.nil_append] at h ⊢
    simp [ampSuffixSubFrom, h]
  | cons c cs ih =>
    have h := ampSuffixHere_before_segment b (c :: cs) n hn
    simp only [List.cons_append] at h ⊢
    simp only [ampSuffixSubFrom, h]
    rw [ih]

/-! ## `strip_index` -/

/-- a last segment whose `splitext` root is `index` / `default` is dropped, with its slash -/
theorem stripIndex_append_segment (r n : Str) (hn : '/' ∉ n)
    (hroot : splitextRoot n = "index".toList ∨ splitextRoot n = "default".toList) :
    stripIndex (r ++ '/' :: n) = r := by
  unfold stripIndex
  rw [splitLast_append_cons '/' r n hn]
  simp only [Option.getD_some]
  rcases hroot with h | h
  · simp [h]
  · simp [h]

end Ural.Normalize
