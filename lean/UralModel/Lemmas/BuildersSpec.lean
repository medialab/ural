import UralModel.Lemmas.Builders
/-!
# Specification vocabulary and helper lemmas for the builder theorems of C20

Definitions used to *state* the property (`decodeQuery`, `wireVal`, `queryItems`, `wireArg`,
`expectedGet`, `urlPrefix`) and the lemmas the proofs in `Props/C20.lean` rest on.
-/
namespace Ural
open Ural.Py

theorem unquote_quote_slash (s : Str) : unquote (quote s) = s :=
  Ural.Py.unquote_quote s _ safeOk_slash

/-- what a retained argument must read back as: `none` for a bare key (`True`), otherwise
`str(v)` (the harness hands `str(v)` over as `other s`) -/
def wireVal : ArgVal → Option Str
  | .pyTrue => none
  | .other s => some s
  | .pyNone => some "None".toList
  | .pyFalse => some "False".toList

/-- decoding of one query item: split at the first `=`, unquote both sides -/
def decodeItem (it : Str) : Str × Option Str :=
  (unquote (splitFirst it '=').1, (splitFirst it '=').2.map unquote)

/-- decoding of a query string: split at `&`, decode every item -/
def decodeQuery (q : Str) : List (Str × Option Str) := (splitOn q '&').map decodeItem

/-- the item `add_query_argument(url, name, value)` appends (`quote=True`) -/
def wireArg (name : Str) (value : Option Str) : Str :=
  quote name ++ (match value with | none => [] | some v => '=' :: quote v)

theorem wireArg_all {P : Char → Prop} (hq : ∀ s, ∀ c ∈ quote s, P c) (he : P '=') (name : Str)
    (value : Option Str) : ∀ c ∈ wireArg name value, P c := by
  intro c hc
  unfold wireArg at hc
  rcases List.mem_append.1 hc with hc | hc
  · exact hq name c hc
  · cases value with
    | none => cases hc
    | some v =>
      rcases List.mem_cons.1 hc with rfl | hc
      · exact he
      · exact hq v c hc

theorem wireArg_not_mem (name : Str) (value : Option Str) (c : Char) (hc : isDelim c = true)
    (hne : c ≠ '=') : c ∉ wireArg name value := fun hm =>
  (wireArg_all (P := fun d => isDelim d = false ∨ d = '=') (fun s d hd => Or.inl (quote_no_delim s d hd))
    (Or.inr rfl) name value c hm).elim (fun h => Bool.noConfusion (h ▸ hc)) hne

theorem wireArg_no_unsafe (name : Str) (value : Option Str) :
    ∀ c ∈ wireArg name value, isUnsafeUrlChar c = false :=
  wireArg_all quote_no_unsafe (by decide) name value

theorem wireArg_ne_nil (name : Str) (value : Option Str) (hn : name ≠ []) :
    wireArg name value ≠ [] := by
  unfold wireArg
  intro h
  exact quote_ne_nil name hn (List.append_eq_nil_iff.mp h).1

theorem qslItem_wireArg (name : Str) (value : Option Str) :
    qslItem (wireArg name value) = (quote name, value.map quote) := by
  have hk : '=' ∉ quote name := quote_not_mem name '=' (by decide)
  unfold qslItem wireArg
  cases value with
  | none => simp [splitFirst_notMem _ _ hk]
  | some v => simp [splitFirst_append_sep _ _ _ hk]

theorem format_query_argument_eq (k : Str) (v : ArgVal) :
    format_query_argument k v = wireArg k (wireVal v) := by
  cases v <;> simp only [format_query_argument, wireArg, wireVal, List.append_nil]

theorem decodeItem_format (k : Str) (v : ArgVal) :
    decodeItem (format_query_argument k v) = (k, wireVal v) := by
  have h := qslItem_wireArg k (wireVal v)
  unfold qslItem at h
  rw [format_query_argument_eq, decodeItem, h, unquote_quote_slash]
  cases wireVal v <;> simp [unquote_quote_slash]

theorem format_query_argument_no_amp (k : Str) (v : ArgVal) : '&' ∉ format_query_argument k v := by
  rw [format_query_argument_eq]
  exact wireArg_not_mem _ _ '&' (by decide) (by decide)

/-- base, path and extension: what precedes the query -/
def urlPrefix (base : Str) (path : Option PathArg) (ext : Option Str) : Str :=
  addExt (joinPath base path) ext

theorem queryString_no_hash (items : List (Str × ArgVal)) : '#' ∉ queryString items := by
  intro hm
  rcases mem_join _ _ hm with h | ⟨p, hp, hx⟩
  · exact absurd h (by decide)
  · obtain ⟨kv, _, rfl⟩ := List.mem_map.1 hp
    rw [format_query_argument_eq] at hx
    exact wireArg_not_mem _ _ '#' (by decide) (by decide) hx

/-- the items of a query as `safe_qsl_iter` enumerates them; an absent or empty query has none -/
def queryItems (q : Option Str) : List Str :=
  match q with
  | none => []
  | some q => if q = [] then [] else splitOn q '&'

theorem get_query_argument_plain (x key : Str) (hun : ∀ c ∈ x, isUnsafeUrlChar c = false)
    (hok : safe_urlsplit x ≠ none) :
    get_query_argument x key = .ok (lookupQuery (queryItems (splitQuery x).2) key) := by
  unfold get_query_argument
  cases hsp : safe_urlsplit x with
  | none => exact absurd hsp hok
  | some r =>
    simp only [safe_urlsplit_query x r hun hsp]
    unfold plainQuery queryItems
    cases (splitQuery x).2 with
    | none => rfl
    | some q => by_cases hq : q = [] <;> simp [hq, lookupQuery]

theorem url_pieces (url : Str) :
    (splitQuery url).1 ++ sepSuffix '?' (splitQuery url).2 ++ sepSuffix '#' (splitFragment url).2 = url ∧
    '?' ∉ (splitQuery url).1 ∧ '#' ∉ (splitQuery url).1 ++ sepSuffix '?' (splitQuery url).2 := by
  unfold splitQuery splitFragment
  rw [splitFirst_rejoin, splitFirst_rejoin]
  exact ⟨rfl, (splitFirst_spec _ '?').1, (splitFirst_spec url '#').1⟩

theorem split_pieces (base : Str) (q f : Option Str) (hq : '?' ∉ base)
    (hh : '#' ∉ base ++ sepSuffix '?' q) :
    splitQuery (base ++ sepSuffix '?' q ++ sepSuffix '#' f) = (base, q) ∧
    (splitFragment (base ++ sepSuffix '?' q ++ sepSuffix '#' f)).2 = f := by
  unfold splitQuery splitFragment
  rw [splitFirst_append_sepSuffix _ f '#' hh]
  exact ⟨splitFirst_append_sepSuffix base q '?' hq, rfl⟩

/-- the query after the append: `query + "&" + arg` if there was a non-empty query, else `arg` -/
def appendedQuery (q : Option Str) (arg : Str) : Str :=
  match q with
  | some q => if q = [] then arg else q ++ '&' :: arg
  | none => arg

theorem add_query_argument_eq (url name : Str) (value : Option Str) :
    add_query_argument url name value true =
      (splitQuery url).1 ++ sepSuffix '?' (some (appendedQuery (splitQuery url).2 (wireArg name value)))
        ++ sepSuffix '#' (splitFragment url).2 := by
  unfold add_query_argument wireArg appendedQuery sepSuffix
  cases value <;> cases (splitQuery url).2 <;> cases (splitFragment url).2 <;> simp

theorem mem_appendedQuery {c : Char} {q : Option Str} {arg : Str} (h : c ∈ appendedQuery q arg) :
    c ∈ sepSuffix '?' q ∨ c = '&' ∨ c ∈ arg := by
  unfold appendedQuery at h
  cases q with
  | none => exact Or.inr (Or.inr h)
  | some q =>
    simp only [] at h
    split at h
    · exact Or.inr (Or.inr h)
    · rcases List.mem_append.1 h with h | h
      · exact Or.inl (List.mem_cons_of_mem _ h)
      · exact Or.inr (List.mem_cons.1 h)

theorem queryItems_appended (q : Option Str) (arg : Str) (hne : arg ≠ []) (ha : '&' ∉ arg) :
    queryItems (some (appendedQuery q arg)) = queryItems q ++ [arg] := by
  unfold appendedQuery queryItems
  cases q with
  | none => simp [hne, splitOn_of_not_mem _ _ ha]
  | some q =>
    by_cases hqe : q = []
    · simp [hqe, hne, splitOn_of_not_mem _ _ ha]
    · simp only [hqe, if_false, List.append_eq_nil_iff, false_and]
      rw [splitOn_append, splitOn_of_not_mem _ _ ha]

/-- what `get_query_argument` must return for the appended item: `True` for a bare key,
else the (quoted) value -/
def expectedGet (value : Option Str) : QArg :=
  match value with
  | none => .bare
  | some v => .str (quote v)

theorem lookupQuery_append_new (items : List Str) (name : Str) (value : Option Str)
    (hnew : ∀ it ∈ items, (qslItem it).1 ≠ quote name) :
    lookupQuery (items ++ [wireArg name value]) (quote name) = expectedGet value := by
  induction items with
  | nil =>
    simp only [List.nil_append, lookupQuery, qslItem_wireArg, if_true, expectedGet]
    cases value <;> rfl
  | cons it rest ih =>
    have h1 : (qslItem it).1 ≠ quote name := hnew it (by simp)
    simp only [List.cons_append, lookupQuery, if_neg h1]
    exact ih (fun x hx => hnew x (by simp [hx]))

/-- every character of the result comes from the url, from the appended item, or is one of
the three delimiters -/
theorem add_query_argument_chars (url name : Str) (value : Option Str) :
    ∀ c ∈ add_query_argument url name value true,
      c ∈ url ∨ c ∈ wireArg name value ∨ c = '?' ∨ c = '&' ∨ c = '#' := by
  intro c hc
  have hurl : ∀ x, x ∈ (splitQuery url).1 ∨ x ∈ sepSuffix '?' (splitQuery url).2 ∨
      x ∈ sepSuffix '#' (splitFragment url).2 → x ∈ url := by
    intro x hx
    rw [← (url_pieces url).1, List.mem_append, List.mem_append, or_assoc]
    exact hx
  rw [add_query_argument_eq, List.mem_append, List.mem_append] at hc
  rcases hc with (hc | hc) | hc
  · exact Or.inl (hurl c (Or.inl hc))
  · rcases List.mem_cons.1 hc with hc | hc
    · exact Or.inr (Or.inr (Or.inl hc))
    · rcases mem_appendedQuery hc with hc | hc | hc
      · exact Or.inl (hurl c (Or.inr (Or.inl hc)))
      · exact Or.inr (Or.inr (Or.inr (Or.inl hc)))
      · exact Or.inr (Or.inl hc)
  · exact Or.inl (hurl c (Or.inr (Or.inr hc)))

end Ural
