import UralModel.Lemmas.ReExtra
import UralModel.Gen.Patterns
/-!
# The `is_url` patterns, read off the regenerated terms

`links_from_html` calls `is_url(…, require_protocol=True, allow_spaces_in_path=True)`, i.e.
`RELAXED_URL_WITH_PROTOCOL_RE`.  Its pieces (protocol, userinfo, the three host alternatives,
port, resource path) and their character classes are **read off** the regenerated term of
`Gen/Patterns.lean` by projections; `url_shape` (a `decide`d table obligation) states that the
term *is* `^ (letters{1,64}:)? // (\S+(:\S*)?@)? HOST (:\d{1,5})? ([/?#].*)? $` over those classes,
`hostRe_eq` that `HOST` is `IP | localhost | (label\.)+ tld \.?`, and `class_facts` states the few
things the proof of "`canonicalize_url` preserves `is_url`" needs of the classes (which delimiters
they avoid, closure under ASCII lower-casing, what the port class and `.` contain).  A harmless edit
of a class re-checks without touching the Lean sources; a harmful one (a host class admitting `/`
or `@`, a label allowed to end with `-` only in one place, …) breaks an obligation.
Likewise `HTTP_PROTOCOL_RE`, `PROTOCOL_RE`, `SPECIAL_HOSTS_RE`; `all_noNullRep` is about the eight
patterns of `Gen/Patterns.lean`.
-/
namespace Ural.UrlPattern
open Ural.Py Ural.Py.Re Ural.Py.Re.Extra Ural.Gen.Patterns

/-- the pattern -/
abbrev R : Re := RELAXED_URL_WITH_PROTOCOL_RE

/-- `i`-th element of the top-level sequence -/
def sp (i : Nat) : Re := (spine R)[i]?.getD .empty

def protoOpt : Re := sp 1
def uiOpt : Re := sp 4
def hostRe : Re := sp 5
def portOpt : Re := sp 6
def tailOpt : Re := sp 7

def cLetters : CharClass := clsOf (repBody (seqL (repBody protoOpt)))
def cColon : CharClass := clsOf (seqR (repBody protoOpt))
def cSlash : CharClass := clsOf (sp 2)
def cNonSpace : CharClass := clsOf (repBody (seqL (repBody uiOpt)))
def cAt : CharClass := clsOf (seqR (seqR (repBody uiOpt)))
def ipRe : Re := altL hostRe
def lhRe : Re := altL (altR hostRe)
def namesRe : Re := altR (altR hostRe)
/-- `(?:[F][M]{0,62})?[F]\.` -/
def labelDot : Re := repBody (seqL namesRe)
def cF : CharClass := clsOf (seqL (seqR labelDot))
def cM : CharClass := clsOf (repBody (seqR (repBody (seqL labelDot))))
def cDot : CharClass := clsOf (seqR (seqR labelDot))
def cT : CharClass := clsOf (repBody (seqL (seqR namesRe)))
def cDigit : CharClass := clsOf (repBody (seqR (repBody portOpt)))
def cDelim : CharClass := clsOf (seqL (repBody tailOpt))
def cAny : CharClass := clsOf (repBody (seqR (repBody tailOpt)))

/-- one host label: `(?:[F][M]{0,62})?[F]` -/
def labelRe : Re := .seq (opt (.seq (.cls cF) (.rep (.cls cM) 0 (some 62) true))) (.cls cF)

/-- the userinfo `\S+(?::\S*)?@` -/
def uiRe : Re :=
  .seq (.rep (.cls cNonSpace) 1 none true)
    (.seq (opt (.seq (.cls cColon) (.rep (.cls cNonSpace) 0 none true))) (.cls cAt))

/-- **table obligation**: the shape of `RELAXED_URL_WITH_PROTOCOL_RE` -/
theorem url_shape :
    spine R =
      [.bos,
       opt (.seq (.rep (.cls cLetters) 1 (some 64) true) (.cls cColon)),
       .cls cSlash, .cls cSlash,
       opt uiRe,
       hostRe,
       opt (.seq (.cls cColon) (.rep (.cls cDigit) 1 (some 5) true)),
       opt (.seq (.cls cDelim) (.rep (.cls cAny) 0 none true)),
       .eos] := by decide +kernel

/-- the pattern between `^` and `$` -/
def midR : List Re :=
  [opt (.seq (.rep (.cls cLetters) 1 (some 64) true) (.cls cColon)), .cls cSlash, .cls cSlash, opt uiRe,
    hostRe, opt (.seq (.cls cColon) (.rep (.cls cDigit) 1 (some 5) true)),
    opt (.seq (.cls cDelim) (.rep (.cls cAny) 0 none true))]

theorem midR_anchorFree : midR.all anchorFree = true := by decide +kernel

/-- code points no host class may contain: the URL delimiters `# % / : ? @ [ ]`, every
`str.isspace` code point, every C0 / C1 control -/
def hostBad : List Nat :=
  [35, 37, 47, 58, 63, 64, 91, 93] ++ List.range 33 ++ (List.range 33).map (· + 127) ++
    [160, 5760, 8192, 8193, 8194, 8195, 8196, 8197, 8198, 8199, 8200, 8201, 8202, 8232, 8233, 8239, 8287, 12288]

def hostBadRanges : List (Nat × Nat) :=
  [(0, 32), (35, 35), (37, 37), (47, 47), (58, 58), (63, 64), (91, 91), (93, 93), (127, 160), (5760, 5760),
    (8192, 8202), (8232, 8233), (8239, 8239), (8287, 8287), (12288, 12288)]

/-- **table obligation**: what the proof needs of the classes -/
theorem class_facts :
    -- the host alternatives avoid delimiters, whitespace and controls, are closed under ASCII
    -- lower-casing and hold no anchor
    allCls (fun C => C.avoids hostBad) hostRe = true ∧
    allCls CharClass.lowerClosed hostRe = true ∧
    anchorFree hostRe = true ∧
    -- an IPv4 / localhost host has no label starting with `x` (no punycode label)
    allCls (fun C => C.avoids [88, 120]) ipRe = true ∧
    allCls (fun C => C.avoids [88, 120]) lhRe = true ∧
    -- labels hold no dot, the TLD holds neither a dot nor a hyphen (it is never punycode)
    cF.avoids [46] = true ∧ cM.avoids [46] = true ∧ cT.avoids [45, 46] = true ∧
    -- small classes, exactly
    cDot = ⟨false, [(46, 46)]⟩ ∧ cColon = ⟨false, [(58, 58)]⟩ ∧ cSlash = ⟨false, [(47, 47)]⟩ ∧
    cAt = ⟨false, [(64, 64)]⟩ ∧ cDelim = ⟨false, [(35, 35), (47, 47), (63, 63)]⟩ ∧
    -- `.`: everything but a line feed
    cAny.coWithin [10] = true ∧
    -- `\S`: everything but the `str.isspace` code points
    cNonSpace.coWithin spaceCodes = true ∧
    -- the port class holds the ASCII digits and avoids what the host classes avoid
    (List.range 10).all (fun i => cDigit.mem (Char.ofNat (48 + i))) = true ∧
    cDigit.avoids hostBad = true ∧
    -- the protocol letters: no colon, and the letters of http / https
    cLetters.avoids [58] = true ∧
    [104, 116, 112, 115].all (fun n => cLetters.mem (Char.ofNat n)) = true := by
  -- `hostRe` holds the 64 ranges of `\d` twelve times: the two tests against the 92 points of `hostBad`
  -- are made range against range
  have hb : hostBad.all (CharClass.inRanges hostBadRanges) = true := by decide +kernel
  have hR : allCls (fun C => C.sub ⟨true, hostBadRanges⟩) hostRe = true ∧
      cDigit.sub ⟨true, hostBadRanges⟩ = true := by decide +kernel
  rw [allCls_imp (fun _ h => CharClass.avoids_of_sub h hb) hR.1, CharClass.avoids_of_sub hR.2 hb]
  decide +kernel

/-- **table obligation**: labels and the TLD are closed under ASCII lower-casing, a label
holds no dot, no host can be empty, `SPECIAL_HOSTS_RE` ends with `$` -/
theorem label_facts :
    allCls CharClass.lowerClosed labelRe = true ∧ allCls (fun C => C.avoids [46]) labelRe = true ∧
    cT.lowerClosed = true ∧ nullable hostRe = false ∧
    (spine SPECIAL_HOSTS_RE).getLast? = some .eos ∧
    -- `\S` holds no tab, line feed or carriage return (what `urlsplit` removes)
    cNonSpace.avoids [9, 10, 13] = true := by decide +kernel

/-- `(?:[F][M]{0,62})?[F]\.` written out over the classes read off the pattern; `hostRe_eq` makes
it the `labelDot` of the pattern -/
def ldRe : Re := .seq (opt (.seq (.cls cF) (.rep (.cls cM) 0 (some 62) true))) (.seq (.cls cF) (.cls cDot))
/-- `(label\.)+ tld \.?` -/
def namesShape : Re := .seq (.rep ldRe 1 none true) (.seq (.rep (.cls cT) 2 none true) (opt (.cls cDot)))

/-- **table obligation**: the host part is `IP | localhost | (label\.)+ tld \.?` -/
theorem hostRe_eq : hostRe = .alt ipRe (.alt lhRe namesShape) := by decide +kernel

theorem labelRe_anchorFree : anchorFree labelRe = true := by decide +kernel

/-! ## `HTTP_PROTOCOL_RE` -/

def hsp (i : Nat) : Re := (spine HTTP_PROTOCOL_RE)[i]?.getD .empty
def cH : CharClass := clsOf (hsp 1)
def cTt : CharClass := clsOf (hsp 2)
def cP : CharClass := clsOf (hsp 4)
def cS : CharClass := clsOf (repBody (hsp 5))

/-- **table obligation**: `HTTP_PROTOCOL_RE` is `^ h t t p s? : / /` (case-insensitive, the
long s U+017F stands for `s`) -/
theorem http_shape :
    spine HTTP_PROTOCOL_RE =
      [.bos, .cls cH, .cls cTt, .cls cTt, .cls cP, opt (.cls cS), .cls cColon, .cls cSlash, .cls cSlash] ∧
    cH = ⟨false, [(72, 72), (104, 104)]⟩ ∧ cTt = ⟨false, [(84, 84), (116, 116)]⟩ ∧
    cP = ⟨false, [(80, 80), (112, 112)]⟩ ∧ cS = ⟨false, [(83, 83), (115, 115), (383, 383)]⟩ := by
  decide +kernel

/-- **table obligation**: no class of `SPECIAL_HOSTS_RE` holds an `x` (a special host has no
punycode label) -/
theorem special_no_x : allCls (fun C => C.avoids [88, 120]) SPECIAL_HOSTS_RE = true := by decide +kernel

def cAsciiLetters : CharClass := clsOf (repBody (seqL (repBody ((spine PROTOCOL_RE)[1]?.getD .empty))))

/-- **table obligation**: `PROTOCOL_RE` is `^ ([a-zA-Z]{1,64}:)? //` on ASCII letters -/
theorem protocol_shape :
    spine PROTOCOL_RE =
      [.bos, opt (.seq (.rep (.cls cAsciiLetters) 1 (some 64) true) (.cls cColon)), .cls cSlash, .cls cSlash] ∧
    cAsciiLetters = ⟨false, [(65, 90), (97, 122)]⟩ := by decide +kernel

/-- **table obligation**: no repetition body of the eight patterns can match the empty string (the
executable matcher is complete on them) -/
theorem all_noNullRep :
    noNullRep URL_RE = true ∧ noNullRep URL_WITH_PROTOCOL_RE = true ∧
    noNullRep RELAXED_URL_RE = true ∧ noNullRep RELAXED_URL_WITH_PROTOCOL_RE = true ∧
    noNullRep HTTP_PROTOCOL_RE = true ∧ noNullRep PROTOCOL_RE = true ∧
    noNullRep SPECIAL_HOSTS_RE = true ∧ noNullRep URL_IN_TEXT_RE = true := by decide +kernel

theorem patterns_noNullRep :
    noNullRep R = true ∧ noNullRep HTTP_PROTOCOL_RE = true ∧ noNullRep PROTOCOL_RE = true ∧
      noNullRep SPECIAL_HOSTS_RE = true :=
  ⟨all_noNullRep.2.2.2.1, all_noNullRep.2.2.2.2.1, all_noNullRep.2.2.2.2.2.1,
    all_noNullRep.2.2.2.2.2.2.1⟩

/-! ## the table obligations, conjunct by conjunct -/

theorem hostRe_avoids : allCls (fun C => C.avoids hostBad) hostRe = true := class_facts.1
theorem hostRe_lowerClosed : allCls CharClass.lowerClosed hostRe = true := class_facts.2.1
theorem hostRe_anchorFree : anchorFree hostRe = true := class_facts.2.2.1
theorem ipRe_no_x : allCls (fun C => C.avoids [88, 120]) ipRe = true := class_facts.2.2.2.1
theorem lhRe_no_x : allCls (fun C => C.avoids [88, 120]) lhRe = true := class_facts.2.2.2.2.1
theorem cF_no_dot : cF.avoids [46] = true := class_facts.2.2.2.2.2.1
theorem cM_no_dot : cM.avoids [46] = true := class_facts.2.2.2.2.2.2.1
theorem cT_no_dash_dot : cT.avoids [45, 46] = true := class_facts.2.2.2.2.2.2.2.1
theorem cDot_eq : cDot = ⟨false, [(46, 46)]⟩ := class_facts.2.2.2.2.2.2.2.2.1
theorem cColon_eq : cColon = ⟨false, [(58, 58)]⟩ := class_facts.2.2.2.2.2.2.2.2.2.1
theorem cSlash_eq : cSlash = ⟨false, [(47, 47)]⟩ := class_facts.2.2.2.2.2.2.2.2.2.2.1
theorem cAt_eq : cAt = ⟨false, [(64, 64)]⟩ := class_facts.2.2.2.2.2.2.2.2.2.2.2.1
theorem cDelim_eq : cDelim = ⟨false, [(35, 35), (47, 47), (63, 63)]⟩ :=
  class_facts.2.2.2.2.2.2.2.2.2.2.2.2.1
theorem cAny_co : cAny.coWithin [10] = true := class_facts.2.2.2.2.2.2.2.2.2.2.2.2.2.1
theorem cNonSpace_co : cNonSpace.coWithin spaceCodes = true :=
  class_facts.2.2.2.2.2.2.2.2.2.2.2.2.2.2.1
theorem cDigit_ascii : (List.range 10).all (fun i => cDigit.mem (Char.ofNat (48 + i))) = true :=
  class_facts.2.2.2.2.2.2.2.2.2.2.2.2.2.2.2.1
theorem cDigit_avoids : cDigit.avoids hostBad = true :=
  class_facts.2.2.2.2.2.2.2.2.2.2.2.2.2.2.2.2.1
theorem cLetters_no_colon : cLetters.avoids [58] = true :=
  class_facts.2.2.2.2.2.2.2.2.2.2.2.2.2.2.2.2.2.1
theorem cLetters_http : [104, 116, 112, 115].all (fun n => cLetters.mem (Char.ofNat n)) = true :=
  class_facts.2.2.2.2.2.2.2.2.2.2.2.2.2.2.2.2.2.2

theorem labelRe_lowerClosed : allCls CharClass.lowerClosed labelRe = true := label_facts.1
theorem labelRe_no_dot : allCls (fun C => C.avoids [46]) labelRe = true := label_facts.2.1
theorem cT_lowerClosed : cT.lowerClosed = true := label_facts.2.2.1
theorem hostRe_not_nullable : nullable hostRe = false := label_facts.2.2.2.1
theorem special_ends_eos : (spine SPECIAL_HOSTS_RE).getLast? = some .eos := label_facts.2.2.2.2.1
theorem cNonSpace_no_tab_lf_cr : cNonSpace.avoids [9, 10, 13] = true := label_facts.2.2.2.2.2

theorem http_spine :
    spine HTTP_PROTOCOL_RE =
      [.bos, .cls cH, .cls cTt, .cls cTt, .cls cP, opt (.cls cS), .cls cColon, .cls cSlash, .cls cSlash] :=
  http_shape.1
theorem cH_eq : cH = ⟨false, [(72, 72), (104, 104)]⟩ := http_shape.2.1
theorem cTt_eq : cTt = ⟨false, [(84, 84), (116, 116)]⟩ := http_shape.2.2.1
theorem cP_eq : cP = ⟨false, [(80, 80), (112, 112)]⟩ := http_shape.2.2.2.1
theorem cS_eq : cS = ⟨false, [(83, 83), (115, 115), (383, 383)]⟩ := http_shape.2.2.2.2

theorem protocol_spine :
    spine PROTOCOL_RE =
      [.bos, opt (.seq (.rep (.cls cAsciiLetters) 1 (some 64) true) (.cls cColon)), .cls cSlash, .cls cSlash] :=
  protocol_shape.1
theorem cAsciiLetters_eq : cAsciiLetters = ⟨false, [(65, 90), (97, 122)]⟩ := protocol_shape.2

theorem R_noNullRep : noNullRep R = true := patterns_noNullRep.1
theorem http_noNullRep : noNullRep HTTP_PROTOCOL_RE = true := patterns_noNullRep.2.1
theorem protocol_noNullRep : noNullRep PROTOCOL_RE = true := patterns_noNullRep.2.2.1

end Ural.UrlPattern
