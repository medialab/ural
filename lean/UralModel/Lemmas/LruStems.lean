import UralModel.Lemmas.LruIndex
import UralModel.Lemmas.LruNetloc
import UralModel.Lemmas.LruSerial
/-!
# The stems of a URL, group by group, and what `lru_to_url` rebuilds from them

`groupsOf`: the eight tag groups of `lru_stems` (`Groups`, `Lemmas/LruIndex.lean`); `indexOf`: the
dictionary `lru_to_url` builds from them, read tag by tag (`child_*`); `hostOfStems`: the host its
`h` entry spells, which `rejoinHost_of_rejoins` turns into the hostname under C08's clause.
-/
namespace Ural.Lru
open Ural Ural.Py

variable (sp : Str → Option (Str × Str))

/-! ## tags -/

theorem eq_of_mem_strStem {tag : Char} {x : Str} {t : TStem} (h : t ∈ strStem tag x) : t = (tag, x) := by
  unfold strStem at h
  split at h
  · exact List.mem_singleton.1 h
  · cases h

theorem eq_of_mem_optStem {tag : Char} {o : Option Str} {t : TStem} (h : t ∈ optStem tag o) :
    t = (tag, o.getD []) := by
  cases o with
  | none => cases h
  | some x => exact eq_of_mem_strStem h

theorem tag_strStem {tag : Char} {x : Str} {t : TStem} (h : t ∈ strStem tag x) : t.1 = tag := by
  rw [eq_of_mem_strStem h]

theorem tag_optStem {tag : Char} {o : Option Str} {t : TStem} (h : t ∈ optStem tag o) : t.1 = tag := by
  rw [eq_of_mem_optStem h]

theorem tag_portStems {pieces : List Str} {t : TStem} (h : t ∈ portStems pieces) : t.1 = 't' := by
  match pieces, h with
  | [_, port], h => simp [portStems] at h; simp [h]

theorem tag_labelStems {s : Str} {t : TStem} (h : t ∈ labelStems s) : t.1 = 'h' := by
  simp only [labelStems, List.mem_map] at h
  obtain ⟨l, _, rfl⟩ := h; rfl

theorem tag_normalHostStems {host0 : Str} {t : TStem} (h : t ∈ normalHostStems host0) : t.1 = 'h' := by
  unfold normalHostStems at h
  split at h
  · simp at h; simp [h]
  · exact tag_labelStems h

theorem tag_hostStemsOfSplit {host0 hn : Str} {o : Option (Str × Str)} {t : TStem}
    (h : t ∈ hostStemsOfSplit host0 hn o) : t.1 = 'h' := by
  match o with
  | none => exact tag_normalHostStems h
  | some (d, s) =>
    simp only [hostStemsOfSplit, List.mem_append, List.mem_cons] at h
    rcases h with h | rfl | h
    · rw [(List.mem_replicate.1 h).2]
    · rfl
    · split at h
      · exact tag_labelStems h
      · simp at h

/-- `hostStems` without its `let` -/
theorem hostStems_eq (sa : Bool) (n host0 : Str) :
    hostStems sp sa n host0 =
      if (sa && !(host0.head? == some '[')) = true
      then hostStemsOfSplit host0 (lowerHostname n) (splitSuffixParsed sp n)
      else normalHostStems host0 := rfl

/-- the host stems in the vocabulary of the specification (`hostSplit`: a bracketed literal has
no public suffix) -/
theorem hostStems_spec (sa : Bool) (n : Str) :
    hostStems sp sa n (specHost n) =
      if sa then hostStemsOfSplit (specHost n) (lowerHostname n) (hostSplit sp n)
      else normalHostStems (specHost n) := by
  rw [hostStems_eq]
  unfold hostSplit
  cases sa <;> cases ((specHost n).head? == some '[') <;> simp [hostStemsOfSplit]

/-- the grammar host starts with `[` only if `host[:port]` does … -/
theorem hostportOf_bracket_of_specHost {n : Str} (h : ((specHost n).head? == some '[') = true) :
    ∃ r, hostportOf n = '[' :: r := by
  cases hh : specHost n with
  | nil => simp [hh] at h
  | cons c r =>
    rw [hostportOf_of_specHost (by simp [hh]), hh]
    simp only [hh, List.head?_cons, beq_iff_eq, Option.some.injEq] at h
    exact ⟨r ++ optPart ':' (specPort n), by rw [h]; rfl⟩

/-- … and then the first piece of `PORT_SPLITTER.split` starts with `[` too (any netloc, inside
the grammar or not): where the specification sees a bracketed literal, stems.py does -/
theorem head_portSplit_bracket {n : Str} (h : ((specHost n).head? == some '[') = true) :
    (((portSplit (hostportOf n)).headD []).head? == some '[') = true := by
  obtain ⟨r, hr⟩ := hostportOf_bracket_of_specHost h
  rw [hr]
  unfold portSplit
  simp only [splitBy]
  have : (('[' : Char) == ':') = false := by decide
  simp only [this, Bool.false_and, Bool.false_eq_true, if_false]
  cases splitBy (fun c rest => c == ':' && !portLookahead rest) r <;> simp [consHead]

/-- what `splitSuffixParsed` hands over when it answers -/
theorem splitSuffixParsed_some {n d s : Str}
    (h : splitSuffixParsed sp n = some (d, s)) : sp (pyHostname n) = some (d, s) := by
  unfold splitSuffixParsed at h
  simp only at h
  split at h
  · cases h
  · split at h
    · cases h
    · exact h

theorem hostSplit_bracketed {n inner : Str} (hin : specHost n = '[' :: inner ++ [']']) :
    hostSplit sp n = none := by
  unfold hostSplit
  rw [hin]; rfl

theorem hostSplit_plain {n : Str} (hp : Plain (specHost n)) :
    hostSplit sp n = splitSuffixParsed sp n := by
  unfold hostSplit
  have : ((specHost n).head? == some '[') = false := by
    cases hh : specHost n with
    | nil => rfl
    | cons c r =>
      have : c ≠ '[' := (hp c (by rw [hh]; simp)).2.1
      simp [this]
  rw [this]; rfl

theorem tag_hostStems {sa : Bool} {n host0 : Str} {t : TStem}
    (h : t ∈ hostStems sp sa n host0) : t.1 = 'h' := by
  rw [hostStems_eq] at h
  split at h
  · exact tag_hostStemsOfSplit h
  · exact tag_normalHostStems h

theorem hostStems_ne_nil (sa : Bool) (n host0 : Str) : hostStems sp sa n host0 ≠ [] := by
  have h1 : normalHostStems host0 ≠ [] := by
    unfold normalHostStems
    split
    · simp
    · have : splitChar '.' host0 ≠ [] := splitBy_ne_nil host0
      simpa [labelStems] using this
  rw [hostStems_eq]
  split
  · cases splitSuffixParsed sp n with
    | none => exact h1
    | some ds => simp [hostStemsOfSplit]
  · exact h1

theorem tag_pathStems {path : Str} {t : TStem} (h : t ∈ pathStems path) : t.1 = 'p' := by
  simp only [pathStems, List.mem_map] at h
  obtain ⟨l, _, rfl⟩ := h; rfl

/-- the path stems of a list of segments -/
def segStems (segs : List Str) : List TStem := segs.map (fun e => ('p', e))

theorem tag_segStems {l : List Str} {t : TStem} (h : t ∈ segStems l) : t.1 = 'p' := by
  simp only [segStems, List.mem_map] at h
  obtain ⟨l, _, rfl⟩ := h; rfl

/-- the eight groups of `lru_stems` -/
theorem lruStemsT_groups (sa : Bool) (p : Parts) :
    lruStemsT sp sa p =
      strStem 's' p.scheme ++ (portStems (portSplit (hostportOf p.netloc)) ++
      (hostStems sp sa p.netloc ((portSplit (hostportOf p.netloc)).headD []) ++ (pathStems p.path ++
      (strStem 'q' p.query ++ (strStem 'f' p.fragment ++
      (optStem 'u' (userOf p.netloc) ++ optStem 'w' (passwordOf p.netloc))))))) := by
  simp [lruStemsT]

/-- `segs` reads the path: `rawSegs` for the stems as emitted, `cleanSegs` for `keyStems` -/
def groupsOf (segs : Str → List Str) (sa : Bool) (p : Parts) : Groups :=
  [('s', strStem 's' p.scheme), ('t', portStems (portSplit (hostportOf p.netloc))),
   ('h', hostStems sp sa p.netloc ((portSplit (hostportOf p.netloc)).headD [])),
   ('p', segStems (segs p.path)), ('q', strStem 'q' p.query), ('f', strStem 'f' p.fragment),
   ('u', optStem 'u' (userOf p.netloc)), ('w', optStem 'w' (passwordOf p.netloc))]

theorem lruStemsT_eq_flat (sa : Bool) (p : Parts) :
    lruStemsT sp sa p = (groupsOf sp rawSegs sa p).flat := by
  rw [lruStemsT_groups]
  simp [groupsOf, Groups.flat, segStems, rawSegs, pathStems]

theorem tagged_groupsOf (segs : Str → List Str) (sa : Bool) (p : Parts) :
    (groupsOf sp segs sa p).Tagged := by
  intro g hg t ht
  simp only [groupsOf, List.mem_cons, List.not_mem_nil, or_false] at hg
  rcases hg with rfl | rfl | rfl | rfl | rfl | rfl | rfl | rfl
  · exact tag_strStem ht
  · exact tag_portStems ht
  · exact tag_hostStems sp ht
  · exact tag_segStems ht
  · exact tag_strStem ht
  · exact tag_strStem ht
  · exact tag_optStem ht
  · exact tag_optStem ht

theorem nodup_tags_groupsOf (segs : Str → List Str) (sa : Bool) (p : Parts) :
    (groupsOf sp segs sa p).tags.Nodup := by
  show (['s', 't', 'h', 'p', 'q', 'f', 'u', 'w'] : List Char).Nodup
  decide

theorem tag_mem_lruStemsT {sa : Bool} {p : Parts} {t : TStem} (h : t ∈ lruStemsT sp sa p) :
    t.1 ∈ tagChars := by
  rw [lruStemsT_eq_flat] at h
  exact (by decide : ∀ c ∈ ['s', 't', 'h', 'p', 'q', 'f', 'u', 'w'], c ∈ tagChars) _
    (Groups.tag_mem_flat (tagged_groupsOf sp rawSegs sa p) h)

/-! ## the stems as a function of the grammar reading -/

theorem optStem_getD (tag : Char) (o : Option Str) : optStem tag o = strStem tag (o.getD []) := by
  cases o with
  | none => simp [optStem, strStem]
  | some x => simp [optStem]

theorem portStems_toList (h : Str) (o : Option Str) :
    portStems (h :: o.toList) = o.toList.map fun x => ('t', x) := by
  cases o <;> rfl

theorem lruStemsT_congr (sa : Bool) {p q : Parts} (hp : wfNetloc p.netloc = true)
    (hq : wfNetloc q.netloc = true) (hs : q.scheme = p.scheme)
    (hport : specPort q.netloc = specPort p.netloc)
    (hhost : hostStems sp sa q.netloc (specHost q.netloc) =
      hostStems sp sa p.netloc (specHost p.netloc))
    (hpath : q.path = p.path) (hquery : q.query = p.query) (hfrag : q.fragment = p.fragment)
    (hu : (userOf q.netloc).getD [] = (userOf p.netloc).getD [])
    (hw : (passwordOf q.netloc).getD [] = (passwordOf p.netloc).getD []) :
    lruStemsT sp sa q = lruStemsT sp sa p := by
  rw [lruStemsT_groups, lruStemsT_groups, portSplit_wf hp, portSplit_wf hq]
  simp only [List.headD_cons, optStem_getD, portStems_toList, hs, hport, hhost, hpath, hquery,
    hfrag, hu, hw]

/-! ## values of each group -/

theorem values_strStem (tag : Char) (x : Str) :
    (strStem tag x).map (·.2) = if x ≠ [] then [x] else [] := by
  unfold strStem; split <;> simp

theorem values_optStem (tag : Char) (o : Option Str) :
    (optStem tag o).map (·.2) = if o.getD [] ≠ [] then [o.getD []] else [] := by
  cases o with
  | none => simp [optStem]
  | some x => simp [optStem, values_strStem]

theorem values_labelStems (s : Str) : (labelStems s).map (·.2) = (splitChar '.' s).reverse := by
  simp [labelStems, List.map_map, Function.comp_def]

theorem values_pathStems (path : Str) : (pathStems path).map (·.2) = (splitChar '/' path).tail := by
  simp [pathStems, List.map_map, Function.comp_def]

/-- the host re-joined from its `h` stems (`hn`: the lower-cased hostname) -/
def hostJoined (host0 hn : Str) : Option (Str × Str) → Str
  | none => host0
  | some (d, s) => rejoinHost hn d s

theorem values_normalHostStems (host0 : Str) :
    (normalHostStems host0).map (·.2) ≠ [] ∧
      joinChar '.' ((normalHostStems host0).map (·.2)).reverse = host0 := by
  unfold normalHostStems
  split
  · simp [joinChar]
  · rw [values_labelStems]
    refine ⟨by simpa [splitChar] using splitBy_ne_nil (p := fun c _ => c == '.') host0, ?_⟩
    rw [List.reverse_reverse, joinChar_splitChar]

/-- `k` empty labels at the end of a dotted name are `k` trailing dots -/
theorem joinChar_append_replicate_nil (l : List Str) (hne : l ≠ []) (k : Nat) :
    joinChar '.' (l ++ List.replicate k []) = joinChar '.' l ++ List.replicate k '.' := by
  induction k with
  | zero => simp
  | succ k ih =>
    rw [List.replicate_succ', ← List.append_assoc,
      joinChar_append_singleton _ (by simp [hne]), ih, List.replicate_succ']
    simp

theorem values_hostStemsOfSplit (host0 hn : Str) (o : Option (Str × Str)) :
    (hostStemsOfSplit host0 hn o).map (·.2) ≠ [] ∧
      joinChar '.' ((hostStemsOfSplit host0 hn o).map (·.2)).reverse = hostJoined host0 hn o := by
  match o with
  | none => exact values_normalHostStems host0
  | some (d, s) =>
    simp only [hostStemsOfSplit, List.map_append, List.map_cons, List.map_replicate, hostJoined,
      rejoinHost]
    refine ⟨by simp, ?_⟩
    simp only [List.reverse_append, List.reverse_cons, List.reverse_replicate, List.append_assoc]
    by_cases hc : d ≠ [] ∨ s.length < (rstripChars hn ['.']).length
    · simp only [hc, if_true, values_labelStems, List.reverse_reverse]
      have hne : splitChar '.' d ≠ [] := splitBy_ne_nil d
      rw [← List.append_assoc, joinChar_append_replicate_nil _ (by simp),
        joinChar_append_singleton _ hne, joinChar_splitChar]
    · simp only [hc, if_false, List.map_nil, List.reverse_nil, List.nil_append]
      rw [joinChar_append_replicate_nil _ (by simp)]
      simp [joinChar]

def hostOfStems (sa : Bool) (n : Str) : Str :=
  if sa then hostJoined (specHost n) (lowerHostname n) (hostSplit sp n) else specHost n

theorem hostStems_values (sa : Bool) (n : Str) :
    (hostStems sp sa n (specHost n)).map (·.2) ≠ [] ∧
      joinChar '.' ((hostStems sp sa n (specHost n)).map (·.2)).reverse = hostOfStems sp sa n := by
  rw [hostStems_spec]
  unfold hostOfStems
  cases sa with
  | false => simpa using values_normalHostStems (specHost n)
  | true => simpa using values_hostStemsOfSplit (specHost n) (lowerHostname n) (hostSplit sp n)

/-! ## `rejoinHost`: trailing dots and the lone leading dot -/

/-- a string is its `rstrip(".")` followed by its trailing dots -/
theorem rstrip_dots_append (l : Str) :
    rstripChars l ['.'] ++ List.replicate (l.length - (rstripChars l ['.']).length) '.' = l := by
  obtain ⟨t, ht, htp⟩ := rstripBy_decomp (['.'].contains ·) l
  have hlen : l.length - (rstripChars l ['.']).length = t.length := by
    have := congrArg List.length ht
    rw [List.length_append] at this
    exact Nat.sub_eq_of_eq_add (by rw [this, Nat.add_comm]; rfl)
  rw [hlen, ← List.eq_replicate_iff.2 ⟨rfl, fun c hc => by simpa using htp c hc⟩]
  exact ht.symm

/-- **C08's clause gives the host back, empty labels included**: when the two parts re-join to the
hostname without its trailing dots (bare suffix, or `first.second`), the suffix-aware stems spell
the hostname itself -/
theorem rejoinHost_of_rejoins {hn d s : Str}
    (h : (d = [] ∧ s = rstripChars hn ['.']) ∨ d ++ '.' :: s = rstripChars hn ['.']) :
    rejoinHost hn d s = hn := by
  unfold rejoinHost
  rcases h with ⟨rfl, rfl⟩ | h
  · simp only [ne_eq, not_true_eq_false, Nat.lt_irrefl, or_self, if_false]
    exact rstrip_dots_append hn
  · have hl : s.length < (rstripChars hn ['.']).length := by
      rw [← h]; simp; omega
    simp only [hl, or_true, if_true]
    rw [h]
    exact rstrip_dots_append hn

theorem mem_rejoinHost_parts {hn d s : Str} {c : Char} (h : c ∈ d ∨ c ∈ s) : c ∈ rejoinHost hn d s := by
  unfold rejoinHost
  rcases h with h | h
  · have : d ≠ [] := by intro e; simp [e] at h
    simp [this, h]
  · split <;> simp [h]

/-! ## the index of the stems of a URL -/

/-- the dictionary `lru_to_url` builds from the stems of a URL -/
def indexOf (sa : Bool) (p : Parts) : Index := (lruStemsT sp sa p).foldl stepT []

theorem child_group (sa : Bool) (p : Parts) {x : Char} {A : List TStem}
    (hm : (x, A) ∈ groupsOf sp rawSegs sa p) :
    child (indexOf sp sa p) [x] = (A.map (·.2)).foldl (fun o v => some (updT x o v)) none := by
  rw [indexOf, child_foldl_stepT, lruStemsT_eq_flat,
    Groups.valuesOf_of_mem (tagged_groupsOf sp rawSegs sa p) (nodup_tags_groupsOf sp rawSegs sa p) hm]
  rfl

theorem foldl_single_ite (x : Char) (v : Str) :
    (if v = [] then [] else [v]).foldl (fun o v => some (updT x o v)) none =
      if v = [] then none else some v := by
  split <;> simp [updT]

theorem child_s (sa : Bool) (p : Parts) :
    child (indexOf sp sa p) ['s'] = if p.scheme ≠ [] then some p.scheme else none := by
  rw [child_group sp sa p (A := strStem 's' p.scheme) (by simp [groupsOf])]
  simp [values_strStem, foldl_single_ite]

theorem child_q (sa : Bool) (p : Parts) :
    child (indexOf sp sa p) ['q'] = if p.query ≠ [] then some p.query else none := by
  rw [child_group sp sa p (A := strStem 'q' p.query) (by simp [groupsOf])]
  simp [values_strStem, foldl_single_ite]

theorem child_f (sa : Bool) (p : Parts) :
    child (indexOf sp sa p) ['f'] = if p.fragment ≠ [] then some p.fragment else none := by
  rw [child_group sp sa p (A := strStem 'f' p.fragment) (by simp [groupsOf])]
  simp [values_strStem, foldl_single_ite]

theorem child_u (sa : Bool) (p : Parts) :
    child (indexOf sp sa p) ['u'] =
      if (userOf p.netloc).getD [] ≠ [] then some ((userOf p.netloc).getD []) else none := by
  rw [child_group sp sa p (A := optStem 'u' (userOf p.netloc)) (by simp [groupsOf])]
  simp [values_optStem, foldl_single_ite]

theorem child_w (sa : Bool) (p : Parts) :
    child (indexOf sp sa p) ['w'] =
      if (passwordOf p.netloc).getD [] ≠ [] then some ((passwordOf p.netloc).getD []) else none := by
  rw [child_group sp sa p (A := optStem 'w' (passwordOf p.netloc)) (by simp [groupsOf])]
  simp [values_optStem, foldl_single_ite]

theorem child_p (sa : Bool) (p : Parts) :
    child (indexOf sp sa p) ['p'] =
      if (splitChar '/' p.path).tail = [] then none
      else some (joinChar '/' (splitChar '/' p.path).tail) := by
  rw [child_group sp sa p (A := pathStems p.path) (by simp [groupsOf, segStems, rawSegs, pathStems])]
  simp [values_pathStems, foldl_updT_p_none]

theorem child_t (sa : Bool) (p : Parts) (h : wfNetloc p.netloc = true) :
    child (indexOf sp sa p) ['t'] = specPort p.netloc := by
  rw [child_group sp sa p (A := portStems (portSplit (hostportOf p.netloc))) (by simp [groupsOf]),
    portSplit_wf h]
  cases specPort p.netloc with
  | none => simp [portStems]
  | some port => simp [portStems, updT]

theorem child_h (sa : Bool) (p : Parts) (h : wfNetloc p.netloc = true) :
    child (indexOf sp sa p) ['h'] = some (hostOfStems sp sa p.netloc) := by
  rw [child_group sp sa p
      (A := hostStems sp sa p.netloc ((portSplit (hostportOf p.netloc)).headD [])) (by simp [groupsOf]),
    portSplit_wf h, List.headD_cons, foldl_updT_h_none, if_neg (hostStems_values sp sa p.netloc).1,
    (hostStems_values sp sa p.netloc).2]

theorem splitLaw_of_hostSplit {n d s : Str} (h : hostSplit sp n = some (d, s))
    (hr : rejoinHost (lowerHostname n) d s = lower (specHost n)) : SplitLaw sp n := by
  intro d' s' h'
  rw [h] at h'
  cases h'
  exact hr

end Ural.Lru
