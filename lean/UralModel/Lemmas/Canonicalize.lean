import UralModel.Model.Canonicalize
import UralModel.Lemmas.QuoteSplit
import UralModel.Lemmas.StrLit
import UralModel.Lemmas.QuoteRoundTrip
import UralModel.Lemmas.StrSplit
/-!
# The component rules of `canonicalize_url`, one by one

The rules as the canonicalisation, normalisation and fingerprint files use them (property theorems:
`Props/C01.lean`, `Props/C02.lean`).  The decoder laws (`PunyLaws`, `IdnaLaws`), the ACE
key `hostKey` and the form reading `formStr` of a query item are defined here.
-/
set_option linter.unusedSimpArgs false

namespace Ural.Canonicalize
open Ural.Py Ural.UrlParts Ural.Quote

/-! ### ASCII lower-casing -/

theorem lower_join_dot (parts : List Str) : lower (join ['.'] parts) = join ['.'] (parts.map lower) :=
  lower_join ['.'] parts

/-! ### the host rule is idempotent -/

/-- What the proofs need from `attempt_to_decode_idna` (CPython's idna codec): it never
produces a dot from a dot-free label, and a decoded, lower-cased label that still starts
with `xn--` (decoding failed, or produced such a label) is left alone by a second
decoding.  An instance is proved for the identity decoder (`punyLaws_id`); the real codec
is compared on every run. -/
structure PunyLaws (puny : Str → Str) : Prop where
  no_dot : ∀ x, '.' ∉ x → '.' ∉ puny x
  stable : ∀ x, (lower (puny x)).take 4 = "xn--".toList →
    lower (puny (lower (puny x))) = lower (puny x)

theorem punyLaws_id : PunyLaws id where
  no_dot := fun _ h => h
  stable := fun x _ => by simp [lower_idem]

theorem punyLaws_one (a b : Str) (hb : '.' ∉ b) (hx : (lower b).take 4 ≠ "xn--".toList) :
    PunyLaws (fun x => if lower x = a then b else x) where
  no_dot := by
    intro x hx'
    split
    · exact hb
    · exact hx'
  stable := by
    intro x h
    by_cases e : lower x = a
    · rw [if_pos e] at h; exact absurd h hx
    · rw [if_neg e] at h ⊢
      rw [lower_idem, if_neg e, lower_idem]

/-- one label of `decode_punycode_hostname`, lower-cased -/
def canonLabel (puny : Str → Str) (part : Str) : Str :=
  lower (if lower (part.take 4) = "xn--".toList then puny (lower (part.take 4) ++ part.drop 4)
    else part)

theorem canonHost_eq (puny : Str → Str) (h : Str) :
    canonHost puny h = join ['.'] ((splitOn h '.').map (canonLabel puny)) := by
  simp only [canonHost, decodePunycodeHostname, lower_join_dot, List.map_map]
  rfl

theorem canonLabel_nil (puny : Str → Str) : canonLabel puny [] = [] := by
  unfold canonLabel
  rw [if_neg (by decide)]
  rfl

theorem canonHost_nil (puny : Str → Str) : canonHost puny [] = [] := by
  rw [canonHost_eq]; exact canonLabel_nil puny

theorem canonLabel_idem (puny : Str → Str) (hp : PunyLaws puny) (part : Str) :
    canonLabel puny (canonLabel puny part) = canonLabel puny part := by
  unfold canonLabel
  by_cases h : lower (part.take 4) = "xn--".toList
  · simp only [h, if_true]
    generalize hx : "xn--".toList ++ part.drop 4 = x
    by_cases h2 : lower ((lower (puny x)).take 4) = "xn--".toList
    · simp only [h2, if_true]
      have h3 : (lower (puny x)).take 4 = "xn--".toList := by
        rw [lower_take, lower_idem] at h2; exact h2
      rw [← h3, List.take_append_drop]
      exact hp.stable x h3
    · simp only [h2, if_false, lower_idem]
  · simp only [h, if_false]
    have : ¬ lower ((lower part).take 4) = "xn--".toList := by
      rw [lower_take, lower_idem, ← lower_take]; exact h
    simp only [this, if_false, lower_idem]

theorem dot_not_mem_canonLabel (puny : Str → Str) (hp : PunyLaws puny) (part : Str)
    (h : '.' ∉ part) : '.' ∉ canonLabel puny part := by
  unfold canonLabel
  rw [dot_mem_lower]
  split
  · apply hp.no_dot
    intro hm
    simp only [List.mem_append] at hm
    rcases hm with hm | hm
    · rw [dot_mem_lower] at hm; exact h (List.mem_of_mem_take hm)
    · exact h (List.mem_of_mem_drop hm)
  · exact h

theorem splitOn_canonHost (puny : Str → Str) (hp : PunyLaws puny) (h : Str) :
    splitOn (canonHost puny h) '.' = (splitOn h '.').map (canonLabel puny) := by
  rw [canonHost_eq, splitOn_join '.' _ (by simpa using splitOn_ne_nil h '.')]
  intro p hp'
  obtain ⟨p0, hp0, rfl⟩ := List.mem_map.1 hp'
  exact dot_not_mem_canonLabel puny hp p0 (not_mem_of_mem_splitOn '.' h p0 hp0)

/-- the host rule is idempotent: the canonical host is its own canonical host -/
theorem canonHost_idem (puny : Str → Str) (hp : PunyLaws puny) (h : Str) :
    canonHost puny (canonHost puny h) = canonHost puny h := by
  rw [canonHost_eq puny (canonHost puny h), splitOn_canonHost puny hp, List.map_map, canonHost_eq]
  exact congrArg _ (List.map_congr_left fun p _ => canonLabel_idem puny hp p)

/-! ### the host rule keeps the name (same host "up to letter case and IDNA spelling")

Two hosts are the same name up to letter case and IDNA spelling when, label by label, their
ASCII-compatible (ACE) spellings agree: `ace` is ToASCII of one label followed by ASCII
lower-casing (CPython: `label.encode("idna")`, an all-ASCII label being its own ACE form) —
the reference encoder, an abstract parameter like the decoder `puny`.  The host rule keeps
the name iff the decoder does (`same_name`): decoding an `xn--` label gives a label with the
ACE spelling of the label it was given — which is what the round-trip check of the `idna`
codec's ToUnicode enforces (a label that does not re-encode to itself is left untouched), and
what the bare `punycode` codec does not (`xn--caf-pia` → `cafÉ`, whose ACE form is
`xn--caf-dma`; `xn--foo-` → `foo`; `xn--` → the empty label …).  Both laws are checked on
the real `decode_punycode_hostname` on every run, over an enumerated class of ACE labels and
on every label of every generated host (`harness/punylaws.py`). -/

/-- the host "up to letter case and IDNA spelling": the ACE key of every label -/
def hostKey (ace : Str → Str) (h : Str) : Str := join ['.'] ((splitOn h '.').map ace)

/-- the label `decode_punycode_hostname` hands to the decoder: header lower-cased -/
def aceForm (part : Str) : Str := lower (part.take 4) ++ part.drop 4

/-- What the host clause of C01 needs of the decoder `puny` (one `xn--` label of
`decode_punycode_hostname`) relative to the reference encoder `ace`: the key ignores ASCII
letter case (a law of the reference), and **decoding never changes the name**. -/
structure IdnaLaws (ace puny : Str → Str) : Prop where
  ace_lower : ∀ l, ace (lower l) = ace l
  same_name : ∀ x, ace (puny x) = ace x

/-- the identity decoder keeps every name -/
theorem idnaLaws_id : IdnaLaws lower id where
  ace_lower := fun l => lower_idem l
  same_name := fun _ => rfl

/-- `same_name` on the `xn--` labels of one host only: the per-case obligation that the
oracle evaluates on the real decoder -/
def SameNameOn (ace puny : Str → Str) (h : Str) : Prop :=
  ∀ part ∈ splitOn h '.', lower (part.take 4) = "xn--".toList →
    ace (puny (aceForm part)) = ace (aceForm part)

instance (ace puny : Str → Str) (h : Str) : Decidable (SameNameOn ace puny h) := by
  unfold SameNameOn; exact inferInstance

theorem sameNameOn_of_laws {ace puny : Str → Str} (hi : IdnaLaws ace puny) (h : Str) :
    SameNameOn ace puny h := fun part _ _ => hi.same_name (aceForm part)

theorem lower_aceForm (part : Str) : lower (aceForm part) = lower part := by
  unfold aceForm
  rw [lower_append, lower_idem, ← lower_append, List.take_append_drop]

/-- one label: the canonical label has the ACE key of the label -/
theorem ace_canonLabel (ace puny : Str → Str) (hl : ∀ l, ace (lower l) = ace l) (part : Str)
    (hs : lower (part.take 4) = "xn--".toList →
      ace (puny (aceForm part)) = ace (aceForm part)) :
    ace (canonLabel puny part) = ace part := by
  unfold canonLabel
  by_cases h : lower (part.take 4) = "xn--".toList
  · rw [if_pos h, hl]
    have e := hs h
    unfold aceForm at e
    rw [e, ← hl, ← aceForm, lower_aceForm, hl]
  · rw [if_neg h, hl]

/-- **the host rule keeps the name**: the canonical host has the ACE key of the host, for
every decoder that never produces a dot and keeps the name of the labels of this host -/
theorem hostKey_canonHost (ace puny : Str → Str) (hp : PunyLaws puny)
    (hl : ∀ l, ace (lower l) = ace l) (h : Str) (hs : SameNameOn ace puny h) :
    hostKey ace (canonHost puny h) = hostKey ace h := by
  unfold hostKey
  rw [splitOn_canonHost puny hp, List.map_map]
  exact congrArg _ (List.map_congr_left fun p hp' => ace_canonLabel ace puny hl p (hs p hp'))

/-! ### text components keep their decoded bytes -/

theorem pctTok_ne_nil (t : Tok) : pctTok t ≠ [] := by
  cases t <;> simp [pctTok, utf8_ne_nil]

theorem pct_eq_nil {ts : List Tok} (h : pct ts = []) : ts = [] :=
  List.eq_nil_iff_forall_not_mem.2 fun t ht => pctTok_ne_nil t (List.flatMap_eq_nil_iff.1 h t ht)

theorem pctStr_eq_nil {s : Str} (h : pctStr s = []) : s = [] := by
  rw [← render_tokens s, pct_eq_nil h]; rfl

theorem safelyUnquote_eq_nil {U : List UInt8} (hU : (0x25 : UInt8) ∈ U) {y : Str}
    (h : safelyUnquote U y = []) : y = [] := by
  apply pctStr_eq_nil
  rw [← pctStr_safelyUnquote U hU y, h]; rfl

theorem unquotePath_eq_nil {y : Str} (h : unquotePath y = []) : y = [] :=
  safelyUnquote_eq_nil (U := Gen.Quote.unsafeForPath) (by decide) h

theorem safelyQuote_eq_nil {y : Str} (h : safelyQuote y = []) : y = [] := by
  apply pctStr_eq_nil
  rw [← pctStr_safelyQuote y, h]; rfl

theorem safelyQuote_nil : safelyQuote [] = [] := by
  simp [safelyQuote, tokens, quoteToks, render]


theorem pctStr_quoteQueryItem (s : Str) : pctStr (quoteQueryItem s) = pctStr s :=
  pctStr_safelyQuoteBy safeSet_quoteSafeQ s

theorem pct_requote (quoted : Bool) (U : List UInt8) (hU : (0x25 : UInt8) ∈ U) (s : Str) :
    pctStr (requote quoted (safelyUnquote U) s) = pctStr s := by
  unfold requote
  split
  · rw [pctStr_safelyQuote, pctStr_safelyUnquote U hU]
  · rw [pctStr_safelyUnquote U hU]

theorem map_pctStr_splitOn (f : Str → Str) (c : Char) (s : Str)
    (hs : splitOn (f s) c = (splitOn s c).map f) (hp : ∀ x, pctStr (f x) = pctStr x) :
    (splitOn (f s) c).map pctStr = (splitOn s c).map pctStr := by
  rw [hs, List.map_map]
  exact List.map_congr_left fun x _ => hp x

/-! ### the `if x:` guards are vacuous -/

theorem requote_false (unq : Str → Str) (s : Str) : requote false unq s = unq s := by
  simp only [requote, Bool.false_eq_true, if_false]

theorem requote_nil (q : Bool) {unq : Str → Str} (h : unq [] = []) : requote q unq [] = [] := by
  cases q <;> simp [requote, h, safelyQuote_nil]

theorem canonOpt_eq_map (q : Bool) {unq : Str → Str} (h : unq [] = []) (o : Option Str) :
    canonOpt q unq o = o.map (requote q unq) := by
  cases o with
  | none => rfl
  | some u =>
    cases u with
    | nil => simp [canonOpt, requote_nil q h]
    | cons c r => simp [canonOpt]

theorem getD_canonOpt (q : Bool) {unq : Str → Str} (h : unq [] = []) (o : Option Str) :
    (canonOpt q unq o).getD [] = requote q unq (o.getD []) := by
  rw [canonOpt_eq_map q h]
  cases o with
  | none => exact (requote_nil q h).symm
  | some u => rfl

theorem hostRule_eq_map (puny : Str → Str) (o : Option Str) : hostRule puny o = o.map (canonHost puny) := by
  cases o with
  | none => rfl
  | some u =>
    cases u with
    | nil => simp [hostRule, canonHost_nil]
    | cons c r => simp [hostRule]

theorem safelyUnquote_nil (U : List UInt8) : safelyUnquote U [] = [] := by
  simp [safelyUnquote, tokens, escapeRaw, unquoteToks, assemble, flush, segment, segment.go, render]

/-! ### query items -/

theorem cutFirst_eq_splitFirst (sep : Char) (s : Str) : cutFirst sep s = splitFirst s sep := by
  induction s with
  | nil => rw [splitFirst_nil]; rfl
  | cons c cs ih =>
    rw [splitFirst_cons]
    by_cases hc : c = sep
    · simp [cutFirst, hc]
    · simp [cutFirst, hc, ih]

theorem cutFirst_of_not_mem (sep : Char) (k : Str) (h : sep ∉ k) : cutFirst sep k = (k, none) := by
  rw [cutFirst_eq_splitFirst]; exact splitFirst_notMem k sep h

theorem cutFirst_append (sep : Char) (k v : Str) (h : sep ∉ k) :
    cutFirst sep (k ++ sep :: v) = (k, some v) := by
  rw [cutFirst_eq_splitFirst]; exact splitFirst_append_sep k v sep h

theorem cutFirst_cases (sep : Char) (s : Str) :
    (sep ∉ s ∧ cutFirst sep s = (s, none)) ∨
    ∃ k v, sep ∉ k ∧ s = k ++ sep :: v ∧ cutFirst sep s = (k, some v) := by
  rw [cutFirst_eq_splitFirst]; exact splitFirst_cases s sep

/-- items that serialize and re-split to themselves: what `safe_qsl_iter` returns
(`wf_safeQslIter`) and `safeQslIter_serialize` asks -/
def ItemWf (kv : Str × Option Str) : Prop :=
  '&' ∉ kv.1 ∧ '=' ∉ kv.1 ∧ ∀ v ∈ kv.2, '&' ∉ v

def serializeItem (kv : Str × Option Str) : Str :=
  match kv.2 with | none => kv.1 | some v => kv.1 ++ ['='] ++ v

theorem safeSerializeQsl_eq (qsl : List (Str × Option Str)) :
    safeSerializeQsl qsl = join ['&'] (qsl.map serializeItem) := by
  unfold safeSerializeQsl serializeItem
  congr 1

theorem safeQslIter_eq (q : Str) :
    safeQslIter q = (splitOn q '&').map (fun item => cutFirst '=' item) := rfl

theorem wf_safeQslIter (q : Str) : ∀ kv ∈ safeQslIter q, ItemWf kv := by
  rw [safeQslIter_eq]
  intro kv hkv
  simp only [List.mem_map] at hkv
  obtain ⟨item, hitem, rfl⟩ := hkv
  have hamp := not_mem_of_mem_splitOn '&' q item hitem
  rcases cutFirst_cases '=' item with ⟨he, e⟩ | ⟨k, v, hk, rfl, e⟩ <;> rw [e]
  · exact ⟨hamp, he, fun v hv => (nomatch hv)⟩
  · refine ⟨fun hm => hamp (by simp [hm]), hk, fun v' hv hm => hamp ?_⟩
    cases hv; simp [hm]

theorem cutFirst_serializeItem (kv : Str × Option Str) (h : ItemWf kv) :
    cutFirst '=' (serializeItem kv) = kv := by
  obtain ⟨k, v⟩ := kv
  cases v with
  | none => exact cutFirst_of_not_mem '=' k h.2.1
  | some v =>
    simp only [serializeItem]
    have : k ++ ['='] ++ v = k ++ '=' :: v := by simp
    rw [this]
    exact cutFirst_append '=' k v h.2.1

theorem amp_not_mem_serializeItem (kv : Str × Option Str) (h : ItemWf kv) :
    '&' ∉ serializeItem kv := by
  obtain ⟨k, v⟩ := kv
  cases v with
  | none => exact h.1
  | some v =>
    simp only [serializeItem, List.mem_append, List.mem_singleton, not_or]
    exact ⟨⟨h.1, by decide⟩, h.2.2 v rfl⟩

/-- serializing well-formed items and splitting again gives the items back -/
theorem safeQslIter_serialize (qsl : List (Str × Option Str)) (hne : qsl ≠ [])
    (h : ∀ kv ∈ qsl, ItemWf kv) : safeQslIter (safeSerializeQsl qsl) = qsl := by
  rw [safeQslIter_eq, safeSerializeQsl_eq, splitOn_join '&' _ (by simpa using hne)]
  · rw [List.map_map]
    conv => rhs; rw [← List.map_id qsl]
    apply List.map_congr_left
    intro kv hkv
    exact cutFirst_serializeItem kv (h kv hkv)
  · intro p hp
    simp only [List.mem_map] at hp
    obtain ⟨kv, hkv, rfl⟩ := hp
    exact amp_not_mem_serializeItem kv (h kv hkv)

theorem sep_amp : Sep '&' := ⟨by decide, by decide⟩
theorem sep_eq : Sep '=' := ⟨by decide, by decide⟩
theorem sep_slash : Sep '/' := ⟨by decide, by decide⟩
theorem sep_colon : Sep ':' := ⟨by decide, by decide⟩
theorem sep_at : Sep '@' := ⟨by decide, by decide⟩
theorem sep_question : Sep '?' := ⟨by decide, by decide⟩
theorem sep_hash : Sep '#' := ⟨by decide, by decide⟩

theorem not_mem_unquoteQueryItem (s : Str) :
    ('&' ∉ s → '&' ∉ unquoteQueryItem s) ∧ ('=' ∉ s → '=' ∉ unquoteQueryItem s) := by
  have h : UInt8.ofNat '&'.toNat ∈ Gen.Quote.unsafeForQueryItem ∧
      UInt8.ofNat '='.toNat ∈ Gen.Quote.unsafeForQueryItem := by decide
  exact ⟨not_mem_safelyUnquote _ sep_amp (by decide) h.1 s, not_mem_safelyUnquote _ sep_eq (by decide) h.2 s⟩

/-- a character that `quote` escapes does not occur in the output of `safely_quote` -/
theorem not_mem_safelyQuoteBy {f : Char → Bool} {c : Char} (hc : Sep c) (hq : f c = false) (s : Str) :
    c ∉ safelyQuoteBy f s := by
  intro hmem
  rcases mem_safelyQuoteBy hmem with h | h | h
  · rw [hq] at h; cases h.2
  · exact hc.1 h
  · rw [hc.2] at h; cases h

theorem not_mem_safelyQuote {c : Char} (hc : Sep c) (hq : quoteSafe c = false) (s : Str) :
    c ∉ safelyQuote s := by
  rw [safelyQuote_fun]; exact not_mem_safelyQuoteBy hc hq s

theorem not_mem_quoteQueryItem {c : Char} (hc : Sep c) (hq : quoteSafeQ c = false) (s : Str) :
    c ∉ quoteQueryItem s := not_mem_safelyQuoteBy hc hq s

/-! ### the query rule is a map over keys and values -/

/-- a query key / value as `canonicalize_url` prints it: unquoted, and quoted again with
`safe="/+"` in quoted mode -/
def requoteItem (quoted : Bool) (s : Str) : Str :=
  if quoted then quoteQueryItem (unquoteQueryItem s) else unquoteQueryItem s

def mapItem (g : Str → Str) (kv : Str × Option Str) : Str × Option Str := (g kv.1, kv.2.map g)

def qmap (g : Str → Str) (x : Str) : Str := safeSerializeQsl ((safeQslIter x).map (mapItem g))

theorem unquoteQsl_eq_map (l : List (Str × Option Str)) :
    unquoteQsl l = l.map (mapItem unquoteQueryItem) := by
  unfold unquoteQsl
  apply List.map_congr_left
  rintro ⟨k, v⟩ _
  simp only [mapItem]

theorem quoteQsl_eq_map (l : List (Str × Option Str)) : quoteQsl l = l.map (mapItem quoteQueryItem) := by
  unfold quoteQsl
  apply List.map_congr_left
  rintro ⟨k, v⟩ _
  simp only [mapItem]

theorem mapItem_comp (f g : Str → Str) : mapItem f ∘ mapItem g = mapItem (f ∘ g) := by
  funext ⟨k, v⟩
  cases v <;> simp only [Function.comp, mapItem, Option.map_none, Option.map_some]

theorem canonQuery_eq_qmap (q : Bool) (x : Str) : canonQuery q x = qmap (requoteItem q) x := by
  unfold canonQuery qmap
  cases q
  · have e : requoteItem false = unquoteQueryItem :=
      funext fun s => by simp only [requoteItem, Bool.false_eq_true, if_false]
    simp only [Bool.false_eq_true, if_false, unquoteQsl_eq_map, e]
  · have e : requoteItem true = quoteQueryItem ∘ unquoteQueryItem :=
      funext fun s => by simp only [requoteItem, if_true, Function.comp]
    simp only [if_true, unquoteQsl_eq_map, quoteQsl_eq_map, List.map_map, mapItem_comp, e]

def ItemSafe (g : Str → Str) : Prop := ∀ s, ('&' ∉ s → '&' ∉ g s) ∧ ('=' ∉ s → '=' ∉ g s)

theorem itemSafe_requoteItem (q : Bool) : ItemSafe (requoteItem q) := by
  intro s
  cases q
  · simp only [requoteItem, Bool.false_eq_true, if_false]
    exact not_mem_unquoteQueryItem s
  · simp only [requoteItem, if_true]
    exact ⟨fun _ => not_mem_quoteQueryItem sep_amp (by decide) _,
      fun _ => not_mem_quoteQueryItem sep_eq (by decide) _⟩

theorem itemWf_mapItem {g : Str → Str} (hg : ItemSafe g) {kv : Str × Option Str} (h : ItemWf kv) :
    ItemWf (mapItem g kv) := by
  obtain ⟨k, v⟩ := kv
  refine ⟨(hg k).1 h.1, (hg k).2 h.2.1, ?_⟩
  intro v' hv'
  cases v with
  | none => simp [mapItem] at hv'
  | some v0 =>
    simp only [mapItem, Option.map_some, Option.mem_def, Option.some.injEq] at hv'
    subst hv'
    exact (hg v0).1 (h.2.2 v0 rfl)

theorem wf_unquoteQsl (qsl : List (Str × Option Str)) (h : ∀ kv ∈ qsl, ItemWf kv) :
    ∀ kv ∈ unquoteQsl qsl, ItemWf kv := by
  rw [unquoteQsl_eq_map]
  intro kv hkv
  obtain ⟨kv0, h0, rfl⟩ := List.mem_map.1 hkv
  exact itemWf_mapItem not_mem_unquoteQueryItem (h kv0 h0)

theorem safeQslIter_ne_nil (x : Str) : safeQslIter x ≠ [] := by
  rw [safeQslIter_eq]; simpa using splitOn_ne_nil x '&'

theorem iter_qmap {g : Str → Str} (hg : ItemSafe g) (x : Str) :
    safeQslIter (qmap g x) = (safeQslIter x).map (mapItem g) :=
  safeQslIter_serialize _ (by simpa using safeQslIter_ne_nil x) (fun kv hkv => by
    obtain ⟨kv0, h0, rfl⟩ := List.mem_map.1 hkv
    exact itemWf_mapItem hg (wf_safeQslIter x kv0 h0))

theorem qmap_qmap {g : Str → Str} (hg : ItemSafe g) (f : Str → Str) (x : Str) :
    qmap f (qmap g x) = qmap (f ∘ g) x := by
  have e : qmap f (qmap g x) = safeSerializeQsl ((safeQslIter (qmap g x)).map (mapItem f)) := by
    unfold qmap; rfl
  rw [e, iter_qmap hg, List.map_map, mapItem_comp]
  unfold qmap
  rfl

theorem qmap_congr {f g : Str → Str} (x : Str)
    (h : ∀ kv ∈ safeQslIter x, f kv.1 = g kv.1 ∧ ∀ v ∈ kv.2, f v = g v) : qmap f x = qmap g x := by
  unfold qmap
  congr 1
  apply List.map_congr_left
  intro kv hkv
  obtain ⟨k, v⟩ := kv
  have := h _ hkv
  cases v with
  | none => simp [mapItem, this.1]
  | some v0 => simp [mapItem, this.1, this.2 v0 rfl]

/-- the decoded view of a query item -/
def pctItem (kv : Str × Option Str) : List UInt8 × Option (List UInt8) :=
  (pctStr kv.1, kv.2.map pctStr)

theorem canonQuery_items_view_on {β : Type} (view : Str → β) (quoted : Bool) (q : Str)
    (hv : ∀ kv ∈ safeQslIter q, view (requoteItem quoted kv.1) = view kv.1 ∧
      ∀ v ∈ kv.2, view (requoteItem quoted v) = view v) :
    (safeQslIter (canonQuery quoted q)).map (fun kv => (view kv.1, kv.2.map view)) =
      (safeQslIter q).map (fun kv => (view kv.1, kv.2.map view)) := by
  rw [canonQuery_eq_qmap, iter_qmap (itemSafe_requoteItem quoted), List.map_map]
  apply List.map_congr_left
  intro kv hkv
  obtain ⟨k, v⟩ := kv
  have := hv _ hkv
  cases v with
  | none => simp [mapItem, this.1]
  | some v0 => simp [mapItem, this.1, this.2 v0 rfl]

theorem canonQuery_items_view {β : Type} (view : Str → β)
    (hu : ∀ x, view (unquoteQueryItem x) = view x) (hq : ∀ x, view (quoteQueryItem x) = view x)
    (quoted : Bool) (q : Str) :
    (safeQslIter (canonQuery quoted q)).map (fun kv => (view kv.1, kv.2.map view)) =
      (safeQslIter q).map (fun kv => (view kv.1, kv.2.map view)) := by
  have hv : ∀ s, view (requoteItem quoted s) = view s := by
    intro s; cases quoted <;> simp [requoteItem, hu, hq]
  exact canonQuery_items_view_on view quoted q fun kv _ => ⟨hv _, fun v _ => hv v⟩

/-- **query clause of C01**: re-splitting the canonical query gives the same ordered list
of decoded keys and values (a bare key stays bare) as splitting the input query -/
theorem canonQuery_items (quoted : Bool) (q : Str) :
    (safeQslIter (canonQuery quoted q)).map pctItem = (safeQslIter q).map pctItem :=
  canonQuery_items_view pctStr (fun x => pctStr_safelyUnquote _ (by decide) x) pctStr_quoteQueryItem
    quoted q

theorem pctStr_requoteItem (q : Bool) (s : Str) : pctStr (requoteItem q s) = pctStr s := by
  unfold requoteItem
  cases q
  · simp only [Bool.false_eq_true, if_false]
    exact pctStr_safelyUnquote _ unsafeForQueryItem_ok.1 s
  · simp only [if_true]
    rw [pctStr_quoteQueryItem]; exact pctStr_safelyUnquote _ unsafeForQueryItem_ok.1 s

/-- the canonical query is empty exactly when the query is -/
theorem canonQuery_isEmpty (quoted : Bool) (q : Str) : (canonQuery quoted q).isEmpty = q.isEmpty := by
  have key : canonQuery quoted q = [] → q = [] := by
    intro he
    have h1 := iter_qmap (itemSafe_requoteItem quoted) q
    rw [← canonQuery_eq_qmap, he] at h1
    have h0 : safeQslIter ([] : Str) = [([], none)] := by
      simp [safeQslIter, splitOn_nil, cutFirst]
    rw [h0, safeQslIter_eq] at h1
    -- one item, with an empty key and no value
    have hj := join_splitOn '&' q
    cases hsp : splitOn q '&' with
    | nil => exact absurd hsp (splitOn_ne_nil q '&')
    | cons item r =>
      rw [hsp] at h1 hj
      cases r with
      | cons _ _ => simp at h1
      | nil =>
        simp only [List.map_cons, List.map_nil, List.cons.injEq, and_true, mapItem,
          Prod.mk.injEq] at h1
        have hk : (cutFirst '=' item).1 = [] :=
          pctStr_eq_nil (by rw [← pctStr_requoteItem quoted, ← h1.1]; rfl)
        rcases cutFirst_cases '=' item with ⟨_, e⟩ | ⟨k, v, _, _, e⟩ <;> rw [e] at h1 hk
        · rw [← hj]; exact hk
        · simp at h1
  cases q with
  | nil =>
    have hnil : requoteItem quoted [] = [] := pctStr_eq_nil (by rw [pctStr_requoteItem]; rfl)
    rw [canonQuery_eq_qmap]
    simp [qmap, safeQslIter, splitOn_nil, cutFirst, mapItem, safeSerializeQsl, join, hnil]
  | cons c d =>
    cases hc : canonQuery quoted (c :: d) with
    | nil => exact absurd (key hc) (by simp)
    | cons _ _ => rfl

/-! ### the form reading of a query item (`+` is a space, `%2B` a plus sign) -/

/-- the pieces of a key / value between its raw `+` signs, percent-decoded -/
def formPieces (s : Str) : List (List UInt8) := (splitOn s '+').map pctStr

/-- form decoding (application/x-www-form-urlencoded, what a server applies to a query key or
value): a raw `+` is a space, then percent-decoding — here: cut at the raw `+`, percent-decode
the pieces, put the space byte between them.  `pctStr` reads `+` as a plus sign and cannot tell
`+` from `%2B`; this reading can (FX-C01-6e09416). -/
def formStr (s : Str) : List UInt8 := List.intercalate [0x20] (formPieces s)

/-- the form-decoded view of a query item -/
def formItem (kv : Str × Option Str) : List UInt8 × Option (List UInt8) :=
  (formStr kv.1, kv.2.map formStr)

theorem sep_plus : Sep '+' := ⟨by decide, by decide⟩

/-- a safe unquoter whose unsafe set holds `+` keeps the form reading -/
theorem formStr_safelyUnquote (U : List UInt8) (hU : (0x25 : UInt8) ∈ U) (hplus : (0x2B : UInt8) ∈ U)
    (s : Str) : formStr (safelyUnquote U s) = formStr s := by
  unfold formStr formPieces
  rw [map_pctStr_splitOn _ '+' s (splitOn_safelyUnquote U sep_plus (by decide) (by decide) hplus s)
    (pctStr_safelyUnquote U hU)]

/-- quoting with a set that holds `+` keeps the form reading -/
theorem formStr_safelyQuoteBy {f : Char → Bool} (hf : SafeSet f) (hplus : f '+' = true) (s : Str) :
    formStr (safelyQuoteBy f s) = formStr s := by
  unfold formStr formPieces
  rw [map_pctStr_splitOn _ '+' s (splitOn_safelyQuoteBy sep_plus hplus s) (pctStr_safelyQuoteBy hf)]

/-- **query clause of C01, form reading**: re-splitting the canonical query gives the same
ordered list of FORM-decoded keys and values as splitting the input query — a `+` (space) is
never rewritten into `%2B` (plus sign) or back.  Rests on the table fact that `+` is in
`UNSAFE_FOR_QUERY_ITEM` (`hplus`, a table obligation of C01) and on `safely_quote_qsl` leaving
`+` alone (`quoteSafeQ '+'`). -/
theorem canonQuery_items_form (hplus : (0x2B : UInt8) ∈ Gen.Quote.unsafeForQueryItem)
    (quoted : Bool) (q : Str) :
    (safeQslIter (canonQuery quoted q)).map formItem = (safeQslIter q).map formItem :=
  canonQuery_items_view formStr (fun x => formStr_safelyUnquote _ (by decide) hplus x)
    (fun x => formStr_safelyQuoteBy safeSet_quoteSafeQ (by decide) x) quoted q

/-- the two readings differ on `+` (FX-C01-6e09416): `+` and `%2B` have the same
percent-decoded bytes and different form-decoded bytes; `+` and `%20` the other way round -/
example :
    pctStr "a+b".toList = pctStr "a%2Bb".toList ∧ formStr "a+b".toList ≠ formStr "a%2Bb".toList ∧
    formStr "a+b".toList = formStr "a%20b".toList ∧ pctStr "a+b".toList ≠ pctStr "a%20b".toList ∧
    formStr "a+%2B%+41".toList = [0x61, 0x20, 0x2B, 0x25, 0x20, 0x34, 0x31] := by
  simp only [toList_lit]
  decide +kernel

end Ural.Canonicalize
