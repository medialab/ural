import Driver.Common
import Driver.C01
import Driver.Norm
import Driver.C19Facebook
import Driver.C19Youtube
import UralModel.Model.Platform
/-!
Driver handlers of the whole-string models with the CONCRETE `platform_aware=True` branch
(`Model/Platform.lean`; C04, C05, C06).  Unlike `normalize_whole` / `fingerprint_whole`
(`Driver/NormWhole.lean`) **no `platform` table is shipped**: the facebook / youtube rewriting is
computed by the models of `ural/facebook.py` / `ural/youtube.py`.

* `platform_branch` `{url, puny}` → `[is_facebook_url, is_youtube_url, what the branch makes of
  url]` (`Facebook.is_facebook_url`, `Youtube.is_youtube_url`, `Platform.platformE`) — `url` is
  the string `normalize_url` hands to the branch
* `normalize_whole_pa` `{url, infer_redirection, puny, opts…}` →
  `[SplitResult 5-list | the argument (unparseable), final string]`
  (`normalizeUrlStringSplitPA`, `normalizeUrlStringPA`)
* `fingerprint_whole_pa` `{url, strip_suffix, puny, rules_file?}` → `[5-list, string]` or
  `{"error": …}` (`fingerprintUrlStringSplitPA`, `fingerprintUrlStringPA`)

`puny` is the finite table of what the real idna codec answers on the labels of this case.  The
trie is `YOUTUBE_DOMAINS_TRIE` as `Driver/C19Youtube.lean` builds it, once, from the regenerated
list (no domain has an `xn--` label — obligation `youtube_domains_no_puny_label` of `Props/C19/Youtube.lean` — so it does not
depend on `puny`).  An error value of `platformE` (proved unreachable:
`Ural.Props.C05.platformE_total`) is printed as `{"error": …}` — the real function would have
raised.
-/
open Lean Ural Ural.Py Ural.UrlParts Ural.Normalize Ural.Fingerprint Ural.Platform

namespace Driver.Platform
open Driver.C01 (punyOf splitJson)
open Driver.Norm (s out optsOf exceptJson withTrie)

def errJson : Platform.Err → Json
  | .facebook e => jerr (Driver.C19Facebook.errName e)
  | .youtube e => Driver.C19Youtube.ytErr e
  | .urlNone => jerr "url-is-None"

/-- the branch with the module's trie (built once) -/
def branch (j : Json) : Str → Str := platformWith (punyOf j) Driver.C19Youtube.trie

/-- the error the branch would raise on the string `normalize_url` hands to it, if any -/
def branchError (j : Json) (ir : Bool) (url : Str) : Option Platform.Err :=
  match platformE (punyOf j) Driver.C19Youtube.trie (ensured ir url) with
  | .error e => some e
  | .ok _ => none

def handle (f : String) (j : Json) : Option Json :=
  match f with
  | "platform_branch" =>
    let url := s j "url"
    let fb := match Facebook.is_facebook_url url with
      | .ok b => jbool b
      | .error e => jerr (Driver.C19Facebook.errName e)
    let yt := jbool (Youtube.is_youtube_url (punyOf j) Driver.C19Youtube.trie url)
    let r := match platformE (punyOf j) Driver.C19Youtube.trie url with
      | .ok u => out u
      | .error e => errJson e
    some (jlist [fb, yt, r])
  | "normalize_whole_pa" =>
    let url := s j "url"
    let ir := fieldBool j "infer_redirection" true
    let o := optsOf j
    match branchError j ir url with
    | some e => some (errJson e)
    | none =>
      let t := match normalizeUrlStringSplit (punyOf j) (branch j) o ir url with
        | .inl u => out u
        | .inr r => splitJson r
      some (jlist [t, out (normalizeUrlString (punyOf j) (branch j) o ir url)])
  | _ => none

def handleIO (f : String) (j : Json) : IO (Option Json) := do
  match f with
  | "fingerprint_whole_pa" =>
    return some (← withTrie j fun trie =>
      let url := s j "url"
      let sfx := fieldBool j "strip_suffix"
      match branchError j true (lower url) with
      | some e => errJson e
      | none =>
        match fingerprintUrlStringSplit (punyOf j) (branch j) trie sfx url,
              fingerprintUrlString (punyOf j) (branch j) trie sfx url with
        | .ok (.inr r), .ok str => jlist [splitJson r, out str]
        | .ok (.inl u), .ok str => jlist [out u, out str]
        | .error e, _ => exceptJson (.error e)
        | _, .error e => exceptJson (.error e))
  | _ => return none

end Driver.Platform
