import Driver.Common
import Driver.C01
import UralModel.Model.LinksFromHtml
import UralModel.Model.LinksConcrete
import UralModel.Model.UrlsFromHtml
import UralModel.Py.Re
import UralModel.Gen.HtmlRe
/-!
Driver handler for C17 (`urls_from_html`, `links_from_html`).

* `{"f":"urls_from_html","doc":s}` → the urls of the `str` document `s`;
* `{"f":"urls_from_html_bytes","doc":s,"bytes":[…]}` → the urls of the `bytes` document; the
  driver also checks that the model's `utf8 s` is the shipped byte list;
* `{"f":"links_from_html","doc":s,"bytes":bool,"base":b,"canonicalize":…,"unique":…,
   "proto":{href:bool},"join":{href:str|{"error":…}},"isurl":{url:bool},
   "canon":{url:str|{"error":…}}}` → `{"links":[…]}` plus `"error":name` when the generator raised: the whole pipeline of
  the model (scan, strip, unescape, filter chain).  The tables are the values of the
  *parameter* functions of the model, computed by the harness with the real functions; a
  missing entry is an error of its own kind (`missing:<table>`), never a default.
* `{"f":"links_concrete","doc":s | "hrefs":[…],"bytes":bool,"base":b,"canonicalize":…,
   "unique":…,"strip_fragment":…,"puny":{label:decoded},"tlds":[[label,bool]]}` → the same
  shape of answer, computed by `linksFromHtmlConcrete`: `PROTOCOL_RE.match`, `urljoin`,
  `is_url`, `canonicalize_url` are the Lean models; only the idna codec (`puny`, a label
  the table lacks is left as it is, what `attempt_to_decode_idna` does on failure) and the
  TLD table (`tlds`) are shipped.  A TLD label the model asks about and the table lacks is
  detected by running the chain with both defaults (`missing:tlds` when the answers differ).
* `{"f":"is_url_concrete","s":…,"tlds":…}`, `{"f":"canon_concrete","url":…,"strip_fragment":…,
  "puny":…}`, `{"f":"urljoin_concrete","base":…,"url":…}`: the three component models alone.
-/
open Lean Ural Ural.Html Ural.Py

namespace Driver.C17

def errName : PyErr → String
  | .valueError => "ValueError"
  | .unicodeDecodeError => "UnicodeDecodeError"
  | .other n => n

def errOf (n : String) : PyErr :=
  if n == "ValueError" then .valueError
  else if n == "UnicodeDecodeError" then .unicodeDecodeError
  else .other n

def lookup (tbl : Json) (name : String) (k : Str) : Except PyErr Json :=
  match tbl.getObjVal? (unchars k) with
  | .ok v => .ok v
  | .error _ => .error (.other ("missing:" ++ name))

def lookupStr (tbl : Json) (name : String) (k : Str) : Except PyErr Str :=
  match lookup tbl name k with
  | .error e => .error e
  | .ok (.str s) => .ok (chars s)
  | .ok v => .error (errOf (fieldStr v "error"))

/-- a Bool table; a missing entry cannot be reported through a `Bool`, so it is recorded by
making the lookup total here and checked separately (`missingBool`) -/
def lookupBool (tbl : Json) (k : Str) : Bool :=
  match tbl.getObjVal? (unchars k) with
  | .ok (.bool b) => b
  | _ => false

def hasKey (tbl : Json) (k : Str) : Bool := (tbl.getObjVal? (unchars k)).toOption.isSome

def envOf (j : Json) : Env where
  httpMatch := httpProtocolMatch
  protocolMatch := lookupBool (field j "proto")
  urljoin := fun _ h => lookupStr (field j "join") "join" h
  isUrl := lookupBool (field j "isurl")
  canon := lookupStr (field j "canon") "canon"

def bytesOf (j : Json) : List UInt8 :=
  (fieldArr j "bytes").map fun x => match x with | .num n => UInt8.ofNat n.mantissa.toNat | _ => 0

def outUrls (r : Except PyErr (List Str)) : Json :=
  match r with
  | .ok us => jstrs (us.map unchars)
  | .error e => jerr (errName e)

/-- the Bool tables must have an entry for every key the model asks about: re-run the chain
by hand for the diagnostic -/
def missingBool (E : Env) (j : Json) (cfg : Cfg) (base : Str) (hrefs : List Str) : Option String :=
  let b := match effectiveBase E cfg base with | .ok b => b | .error _ => base
  hrefs.findSome? fun h =>
    if h.isEmpty || !shouldFollowHref E h then none
    else if !hasKey (field j "proto") h then some "missing:proto"
    else match resolve E b h with
      | .ok u => if hasKey (field j "isurl") u then none else some "missing:isurl"
      | .error _ => none

/-- `[m.span() for m in URL_IN_HTML_RE.finditer(doc)]` by the hand-written scanner
(`matchAnchor` of the model, iterated exactly as `urlsFinditer` does) -/
def handSpans (n : Nat) : Nat → List Char → List (Nat × Nat)
  | 0, _ => []
  | _, [] => []
  | fuel + 1, t :: ts =>
    match matchAnchor (t :: ts) with
    | some m => (n - (ts.length + 1), n - m.2.length) :: handSpans n fuel m.2
    | none => handSpans n fuel ts

def jspans (xs : List (Nat × Nat)) : Json := jlist (xs.map fun (a, b) => jlist [jnat a, jnat b])

def tldTable (j : Json) : List (Str × Bool) :=
  (fieldArr j "tlds").filterMap fun p =>
    match p with
    | .arr a => match a.toList with
      | [.str s, .bool b] => some (chars s, b)
      | _ => none
    | _ => none

/-- the shipped world; `dflt` is the answer for a TLD label the table lacks -/
def worldOf (j : Json) (dflt : Bool) : World :=
  let tlds := tldTable j
  { puny := Driver.C01.punyOf j
    validTld := fun l => match tlds.find? (fun p => p.1 == l) with
      | some (_, b) => b
      | none => dflt }

def outLinks (r : List Str × Option PyErr) : Json :=
  Json.mkObj ([("links", jstrs (r.1.map unchars))] ++
    (match r.2 with | none => [] | some e => [("error", Json.str (errName e))]))

def jOptErr (o : Option Str) : Json :=
  match o with
  | some s => jstr (unchars s)
  | none => jerr "ValueError"

def linksConcrete (j : Json) : Json :=
  let hrefs : Except PyErr (List Str) :=
    match field j "hrefs" with
    | .arr a => .ok (a.toList.map fun x => match x with | .str s => chars s | _ => [])
    | _ =>
      let doc := chars (fieldStr j "doc")
      if fieldBool j "bytes" then urlsFromHtmlBytes utf8Decode unescapeBasic (utf8 doc)
      else .ok (urlsFromHtmlStr unescapeBasic doc)
  match hrefs with
  | .error e => jerr (errName e)
  | .ok hs =>
    let run (d : Bool) := linksFromHtmlConcrete (worldOf j d) (fieldBool j "canonicalize")
      (fieldBool j "unique") (fieldBool j "strip_fragment") (chars (fieldStr j "base")) hs
    let r0 := run false
    let r1 := run true
    if r0.1 == r1.1 && (r0.2.map errName) == (r1.2.map errName) then outLinks r0
    else jerr "missing:tlds"

def handle (f : String) (j : Json) : Option Json :=
  match f with
  | "links_concrete" => some (linksConcrete j)
  | "is_url_concrete" =>
    let s := chars (fieldStr j "s")
    let a := isUrlC (worldOf j false) s
    let b := isUrlC (worldOf j true) s
    some (if a == b then jbool a else jerr "missing:tlds")
  | "canon_concrete" =>
    some (jOptErr (canonC (worldOf j false) (fieldBool j "strip_fragment") (chars (fieldStr j "url"))))
  | "urljoin_concrete" =>
    some (jOptErr (Py.urljoin (chars (fieldStr j "base")) (chars (fieldStr j "url"))))
  | "anchor_spans" =>
    -- three-way comparison: real `re` (harness) / generic interpreter of `Py/Re.lean` on the
    -- regenerated term / hand-written scanner
    let doc := chars (fieldStr j "doc")
    some (Json.mkObj [("hand", jspans (handSpans doc.length (doc.length + 1) doc)),
      ("interp", match Ural.Gen.HtmlRe.urlInHtmlRe with
        | some r => jspans (Ural.Py.Re.finditer r doc)
        | none => .str "untranslatable")])
  | "urls_from_html" =>
    some (outUrls (.ok (urlsFromHtmlStr unescapeBasic (chars (fieldStr j "doc")))))
  | "urls_from_html_bytes" =>
    let bs := bytesOf j
    if utf8 (chars (fieldStr j "doc")) != bs then some (jerr "utf8-mismatch")
    else some (outUrls (urlsFromHtmlBytes utf8Decode unescapeBasic bs))
  | "scan" =>
    -- raw groups, before strip / unescape
    some (jstrs ((scan (chars (fieldStr j "doc"))).map unchars))
  | "should_follow_href" =>
    let E : Env := { httpMatch := httpProtocolMatch, protocolMatch := fun _ => false,
                     urljoin := fun _ h => .ok h, isUrl := fun _ => true, canon := fun u => .ok u }
    some (jbool (shouldFollowHref E (chars (fieldStr j "href"))))
  | "links_from_html" =>
    let doc := chars (fieldStr j "doc")
    let hrefs : Except PyErr (List Str) :=
      if fieldBool j "bytes" then urlsFromHtmlBytes utf8Decode unescapeBasic (utf8 doc)
      else .ok (urlsFromHtmlStr unescapeBasic doc)
    match hrefs with
    | .error e => some (jerr (errName e))
    | .ok hs =>
      let E := envOf j
      let cfg : Cfg := ⟨fieldBool j "canonicalize", fieldBool j "unique"⟩
      let base := chars (fieldStr j "base")
      match missingBool E j cfg base hs with
      | some m => some (jerr m)
      | none =>
        let r := links E cfg base hs
        some (Json.mkObj ([("links", jstrs (r.1.map unchars))] ++
          (match r.2 with | none => [] | some e => [("error", Json.str (errName e))])))
  | _ => none

end Driver.C17
