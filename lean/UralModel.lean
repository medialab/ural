import UralModel.Py.Path
import UralModel.Py.PctCodec
import UralModel.Py.Re
import UralModel.Py.ReSearch
import UralModel.Py.Split
import UralModel.Py.SreInfo
import UralModel.Py.Str
import UralModel.Py.UrlAccessors
import UralModel.Py.UrlSplit
import UralModel.Model.Assoc
import UralModel.Model.Builders
import UralModel.Model.C03
import UralModel.Model.C06Netloc
import UralModel.Model.C07
import UralModel.Model.C19SmallUtil
import UralModel.Model.Canonicalize
import UralModel.Model.CanonicalizeUrl
import UralModel.Model.Facebook
import UralModel.Model.FacebookScope
import UralModel.Model.Fingerprint
import UralModel.Model.FingerprintUrl
import UralModel.Model.FingerprintUrlExcept
import UralModel.Model.Google
import UralModel.Model.HostnameTrieSet
import UralModel.Model.HostnameTrieSetUrl
import UralModel.Model.HtmlDoc
import UralModel.Model.Instagram
import UralModel.Model.IsUrl
import UralModel.Model.LinksConcrete
import UralModel.Model.LinksFromHtml
import UralModel.Model.Lru
import UralModel.Model.LruPsl
import UralModel.Model.LruSpec
import UralModel.Model.LruTrie
import UralModel.Model.LruUrl
import UralModel.Model.LruVariants
import UralModel.Model.Normalize
import UralModel.Model.NormalizeUrl
import UralModel.Model.NormalizeUrlExcept
import UralModel.Model.PathHyp
import UralModel.Model.Platform
import UralModel.Model.Protocol
import UralModel.Model.PslSpec
import UralModel.Model.Quote
import UralModel.Model.QuoteAuth
import UralModel.Model.Redirect
import UralModel.Model.Sites
import UralModel.Model.SpecialHost
import UralModel.Model.SuffixTrie
import UralModel.Model.Telegram
import UralModel.Model.Tld
import UralModel.Model.TldUrl
import UralModel.Model.TrieDict
import UralModel.Model.Twitter
import UralModel.Model.UrlParts
import UralModel.Model.UrlsFromHtml
import UralModel.Model.UrlsFromText
import UralModel.Model.Youtube
import UralModel.Gen.C03Classes
import UralModel.Gen.C16Tables
import UralModel.Gen.C19FacebookTables
import UralModel.Gen.C19SmallTables
import UralModel.Gen.C19YoutubeTables
import UralModel.Gen.HtmlPatterns
import UralModel.Gen.HtmlRe
import UralModel.Gen.LruPatterns
import UralModel.Gen.LruSplitter
import UralModel.Gen.NfkcDelims
import UralModel.Gen.NormalizeTables
import UralModel.Gen.Patterns
import UralModel.Gen.ProtocolRe
import UralModel.Gen.QuoteTables
import UralModel.Gen.RedirectRe
import UralModel.Gen.SitesLists
import UralModel.Gen.SitesTables
import UralModel.Gen.SpecialHostsRe
import UralModel.Gen.UrllibTables
import UralModel.Lemmas.BracketHost
import UralModel.Lemmas.Builders
import UralModel.Lemmas.BuildersSpec
import UralModel.Lemmas.C02String
import UralModel.Lemmas.C03
import UralModel.Lemmas.C03Control
import UralModel.Lemmas.C03Fp
import UralModel.Lemmas.C03Requote
import UralModel.Lemmas.C04Escape
import UralModel.Lemmas.C04Host
import UralModel.Lemmas.C04Lower
import UralModel.Lemmas.C04Order
import UralModel.Lemmas.C04Path
import UralModel.Lemmas.C04Query
import UralModel.Lemmas.C06Netloc
import UralModel.Lemmas.C07Bridge
import UralModel.Lemmas.C07Canon
import UralModel.Lemmas.C07Infer
import UralModel.Lemmas.C07Whole
import UralModel.Lemmas.C19Small
import UralModel.Lemmas.C19SmallHost
import UralModel.Lemmas.CanonAuth
import UralModel.Lemmas.CanonClosure
import UralModel.Lemmas.CanonIdem
import UralModel.Lemmas.CanonModes
import UralModel.Lemmas.CanonOk
import UralModel.Lemmas.CanonRoundTrip
import UralModel.Lemmas.CanonShape
import UralModel.Lemmas.CanonTexts
import UralModel.Lemmas.Canonicalize
import UralModel.Lemmas.CleanShape
import UralModel.Lemmas.FacebookCanonical
import UralModel.Lemmas.FacebookConvert
import UralModel.Lemmas.FacebookParseQs
import UralModel.Lemmas.FacebookParsed
import UralModel.Lemmas.FacebookPathsplit
import UralModel.Lemmas.FacebookRe
import UralModel.Lemmas.FacebookRouter
import UralModel.Lemmas.FacebookStr
import UralModel.Lemmas.FacebookUrlJoin
import UralModel.Lemmas.Fingerprint
import UralModel.Lemmas.FingerprintLang
import UralModel.Lemmas.FingerprintSuffix
import UralModel.Lemmas.FpReparse
import UralModel.Lemmas.Google
import UralModel.Lemmas.HostCanon
import UralModel.Lemmas.HostTok
import UralModel.Lemmas.HtmlDoc
import UralModel.Lemmas.IsUrl
import UralModel.Lemmas.IsUrlShape
import UralModel.Lemmas.LinksFromHtml
import UralModel.Lemmas.LruHostname
import UralModel.Lemmas.LruIndex
import UralModel.Lemmas.LruKey
import UralModel.Lemmas.LruNetloc
import UralModel.Lemmas.LruPrefix
import UralModel.Lemmas.LruRoundTrip
import UralModel.Lemmas.LruSerial
import UralModel.Lemmas.LruStems
import UralModel.Lemmas.LruString
import UralModel.Lemmas.LruTrie
import UralModel.Lemmas.LruTrieSerial
import UralModel.Lemmas.Netloc
import UralModel.Lemmas.NetlocFacts
import UralModel.Lemmas.NetlocSplit
import UralModel.Lemmas.NormBridge
import UralModel.Lemmas.NormReparse
import UralModel.Lemmas.Normalize
import UralModel.Lemmas.Normpath
import UralModel.Lemmas.Pathsplit
import UralModel.Lemmas.PctCodec
import UralModel.Lemmas.Platform
import UralModel.Lemmas.Protocol
import UralModel.Lemmas.Prune
import UralModel.Lemmas.PslSubdomain
import UralModel.Lemmas.Quote
import UralModel.Lemmas.QuoteAuth
import UralModel.Lemmas.QuoteClass
import UralModel.Lemmas.QuoteIdem
import UralModel.Lemmas.QuotePost
import UralModel.Lemmas.QuoteRoundTrip
import UralModel.Lemmas.QuoteSplit
import UralModel.Lemmas.QuoteUpper
import UralModel.Lemmas.Re
import UralModel.Lemmas.ReAlt
import UralModel.Lemmas.ReExtra
import UralModel.Lemmas.ReLang
import UralModel.Lemmas.ReWords
import UralModel.Lemmas.Redirect
import UralModel.Lemmas.RouteOutcome
import UralModel.Lemmas.Sites
import UralModel.Lemmas.SitesUrl
import UralModel.Lemmas.Split
import UralModel.Lemmas.Str
import UralModel.Lemmas.StrLit
import UralModel.Lemmas.StrSplit
import UralModel.Lemmas.SuffixCut
import UralModel.Lemmas.SuffixTrie
import UralModel.Lemmas.TldUrl
import UralModel.Lemmas.TrieDict
import UralModel.Lemmas.UpRel
import UralModel.Lemmas.UrlPattern
import UralModel.Lemmas.UrlPatternLang
import UralModel.Lemmas.UrlRoundTrip
import UralModel.Lemmas.UrlShape
import UralModel.Lemmas.UrlSplit
import UralModel.Lemmas.UrlsFromHtml
import UralModel.Lemmas.UrlsFromText
import UralModel.Lemmas.Youtube
import UralModel.Lemmas.YoutubeFields
import UralModel.Lemmas.YoutubeReparse
import UralModel.Lemmas.YoutubeUrl
import UralModel.Props.C01
import UralModel.Props.C01Whole
import UralModel.Props.C02
import UralModel.Props.C02Modes
import UralModel.Props.C02Spelling
import UralModel.Props.C02Whole
import UralModel.Props.C03
import UralModel.Props.C03Control
import UralModel.Props.C03Requote
import UralModel.Props.C03String
import UralModel.Props.C04
import UralModel.Props.C04Lower
import UralModel.Props.C04Spec
import UralModel.Props.C04Tables
import UralModel.Props.C04Whole
import UralModel.Props.C05
import UralModel.Props.C05More
import UralModel.Props.C05Platform
import UralModel.Props.C05Total
import UralModel.Props.C05Whole
import UralModel.Props.C06
import UralModel.Props.C06Fp
import UralModel.Props.C06Shape
import UralModel.Props.C06Total
import UralModel.Props.C06Whole
import UralModel.Props.C07
import UralModel.Props.C07Class
import UralModel.Props.C07Whole
import UralModel.Props.C08
import UralModel.Props.C09
import UralModel.Props.C10
import UralModel.Props.C11
import UralModel.Props.C11Serial
import UralModel.Props.C11Whole
import UralModel.Props.C12
import UralModel.Props.C12Psl
import UralModel.Props.C13
import UralModel.Props.C13Psl
import UralModel.Props.C14
import UralModel.Props.C15
import UralModel.Props.C16
import UralModel.Props.C17
import UralModel.Props.C17Concrete
import UralModel.Props.C18
import UralModel.Props.C18Lists
import UralModel.Props.C19
import UralModel.Props.C19.Facebook
import UralModel.Props.C19.Google
import UralModel.Props.C19.Small
import UralModel.Props.C19.Youtube
import UralModel.Props.C19.YoutubeVectors
import UralModel.Props.C20
